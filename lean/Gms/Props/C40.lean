/-
C40 — Authentication accepts exactly the valid credentials.

Models: Gms/Model/Auth.lean (scramble check, login decision, method negotiation), Gms/Model/HostPattern.lean (the host-pattern
matcher of `GetUser`), Gms/Model/AuthHist.lean (histories of account changes and logins; a cache in front of the lookup).
SHA-1 is an uninterpreted function `H` in every theorem (hypothesis used where needed: `H` returns 20 bytes).
`Gms.Auth.validateNative_eq` is the scramble check in closed form; `GetUser` as a cascade of searches is
`Gms.Priv.getUserIdx_bind` (that the choice does not depend on the order of the accounts for unambiguous logins is
`Gms.C41.account_lookup_order_independent`).
-/
import Gms.Model.Auth
import Gms.Model.AuthHist
import Gms.Lemmas.HostPattern
import Gms.Lemmas.PrivSerial
import Gms.Generated.C40

namespace Gms.Auth
open Gms.Priv

theorem xor_eq_zipWith (s r : Bytes) : xor s r = List.zipWith (· ^^^ ·) s r := by
  induction s generalizing r with
  | nil => rfl
  | cons a s ih =>
    cases r with
    | nil => rfl
    | cons b r => simp only [xor, ih, List.zipWith_cons_cons]

theorem xorPrefix_eq (s r : Bytes) : xorPrefix s r = if s.length ≤ r.length then some (xor s r) else none := by
  induction s generalizing r with
  | nil => cases r <;> rfl
  | cons a s ih =>
    cases r with
    | nil => rfl
    | cons b r =>
      simp only [xorPrefix, xor, ih, List.length_cons, Nat.add_le_add_iff_right]
      split <;> rfl

theorem xor_length {a b : Bytes} (h : a.length = b.length) : (xor a b).length = a.length := by
  rw [xor_eq_zipWith, List.length_zipWith, h, Nat.min_self]

theorem xor_cancel (a b : Bytes) (h : a.length = b.length) : xor b (xor a b) = a := by
  induction a generalizing b with
  | nil => cases b <;> simp [xor] at h ⊢
  | cons x a ih =>
    cases b with
    | nil => simp at h
    | cons y b =>
      simp only [List.length_cons, Nat.add_right_cancel_iff] at h
      simp only [xor, ih b h, List.cons.injEq, and_true]
      rw [UInt8.xor_comm x y, ← UInt8.xor_assoc, UInt8.xor_self, UInt8.zero_xor]

/-- Bytes after `len(scramble)` are never read. -/
theorem xor_append_right {s r extra : Bytes} (h : s.length ≤ r.length) : xor s (r ++ extra) = xor s r := by
  induction s generalizing r with
  | nil => rfl
  | cons a s ih =>
    cases r with
    | nil => simp at h
    | cons b r =>
      simp only [List.length_cons, Nat.add_le_add_iff_right] at h
      simp only [List.cons_append, xor, ih h]

theorem clientToken_spec (H : Bytes → Bytes) (hH : ∀ x, (H x).length = 20) (salt h1 : Bytes) (hl : h1.length = 20) :
    (clientToken H salt h1).length = 20 ∧ xor (H (salt ++ H h1)) (clientToken H salt h1) = h1 :=
  ⟨(xor_length (by rw [hl, hH])).trans hl, xor_cancel h1 _ (by rw [hl, hH])⟩

/-- The XOR loop is only reached with a response exactly as long as the scramble; there `xorPrefix` is `xor`
(`xorPrefix_eq`), so no `none` is left on the right-hand side. -/
theorem validateNative_eq (H : Bytes → Bytes) (resp salt : Bytes) (stored : List Char) :
    validateNative H resp salt stored = some (!(resp.isEmpty || stored.isEmpty) &&
      match decodeStored stored with
      | none => false
      | some hash => resp.length == (H (salt ++ hash)).length && H (xor (H (salt ++ hash)) resp) == hash) := by
  simp only [validateNative]
  split
  · next he => rw [he]; rfl
  · next he =>
    rw [Bool.not_eq_true] at he
    rw [he]
    cases decodeStored stored with
    | none => rfl
    | some hash =>
      simp only [Bool.not_false, Bool.true_and]
      split
      · next hg =>
        rw [bne_iff_ne, ← beq_eq_false_iff_ne] at hg
        rw [hg]
        rfl
      · next hg =>
        have hlen : resp.length = (H (salt ++ hash)).length := by simpa using hg
        rw [xorPrefix_eq, if_pos (Nat.le_of_eq hlen.symm), hlen]
        simp only [beq_self_eq_true, Bool.true_and]

end Gms.Auth

namespace Gms.C40
open Gms.Priv Gms.Auth

/-- The default (decoy) method, the guards of `validateMysqlNativePassword` before its XOR loop — the last
one is the response-length check `len(authResponse) != len(scramble)`, the repair of findings F-C40-a/b —
the loop itself, the sequence of hash steps with the final whole-hash comparison, the order of all of these
(`nativeSkeleton`: the length check sits between `scramble := crypt.Sum(nil)` and the loop and returns
`false`), and the decision skeletons of the four entry points are the ones the model is written for;
`ValidateHash` has the same skeleton as `UserEntryWithHash` minus the connection-security check. If the
length check disappears again this obligation breaks and `fixed_native_short_response_oob` below is the
replay. -/
theorem facts_match :
    Generated.C40.defaultAuthMethod = defaultAuthMethod ∧
    Generated.C40.defaultAuthMethodExpr = "mysql.MysqlNativePassword" ∧
    Generated.C40.nativeGuards = ["len(authResponse) == 0 || len(mysqlNativePassword) == 0", "mysqlNativePassword[0] == '*'", "err != nil",
      "len(authResponse) != len(scramble)"] ∧
    Generated.C40.nativeXorLoop = "scramble:{ scramble[i] ^= authResponse[i] }" ∧
    Generated.C40.nativeSkeleton = ["if len(authResponse) == 0 || len(mysqlNativePassword) == 0 { return false }",
      "if mysqlNativePassword[0] == '*' { mysqlNativePassword = mysqlNativePassword[1:] }",
      "hash, err := hex.DecodeString(mysqlNativePassword)", "if err != nil { return false }",
      "crypt := sha1.New()", "crypt.Write(salt)", "crypt.Write(hash)", "scramble := crypt.Sum(nil)",
      "if len(authResponse) != len(scramble) { return false }",
      "for i := range scramble { scramble[i] ^= authResponse[i] }",
      "stage1Hash := scramble", "crypt.Reset()", "crypt.Write(stage1Hash)", "candidateHash2 := crypt.Sum(nil)",
      "return bytes.Equal(candidateHash2, hash)"] ∧
    Generated.C40.nativeSteps = ["hash, err := hex.DecodeString(mysqlNativePassword)", "crypt := sha1.New()", "crypt.Write(salt)",
      "crypt.Write(hash)", "scramble := crypt.Sum(nil)", "stage1Hash := scramble", "crypt.Reset()", "crypt.Write(stage1Hash)",
      "candidateHash2 := crypt.Sum(nil)", "return bytes.Equal(candidateHash2, hash)"] ∧
    Generated.C40.userEntryWithHashConds = ["err != nil", "!db.Enabled()", "userEntry == nil || userEntry.Locked", "err != nil",
      "len(userEntry.AuthString) > 0", "!validateMysqlNativePassword(authResponse, salt, userEntry.AuthString)", "len(authResponse) > 0"] ∧
    Generated.C40.validateHashConds = ["err != nil", "!db.Enabled()", "userEntry == nil || userEntry.Locked",
      "len(userEntry.AuthString) > 0", "!validateMysqlNativePassword(authResponse, salt, userEntry.AuthString)", "len(authResponse) > 0"] ∧
    Generated.C40.handleUserConds = ["!uv.db.Enabled()", "err != nil", "userEntry == nil"] ∧
    Generated.C40.sha2FastConds = ["!db.Enabled()", "emptyClientAuthResponse", "err != nil", "userEntry == nil || userEntry.Locked",
      "err != nil", "userEntry.AuthString == \"\""] ∧
    Generated.C40.getUserConds = ["\"127.0.0.1\" == host || \"::1\" == host", "ok",
      "host == user.Host || (host == \"localhost\" && user.Host == \"::1\") || (host == \"localhost\" && user.Host == \"127.0.0.1\") || (user.Host == \"%\" && (!roleSearch || host == \"\")) || matchesHostPattern(host, user.Host) || (originalHost != host && matchesHostPattern(originalHost, user.Host))"] :=
  ⟨rfl, rfl, rfl, rfl, rfl, rfl, rfl, rfl, rfl, rfl, rfl⟩

/-- The host-pattern matcher is the anchored regular expression `Gms.HostPattern.Matches` is the language of
(`%` ↦ `.*`, everything else quoted); every place of `auth.go` that resolves the connecting (user, host) to an
account is a direct `GetUser` on the reader opened for that attempt, and neither the auth server nor its
storage / validator objects nor a package variable can remember anything between attempts (a login reads the
current table: `login_reads_current_table`); `Reader.GetUser` panics on two entries under one key
(`AuthHist.dupKey`); the two listed defects of the statement paths: `buildCreateUser` stores `Locked: false`,
`in_mem_table.Update` removes the old entry by equality with the entry rebuilt from the old row, whose
privilege set `UserFromRow` derives from the row alone. -/
theorem facts_match_lookup :
    Generated.C40.hostPatternSkeleton = ["if !strings.Contains(pattern, \"%\") { return false }",
      "regexPattern := regexp.QuoteMeta(pattern)", "regexPattern = strings.ReplaceAll(regexPattern, \"%\", \".*\")",
      "regexPattern = \"^\" + regexPattern + \"$\"", "matched, err := regexp.MatchString(regexPattern, host)",
      "return err == nil && matched"] ∧
    Generated.C40.readerGetUserConds = ["len(users) > 1 { panic(\"too many matching users\") }",
      "len(users) > 0 { res = users[0] ok = true }"] ∧
    Generated.C40.authAccountLookups = [
      "noopCachingStorage.UserEntryWithCacheHash: userEntry := db.GetUser(rd, user, host, false)",
      "sha2PlainTextStorage.UserEntryWithPassword: userEntry := db.GetUser(rd, user, host, false)",
      "extendedAuthPlainTextStorage.UserEntryWithPassword: userEntry := db.GetUser(rd, user, host, false)",
      "extendedAuthUserValidator.HandleUser: userEntry := db.GetUser(rd, user, host, false)",
      "nativePasswordHashStorage.UserEntryWithHash: userEntry := db.GetUser(rd, user, host, false)",
      "userValidator.HandleUser: userEntry := uv.db.GetUser(rd, user, host, false)"] ∧
    Generated.C40.authStructFields = ["authServer{authMethods []mysql.AuthMethod}", "decoyAuthSubject{}",
      "extendedAuthPlainTextStorage{db *MySQLDb}", "extendedAuthUserValidator{db *MySQLDb}",
      "nativePasswordHashStorage{db *MySQLDb}", "noopCachingStorage{db *MySQLDb}", "sha2PlainTextStorage{db *MySQLDb}",
      "userValidator{db *MySQLDb; authMethod mysql.AuthMethodDescription}"] ∧
    Generated.C40.authPackageVars = [] ∧
    Generated.C40.createUserLocked = ["false"] ∧
    Generated.C40.imtUpdateSkeleton = ["e, err := ops.FromRow(ctx, old)", "if err != nil", "ek := is.Keyers[0].GetKey(e)",
      "es := is.GetMany(is.Keyers[0], ek)", "if len(es) == 1", "old := e", "e := es[0]",
      "e, err = ops.UpdateWithRow(ctx, new, e)", "if err != nil", "is.Remove(old)", "is.Put(e)",
      "e, err = ops.FromRow(ctx, new)", "if err != nil", "for range es", "is.Remove(old)", "is.Put(e)"] ∧
    Generated.C40.userFromRowPrivs = ["UserRowToPrivSet(ctx, row)"] :=
  ⟨rfl, rfl, rfl, rfl, rfl, rfl, rfl, rfl⟩

/-- The compiled matcher, run by the extractor on every pattern of length ≤ 3 over {a,b,%} against every host
of length ≤ 3 over {a,b}, agrees with the model on all 600 entries (literals on both sides of a wildcard with
hosts too short for them — `a%a` against `a` — included). -/
theorem facts_host_pattern_table :
    Generated.C40.hostPatternTable.all
      (fun e => (e.1.contains '%' && Gms.HostPattern.glob e.1 e.2.1) == e.2.2) = true ∧
    Generated.C40.hostPatternTable.length = 600 := by decide +kernel

/-- A toy 20-byte "hash" (constant) and a stored value decoding to its output, for concrete instances of the
theorems below (`decide` cannot run the real SHA-1; the theorems hold for every `H`). -/
def toyH : Bytes → Bytes := fun _ => List.replicate 20 0
def toyStored : List Char := '*' :: List.replicate 40 '0'

/-- **The scramble check is the Spec's — full statement (holds since the `fix:` commit).** For every
20-byte hash function, every response, salt and stored value, `validateMysqlNativePassword` returns exactly
what the Spec demands: `true` for a 20-byte token `t` with `H (t ⊕ H (salt ++ stored)) = stored`, `false` for
everything else (empty, short, long response; empty or undecodable stored hash) — and it returns, i.e. does
not panic. (Before the repair this held only outside the regions `shortResponse` / `longResponse`.) -/
theorem native_impl_eq_spec (H : Bytes → Bytes) (hH : ∀ x, (H x).length = 20) (resp salt : Bytes) (stored : List Char) :
    validateNative H resp salt stored = some (validateNativeSpec H resp salt stored) := by
  rw [validateNative_eq]
  congr 1
  simp only [validateNativeSpec]
  cases decodeStored stored with
  | none => simp
  | some hash =>
    -- an empty response has not 20 bytes, so the Spec needs no separate test for it
    simp only [hH]
    cases resp with
    | nil => simp
    | cons r rs => simp [Bool.and_assoc]

/-- Non-vacuity of `native_impl_eq_spec`'s hypothesis, and both verdicts on concrete inputs (a toy 20-byte
"hash"): a 20-byte response is checked, a 19-byte and a 21-byte one are rejected without a panic. -/
example : (∀ x, (toyH x).length = 20)
    ∧ validateNative toyH (List.replicate 20 0) [1, 2] toyStored = some true
    ∧ validateNative toyH (List.replicate 19 0) [1, 2] toyStored = some false
    ∧ validateNative toyH (List.replicate 21 0) [1, 2] toyStored = some false := by
  refine ⟨fun _ => by simp [toyH], by decide +kernel, by decide +kernel, by decide +kernel⟩

/-- **No panic — for every function `H`**, even one that does not return 20 bytes: the XOR loop is only
reached with a response exactly as long as the scramble. -/
theorem native_no_crash (H : Bytes → Bytes) (resp salt : Bytes) (stored : List Char) :
    validateNative H resp salt stored ≠ none := by
  rw [validateNative_eq]
  exact Option.some_ne_none _

theorem validateNativeSpec_of_length_ne {H : Bytes → Bytes} {resp salt : Bytes} {stored : List Char}
    (h : resp.length ≠ 20) : validateNativeSpec H resp salt stored = false := by
  simp only [validateNativeSpec]
  cases decodeStored stored with
  | none => rfl
  | some hash => simp [h]

/-- A response whose length is not 20 is rejected, whatever else is the case. -/
theorem native_wrong_length_rejected (H : Bytes → Bytes) (hH : ∀ x, (H x).length = 20) (resp salt : Bytes)
    (stored : List Char) (h : resp.length ≠ 20) :
    validateNative H resp salt stored = some false := by
  rw [native_impl_eq_spec H hH, validateNativeSpec_of_length_ne h]

/-- **Completeness.** A client that knows `h1 = H(password)` is accepted for an account whose stored value
decodes to `H h1`, for every salt. -/
theorem native_complete (H : Bytes → Bytes) (hH : ∀ x, (H x).length = 20) (salt h1 : Bytes) (stored : List Char)
    (hs : decodeStored stored = some (H h1)) (hne : stored ≠ []) (hl : h1.length = 20) :
    validateNative H (clientToken H salt h1) salt stored = some true ∧
    validateNativeSpec H (clientToken H salt h1) salt stored = true := by
  obtain ⟨hlen, hcancel⟩ := clientToken_spec H hH salt h1 hl
  have hspec : validateNativeSpec H (clientToken H salt h1) salt stored = true := by
    cases stored with
    | nil => exact absurd rfl hne
    | cons c cs =>
      simp only [validateNativeSpec, hs, hlen, hcancel, List.isEmpty_cons, Bool.not_false, BEq.rfl, Bool.and_self]
  exact ⟨by rw [native_impl_eq_spec H hH, hspec], hspec⟩

/-- **Soundness.** An accepted response has the length of the scramble and exhibits a preimage of the stored
hash under `H`: the strongest statement available with `H` uninterpreted (knowledge of `H(password)`). -/
theorem native_sound (H : Bytes → Bytes) (resp salt : Bytes) (stored : List Char)
    (h : validateNative H resp salt stored = some true) :
    ∃ hash stage1, decodeStored stored = some hash ∧ resp.length = (H (salt ++ hash)).length ∧
      xorPrefix (H (salt ++ hash)) resp = some stage1 ∧ H stage1 = hash := by
  rw [validateNative_eq] at h
  cases hd : decodeStored stored with
  | none => rw [hd] at h; simp at h
  | some hash =>
    rw [hd] at h
    simp only [Option.some.injEq, Bool.and_eq_true, beq_iff_eq] at h
    exact ⟨hash, _, rfl, h.2.1, (xorPrefix_eq _ _).trans (if_pos (Nat.le_of_eq h.2.1.symm)), h.2.2⟩

theorem native_sound_spec (H : Bytes → Bytes) (resp salt : Bytes) (stored : List Char)
    (h : validateNativeSpec H resp salt stored = true) :
    ∃ hash, decodeStored stored = some hash ∧ resp.length = 20 ∧ H (xor (H (salt ++ hash)) resp) = hash := by
  simp only [validateNativeSpec] at h
  cases hd : decodeStored stored with
  | none => simp [hd] at h
  | some hash =>
    simp only [hd, Bool.and_eq_true, beq_iff_eq] at h
    exact ⟨hash, rfl, h.1.2, h.2⟩

/-- **Repaired defect F-C40-a (`native_short_response_oob`).** Before the `fix:` commit, for every 20-byte
hash function, every salt and every account with a decodable stored hash, a response of 1–19 bytes made
`validateMysqlNativePassword` index past the response (run-time panic: `none` in the pre-fix model) instead
of rejecting it; the repaired function rejects it, as the Spec demands. -/
theorem fixed_native_short_response_oob (H : Bytes → Bytes) (hH : ∀ x, (H x).length = 20) (resp salt : Bytes)
    (stored : List Char) (h : shortResponse resp stored = true) :
    validateNativePreFix H resp salt stored = none ∧ validateNative H resp salt stored = some false ∧
      validateNativeSpec H resp salt stored = false := by
  simp only [shortResponse, Bool.and_eq_true, decide_eq_true_eq, Bool.not_eq_true', Option.isSome_iff_exists] at h
  obtain ⟨⟨⟨hpos, hlt⟩, hst⟩, hash, hd⟩ := h
  have hr : resp.isEmpty = false := List.isEmpty_eq_false_iff.2 (List.length_pos_iff.1 hpos)
  have h20 : resp.length ≠ 20 := by omega
  refine ⟨?_, native_wrong_length_rejected H hH resp salt stored h20,
    validateNativeSpec_of_length_ne h20⟩
  simp only [validateNativePreFix, hr, hst, Bool.or_self, Bool.false_eq_true, if_false, hd]
  rw [xorPrefix_eq, if_neg (by rw [hH]; omega)]

/-- The region is inhabited (the witness replayed on the real code: 19 zero bytes against the hash of "pw";
it stays in the harness corpus and must now be rejected without a panic), and the defect on a concrete
input with a toy 20-byte "hash": the pre-fix model panics, the repaired one rejects. -/
example : shortResponse (List.replicate 19 0) "*D821809F681A40A6E379B50D0463EFAE20BDD122".toList = true := by decide +kernel

example :
    validateNativePreFix toyH (List.replicate 19 0) [] "*D821809F681A40A6E379B50D0463EFAE20BDD122".toList = none
    ∧ validateNative toyH (List.replicate 19 0) [] "*D821809F681A40A6E379B50D0463EFAE20BDD122".toList = some false := by
  decide +kernel

/-- **Repaired defect F-C40-b (`native_long_response_accepted`).** Before the `fix:` commit the bytes of the
response after the 20th were never read: a valid token followed by arbitrary extra bytes was accepted,
although it is not a well-formed response; the repaired function rejects it (the same length guard). -/
theorem fixed_native_long_response_accepted (H : Bytes → Bytes) (hH : ∀ x, (H x).length = 20) (salt h1 extra : Bytes)
    (stored : List Char) (hs : decodeStored stored = some (H h1)) (hne : stored ≠ []) (hl : h1.length = 20)
    (hex : extra ≠ []) :
    validateNativePreFix H (clientToken H salt h1 ++ extra) salt stored = some true ∧
    validateNative H (clientToken H salt h1 ++ extra) salt stored = some false ∧
    validateNativeSpec H (clientToken H salt h1 ++ extra) salt stored = false := by
  obtain ⟨hlen, hcancel⟩ := clientToken_spec H hH salt h1 hl
  have hne' : stored.isEmpty = false := List.isEmpty_eq_false_iff.2 hne
  have hre : (clientToken H salt h1 ++ extra).isEmpty = false :=
    List.isEmpty_eq_false_iff.2 (List.append_ne_nil_of_right_ne_nil _ hex)
  have h20 : (clientToken H salt h1 ++ extra).length ≠ 20 := by
    have := List.length_pos_iff.2 hex
    rw [List.length_append, hlen]
    omega
  refine ⟨?_, native_wrong_length_rejected H hH _ salt stored h20,
    validateNativeSpec_of_length_ne h20⟩
  simp only [validateNativePreFix, hre, hne', Bool.or_self, Bool.false_eq_true, if_false, hs]
  rw [xorPrefix_eq, if_pos (by rw [hH, List.length_append, hlen]; omega),
    xor_append_right (Nat.le_of_eq (by rw [hH, hlen])), hcancel]
  simp

/-- The hypotheses of `fixed_native_long_response_accepted` are satisfiable (toy 20-byte "hash"), and the
defect on that concrete input: 20 zero bytes are the token, a 21st byte was ignored before the repair. -/
example :
    decodeStored toyStored = some (toyH [])
    ∧ validateNativePreFix toyH (List.replicate 20 0 ++ [7]) [1, 2] toyStored = some true
    ∧ validateNative toyH (List.replicate 20 0 ++ [7]) [1, 2] toyStored = some false := by
  refine ⟨by decide +kernel, by decide +kernel, by decide +kernel⟩

theorem checkAcct_accept_iff (v : Bytes → Bytes → List Char → Option Bool) (a : Acct) (salt resp : Bytes) (u h : String) :
    checkAcct v a salt resp = .accept u h ↔ a.locked = false ∧ u = a.name ∧ h = a.host ∧
      ((a.auth ≠ [] ∧ v resp salt a.auth = some true) ∨ (a.auth = [] ∧ resp = [])) := by
  simp only [checkAcct]
  cases hl : a.locked
  · simp only [Bool.false_eq_true, if_false, true_and]
    cases ha : a.auth with
    | nil =>
      cases resp with
      | nil => simp [eq_comm]
      | cons r rs => simp
    | cons c cs =>
      simp only [List.isEmpty_cons, Bool.not_false, if_true]
      cases hv : v resp salt (c :: cs) with
      | none => simp
      | some b => cases b <;> simp [eq_comm]
  · simp

theorem checkAcct_ne_crash (v : Bytes → Bytes → List Char → Option Bool) (a : Acct) (salt resp : Bytes)
    (hv : v resp salt a.auth ≠ none) : checkAcct v a salt resp ≠ .crash := by
  fun_cases checkAcct v a salt resp with
  | case2 _ _ h_none => exact absurd h_none hv
  | _ => nofun

theorem checkAcct_impl_eq_spec (H : Bytes → Bytes) (hH : ∀ x, (H x).length = 20) (a : Acct) (salt resp : Bytes) :
    checkAcct (validateNative H) a salt resp =
      checkAcct (fun r s st => some (validateNativeSpec H r s st)) a salt resp := by
  simp only [checkAcct, native_impl_eq_spec H hH]

/-- **Accept iff.** With the accounts database enabled, the native login is accepted exactly when `GetUser`
finds an account, that account is not locked, and either it has a password and the scramble check succeeds
or it has none and the response is empty; the connection then runs as that account. -/
theorem authNative_accept_iff (H : Bytes → Bytes) (accts : List Acct) (user host u h : String) (salt resp : Bytes) :
    authNative H true accts user host salt resp = .accept u h ↔
      ∃ a, chooseImpl accts user host = some a ∧ a.locked = false ∧ u = a.name ∧ h = a.host ∧
        ((a.auth ≠ [] ∧ validateNative H resp salt a.auth = some true) ∨ (a.auth = [] ∧ resp = [])) := by
  simp only [authNative, Bool.not_true, Bool.false_eq_true, if_false]
  cases chooseImpl accts user host with
  | none => simp
  | some a => simp only [checkAcct_accept_iff, Option.some.injEq, exists_eq_left']

theorem locked_rejected (H : Bytes → Bytes) (accts : List Acct) (user host : String) (salt resp : Bytes) (a : Acct)
    (hc : chooseImpl accts user host = some a) (hl : a.locked = true) :
    authNative H true accts user host salt resp = .deny := by
  simp [authNative, hc, checkAcct, hl]

theorem unknown_rejected (H : Bytes → Bytes) (accts : List Acct) (user host : String) (salt resp : Bytes)
    (hc : chooseImpl accts user host = none) :
    authNative H true accts user host salt resp = .deny := by
  simp [authNative, hc]

/-- An account without a password accepts exactly the empty response. -/
theorem empty_password_iff_empty_response (H : Bytes → Bytes) (accts : List Acct) (user host : String) (salt resp : Bytes)
    (a : Acct) (hc : chooseImpl accts user host = some a) (hl : a.locked = false) (ha : a.auth = []) :
    authNative H true accts user host salt resp = .accept a.name a.host ↔ resp = [] := by
  rw [authNative_accept_iff]
  simp [hc, hl, ha]

/-- An accepted connection runs as the account `GetUser` matched (its name and its host *pattern*). -/
theorem runs_as_matched_account (H : Bytes → Bytes) (accts : List Acct) (user host u h : String) (salt resp : Bytes)
    (hacc : authNative H true accts user host salt resp = .accept u h) :
    ∃ a, chooseImpl accts user host = some a ∧ (u, h) = (a.name, a.host) := by
  obtain ⟨a, hc, _, rfl, rfl, _⟩ := (authNative_accept_iff H accts user host u h salt resp).1 hacc
  exact ⟨a, hc, rfl⟩

/-- **The login never panics — full statement (holds since the `fix:` commit)**: for every function `H`,
every account list, login and response (before the repair: only outside the short-response region). -/
theorem authNative_no_crash (H : Bytes → Bytes) (enabled : Bool) (accts : List Acct)
    (user host : String) (salt resp : Bytes) :
    authNative H enabled accts user host salt resp ≠ .crash := by
  simp only [authNative]
  split
  · simp
  · cases chooseImpl accts user host with
    | none => simp
    | some a => exact checkAcct_ne_crash _ a salt resp (native_no_crash H resp salt a.auth)

/-- **The login decision is the Spec's whenever `GetUser` picks the account the Spec picks** (the only
remaining difference between code and Spec is the choice of the account, finding
`match_order_by_insertion`); in particular a short or over-long response is denied, not a panic and not an
acceptance. -/
theorem authNative_eq_spec_of_same_account (H : Bytes → Bytes) (hH : ∀ x, (H x).length = 20) (accts : List Acct)
    (user host : String) (salt resp : Bytes) (a : Acct)
    (hi : chooseImpl accts user host = some a) (hsp : chooseSpec accts user host = some (some a)) :
    authNativeSpec H accts user host salt resp = some (authNative H true accts user host salt resp) := by
  simp only [authNativeSpec, authNative, hi, hsp, Bool.not_true, Bool.false_eq_true, if_false,
    checkAcct_impl_eq_spec H hH]

/-- Non-vacuity: a single account, the login it matches. -/
example : chooseImpl [{ name := "u", host := "%", plugin := "mysql_native_password", auth := "*AA".toList, locked := false }] "u" "10.0.0.5"
      = some { name := "u", host := "%", plugin := "mysql_native_password", auth := "*AA".toList, locked := false }
    ∧ chooseSpec [{ name := "u", host := "%", plugin := "mysql_native_password", auth := "*AA".toList, locked := false }] "u" "10.0.0.5"
      = some (some { name := "u", host := "%", plugin := "mysql_native_password", auth := "*AA".toList, locked := false }) := by
  decide +kernel

/-- `GetUser` on a list of accounts: exact (name, normalised host) first, then the first account of the name
whose host accepts the client, then the first such anonymous account — in list (= insertion) order. -/
theorem chooseImpl_eq_find (accts : List Acct) (user host : String) :
    chooseImpl accts user host =
      ((accts.find? (fun a => decide (a.host = normHost host ∧ a.name = user))).or
        ((accts.find? (fun a => a.name = user && hostMatches (normHost host) host a.host false)).or
          (accts.find? (fun a => a.name = "" && hostMatches (normHost host) host a.host false)))) :=
  getUserIdx_bind (fun a : Acct => (a.name, a.host)) accts user host false

/-- The chosen account is one of the accounts, carries the login's name or is anonymous, and accepts the
client host. -/
theorem chooseImpl_matches (accts : List Acct) (user host : String) (a : Acct) (h : chooseImpl accts user host = some a) :
    a ∈ accts ∧ (acctMatches user host a = true ∨ acctMatches "" host a = true) := by
  rw [chooseImpl_eq_find] at h
  simp only [Option.or_eq_some_iff] at h
  rcases h with h | ⟨_, h | ⟨_, h⟩⟩
  · have := List.find?_some h
    simp only [decide_eq_true_eq] at this
    exact ⟨List.mem_of_find?_eq_some h, Or.inl (by simp [acctMatches, this.1, this.2])⟩
  · have := List.find?_some h
    simp only [Bool.and_eq_true, decide_eq_true_eq] at this
    exact ⟨List.mem_of_find?_eq_some h, Or.inl (by simp [acctMatches, this.1, this.2])⟩
  · have := List.find?_some h
    simp only [Bool.and_eq_true, decide_eq_true_eq] at this
    exact ⟨List.mem_of_find?_eq_some h, Or.inr (by simp [acctMatches, this.1, this.2])⟩

def wAccts : List Acct :=
  [{ name := "u", host := "%", plugin := "mysql_native_password", auth := "*AA".toList, locked := false },
   { name := "u", host := "127.0.0.1", plugin := "mysql_native_password", auth := "*BB".toList, locked := false }]

/-- **Finding F-C40-c (`match_order_by_insertion`).** When two accounts of one name accept the client the
code checks the login against the one inserted first, not against the most specific host: with `u@%`
created before `u@127.0.0.1`, a client on the loopback address is checked against `u@%` — the owner of the
`u@127.0.0.1` password is rejected (and the holder of the `u@%` password is let in as `u@%`). -/
theorem finding_match_order_by_insertion :
    chooseImpl wAccts "u" "127.0.0.1" = wAccts[0]? ∧
    chooseSpec wAccts "u" "127.0.0.1" = some (wAccts[1]?) ∧
    matchOrderDiffers wAccts "u" "127.0.0.1" = true ∧
    chooseImpl wAccts.reverse "u" "127.0.0.1" = wAccts[1]? := by
  decide +kernel

/-- `HandleUser`: a known account is offered exactly its own plugin; an unknown login exactly the default
method (decoy), so that it fails inside the plugin like a wrong password. -/
theorem handleUser_iff (accts : List Acct) (method user host : String) :
    handleUser true accts method user host = true ↔
      (∃ a, chooseImpl accts user host = some a ∧ a.plugin = method) ∨
      (chooseImpl accts user host = none ∧ method = defaultAuthMethod) := by
  simp only [handleUser, Bool.not_true, Bool.false_eq_true, if_false]
  cases chooseImpl accts user host <;> simp

/-- The fast path accepts only an empty (or single zero byte) response for an unlocked account without a
password, and never accepts anything else. -/
theorem sha2Fast_accept_iff (accts : List Acct) (user host u h : String) (resp : Bytes) :
    sha2Fast true accts user host resp = .accept u h ↔
      (resp = [] ∨ resp = [0]) ∧ u = user ∧ h = host ∧
        ∃ a, chooseImpl accts user host = some a ∧ a.locked = false ∧ a.auth = [] := by
  simp only [sha2Fast, Bool.not_true, Bool.false_eq_true, if_false]
  have hr : (resp.isEmpty || resp == [0]) = true ↔ resp = [] ∨ resp = [0] := by
    rw [Bool.or_eq_true, List.isEmpty_iff, beq_iff_eq]
  by_cases h0 : resp = [] ∨ resp = [0]
  · rw [if_pos (hr.2 h0)]
    cases chooseImpl accts user host with
    | none => simp
    | some a =>
      cases hl : a.locked with
      | true => simp [hl]
      | false =>
        cases ha : a.auth with
        | cons c cs => simp [ha]
        | nil => simp [h0, hl, ha, eq_comm (a := user), eq_comm (a := host)]
  · rw [if_neg (mt hr.1 h0)]
    simp [h0]

section HostPatterns
open Gms.HostPattern

/-- **The matcher decides the language of the code's regular expression**: `matchesHostPattern`'s anchored
expression (`%` ↦ `.*`, every other character quoted) accepts a host exactly when the host is the pattern's
literal characters, in order, with one newline-free gap per `%`. -/
theorem glob_iff_matches (p h : List Char) : glob p h = true ↔ Matches p h :=
  ⟨glob_sound p h, glob_complete⟩

/-- The model of `matchesHostPattern` inside `getUserIdx` (C39's `Gms.Priv`, well-founded recursion) is the
structural matcher of `Gms.HostPattern`, hence everything below is about the function the login model uses. -/
theorem matchesHostPattern_eq (host pattern : String) :
    Gms.Priv.matchesHostPattern host pattern = Gms.HostPattern.matchesHostPattern host pattern := by
  simp only [Gms.Priv.matchesHostPattern, Gms.HostPattern.matchesHostPattern, globMatch_eq_glob]

/-- **A match is the pattern's segments interleaved with gaps**: `host = s₀ ++ g₁ ++ s₁ ++ … ++ gₙ ++ sₙ` where
`s₀ … sₙ = strings.Split(pattern, "%")`. The segments occupy *disjoint* stretches of the host, in order — the
text before the first `%` is a prefix, the text after the last `%` a suffix, and they do not share characters. -/
theorem match_is_interleave (p h : List Char) :
    glob p h = true ↔
      ∃ gs : List (List Char), gs.length + 1 = (segs p).length ∧ (∀ g ∈ gs, gapOk g) ∧ h = interleave (segs p) gs := by
  rw [glob_iff_matches]
  exact ⟨matches_interleave, fun ⟨gs, hl, hg, hh⟩ => hh ▸ interleave_matches p gs hl hg⟩

/-- One wildcard between two literal pieces: `a%b` accepts exactly `a ++ gap ++ b` — in particular the host
has at least `|a| + |b|` characters: prefix and suffix never overlap. -/
theorem single_wildcard_iff (a b h : List Char) (ha : '%' ∉ a) (hb : '%' ∉ b) :
    glob (a ++ '%' :: b) h = true ↔ ∃ g, gapOk g ∧ h = a ++ g ++ b := by
  rw [match_is_interleave, segs_append_wild a b ha, segs_nowild b hb]
  constructor
  · rintro ⟨gs, hl, hg, hh⟩
    -- two segments, hence exactly one gap
    match gs, hl with
    | [g], _ => exact ⟨g, hg g (List.mem_cons_self ..), by simpa [interleave] using hh⟩
  · rintro ⟨g, hg, hh⟩
    refine ⟨[g], rfl, ?_, by simpa [interleave] using hh⟩
    intro x hx
    have : x = g := by simpa using hx
    rw [this]; exact hg

/-- **A host shorter than the pattern's literal text never matches.** -/
theorem match_needs_room (p h : List Char) (hm : glob p h = true) : litLen p ≤ h.length :=
  matches_litLen ((glob_iff_matches p h).1 hm)

theorem short_host_rejected (host pattern : String) (hs : host.toList.length < litLen pattern.toList) :
    Gms.Priv.matchesHostPattern host pattern = false := by
  rw [matchesHostPattern_eq]
  simp only [Gms.HostPattern.matchesHostPattern]
  cases hg : glob pattern.toList host.toList with
  | false => simp
  | true => exact absurd (match_needs_room _ _ hg) (by omega)

/-- Non-vacuity: the README's shapes. Each host contains every literal piece of the pattern, in order, but
not disjointly; the matcher rejects them (they are shorter than the literal text, `short_host_rejected`). -/
example : glob "%.10.%.10".toList "1.2.10.10".toList = false ∧ glob "%.10.%.10".toList "1.2.10.9.10".toList = true
    ∧ glob "10.1%1.0.5".toList "10.1.0.5".toList = false ∧ glob "10.1%1.0.5".toList "10.11.0.5".toList = true
    ∧ glob "10.0.%.0.1".toList "10.0.0.1".toList = false ∧ litLen "10.0.%.0.1".toList = 9 := by decide +kernel

/-- **The defect class.** A matcher that anchors the first segment as a prefix and the last as a suffix of
the whole host and searches the middle segments behind the prefix — without keeping the pieces disjoint —
accepts hosts outside the pattern's language: it is not the code's matcher. -/
theorem overlap_matcher_unsound :
    ∃ p h : List Char, overlapMatch p h = true ∧ glob p h = false ∧ h.length < litLen p :=
  ⟨"a%ab".toList, "ab".toList, by decide +kernel⟩

example : overlapMatch "%.10.%.10".toList "1.2.10.10".toList = true
    ∧ overlapMatch "10.1%1.0.5".toList "10.1.0.5".toList = true
    ∧ overlapMatch "10.0.%.0.1".toList "10.0.0.1".toList = true
    ∧ overlapMatch "10.0.%".toList "10.0.0.5".toList = true ∧ overlapMatch "10.0.%".toList "10.1.0.5".toList = false := by decide +kernel

/-- Without `_` in the pattern (and no newline in the host) the code's rule is MySQL's rule for account hosts
(LIKE: `%` any run of characters, `_` any single character). -/
theorem glob_eq_like_of_no_underscore (p h : List Char) (hp : '_' ∉ p) (hh : ∀ x ∈ h, x ≠ '\n') :
    glob p h = likeMatch p h := by
  induction p generalizing h with
  | nil => simp [glob, likeMatch]
  | cons c ps ih =>
    obtain ⟨hc_, hp'⟩ := List.ne_and_not_mem_of_not_mem_cons hp
    by_cases hc : c = '%'
    · simp only [glob, likeMatch, hc, if_true]
      exact anyTail_eq_anyTailAll h hh (fun t ht => ih t hp' ht)
    · cases h with
      | nil => simp [glob, likeMatch, hc]
      | cons d hs =>
        have hb : (c == '_') = false := by simp [hc_.symm]
        simp only [glob, likeMatch, hc, if_false, hb, Bool.false_or, ih hs hp' (gapOk_cons.1 hh).2]

/-- …and with `_` it is not: the code takes `_` literally where MySQL accepts any one character (a deviation
from MySQL in the direction of rejecting; the Spec of this property is the code's documented `%`-only rule). -/
theorem underscore_is_literal :
    glob "10.0.0._%".toList "10.0.0.5".toList = false ∧ likeMatch "10.0.0._%".toList "10.0.0.5".toList = true
    ∧ glob "10.0.0._%".toList "10.0.0._".toList = true := by decide +kernel

end HostPatterns

section Histories
open Gms.AuthHist

theorem runI_append (H : Bytes → Bytes) (es : List Entry) (evs evs' : List Ev) :
    runI H es (evs ++ evs') = runI H es evs ++ runI H (stateI es evs) evs' := by
  induction evs generalizing es with
  | nil => rfl
  | cons e r ih => cases e <;> simp [runI, stateI, ih]

/-- **A login reads the current table.** The observation of a login at the end of a history is `loginI` on
the state produced by the statements before it — no other state exists in the model, and `facts_match_lookup`
pins that none exists in the code path (every lookup is a `GetUser` on a fresh reader). -/
theorem login_reads_current_table (H : Bytes → Bytes) (es : List Entry) (evs : List Ev) (u h : String) (s p : Bytes) :
    runI H es (evs ++ [.login u h s p]) = runI H es evs ++ [loginI H (stateI es evs) u h s p] :=
  runI_append H es evs [.login u h s p]

/-- The lookup of `buildDropUser`: for a key that exists and is not spelled with a loopback address `GetUser`
returns an entry under exactly that key. -/
theorem chooseEntry_of_hasKey (es : List Entry) (k : Key) (hk : hasKey es k = true)
    (h1 : k.2 ≠ "127.0.0.1") (h2 : k.2 ≠ "::1") : ∃ e, chooseEntry es k.1 k.2 = some e ∧ e.key = k := by
  have hn : normHost k.2 = k.2 := by simp [normHost, h1, h2]
  simp only [hasKey, List.any_eq_true, beq_iff_eq] at hk
  obtain ⟨e0, he0, hke0⟩ := hk
  -- the search for the exact key succeeds, and whatever it returns carries that key
  have hs : (es.find? (fun e => decide (e.key.2 = normHost k.2 ∧ e.key.1 = k.1))).isSome :=
    List.find?_isSome.2 ⟨e0, he0, by simp [hn, hke0]⟩
  obtain ⟨e, he⟩ := Option.isSome_iff_exists.1 hs
  refine ⟨e, (getUserIdx_bind Entry.key es k.1 k.2 false).trans (by rw [he]; rfl), ?_⟩
  have hp := List.find?_some he
  simp only [hn, decide_eq_true_eq] at hp
  exact Prod.ext hp.2 hp.1

/-- **Inside the envelope the code's statement paths do what the statements say**: no `ACCOUNT LOCK` option on
CREATE USER, DROP USER of an existing account, no UPDATE that changes the row of an account holding
database-level privileges (and no account whose row is already duplicated). The full statement
`∀ es op, stepI es op = stepS es op` is false: `finding_create_user_account_lock_ignored`,
`finding_dml_update_keeps_old_row_of_scoped_account`. -/
theorem stepI_eq_stepS_of_ok (es : List Entry) (op : AuthHist.Op) (hok : okOp es op = true) : stepI es op = stepS es op := by
  cases op with
  | createUser k pl au lock =>
    have : lock = false := by simpa [okOp] using hok
    subst this; rfl
  | dropUser k =>
    simp only [okOp, Bool.and_eq_true, bne_iff_ne, ne_eq] at hok
    obtain ⟨e, he, hk⟩ := chooseEntry_of_hasKey es k hok.1.1 hok.1.2 hok.2
    simp [stepI, stepS, he, hk]
  | dmlUpdate k u =>
    simp only [stepI, stepS]
    cases hw : withKey es k with
    | nil => rfl
    | cons e r =>
      cases r with
      | nil =>
        simp only [okOp, hw, Bool.or_eq_true, Bool.not_eq_true', beq_iff_eq] at hok
        by_cases hu : u.apply e.a = e.a
        · simp [hu]
        · rcases hok with hs | hs
          · simp [hu, hs]
          · exact absurd hs hu
      | cons e2 r2 => simp [okOp, hw] at hok
  | _ => rfl

theorem stateI_eq_stateS_of_ok (es : List Entry) (evs : List Ev) (hok : okHist es evs = true) :
    stateI es evs = stateS es evs := by
  induction evs generalizing es with
  | nil => rfl
  | cons e r ih =>
    cases e with
    | op o =>
      simp only [okHist, Bool.and_eq_true] at hok
      simp only [stateI, stateS]
      rw [stepI_eq_stepS_of_ok es o hok.1]
      exact ih _ hok.2
    | login u h s p => exact ih es hok

/-- Non-vacuity of the envelope: a history through both paths (CREATE USER, GRANT, UPDATE, ALTER USER, DELETE,
INSERT) with logins in between. -/
example : okHist [] [.op (.createUser ("u", "10.1.%") "mysql_native_password" [] false), .login "u" "10.1.2.3" [] [],
    .op (.grantGlobal ("u", "10.1.%")), .op (.dmlUpdate ("u", "10.1.%") (.lock true)), .login "u" "10.1.2.3" [] [],
    .op (.alterUser ("u", "10.1.%") "mysql_native_password" ['*']), .op (.dmlDelete ("u", "10.1.%")),
    .op (.dmlInsert ("u", "%") "mysql_native_password" [] false), .op (.dropUser ("u", "%"))] = true := by decide +kernel

/-- **On a table without a duplicated key the history login is the login decision of `authNative`, and it is
the Spec's whenever `GetUser` picks the account the Spec picks.** -/
theorem loginI_eq_loginS_of_same_account (H : Bytes → Bytes) (hH : ∀ x, (H x).length = 20) (es : List Entry)
    (user host : String) (salt resp : Bytes) (a : Acct) (hd : dupKey es user host = false)
    (hi : chooseImpl (acctsOf es) user host = some a) (hsp : chooseSpec (acctsOf es) user host = some (some a)) :
    loginS H es user host salt resp = some (loginI H es user host salt resp) := by
  simp only [loginS, loginI, hd, hsp, Bool.false_eq_true, if_false, handleUser, hi, Bool.not_true]
  by_cases hp : a.plugin = defaultAuthMethod
  · simp [hp, authNative_eq_spec_of_same_account H hH (acctsOf es) user host salt resp a hi hsp]
  · simp [hp]

/-- **Finding `create_user_account_lock_ignored`.** `CREATE USER 'u'@'%' ACCOUNT LOCK` stores an unlocked
account: the login the statement forbids is accepted. -/
theorem finding_create_user_account_lock_ignored :
    let evs : List Ev := [.op (.createUser ("u", "%") "mysql_native_password" [] true), .login "u" "10.0.0.5" [] []]
    runI toyH [] evs = [.out (.accept "u" "%")] ∧ runS toyH [] evs = [some (.out .deny)] ∧
      taintOf (taintStep [] [] (.createUser ("u", "%") "mysql_native_password" [] true)) ("u", "%") = some regionLock := by
  decide +kernel

/-- **Finding `dml_update_keeps_old_row_of_scoped_account`.** After `GRANT … ON d.*`, `UPDATE mysql.user SET
account_locked = 'Y'` leaves the old (unlocked) row in front of the new one: a client matched through the
host pattern is still accepted; a client whose (user, host) is the key itself makes `Reader.GetUser` panic. -/
theorem finding_dml_update_keeps_old_row_of_scoped_account :
    let evs (h : String) : List Ev := [.op (.createUser ("u", h) "mysql_native_password" [] false), .op (.grantScoped ("u", h)),
      .op (.dmlUpdate ("u", h) (.lock true)), .login "u" "localhost" [] []]
    runI toyH [] (evs "%") = [.out (.accept "u" "%")] ∧ runS toyH [] (evs "%") = [some (.out .deny)] ∧
    runI toyH [] (evs "localhost") = [.out .crash] ∧ runS toyH [] (evs "localhost") = [some (.out .deny)] ∧
    (stateI [] (evs "%")).length = 2 ∧ (stateS [] (evs "%")).length = 1 := by
  decide +kernel

/-- Invariant of the read-through cache: an entry of the current generation holds the current answer. -/
def CInv {σ κ ν : Type} (look : σ → κ → Option ν) (c : Cached σ κ ν) : Prop :=
  ∀ e ∈ c.cache, e.2.2 ≤ c.gen ∧ (e.2.2 = c.gen → look c.st e.1 = some e.2.1)

theorem cacheGet_mem {κ ν : Type} [DecidableEq κ] {cache : List (κ × ν × Nat)} {k : κ} {gen : Nat} {v : ν} :
    cacheGet cache k gen = some v → (k, v, gen) ∈ cache := by
  fun_cases cacheGet cache k gen with
  | case1 k' v' h_find =>
    rintro ⟨rfl⟩
    have hk := List.find?_some h_find
    exact of_decide_eq_true hk ▸ List.mem_of_find?_eq_some h_find
  | case2 => nofun
  | case3 => nofun

/-- **A generation-keyed cache is transparent iff every state change bumps the generation.** If every
operation of the history that does not advance the generation leaves the state unchanged, the cached answers
are the uncached ones. (The account lookup of a login may be cached on `MySQLDb.updateCounter` only if every
path that edits accounts advances it.) -/
theorem cache_coherent {σ ο κ ν : Type} [DecidableEq κ] (step : σ → ο → σ) (look : σ → κ → Option ν) (bumps : ο → Bool)
    (evs : List (CEv ο κ)) (hb : ∀ o, CEv.op o ∈ evs → bumps o = false → ∀ s, step s o = s)
    (c : Cached σ κ ν) (hc : CInv look c) :
    runC step look bumps c evs = runU step look c.st evs := by
  induction evs generalizing c with
  | nil => rfl
  | cons e r ih =>
    have hb' : ∀ o, CEv.op o ∈ r → bumps o = false → ∀ s, step s o = s :=
      fun o ho => hb o (List.mem_cons_of_mem _ ho)
    cases e with
    | op o =>
      simp only [runC, runU]
      apply ih hb'
      intro e he
      cases hbo : bumps o with
      | true =>
        -- after a bump every entry is older than the generation, so its second clause holds vacuously
        simp only [if_true]
        have := (hc e he).1
        exact ⟨by omega, fun h => by omega⟩
      | false =>
        simp only [Bool.false_eq_true, if_false, hb o (List.mem_cons_self ..) hbo c.st]
        exact hc e he
    | ask k =>
      simp only [runC, runU]
      cases hg : cacheGet c.cache k c.gen with
      | some v =>
        simp only [(hc _ (cacheGet_mem hg)).2 rfl, ih hb' c hc]
      | none =>
        cases hl : look c.st k with
        | none => simp only [ih hb' c hc]
        | some v =>
          simp only
          rw [ih hb']
          intro e he
          rcases List.mem_cons.1 he with rfl | hm
          · exact ⟨Nat.le_refl _, fun _ => hl⟩
          · exact hc e hm

/-- The account lookup of a login, as a function of the table. -/
def lookAcct (es : List Entry) (k : String × String) : Option Acct := chooseImpl (acctsOf es) k.1 k.2

/-- With a counter that *every* statement advances the cache is invisible … -/
theorem cache_coherent_all_bump (evs : List (CEv AuthHist.Op (String × String))) (es : List Entry) :
    runC stepI lookAcct (fun _ => true) { st := es, gen := 1, cache := [] } evs = runU stepI lookAcct es evs :=
  cache_coherent stepI lookAcct (fun _ => true) evs (fun _ _ h => by simp at h) _ (by intro e he; cases he)

/-- **… but `MySQLDb.updateCounter` is advanced by `Editor.Close` only**: DML on `mysql.user` changes the
table without advancing it, and a lookup cached on that counter keeps answering with the old account — the
login after `UPDATE mysql.user SET account_locked = 'Y'` is still checked against the unlocked row. -/
theorem stale_cache_diverges :
    let es : List Entry := [mkEntry ("u", "%") "mysql_native_password" [] false]
    let evs : List (CEv AuthHist.Op (String × String)) :=
      [.ask ("u", "10.0.0.5"), .op (.dmlUpdate ("u", "%") (.lock true)), .ask ("u", "10.0.0.5")]
    (runC stepI lookAcct bumpsEditor { st := es, gen := 1, cache := [] } evs).map (·.map (·.locked)) = [some false, some false] ∧
    (runU stepI lookAcct es evs).map (·.map (·.locked)) = [some false, some true] ∧
    bumpsEditor (.dmlUpdate ("u", "%") (.lock true)) = false ∧
    stepI es (.dmlUpdate ("u", "%") (.lock true)) ≠ es := by
  decide +kernel

end Histories

end Gms.C40
