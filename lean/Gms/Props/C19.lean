import Gms.Model.RowPipe
import Gms.Lemmas.InsertSort
import Gms.Lemmas.Basics
import Gms.Generated.C19

/-!
C19 — CHECK, NOT NULL, defaults and generated columns hold for stored rows.

The model (`Gms/Model/RowPipe.lean`) transliterates the row pipeline of INSERT and UPDATE
(`planbuilder/dml.go`, `rowexec/insert.go`, `rowexec/update.go`). Everything rests on `assignFold_spec`:
evaluating default / generated expressions column by column, each reading earlier columns only, leaves every
assigned column equal to its expression over the *final* row. From it the row theorems `insertRow_stored`,
`updateRow_stored` and `applySetsSel_spec` (WHICH generated columns an UPDATE must recompute: any selection
closed under "reads a column that changes"), then `step_preserves` / `run_preserves` for statements and histories
outside the two regions; inside them `finding_virtual_column_disables_checks` and
`finding_ignore_null_adjustment` show the unchanged code violating the property.
-/

namespace Gms.RowPipe

/-- Every generated column equals its expression over the row's current values. -/
def GenOk (T : Table) (r : Row) : Prop :=
  ∀ i, i < T.cols.length → ∀ e, (colSpec T i).gen.expr? = some e → getc r i = e.eval r

/-- No NOT NULL column holds NULL. -/
def NnOk (T : Table) (r : Row) : Prop :=
  ∀ i, i < T.cols.length → (colSpec T i).notNull = true → (getc r i).isSome = true

/-- No enforced CHECK evaluates to FALSE. -/
def ChkOk (T : Table) (r : Row) : Prop :=
  ∀ c ∈ T.checks, c.enforced = true → c.expr.eval r ≠ .f

/-- The property for one stored row (plus the shape invariant: one value per column). -/
structure Stored (T : Table) (r : Row) : Prop where
  len : r.length = T.cols.length
  chk : ChkOk T r
  nn : NnOk T r
  gen : GenOk T r

theorem eq_false_or_iff_imp {a : Bool} {p : Prop} : (a = false ∨ p) ↔ (a = true → p) := by
  cases a <;> simp

theorem getc_set (r : Row) (i j : Nat) (v : Val) :
    getc (r.set i v) j = if i = j ∧ i < r.length then v else getc r j := by
  unfold getc
  by_cases h : i = j
  · subst h
    by_cases hl : i < r.length
    · simp [hl]
    · simp [hl]
  · simp [h, List.getD_eq_getElem?_getD, List.getElem?_set_ne h]

theorem getc_set_ne {r : Row} {i j : Nat} {v : Val} (h : i ≠ j) : getc (r.set i v) j = getc r j := by
  simp [getc_set, h]

theorem getc_set_self {r : Row} {i : Nat} {v : Val} (h : i < r.length) : getc (r.set i v) i = v := by
  simp [getc_set, h]

theorem set_getc_self (r : Row) (i : Nat) : r.set i (getc r i) = r := by
  unfold getc
  by_cases h : i < r.length
  · simp [List.getD_eq_getElem?_getD, h]
  · exact List.set_eq_of_length_le (Nat.le_of_not_lt h)

def E.reads : E → List Nat
  | .col i => [i]
  | .lit _ => []
  | .add a b => a.reads ++ b.reads
  | .mul a b => a.reads ++ b.reads

theorem E.eval_agree_reads {r r' : Row} (e : E) (h : ∀ j ∈ e.reads, getc r j = getc r' j) :
    e.eval r = e.eval r' := by
  induction e with
  | col i => simp [E.eval, h i (by simp [E.reads])]
  | lit v => rfl
  | add a b iha ihb | mul a b iha ihb =>
    have ha := iha (fun j hj => h j (by simp [E.reads, hj]))
    have hb := ihb (fun j hj => h j (by simp [E.reads, hj]))
    simp only [E.eval, ha, hb]

theorem E.colsLt_eq (k : Nat) (e : E) : e.colsLt k = e.reads.all (· < k) := by
  induction e <;> simp [E.colsLt, E.reads, *]

theorem E.reads_lt {k j : Nat} {e : E} (h : e.colsLt k = true) (hj : j ∈ e.reads) : j < k :=
  of_decide_eq_true (List.all_eq_true.mp (E.colsLt_eq k e ▸ h) j hj)

def asgStep (g : Nat → Option E) (r : Row) (i : Nat) : Row :=
  match g i with | some e => r.set i (e.eval r) | none => r

theorem assignFold_eq (g : Nat → Option E) (n : Nat) (r : Row) :
    assignFold g n r = (List.range n).foldl (asgStep g) r := rfl

theorem asgStep_length (g : Nat → Option E) (r : Row) (i : Nat) : (asgStep g r i).length = r.length := by
  unfold asgStep; split <;> simp

theorem getc_asgStep_ne (g : Nat → Option E) (r : Row) {k j : Nat} (h : j ≠ k) :
    getc (asgStep g r k) j = getc r j := by
  unfold asgStep
  split
  · exact getc_set_ne (Ne.symm h)
  · rfl

theorem getc_asgStep_self {g : Nat → Option E} {r : Row} {i : Nat} {e : E} (hg : g i = some e) (hi : i < r.length) :
    getc (asgStep g r i) i = e.eval r := by
  unfold asgStep
  rw [hg]
  exact getc_set_self hi

theorem assignFold_length (g : Nat → Option E) (n : Nat) (r : Row) : (assignFold g n r).length = r.length := by
  rw [assignFold_eq]
  exact List.foldlRecOn (motive := fun b : Row => b.length = r.length) _ _ rfl
    fun b hb i _ => (asgStep_length g b i).trans hb

theorem assignFold_untouched (g : Nat → Option E) (n : Nat) (r : Row) {j : Nat} (h : g j = none) :
    getc (assignFold g n r) j = getc r j := by
  rw [assignFold_eq]
  refine List.foldlRecOn (motive := (getc · j = getc r j)) _ _ rfl fun b hb k _ => ?_
  by_cases hjk : j = k
  · subst hjk
    unfold asgStep
    rw [h]
    exact hb
  · exact (getc_asgStep_ne g b hjk).trans hb

theorem assignFold_succ (g : Nat → Option E) (k : Nat) (r : Row) :
    assignFold g (k + 1) r = asgStep g (assignFold g k r) k := by
  simp only [assignFold_eq, List.range_succ, List.foldl_append, List.foldl_cons, List.foldl_nil]

theorem assignFold_prefix (g : Nat → Option E) (r : Row)
    (hwf : ∀ i e, i < r.length → g i = some e → e.colsLt i = true) {k i : Nat} {e : E} (hi : i < k)
    (hir : i < r.length) (hgi : g i = some e) :
    getc (assignFold g k r) i = e.eval (assignFold g k r) := by
  induction k with
  | zero => exact absurd hi (Nat.not_lt_zero i)
  | succ k ih =>
    rw [assignFold_succ]
    -- the step changes column `k` only, and `e` reads columns below `i ≤ k`
    have hev : e.eval (asgStep g (assignFold g k r) k) = e.eval (assignFold g k r) :=
      E.eval_agree_reads e fun j hj => getc_asgStep_ne g _ (Nat.ne_of_lt (Nat.lt_of_lt_of_le
        (E.reads_lt (hwf i e hir hgi) hj) (Nat.le_of_lt_succ hi)))
    rw [hev]
    rcases Nat.lt_succ_iff_lt_or_eq.mp hi with hik | rfl
    · rw [getc_asgStep_ne g _ (Nat.ne_of_lt hik), ih hik]
    · exact getc_asgStep_self hgi (assignFold_length g i r ▸ hir)

/-- **Column-by-column assignment.** If the expression of column `i` only mentions columns `< i`,
then after `assignFold` every assigned column equals its expression *over the final row*, and every
other column is untouched. -/
theorem assignFold_spec (g : Nat → Option E) (n : Nat) (r : Row) (hlen : r.length = n)
    (hwf : ∀ i e, i < n → g i = some e → e.colsLt i = true) :
    (assignFold g n r).length = n ∧
    (∀ i e, i < n → g i = some e → getc (assignFold g n r) i = e.eval (assignFold g n r)) ∧
    (∀ i, g i = none → getc (assignFold g n r) i = getc r i) := by
  subst hlen
  exact ⟨assignFold_length g _ r, fun i e hi he => assignFold_prefix g r hwf hi hi he,
    fun i hi => assignFold_untouched g _ r hi⟩

theorem nullBad_nil_iff (T : Table) (r : Row) : nullBad T r = [] ↔ NnOk T r := by
  unfold nullBad NnOk
  simp only [List.filter_eq_nil_iff, List.mem_range, Bool.and_eq_true, not_and, Option.isNone_iff_eq_none,
    Option.isSome_iff_ne_none, ne_eq]

theorem mem_nullBad (T : Table) (r : Row) (i : Nat) :
    i ∈ nullBad T r ↔ i < T.cols.length ∧ (colSpec T i).notNull = true ∧ (getc r i).isNone = true := by
  simp [nullBad, List.mem_filter]

theorem zeroFold_spec (bad : List Nat) (r : Row) :
    (bad.foldl (fun r i => r.set i (some 0)) r).length = r.length ∧
    ∀ j, getc (bad.foldl (fun r i => r.set i (some 0)) r) j
      = if j ∈ bad ∧ j < r.length then some 0 else getc r j := by
  induction bad generalizing r with
  | nil => simp
  | cons b bs ih =>
    simp only [List.foldl_cons]
    obtain ⟨h1, h2⟩ := ih (r.set b (some 0))
    refine ⟨by simpa using h1, fun j => ?_⟩
    rw [h2 j, getc_set, List.length_set]
    simp only [List.mem_cons]
    by_cases hb : b = j
    · subst hb
      by_cases hl : b < r.length
      · simp [hl]
      · simp [hl]
    · simp [hb, Ne.symm hb]

/-- Both accepting branches of `validateNullability` in one: when nothing is bad the zeroing fold runs over `[]` and is the row. -/
theorem nullability_eq (T : Table) (ig : Bool) (r : Row) :
    nullability T ig r =
      if ig = true ∨ nullBad T r = [] then .ok ((nullBad T r).foldl (fun r i => r.set i (some 0)) r)
      else .error .notNull := by
  unfold nullability
  cases nullBad T r <;> cases ig <;> simp

/-- Go `validateNullability`: an accepted row has no NULL in a NOT NULL column. -/
theorem nullability_ok {T : Table} {ig : Bool} {r r' : Row} (hlen : r.length = T.cols.length)
    (h : nullability T ig r = .ok r') : r'.length = T.cols.length ∧ NnOk T r' := by
  rw [nullability_eq] at h
  split at h
  · cases h
    obtain ⟨h1, h2⟩ := zeroFold_spec (nullBad T r) r
    refine ⟨h1.trans hlen, fun i hi hn => ?_⟩
    rw [h2 i]
    split
    · rfl
    · next hb => simpa [mem_nullBad, hi, hn, hlen, Option.isSome_iff_ne_none] using hb
  · cases h

theorem nullability_unadjusted {T : Table} {ig : Bool} {r r' : Row} (hadj : adjusts T ig r = false)
    (h : nullability T ig r = .ok r') : r' = r := by
  rw [nullability_eq] at h
  split at h
  · next hc =>
    cases h
    have hnil : nullBad T r = [] := by
      rcases hc with rfl | hc
      · simpa [adjusts] using hadj
      · exact hc
    rw [hnil]
    rfl
  · cases h

theorem checksPass_iff (cs : List Chk) (r : Row) :
    checksPass cs r = true ↔ ∀ c ∈ cs, c.enforced = true → c.expr.eval r ≠ .f := by
  simp only [checksPass, List.all_eq_true, Bool.or_eq_true, Bool.not_eq_true', bne_iff_ne, ne_eq,
    eq_false_or_iff_imp]

/-- `check_null_passes`: a CHECK rejects a row only when it is FALSE — NULL (unknown) passes, and a
NOT ENFORCED check never rejects. -/
theorem check_null_passes (c : Chk) (r : Row) (h : c.expr.eval r = .u ∨ c.enforced = false) :
    checksPass [c] r = true := by
  rw [checksPass_iff]
  intro c' hc he
  simp only [List.mem_singleton] at hc
  subst hc
  rcases h with h | h
  · simp [h]
  · simp [h] at he

theorem loadedChecks_chk {T : Table} {r : Row} (hcl : T.checksLost = false)
    (hp : checksPass T.loadedChecks r = true) : ChkOk T r := by
  unfold Table.checksLost at hcl
  unfold Table.loadedChecks at hp
  intro c hc he
  cases hv : T.hasVirtual
  · simp only [hv] at hp
    exact (checksPass_iff _ _).mp hp c hc he
  · simp only [hv, Bool.true_and, List.any_eq_false] at hcl
    exact absurd he (hcl c hc)

theorem explicitRow_length (n : Nat) (cols : List Nat) (vals : List Src) :
    (explicitRow n cols vals).length = n := by
  simp [explicitRow]

theorem defaultExpr_gen {c : ColSpec} {e : E} (h : c.gen.expr? = some e) : defaultExpr c = e := by
  simp [defaultExpr, h]

theorem defaultExpr_plain_none {c : ColSpec} (hg : c.gen = .none) (hd : c.dflt = none) (r : Row) :
    (defaultExpr c).eval r = none := by
  simp [defaultExpr, hg, Gen.expr?, hd, E.eval]

theorem wf_col {T : Table} (hwf : T.wf = true) {i : Nat} (hi : i < T.cols.length) :
    (defaultExpr (colSpec T i)).colsLt i = true := by
  unfold Table.wf at hwf
  simp only [List.all_eq_true, List.mem_range] at hwf
  exact hwf i hi

def fillG (T : Table) (cols : List Nat) (vals : List Src) (i : Nat) : Option E :=
  if isExplicit cols vals i then none else some (defaultExpr (colSpec T i))

theorem fillDefaults_eq (T : Table) (cols : List Nat) (vals : List Src) (r0 : Row) :
    fillDefaults T cols vals r0 = assignFold (fillG T cols vals) T.cols.length r0 := rfl

theorem fillG_of_explicit {T : Table} {cols : List Nat} {vals : List Src} {i : Nat}
    (h : isExplicit cols vals i = true) : fillG T cols vals i = none := by
  simp [fillG, h]

theorem fillG_of_not_explicit {T : Table} {cols : List Nat} {vals : List Src} {i : Nat}
    (h : isExplicit cols vals i = false) : fillG T cols vals i = some (defaultExpr (colSpec T i)) := by
  simp [fillG, h]

theorem fillDefaults_spec {T : Table} (hwf : T.wf = true) (cols : List Nat) (vals : List Src) :
    let r := fillDefaults T cols vals (explicitRow T.cols.length cols vals)
    r.length = T.cols.length ∧
    (∀ i, i < T.cols.length → isExplicit cols vals i = false →
      getc r i = (defaultExpr (colSpec T i)).eval r) ∧
    (∀ i, isExplicit cols vals i = true → getc r i = getc (explicitRow T.cols.length cols vals) i) := by
  rw [fillDefaults_eq]
  intro r
  have hg : ∀ i e, i < T.cols.length → fillG T cols vals i = some e → e.colsLt i = true := by
    intro i e hi h
    cases hx : isExplicit cols vals i
    · cases (fillG_of_not_explicit hx).symm.trans h
      exact wf_col hwf hi
    · cases (fillG_of_explicit hx).symm.trans h
  obtain ⟨h1, h2, h3⟩ := assignFold_spec (fillG T cols vals) T.cols.length
    (explicitRow T.cols.length cols vals) (explicitRow_length _ _ _) hg
  exact ⟨h1, fun i hi he => h2 i _ hi (fillG_of_not_explicit he), fun i he => h3 i (fillG_of_explicit he)⟩

/-- The assumption of the INSERT theorems: the tuple gives no explicit value for a generated column. -/
def TupleWf (T : Table) (cols : List Nat) (vals : List Src) : Prop :=
  ∀ i, i < T.cols.length → isExplicit cols vals i = true → (colSpec T i).gen.expr? = none

theorem stmtWf_insert {T : Table} {ig : Bool} {cols : List Nat} {tuples : List (List Src)} :
    stmtWf T (.insert ig cols tuples) = true ↔ ∀ vals ∈ tuples, TupleWf T cols vals := by
  simp only [stmtWf, TupleWf, List.all_eq_true, List.mem_range, Bool.or_eq_true, Bool.not_eq_true',
    Option.isNone_iff_eq_none, eq_false_or_iff_imp]

theorem fillDefaults_genOk {T : Table} (hwf : T.wf = true) {cols : List Nat} {vals : List Src}
    (hexp : TupleWf T cols vals) :
    GenOk T (fillDefaults T cols vals (explicitRow T.cols.length cols vals)) := by
  obtain ⟨_, h2, _⟩ := fillDefaults_spec hwf cols vals
  intro i hi e he
  have hne : isExplicit cols vals i = false := by
    cases hx : isExplicit cols vals i
    · rfl
    · rw [hexp i hi hx] at he; cases he
  rw [h2 i hi hne, defaultExpr_gen he]

theorem reject_ne_stored {ig : Bool} {e : Err} {r : Row} :
    (if ig then Outcome.skipped else .failed e) ≠ .stored r :=
  Basics.ite_ne nofun nofun

theorem insertRow_inv {T : Table} {ig : Bool} {cols : List Nat} {vals : List Src} {rows : List Row}
    {r : Row} (h : insertRow T ig cols vals rows = .stored r) :
    nullability T ig (fillDefaults T cols vals (explicitRow T.cols.length cols vals)) = .ok r ∧
    checksPass T.loadedChecks r = true := by
  unfold insertRow at h
  cases hn : nullability T ig (fillDefaults T cols vals (explicitRow T.cols.length cols vals)) with
  | error e => simp only [hn] at h; cases h
  | ok r1 =>
    simp only [hn] at h
    obtain ⟨hc, h⟩ := Basics.of_ite_eq h reject_ne_stored
    cases (Basics.of_ite_eq h reject_ne_stored).2
    exact ⟨rfl, by simpa using hc⟩

/-- **INSERT [IGNORE], unconditional part.** Whatever the table and the tuple: a stored row has one
value per column and no NULL in a NOT NULL column, and — outside region
`virtual_column_disables_checks` — no enforced CHECK is FALSE on it (the checks are evaluated
after the NULL adjustment). -/
theorem insertRow_nn_chk {T : Table} (hwf : T.wf = true) {ig : Bool} {cols : List Nat} {vals : List Src}
    {rows : List Row} {r : Row} (h : insertRow T ig cols vals rows = .stored r) :
    r.length = T.cols.length ∧ NnOk T r ∧ (T.checksLost = false → ChkOk T r) := by
  obtain ⟨hn, hc⟩ := insertRow_inv h
  obtain ⟨h1, h2⟩ := nullability_ok (fillDefaults_spec hwf cols vals).1 hn
  exact ⟨h1, h2, fun hcl => loadedChecks_chk hcl hc⟩

theorem insertRow_unadjusted {T : Table} {ig : Bool} {cols : List Nat} {vals : List Src}
    (hadj : adjusts T ig (fillDefaults T cols vals (explicitRow T.cols.length cols vals)) = false)
    {rows : List Row} {r : Row} (h : insertRow T ig cols vals rows = .stored r) :
    r = fillDefaults T cols vals (explicitRow T.cols.length cols vals) :=
  nullability_unadjusted hadj (insertRow_inv h).1

/-- **INSERT [IGNORE].** Outside the two regions a row stored by INSERT satisfies the property:
NOT NULL, CHECK, and every generated column equals its expression over the stored values. -/
theorem insertRow_stored {T : Table} (hwf : T.wf = true) (hcl : T.checksLost = false) {ig : Bool}
    {cols : List Nat} {vals : List Src} (hexp : TupleWf T cols vals)
    (hadj : adjusts T ig (fillDefaults T cols vals (explicitRow T.cols.length cols vals)) = false)
    {rows : List Row} {r : Row} (h : insertRow T ig cols vals rows = .stored r) : Stored T r := by
  obtain ⟨h1, h2, h3⟩ := insertRow_nn_chk hwf h
  exact ⟨h1, h3 hcl, h2, insertRow_unadjusted hadj h ▸ fillDefaults_genOk hwf hexp⟩

/-- INSERT IGNORE never fails on NOT NULL / CHECK / duplicate key: the tuple is stored (possibly
adjusted) or skipped. -/
theorem insertRow_ignore_total (T : Table) (cols : List Nat) (vals : List Src) (rows : List Row) (e : Err) :
    insertRow T true cols vals rows ≠ .failed e := by
  unfold insertRow
  simp only [nullability_eq, true_or, if_true]
  split
  · nofun
  · split <;> nofun

/-- What is read back is what is stored, once the generated columns agree with their expressions
(the `VirtualColumnTable` projection recomputes the virtual columns on every read). -/
theorem readRow_fixed {T : Table} {r : Row} (hg : GenOk T r) : readRow T r = r := by
  refine List.foldlRecOn (motive := (· = r)) _ _ rfl fun b hb i hi => ?_
  subst hb
  cases hgi : (colSpec T i).gen with
  | virt e =>
    simp only
    rw [← hg i (List.mem_range.mp hi) e (by simp [hgi, Gen.expr?]), set_getc_self]
  | _ => rfl

def setStep (T : Table) (r : Row) (p : Nat × Src) : Row :=
  r.set p.1 (match p.2 with
    | .val v => v
    | .dflt => (defaultExpr (colSpec T p.1)).eval r
    | .expr e => e.eval r)

theorem setFold_length (T : Table) (sets : List (Nat × Src)) (r : Row) :
    (sets.foldl (setStep T) r).length = r.length :=
  List.foldlRecOn (motive := fun b : Row => b.length = r.length) sets _ rfl
    fun _ hb _ _ => List.length_set.trans hb

theorem setFold_untouched (T : Table) (sets : List (Nat × Src)) (r : Row) (j : Nat)
    (h : ∀ p ∈ sets, p.1 ≠ j) : getc (sets.foldl (setStep T) r) j = getc r j :=
  List.foldlRecOn (motive := (getc · j = getc r j)) sets _ rfl
    fun _ hb p hp => (getc_set_ne (h p hp)).trans hb

/-- `applySets` with the derived SETs restricted to a selection `sel` of the generated columns.
Go `addDependentUpdateExprs` selects every generated column (`applySetsSel_all`); an "only what
depends on the SET list" optimisation is a smaller selection. -/
def applySetsSel (sel : Nat → Bool) (T : Table) (old : Row) (sets : List (Nat × Src)) : Row :=
  let r := sets.foldl (setStep T) old
  if r == old then r
  else assignFold (fun i => if sel i then (colSpec T i).gen.expr? else none) T.cols.length r

/-- The real code: one derived SET per generated column (fact `generatedColumnsGetDerivedSet`). -/
theorem applySetsSel_all (T : Table) (old : Row) (sets : List (Nat × Src)) :
    applySetsSel (fun _ => true) T old sets = applySets T old sets := rfl

/-- The selection is *closed* for this SET list: a generated column that is left out is not
assigned, and reads only columns that keep their value — not assigned, and not recomputed either.
(A chain `g1 AS (a*2)`, `g2 AS (g1+1)` with `SET a = …` forces `g1` in, hence `g2` in.) -/
def SelClosed (sel : Nat → Bool) (T : Table) (sets : List (Nat × Src)) : Prop :=
  ∀ i e, i < T.cols.length → (colSpec T i).gen.expr? = some e → sel i = false →
    (∀ p ∈ sets, p.1 ≠ i) ∧
    ∀ j ∈ e.reads, (∀ p ∈ sets, p.1 ≠ j) ∧ ((colSpec T j).gen.expr? = none ∨ sel j = false)

/-- Of the old row only the generated columns *left out* need to be right, not `GenOk T old`: the real code leaves none out
(`applySetsSel_all`), so `applySets_spec` asks nothing of the old row. -/
theorem applySetsSel_spec {T : Table} (hwf : T.wf = true) {old : Row} (hlen : old.length = T.cols.length)
    (sel : Nat → Bool) (sets : List (Nat × Src)) :
    (applySetsSel sel T old sets).length = T.cols.length ∧
    (applySetsSel sel T old sets ≠ old → SelClosed sel T sets →
      (∀ i e, i < T.cols.length → (colSpec T i).gen.expr? = some e → sel i = false →
        getc old i = e.eval old) →
      GenOk T (applySetsSel sel T old sets)) := by
  unfold applySetsSel
  have hl : (sets.foldl (setStep T) old).length = T.cols.length := by rw [setFold_length, hlen]
  simp only
  split
  · next heq => exact ⟨hl, fun hne => absurd (beq_iff_eq.mp heq) hne⟩
  · have hg : ∀ i e, i < T.cols.length → (if sel i then (colSpec T i).gen.expr? else none) = some e →
        e.colsLt i = true := by
      intro i e hi he
      cases hs : sel i
      · simp [hs] at he
      · rw [hs, if_pos rfl] at he
        exact defaultExpr_gen he ▸ wf_col hwf hi
    obtain ⟨h1, h2, h3⟩ := assignFold_spec _ T.cols.length _ hl hg
    refine ⟨h1, fun _ hcl hold i hi e he => ?_⟩
    cases hs : sel i
    · obtain ⟨hni, hreads⟩ := hcl i e hi he hs
      rw [h3 i (by simp [hs]), setFold_untouched T sets old i hni, hold i e hi he hs]
      refine E.eval_agree_reads e fun j hj => ?_
      obtain ⟨hnj, hj2⟩ := hreads j hj
      have hgj : (if sel j then (colSpec T j).gen.expr? else none) = none := by
        rcases hj2 with h | h
        · simp [h]
        · simp [h]
      rw [h3 j hgj, setFold_untouched T sets old j hnj]
    · exact h2 i e hi (by simp [hs, he])

/-- **Which generated columns must be recomputed.** Recomputing a *closed* selection of the
generated columns of a row whose generated columns were right keeps every generated column —
selected or not, at any depth of a chain — equal to its expression over the new values. -/
theorem applySetsSel_genOk {T : Table} (hwf : T.wf = true) {old : Row} (hlen : old.length = T.cols.length)
    (hold : GenOk T old) {sel : Nat → Bool} {sets : List (Nat × Src)} (hcl : SelClosed sel T sets)
    (hne : applySetsSel sel T old sets ≠ old) : GenOk T (applySetsSel sel T old sets) :=
  (applySetsSel_spec hwf hlen sel sets).2 hne hcl fun i e hi he _ => hold i hi e he

/-- The selection "generated columns whose expression reads a column of the SET list" (direct
dependencies only, not transitive). -/
def directSel (T : Table) (sets : List (Nat × Src)) (i : Nat) : Bool :=
  match (colSpec T i).gen.expr? with
  | some e => e.reads.any fun j => sets.any fun p => p.1 == j
  | none => false

/-- `generated_recomputed_on_update`: whatever the SET list assigns (even a generated column), a
row that the assignments changed has one value per column and every generated column equals its
expression over the new values; a row they did not change is returned as it was. -/
theorem applySets_spec {T : Table} (hwf : T.wf = true) {old : Row} (hlen : old.length = T.cols.length)
    (sets : List (Nat × Src)) :
    (applySets T old sets).length = T.cols.length ∧
    (applySets T old sets ≠ old → GenOk T (applySets T old sets)) := by
  rw [← applySetsSel_all]
  obtain ⟨hl, hg⟩ := applySetsSel_spec hwf hlen (fun _ => true) sets
  -- the full selection is closed (first `nofun`, `C19.all_selection_closed`) and leaves no column out (second)
  exact ⟨hl, fun hne => hg hne nofun nofun⟩

theorem updateRow_cases {T : Table} {ig : Bool} {sets : List (Nat × Src)} {old : Row} {others : List Row}
    {r : Row} (h : updateRow T ig sets old others = .stored r) :
    (applySets T old sets = old ∧ r = old) ∨
    (applySets T old sets ≠ old ∧ checksPass T.loadedChecks (applySets T old sets) = true ∧
      nullability T ig (applySets T old sets) = .ok r) := by
  unfold updateRow at h
  by_cases heq : applySets T old sets = old
  · rw [heq] at h
    simp only [beq_self_eq_true, if_true, Outcome.stored.injEq] at h
    exact .inl ⟨heq, h.symm⟩
  · simp only [beq_iff_eq, heq, if_false] at h
    obtain ⟨hc, h⟩ := Basics.of_ite_eq h reject_ne_stored
    cases hn : nullability T ig (applySets T old sets) with
    | error e => simp only [hn] at h; cases h
    | ok r1 =>
      simp only [hn] at h
      cases (Basics.of_ite_eq h reject_ne_stored).2
      exact .inr ⟨heq, by simpa using hc, rfl⟩

/-- **UPDATE [IGNORE], unconditional part**: the written row has no NULL in a NOT NULL column. -/
theorem updateRow_nn {T : Table} (hwf : T.wf = true) {ig : Bool} {sets : List (Nat × Src)} {old : Row}
    (hold : Stored T old) {others : List Row} {r : Row}
    (h : updateRow T ig sets old others = .stored r) : r.length = T.cols.length ∧ NnOk T r := by
  rcases updateRow_cases h with ⟨_, hr⟩ | ⟨_, _, hn⟩
  · subst hr; exact ⟨hold.len, hold.nn⟩
  · exact nullability_ok (applySets_spec hwf hold.len sets).1 hn

/-- **UPDATE [IGNORE].** Outside the two regions the row an UPDATE leaves in the table satisfies
the property: an unchanged row is kept, a changed row has its generated columns recomputed, passes
every enforced CHECK and holds no NULL in a NOT NULL column. -/
theorem updateRow_stored {T : Table} (hwf : T.wf = true) (hcl : T.checksLost = false) {ig : Bool}
    {sets : List (Nat × Src)} {old : Row} (hold : Stored T old)
    (hadj : adjusts T ig (applySets T old sets) = false) {others : List Row} {r : Row}
    (h : updateRow T ig sets old others = .stored r) : Stored T r := by
  rcases updateRow_cases h with ⟨_, hr⟩ | ⟨hne, hc, hn⟩
  · subst hr; exact hold
  · obtain ⟨hl, hg⟩ := applySets_spec hwf hold.len sets
    obtain ⟨h1, h2⟩ := nullability_ok hl hn
    cases nullability_unadjusted hadj hn
    exact ⟨h1, loadedChecks_chk hcl hc, h2, hg hne⟩

/-- An UPDATE that assigns every column the value it already holds writes nothing. -/
theorem update_unchanged_noop {T : Table} {ig : Bool} {sets : List (Nat × Src)} {old : Row} {others : List Row}
    (h : applySets T old sets = old) : updateRow T ig sets old others = .stored old := by
  unfold updateRow
  simp [h]

def AllStored (T : Table) (rows : List Row) : Prop := ∀ r ∈ rows, Stored T r

theorem foldlM_except_inv {α β ε : Type} (P : β → Prop) {f : β → α → Except ε β} {l : List α}
    (hf : ∀ b, P b → ∀ a ∈ l, ∀ b', f b a = .ok b' → P b') {b : β} (hb : P b) {b' : β}
    (h : l.foldlM f b = .ok b') : P b' := by
  induction l generalizing b with
  | nil => cases h; exact hb
  | cons a l ih =>
    rw [List.foldlM_cons] at h
    obtain ⟨b1, hb1, h⟩ := Basics.bind_eq_ok h
    exact ih (fun b hb a' ha' => hf b hb a' (List.mem_cons_of_mem _ ha')) (hf b hb a List.mem_cons_self b1 hb1) h

theorem insertBy_inserts {α : Type} (le : α → α → Bool) : InsertSort.Inserts le (insertBy le) :=
  ⟨fun _ => rfl, fun _ _ _ => rfl⟩

theorem isort_perm {α : Type} (le : α → α → Bool) (l : List α) : (isort le l).Perm l :=
  InsertSort.eq_foldr (sort := isort le) rfl (fun _ _ => rfl) l ▸ (insertBy_inserts le).foldr_perm l

/-- Guard of the statement theorems: statement shape, and the statement is outside region
`ignore_null_adjustment` on the table contents it runs against. -/
def StmtOk (T : Table) (rows : List Row) (st : Stmt) : Prop :=
  stmtWf T st = true ∧ stmtAdjusts T rows st = false

theorem runStmt_preserves {T : Table} (hwf : T.wf = true) (hcl : T.checksLost = false)
    {rows : List Row} {st : Stmt} (hst : StmtOk T rows st) (hinv : AllStored T rows)
    {rows' : List Row} (h : runStmt T rows st = .ok rows') : AllStored T rows' := by
  obtain ⟨hw, ha⟩ := hst
  cases st with
  | insert ig cols tuples =>
    rw [stmtWf_insert] at hw
    simp only [stmtAdjusts, List.any_eq_false] at ha
    refine foldlM_except_inv (AllStored T) (fun b hb vals hv b' hstep => ?_) hinv h
    split at hstep
    · next r hr =>
      cases hstep
      have hs : Stored T r := insertRow_stored hwf hcl (hw vals hv) (by simpa using ha vals hv) hr
      intro x hx
      rcases List.mem_append.mp hx with hx | hx
      · exact hb x hx
      · exact List.mem_singleton.mp hx ▸ hs
    · cases hstep; exact hb
    · cases hstep
  | update ig sets key =>
    simp only [runStmt] at h
    simp only [stmtAdjusts, List.any_eq_false] at ha
    refine foldlM_except_inv (AllStored T) (fun b hb old ho b' hstep => ?_) hinv h
    rw [(isort_perm _ _).mem_iff] at ho
    -- the targets are taken from `rows` once, before the loop: `old` is `Stored` by `hinv`, not by the loop invariant `hb`
    have hold := hinv old (List.mem_filter.mp ho).1
    split at hstep
    · next r hr =>
      cases hstep
      rw [readRow_fixed hold.gen] at hr
      have hs := updateRow_stored hwf hcl hold (by simpa [readRow_fixed hold.gen] using ha old ho) hr
      intro x hx
      rcases List.mem_map.mp hx with ⟨y, hy, hxy⟩
      split at hxy
      · exact hxy ▸ hs
      · exact hxy ▸ hb y hy
    · cases hstep; exact hb
    · cases hstep
  | delete k =>
    cases h
    intro x hx
    exact hinv x (List.mem_filter.mp hx).1

/-- **One statement.** Outside the two regions every statement keeps the `Stored` invariant,
whether it succeeds or fails. -/
theorem step_preserves {T : Table} (hwf : T.wf = true) (hcl : T.checksLost = false)
    {rows : List Row} {st : Stmt} (hst : StmtOk T rows st) (hinv : AllStored T rows) :
    AllStored T (step T rows st).1 := by
  unfold step
  split
  · rename_i rows' h
    exact runStmt_preserves hwf hcl hst hinv h
  · exact hinv

/-- A failed statement has no effect on the table. -/
theorem step_fail_no_effect (T : Table) (rows : List Row) (st : Stmt) (e : Err)
    (h : (step T rows st).2 = some e) : (step T rows st).1 = rows := by
  unfold step at h ⊢
  split
  · rename_i h'; rw [h'] at h; cases h
  · rfl

/-- **INSERT … ON DUPLICATE KEY UPDATE** keeps the invariant too: it runs as the UPDATE of the
existing row (all generated columns recomputed, chains included) or as the INSERT of the tuple, or
fails without effect. -/
theorem stepOdku_preserves {T : Table} (hwf : T.wf = true) (hcl : T.checksLost = false)
    {rows : List Row} (cols : List Nat) (vals : List Src) (sets : List (Nat × Src))
    (hst : ∀ st, odkuStmt T rows cols vals sets = .ok st → StmtOk T rows st) (hinv : AllStored T rows) :
    AllStored T (stepOdku T rows cols vals sets).1 := by
  unfold stepOdku
  split
  · rename_i st h
    exact step_preserves hwf hcl (hst st h) hinv
  · exact hinv

def run (T : Table) (rows : List Row) (h : List Stmt) : List Row :=
  h.foldl (fun rows st => (step T rows st).1) rows

/-- `StmtOk` of every statement on the table it runs against: each statement has the assumed shape (`stmtWf`) and the history
stays outside region `ignore_null_adjustment`, evaluated along the run. -/
def Guarded (T : Table) : List Row → List Stmt → Prop
  | _, [] => True
  | rows, st :: h => StmtOk T rows st ∧ Guarded T (step T rows st).1 h

theorem run_preserves {T : Table} (hwf : T.wf = true) (hcl : T.checksLost = false) (h : List Stmt)
    (rows : List Row) (hg : Guarded T rows h) (hinv : AllStored T rows) : AllStored T (run T rows h) := by
  induction h generalizing rows with
  | nil => exact hinv
  | cons st h ih =>
    simp only [run, List.foldl_cons]
    exact ih _ hg.2 (step_preserves hwf hcl hg.1 hinv)

theorem storedOk_iff (T : Table) (r : Row) :
    storedOk T r = true ↔ ChkOk T r ∧ NnOk T r ∧ GenOk T r := by
  unfold storedOk
  rw [Bool.and_eq_true]
  refine and_congr (checksPass_iff T.checks r) ?_
  simp only [NnOk, GenOk, List.all_eq_true, List.mem_range, Bool.and_eq_true, Bool.or_eq_true, Bool.not_eq_true',
    eq_false_or_iff_imp]
  constructor
  · intro h
    refine ⟨fun i hi => (h i hi).1, fun i hi e he => ?_⟩
    have := (h i hi).2
    simp only [he] at this
    exact beq_iff_eq.mp this
  · intro ⟨h2, h3⟩ i hi
    refine ⟨h2 i hi, ?_⟩
    cases he : (colSpec T i).gen.expr? with
    | none => rfl
    | some e => exact beq_iff_eq.mpr (h3 i hi e he)

theorem allStoredOk_of {T : Table} {rows : List Row} (h : AllStored T rows) : allStoredOk T rows = true := by
  unfold allStoredOk tableRows
  simp only [List.all_eq_true, List.mem_map, forall_exists_index, and_imp]
  intro x r hr hx
  subst hx
  rw [readRow_fixed (h r hr).gen, storedOk_iff]
  exact ⟨(h r hr).chk, (h r hr).nn, (h r hr).gen⟩

def guardedB (T : Table) : List Row → List Stmt → Bool
  | _, [] => true
  | rows, st :: h => stmtWf T st && !stmtAdjusts T rows st && guardedB T (step T rows st).1 h

theorem guardedB_iff (T : Table) (rows : List Row) (h : List Stmt) :
    guardedB T rows h = true ↔ Guarded T rows h := by
  induction h generalizing rows with
  | nil => simp [guardedB, Guarded]
  | cons st h ih => simp [guardedB, Guarded, StmtOk, ih, and_assoc]

end Gms.RowPipe

namespace Gms.C19
open Gms.RowPipe

/-- Region `virtual_column_disables_checks` (a class of *tables*). -/
def RegionVirtual (T : Table) : Prop := T.checksLost = true

instance (T : Table) : Decidable (RegionVirtual T) := by unfold RegionVirtual; infer_instance

/-- Region `ignore_null_adjustment` (a class of *statements on a table state*). The guards `StmtOk` and `Guarded` spell its
negation, `stmtAdjusts T rows st = false`. -/
def RegionIgnoreAdjust (T : Table) (rows : List Row) (st : Stmt) : Prop := stmtAdjusts T rows st = true

/-
The property at full strength — FALSE for the unchanged code (see the two findings below):

  theorem stored_preserved (T : Table) (hwf : T.wf = true) (h : List Stmt)
      (hs : ∀ st ∈ h, stmtWf T st = true) : allStoredOk T (run T [] h) = true
-/

/-- **C19, guarded.** After every history that stays outside the two regions, every row of the
table satisfies the `Stored` predicate: no enforced CHECK is FALSE, no NOT NULL column holds
NULL, every generated column equals its expression over the row's current values. -/
theorem stored_preserved_partial {T : Table} (hwf : T.wf = true) (hcl : ¬ RegionVirtual T)
    (h : List Stmt) (hg : Guarded T [] h) : allStoredOk T (run T [] h) = true :=
  allStoredOk_of (run_preserves hwf (Bool.eq_false_iff.mpr hcl) h [] hg nofun)

/-- The invariant form (any starting table whose rows are `Stored`). -/
theorem stored_invariant {T : Table} (hwf : T.wf = true) (hcl : T.checksLost = false)
    {rows : List Row} {st : Stmt} (hst : StmtOk T rows st) (hinv : AllStored T rows) :
    AllStored T (step T rows st).1 :=
  step_preserves hwf hcl hst hinv

/-- One statement of the guarded kind either fails without effect or keeps the invariant. -/
theorem fail_no_effect (T : Table) (rows : List Row) (st : Stmt) (e : Err)
    (h : (step T rows st).2 = some e) : (step T rows st).1 = rows :=
  step_fail_no_effect T rows st e h

/-- `default_filled`: in a row stored by INSERT (no adjustment) every omitted / DEFAULT column
holds its declared default — the generated expression, else the DEFAULT expression, else NULL —
evaluated over the stored row, and every explicit column holds the value given. -/
theorem default_filled {T : Table} (hwf : T.wf = true) {ig : Bool} {cols : List Nat} {vals : List Src}
    (hadj : adjusts T ig (fillDefaults T cols vals (explicitRow T.cols.length cols vals)) = false)
    {rows : List Row} {r : Row} (h : insertRow T ig cols vals rows = .stored r) :
    (∀ i, i < T.cols.length → isExplicit cols vals i = false →
      getc r i = (defaultExpr (colSpec T i)).eval r) ∧
    (∀ i, isExplicit cols vals i = true → getc r i = getc (explicitRow T.cols.length cols vals) i) := by
  rw [insertRow_unadjusted hadj h]
  exact (fillDefaults_spec hwf cols vals).2

/-- `generated_recomputed_on_update`. -/
theorem generated_recomputed_on_update {T : Table} (hwf : T.wf = true) {old : Row}
    (hlen : old.length = T.cols.length) (sets : List (Nat × Src))
    (hne : applySets T old sets ≠ old) : GenOk T (applySets T old sets) :=
  (applySets_spec hwf hlen sets).2 hne

/-- `ignore_adjusts_with_warning` (the adjustment itself; the warning is not modelled). -/
theorem ignore_adjusts (T : Table) (r : Row) :
    ∃ r', nullability T true r = .ok r' ∧
      ∀ j, getc r' j = if j ∈ nullBad T r ∧ j < r.length then some 0 else getc r j :=
  ⟨_, by rw [nullability_eq, if_pos (.inl rfl)], (zeroFold_spec (nullBad T r) r).2⟩

/-- `CREATE TABLE t (c0 INT PRIMARY KEY, c1 INT, c2 INT AS (c0*2) VIRTUAL, CHECK (0 < c1))`. -/
def wT1 : Table :=
  { cols := [{ notNull := true, dflt := none, gen := .none }, { notNull := false, dflt := none, gen := .none },
             { notNull := false, dflt := none, gen := .virt (.mul (.col 0) (.lit (some 2))) }],
    checks := [{ expr := .lt (.lit (some 0)) (.col 1), enforced := true }] }

/-- `INSERT INTO t (c0,c1) VALUES (1,-1)`. -/
def wH1 : List Stmt := [.insert false [0, 1] [[.val (some 1), .val (some (-1))]]]

/-- The same table with a STORED generated column. -/
def wT1s : Table := { wT1 with cols := [{ notNull := true, dflt := none, gen := .none },
  { notNull := false, dflt := none, gen := .none },
  { notNull := false, dflt := none, gen := .stored (.mul (.col 0) (.lit (some 2))) }] }

/-- `CREATE TABLE t (c0 INT PRIMARY KEY, c1 INT NOT NULL DEFAULT 3, c2 INT AS (c1+1) STORED, CHECK (c1 <> 0))`. -/
def wT2 : Table :=
  { cols := [{ notNull := true, dflt := none, gen := .none }, { notNull := true, dflt := some (.lit (some 3)), gen := .none },
             { notNull := false, dflt := none, gen := .stored (.add (.col 1) (.lit (some 1))) }],
    checks := [{ expr := .ne (.col 1) (.lit (some 0)), enforced := true }] }

/-- `INSERT INTO t (c0,c1) VALUES (2,5); UPDATE IGNORE t SET c1 = NULL WHERE c0 = 2`. -/
def wH2 : List Stmt :=
  [.insert false [0, 1] [[.val (some 2), .val (some 5)]], .update true [(1, .val none)] (some 2)]

/-- `INSERT IGNORE INTO t (c0,c1) VALUES (1,NULL)` into `wT2` without its check. -/
def wT3 : Table := { wT2 with checks := [] }
def wH3 : List Stmt := [.insert true [0, 1] [[.val (some 1), .val none]]]

/-- **Finding `virtual_column_disables_checks`** (DESIGN §8 F-C19-a): a table with a VIRTUAL
column stores a row that makes an enforced CHECK FALSE. -/
theorem finding_virtual_column_disables_checks :
    ∃ (T : Table) (h : List Stmt), T.wf = true ∧ guardedB T [] h = true ∧ RegionVirtual T ∧
      run T [] h = [[some 1, some (-1), some 2]] ∧ allStoredOk T (run T [] h) = false :=
  ⟨wT1, wH1, by decide +kernel, by decide +kernel, by decide +kernel, by decide +kernel, by decide +kernel⟩

/-- The same statement on the same table with a STORED column is rejected. -/
theorem stored_variant_rejects :
    step wT1s [] (.insert false [0, 1] [[.val (some 1), .val (some (-1))]]) = ([], some Err.check) := by decide +kernel

/-- **Finding `ignore_null_adjustment`**: UPDATE IGNORE writes the zero value into a NOT NULL
column *after* the CHECKs were evaluated and the generated columns computed: the stored row
`(2, 0, NULL)` makes `CHECK (c1 <> 0)` FALSE and `c2 ≠ c1 + 1`. -/
theorem finding_ignore_null_adjustment :
    ∃ (T : Table) (h : List Stmt), T.wf = true ∧ ¬ RegionVirtual T ∧ (∀ st ∈ h, stmtWf T st = true) ∧
      run T [] h = [[some 2, some 0, none]] ∧ allStoredOk T (run T [] h) = false :=
  ⟨wT2, wH2, by decide +kernel, by decide +kernel, by decide +kernel, by decide +kernel, by decide +kernel⟩

/-- INSERT IGNORE has the generated-column half of the same defect (`c2` is computed from the
NULL that is adjusted afterwards): stored row `(1, 0, NULL)`. -/
theorem finding_ignore_null_adjustment_insert :
    ∃ (T : Table) (h : List Stmt), T.wf = true ∧ ¬ RegionVirtual T ∧ (∀ st ∈ h, stmtWf T st = true) ∧
      run T [] h = [[some 1, some 0, none]] ∧ allStoredOk T (run T [] h) = false :=
  ⟨wT3, wH3, by decide +kernel, by decide +kernel, by decide +kernel, by decide +kernel, by decide +kernel⟩

/-- `CREATE TABLE t (c0 INT PRIMARY KEY, c1 INT, c2 INT AS (c1*2) STORED, c3 INT AS (c2+1) STORED,
c4 INT AS (c3+c1) STORED)`: a chain of depth 3. -/
def chT : Table :=
  { cols := [{ notNull := true, dflt := none, gen := .none }, { notNull := false, dflt := none, gen := .none },
             { notNull := false, dflt := none, gen := .stored (.mul (.col 1) (.lit (some 2))) },
             { notNull := false, dflt := none, gen := .stored (.add (.col 2) (.lit (some 1))) },
             { notNull := false, dflt := none, gen := .stored (.add (.col 3) (.col 1)) }],
    checks := [] }

/-- `INSERT INTO t (c0,c1) VALUES (2,2); UPDATE t SET c1 = 10 WHERE c0 = 2`. -/
def chH : List Stmt :=
  [.insert false [0, 1] [[.val (some 2), .val (some 2)]], .update false [(1, .val (some 10))] (some 2)]

/-- `chain_recomputed_on_update`: an UPDATE that assigns only the base column of a chain of generated
columns recomputes every link, whatever its depth (all tables whose generated expressions mention
earlier columns only — generated or plain — all SET lists). -/
theorem chain_recomputed_on_update {T : Table} (hwf : T.wf = true) {old : Row}
    (hlen : old.length = T.cols.length) (sets : List (Nat × Src))
    (hne : applySets T old sets ≠ old) (i : Nat) (hi : i < T.cols.length) (e : E)
    (he : (colSpec T i).gen.expr? = some e) :
    getc (applySets T old sets) i = e.eval (applySets T old sets) :=
  generated_recomputed_on_update hwf hlen sets hne i hi e he

/-- Non-vacuity: the depth-3 chain, `SET c1 = 10` on the stored row `(2,2,4,5,7)` gives `(2,10,20,21,31)`. -/
example : chT.wf = true ∧ run chT [] chH = [[some 2, some 10, some 20, some 21, some 31]] := by decide +kernel

/-- `derived_selection_sound`: the derived SETs may be restricted to any selection of the generated
columns that is closed under "reads a column that changes" — and the real code's selection (all of
them, `applySetsSel_all`) is closed for every SET list. -/
theorem derived_selection_sound {T : Table} (hwf : T.wf = true) {old : Row}
    (hlen : old.length = T.cols.length) (hold : GenOk T old) {sel : Nat → Bool} {sets : List (Nat × Src)}
    (hcl : SelClosed sel T sets) (hne : applySetsSel sel T old sets ≠ old) :
    GenOk T (applySetsSel sel T old sets) := applySetsSel_genOk hwf hlen hold hcl hne

theorem all_selection_closed (T : Table) (sets : List (Nat × Src)) : SelClosed (fun _ => true) T sets := by
  intro i e _ _ h; cases h

/-- **The direct-dependency selection is not enough** (the class of change "recompute a generated
column only when the statement assigns a column it reads"): on the chain table, `SET c1 = 10`
selects `c2` and `c4` (they read `c1`) but not `c3` (it reads only `c2`), and the written row
`(2,10,20,5,15)` has `c3 ≠ c2 + 1`, whereas the real selection writes `(2,10,20,21,31)`. -/
theorem direct_selection_breaks_chain :
    chT.wf = true ∧ storedOk chT [some 2, some 2, some 4, some 5, some 7] = true ∧
    applySetsSel (directSel chT [(1, .val (some 10))]) chT [some 2, some 2, some 4, some 5, some 7] [(1, .val (some 10))]
      = [some 2, some 10, some 20, some 5, some 15] ∧
    storedOk chT [some 2, some 10, some 20, some 5, some 15] = false ∧
    applySets chT [some 2, some 2, some 4, some 5, some 7] [(1, .val (some 10))]
      = [some 2, some 10, some 20, some 21, some 31] ∧
    storedOk chT [some 2, some 10, some 20, some 21, some 31] = true := by decide +kernel

/-- `INSERT INTO t (c0,c1) VALUES (2,50) ON DUPLICATE KEY UPDATE c1 = 9` on the chain table holding
`(2,2,4,5,7)`: the existing row becomes `(2,9,18,19,28)` — every link recomputed. -/
example : (stepOdku chT [[some 2, some 2, some 4, some 5, some 7]] [0, 1] [.val (some 2), .val (some 50)]
    [(1, .val (some 9))]).1 = [[some 2, some 9, some 18, some 19, some 28]] := by decide +kernel

/-- `CREATE TABLE t (c0 INT PRIMARY KEY, c1 INT DEFAULT 5, c2 INT DEFAULT (c0+1), c3 INT NOT NULL
DEFAULT 7, c4 INT AS (c1+c3) STORED, CHECK (c1 <> 6), CHECK (c4 < 0) NOT ENFORCED)`. -/
def exT : Table :=
  { cols := [{ notNull := true, dflt := none, gen := .none },
             { notNull := false, dflt := some (.lit (some 5)), gen := .none },
             { notNull := false, dflt := some (.add (.col 0) (.lit (some 1))), gen := .none },
             { notNull := true, dflt := some (.lit (some 7)), gen := .none },
             { notNull := false, dflt := none, gen := .stored (.add (.col 1) (.col 3)) }],
    checks := [{ expr := .ne (.col 1) (.lit (some 6)), enforced := true },
               { expr := .lt (.col 4) (.lit (some 0)), enforced := false }] }

def exH : List Stmt :=
  [.insert false [0] [[.val (some 1)]],                                   -- defaults
   .insert false [0, 1] [[.val (some 2), .dflt], [.val (some 3), .val none]],  -- DEFAULT keyword, NULL passes the check
   .insert false [0, 3] [[.val (some 4), .val none]],                     -- NOT NULL rejects
   .insert true [0, 1] [[.val (some 5), .val (some 6)], [.val (some 6), .val (some 9)]],  -- IGNORE skips the CHECK violation
   .update false [(1, .val (some 6))] (some 1),                           -- CHECK rejects
   .update true [(1, .expr (.add (.col 1) (.lit (some 1))))] none,        -- UPDATE IGNORE: rows 1,2 skipped by the CHECK, row 6 changed and its generated column recomputed
   .update false [(3, .val none)] (some 2),                               -- NOT NULL rejects
   .delete 3]

/-- The hypotheses of `stored_preserved_partial` hold on a history in which CHECK and NOT NULL
reject statements, IGNORE skips a row, defaults are filled and a generated column is recomputed. -/
example : exT.wf = true ∧ ¬ RegionVirtual exT ∧ guardedB exT [] exH = true := by decide +kernel

example : run exT [] exH =
    [[some 1, some 5, some 2, some 7, some 12], [some 2, some 5, some 3, some 7, some 12],
     [some 6, some 10, some 7, some 7, some 17]] := by decide +kernel

example : (step exT [] (.insert false [0, 3] [[.val (some 4), .val none]])).2 = some Err.notNull := by decide

example : Guarded exT [] exH := (guardedB_iff _ _ _).mp (by decide +kernel)

/-- A CHECK that evaluates to NULL does not reject (`check_null_passes`). -/
example : checksPass exT.checks [some 3, none, some 4, some 7, none] = true := by decide

open Gms.Generated.C19 in
/-- The phase order and decision rules the model is written after are the source's, re-read on
every run (`harness/cmd/c19/extract.go`). -/
theorem facts_match :
    insertPhases = ["nullability", "checks", "convert", "replace", "insert"] ∧
    updatePhases = ["equal?", "checks", "nullability", "update"] ∧
    updateSkipsUnchangedRows = true ∧ updateCheckRejectsOnlyFalse = true ∧
    insertCheckRejectsOnlyFalse = true ∧ insertIgnoreZeroesNull = true ∧ updateIgnoreZeroesNull = true ∧
    derivedFieldsOnlyWhenChanged = true ∧ explicitFieldsLeftToRight = true ∧
    checksLoadedThroughCheckTable = true ∧ generatedColumnsGetDerivedSet = true ∧
    insertDefaultIsDefaultOrGenerated = true ∧ virtualTablesAreWrapped = true ∧
    memoryTableIsCheckTable = true :=
  ⟨rfl, rfl, rfl, rfl, rfl, rfl, rfl, rfl, rfl, rfl, rfl, rfl, rfl, rfl⟩

open Gms.Generated.C19 in
/-- The model's `loadedChecks` drops the checks of a table with a virtual column *because* the
wrapper the planner puts around such a table is not a `sql.CheckTable` (run-time fact). The day
this fact flips, the model (and the known finding) must go. -/
theorem virtual_wrapper_fact (T : Table) :
    T.loadedChecks = if T.hasVirtual && !virtualColumnTableIsCheckTable then [] else T.checks := by
  simp [Table.loadedChecks, virtualColumnTableIsCheckTable]

open Gms.Generated.C19 in
/-- Run-time fact: the freshly compiled planner schedules a derived SET for **every** generated column
of `t(c0 PK, c1, c2, c3 AS (c1*2), c4 AS (c3+1), c5 AS (c4+c2), c6 AS (c2*10))`, in schema order, whatever
the statement assigns — for UPDATE and for INSERT … ON DUPLICATE KEY UPDATE. This is the selection
`fun _ => true` of `applySetsSel_all`, which is closed (`all_selection_closed`); a planner that
drops `c4` for `SET c1 = …` has the selection refuted by `direct_selection_breaks_chain`. -/
theorem derived_sets_fact :
    derivedSetsOfChain =
      ["UPDATE t SET c1 = 10 => 1 explicit; derived c3 c4 c5 c6",
       "UPDATE t SET c2 = 4 WHERE c0 = 1 => 1 explicit; derived c3 c4 c5 c6",
       "UPDATE t SET c0 = 7 => 1 explicit; derived c3 c4 c5 c6",
       "INSERT INTO t (c0, c1) VALUES (3, 50) ON DUPLICATE KEY UPDATE c1 = 9 => 1 explicit; derived c3 c4 c5 c6"] :=
  rfl

end Gms.C19
