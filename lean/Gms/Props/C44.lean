/-
C44 — System and user variables store and scope values correctly.

Model: Gms/Model/SysVars.lean (Impl = `implQ`, Spec = `specQ`). Facts: Gms/Generated/C44.lean
(the registry as compiled + go/ast facts), regenerated on every run.
-/
import Gms.Model.SysVars
import Gms.Lemmas.Basics
import Gms.Generated.C44

open Gms.SysVars

namespace Gms.SysVars

theorem Map.get_put {β : Type} (m : Map β) (k k' : String) (v : β) :
    (Map.put m k v).get k' = if k' = k then some v else m.get k' := by
  induction m with
  | nil => simp [Map.put, Map.get, eq_comm]
  | cons a rest ih =>
    simp only [Map.get] at ih ⊢
    simp only [Map.put]
    split <;> simp only [List.find?_cons]
    · rename_i h; subst h
      by_cases h : k' = a.1 <;> simp [h, eq_comm]
    · by_cases h1 : a.1 = k'
      · subst h1; simp [*]
      · simp [h1, ih]

theorem mem_putSess {l : List (Nat × Session)} {sid : Nat} {s : Session} {p : Nat × Session}
    (h : p ∈ putSess l sid s) : p = (sid, s) ∨ p ∈ l := by
  induction l with
  | nil => simpa [putSess] using h
  | cons a rest ih =>
    simp only [putSess] at h
    split at h <;> simp only [List.mem_cons] at h ⊢
    · exact h.imp_right .inr
    · exact h.elim (fun h => .inr (.inl h)) fun h => (ih h).imp_right .inr

theorem find_putSess (l : List (Nat × Session)) (sid sid' : Nat) (s : Session) :
    ((putSess l sid s).find? (·.1 = sid')).map (·.2) =
      if sid' = sid then some s else (l.find? (·.1 = sid')).map (·.2) := by
  induction l with
  | nil => simp [putSess, eq_comm]
  | cons a rest ih =>
    simp only [putSess]
    split <;> simp only [List.find?_cons]
    · rename_i h; subst h
      by_cases h : sid' = a.1 <;> simp [h, eq_comm]
    · by_cases h1 : a.1 = sid'
      · subst h1; simp [*]
      · simp [h1, ih]

theorem sess_mem {st : State} {sid : Nat} {s : Session} (h : st.sess sid = some s) : (sid, s) ∈ st.sessions := by
  obtain ⟨⟨k, s'⟩, hp, rfl⟩ := Option.map_eq_some_iff.mp h
  have hk := List.find?_some hp
  obtain rfl : k = sid := of_decide_eq_true hk
  exact List.mem_of_find?_eq_some hp

theorem sess_putSess (st : State) (sid sid' : Nat) (s : Session) :
    ({ st with sessions := putSess st.sessions sid s } : State).sess sid' =
      if sid' = sid then some s else st.sess sid' :=
  find_putSess st.sessions sid sid' s

theorem all_convInt (q : Quirks) (lo hi : Int) (neg : Bool) (i : Int) :
    (convInt q lo hi neg i).all (valid (.int lo hi neg)) = true := by
  unfold convInt
  split
  · rename_i hc
    rcases hc with hc | hc <;> simp [valid, hc.1, hc.2]
  · rfl

theorem all_convUint (lo hi n : Nat) : (convUint lo hi n).all (valid (.uint lo hi)) = true := by
  unfold convUint
  split
  · rename_i hc; simp [valid, hc.1, hc.2]
  · rfl

theorem all_enumMap (vals : List String) (i : Nat) : ((vals[i]?).map .str).all (valid (.enum vals)) = true := by
  rw [Option.all_map, Option.all_eq_true]
  exact fun s hs => List.contains_iff_mem.mpr (List.mem_of_getElem? hs)

theorem all_convEnum (vals : List String) (i : Int) : (convEnum vals i).all (valid (.enum vals)) = true := by
  unfold convEnum
  split
  · exact all_enumMap vals _
  · rfl

theorem all_convSetBits (vals : List String) (n : Nat) : (convSetBits vals n).all (valid (.set vals)) = true := by
  unfold convSetBits
  split
  · simpa [valid]
  · rfl

theorem le_allBits_iff {vals : List String} {a : Nat} : a ≤ allBits vals ↔ a < 2 ^ vals.length := by
  have := Nat.two_pow_pos vals.length
  unfold allBits
  omega

theorem isPow2Below_lt {n len : Nat} (h : isPow2Below n len = true) : n < 2 ^ len := by
  unfold isPow2Below at h
  simp at h
  obtain ⟨i, hi, rfl⟩ := h
  exact Nat.pow_lt_pow_right (by decide) hi

theorem findIdxLast_lt {vals : List String} {s : String} {i : Nat} (h : findIdxLast vals s = some i) :
    i < vals.length := by
  unfold findIdxLast at h
  refine List.foldlRecOn (motive := fun acc => ∀ i, acc = some i → i < vals.length) vals.zipIdx _ ?_ ?_ i h
  · nofun
  · intro acc hacc p hp j hj
    simp only at hj
    split at hj
    · cases hj
      have := List.mem_zipIdx hp
      omega
    · exact hacc j hj

theorem setElem_le {vals : List String} {b : Nat} {el : List Char} {a : Nat} (hb : b ≤ allBits vals)
    (h : setElem vals b el = some a) : a ≤ allBits vals := by
  rw [le_allBits_iff] at hb ⊢
  revert h
  fun_cases setElem vals b el
  case case1 => rintro ⟨⟩; exact hb
  case case2 i hi =>
    -- the element names a member of the set
    rintro ⟨⟩
    exact Nat.or_lt_two_pow hb (Nat.pow_lt_pow_right (by decide) (findIdxLast_lt hi))
  case case4 => rintro ⟨⟩; exact hb
  case case5 n hn hlt hne hpow =>
    -- the element is a single-bit number
    rintro ⟨⟩
    exact Nat.or_lt_two_pow hb (isPow2Below_lt hpow)
  all_goals nofun

theorem setElems_le {vals : List String} (els : List (List Char)) {b n : Nat} (hb : b ≤ allBits vals)
    (h : setElems vals els b = some n) : n ≤ allBits vals := by
  revert h
  fun_induction setElems vals els b
  case case1 => rintro ⟨⟩; exact hb
  case case2 el rest b a he ih => exact ih (setElem_le hb he)
  case case3 => nofun

theorem setOfString_le {vals : List String} {s : String} {n : Nat} (h : setOfString vals s = some n) :
    n ≤ allBits vals := by
  unfold setOfString at h
  split at h
  · cases h; exact Nat.zero_le _
  · exact setElems_le _ (Nat.zero_le _) h

theorem all_setMap (vals : List String) (s : String) :
    ((setOfString vals s).map .bits).all (valid (.set vals)) = true := by
  rw [Option.all_map, Option.all_eq_true]
  exact fun n hn => by simpa [valid] using setOfString_le hn

theorem convert_valid {q : Quirks} {ty : Ty} {x : Val} {sv : SVal} (h : convert q ty x = some sv) :
    valid ty sv = true := by
  suffices (convert q ty x).all (valid ty) = true from (Option.all_eq_true _ _).1 this sv h
  -- every arm of `convert` ends in one of the `conv*` functions, a literal of the type, or `none`
  fun_cases convert q ty x
  all_goals simp only [Option.all_none, Option.all_some, all_convInt, all_convUint, all_convEnum,
    all_convSetBits, all_enumMap, all_setMap, valid, mkDbl, *]

-- the decimal arm of `convert` for a boolean variable
theorem intg_bool {m : Int} {s : Nat} {sv : SVal}
    (h : (match integral m s with
      | some 0 => some (SVal.i8 false)
      | some 1 => some (SVal.i8 true)
      | _ => none) = some sv) : valid .bool sv = true :=
  convert_valid (q := implQ) (ty := .bool) (x := .dec m s) h

/-- A stored value is fine if it has the registered type or is the registered default (which
`InitSystemVariables` stores unconverted). -/
def Good (r : Reg) (n : String) (sv : SVal) : Prop :=
  ∃ v, r.find n = some v ∧ (valid v.ty sv = true ∨ sv = v.default)

def MapWF (r : Reg) (m : Map SVal) : Prop := ∀ n sv, m.get n = some sv → Good r n sv

def WF (r : Reg) (st : State) : Prop :=
  MapWF r st.global ∧ (∀ p ∈ st.sessions, MapWF r p.2.sys) ∧ MapWF r st.persisted

theorem MapWF_put {r : Reg} {m : Map SVal} {n : String} {sv : SVal} (hm : MapWF r m) (hg : Good r n sv) :
    MapWF r (m.put n sv) := by
  intro n' sv' h
  rw [Map.get_put] at h
  split at h
  · cases h; rename_i e; subst e; exact hg
  · exact hm n' sv' h

theorem WF.putSess {r : Reg} {st : State} {sid : Nat} {s : Session} (hw : WF r st) (hs : MapWF r s.sys) :
    WF r { st with sessions := putSess st.sessions sid s } := by
  refine ⟨hw.1, fun p hp => ?_, hw.2.2⟩
  rcases mem_putSess hp with rfl | hp
  · exact hs
  · exact hw.2.1 p hp

theorem WF.sess {r : Reg} {st : State} {sid : Nat} {s : Session} (hw : WF r st) (hs : st.sess sid = some s) :
    MapWF r s.sys := hw.2.1 _ (sess_mem hs)

theorem init_wf (r : Reg) : WF r (init r) := by
  refine ⟨fun n sv h => ?_, nofun, nofun⟩
  simp only [init, Map.get, List.find?_map, Option.map_map] at h
  obtain ⟨v, hv, rfl⟩ := Option.map_eq_some_iff.mp h
  exact ⟨v, hv, .inr rfl⟩

theorem setValue_ok {q : Quirks} {v : Var} {x : Val} {g : Bool} {sv : SVal} (h : setValue q v x g = .ok sv) :
    convert q v.ty x = some sv := by
  revert h
  fun_cases setValue q v x g
  case case4 => rintro ⟨⟩; assumption
  all_goals nofun

theorem setGlobal_ok {q : Quirks} {r : Reg} {st st' : State} {n : String} {x : Val}
    (h : setGlobal q r st n x = .ok st') :
    ∃ v sv, r.find n = some v ∧ convert q v.ty x = some sv ∧ st' = { st with global := st.global.put n sv } := by
  revert h
  fun_cases setGlobal q r st n x
  case case1 => nofun
  case case2 v hv =>
    intro h
    obtain ⟨sv, hs, h⟩ := Basics.bind_eq_ok h
    cases h
    exact ⟨v, sv, hv, setValue_ok hs, rfl⟩

theorem setSessionVar_ok {q : Quirks} {r : Reg} {st st' : State} {sid : Nat} {n : String} {x : Val}
    (h : setSessionVar q r st sid n x = .ok st') :
    ∃ s v sv, st.sess sid = some s ∧ r.find n = some v ∧ convert q v.ty x = some sv ∧
      st' = { st with sessions := putSess st.sessions sid { s with sys := s.sys.put n sv } } := by
  revert h
  fun_cases setSessionVar q r st sid n x
  case case2 s v hv hs hdyn =>
    intro h
    obtain ⟨sv, hsv, h⟩ := Basics.bind_eq_ok h
    cases h
    exact ⟨s, v, sv, hs, hv, setValue_ok hsv, rfl⟩
  all_goals nofun

theorem persistGlobal_ok {q : Quirks} {r : Reg} {st st' : State} {n : String} {x : Val}
    (h : persistGlobal q r st n x = .ok st') :
    ∃ v sv, r.find n = some v ∧ convert q v.ty x = some sv ∧
      st' = { st with persisted := st.persisted.put n sv } := by
  revert h
  fun_cases persistGlobal q r st n x
  case case2 v hv sv hc => rintro ⟨⟩; exact ⟨v, sv, hv, hc, rfl⟩
  all_goals nofun

theorem lift_ok {st st' : State} {e : Except Err State} (h : lift st e = (st', none)) : e = .ok st' := by
  cases e with
  | ok s => cases h; rfl
  | error x => cases h

theorem lift_err_state {st st' : State} {e : Except Err State} {er : Err} (h : lift st e = (st', some er)) : st' = st := by
  cases e with
  | ok s => cases h
  | error x => cases h; rfl

theorem setSystemVar_uncoupled {q : Quirks} {r : Reg} {st : State} {sid : Nat} {t : SysRef} {v : Val}
    (hc : coupleOf r t.name = none) :
    setSystemVar q r st sid t v = scopeSetValue q r st sid t.scope t.name v := by
  unfold setSystemVar
  rw [hc]
  split <;> next h => exact h.symm

theorem setSystemVar_coupled {q : Quirks} {r : Reg} {st st' : State} {sid : Nat} {t : SysRef} {x : Val}
    {other : String} {tbl : List (String × String)} (hc : coupleOf r t.name = some (other, tbl))
    (h : setSystemVar q r st sid t x = (st', none)) :
    ∃ st1 y, scopeSetValue q r st sid t.scope t.name x = (st1, none) ∧ coupledVal tbl x = .ok y ∧
      scopeSetValue q r st1 sid t.scope other y = (st', none) := by
  revert h
  fun_cases setSystemVar q r st sid t x
  case case2 h1 hnone => cases hc.symm.trans hnone
  case case4 st1 h1 other' tbl' hc' y hy => cases hc.symm.trans hc'; exact fun h => ⟨st1, y, h1, hy, h⟩
  all_goals nofun

/-- `R` relates the state before a SET in session `sid` to the state after it: a preorder kept by each
elementary write a SET is made of. `G` / `S`: writes on the global side (global and persisted map) /
to the issuing session have to be covered. -/
structure Frame (r : Reg) (sid : Nat) (G S : Prop) (R : State → State → Prop) : Prop where
  refl : ∀ {st}, R st st
  trans : ∀ {a b c}, R a b → R b c → R a c
  global : ∀ {st n v sv}, G → r.find n = some v → valid v.ty sv = true →
    R st { st with global := st.global.put n sv }
  persisted : ∀ {st n v sv}, G → r.find n = some v → valid v.ty sv = true →
    R st { st with persisted := st.persisted.put n sv }
  sys : ∀ {st s n v sv}, S → st.sess sid = some s → r.find n = some v → valid v.ty sv = true →
    R st { st with sessions := putSess st.sessions sid { s with sys := s.sys.put n sv } }
  user : ∀ {st s u}, S → st.sess sid = some s →
    R st { st with sessions := putSess st.sessions sid { s with user := u } }
  /-- `execSet` with `persistFirst` but without `partialMulti`: a failed statement keeps only what it
  wrote to the persisted map -/
  rollback : ∀ {st st'}, R st st' → R st { st with persisted := st'.persisted }

def sessionOnlyTarget : Target → Bool
  | .user _ => true
  | .sys t => t.scope = .session

def globalishTarget : Target → Bool
  | .sys t => t.scope != .session
  | .user _ => false

/-- A frame with `G` / `S` allows every write an assignment to this target can make. -/
def Covers (G S : Prop) : Target → Prop
  | .user _ => S
  | .sys t => (t.scope = .session → S) ∧ (t.scope ≠ .session → G)

/-- The planned target: the same variable in the same scope (the `explicit` mark of a SET target
is dropped, see `planAsg`). -/
def normTarget : Target → Target
  | .user n => .user n
  | .sys t0 => .sys { t0 with explicit := false }

theorem covers_normTarget {G S : Prop} (t : Target) : Covers G S (normTarget t) ↔ Covers G S t := by
  cases t <;> rfl

theorem covers_all (t : Target) : Covers True True t := by
  cases t <;> simp [Covers]

theorem covers_sessionOnly {t : Target} (h : sessionOnlyTarget t = true) : Covers False True t := by
  cases t with
  | user n => trivial
  | sys t => exact ⟨fun _ => trivial, fun hne => hne (of_decide_eq_true h)⟩

theorem covers_globalish {t : Target} (h : globalishTarget t = true) : Covers True False t := by
  cases t with
  | user n => cases h
  | sys t => exact ⟨fun e => by simp [globalishTarget, e] at h, fun _ => trivial⟩

theorem planAsg_fst {q : Quirks} {r : Reg} {a : Target × Rhs} {p : Target × PRhs} (h : planAsg q r a = .ok p) :
    p.1 = normTarget a.1 := by
  obtain ⟨t, rhs⟩ := a
  -- an `.ok` arm returns the user variable it was given, or the system target with `explicit := false`
  cases t with
  | user n =>
    cases rhs with
    | lit v => cases h; rfl
    | dflt => cases h
    | user m => cases h; rfl
    | sys ref =>
      obtain ⟨_, -, h⟩ := Basics.bind_eq_ok h
      -- `ref.scope`: global, session, anything else
      split at h
      · cases h; rfl
      · cases h; rfl
      · cases h
  | sys t0 =>
    obtain ⟨_, -, h⟩ := Basics.bind_eq_ok h
    cases rhs with
    | lit v =>
      cases v with
      | str s =>
        dsimp only at h
        split at h
        · split at h
          · cases h; rfl
          · cases h
        · cases h; rfl
      | _ => cases h; rfl
    | dflt =>
      dsimp only at h
      split at h
      · cases h
      · cases h
      · split at h
        · cases h; rfl
        · cases h
    | user m => cases h; rfl
    | sys ref =>
      obtain ⟨_, -, h⟩ := Basics.bind_eq_ok h
      split at h
      · cases h; rfl
      · cases h; rfl
      · cases h

theorem covers_planSet {q : Quirks} {r : Reg} {G S : Prop} {as : List (Target × Rhs)} {ps : List (Target × PRhs)}
    (h : planSet q r as = .ok ps) (ha : ∀ a ∈ as, Covers G S a.1) : ∀ p ∈ ps, Covers G S p.1 := by
  induction as generalizing ps with
  | nil => cases h; exact fun _ hp => nomatch hp
  | cons a rest ih =>
    obtain ⟨p, h1, h⟩ := Basics.bind_eq_ok h
    obtain ⟨ps', h2, h⟩ := Basics.bind_eq_ok h
    cases h
    rw [List.forall_mem_cons] at ha ⊢
    exact ⟨planAsg_fst h1 ▸ (covers_normTarget a.1).mpr ha.1, ih h2 ha.2⟩

theorem step_set_fst (q : Quirks) (r : Reg) (st : State) (sid : Nat) (asgs : List (Target × Rhs)) :
    (step q r st (.set sid asgs)).1 = (execSet q r st sid asgs).1 := by
  simp only [step]
  split <;> (rename_i he; rw [he])

section
variable {q : Quirks} {r : Reg} {sid : Nat} {G S : Prop} {R : State → State → Prop} (F : Frame r sid G S R)
include F

theorem lift_frame {st : State} {e : Except Err State} (h : ∀ st', e = .ok st' → R st st') : R st (lift st e).1 := by
  cases e with
  | ok st' => exact h st' rfl
  | error _ => exact F.refl

theorem frame_setGlobal {st st' : State} {n : String} {x : Val} (g : G) (h : setGlobal q r st n x = .ok st') :
    R st st' := by
  obtain ⟨v, sv, hv, hc, rfl⟩ := setGlobal_ok h
  exact F.global g hv (convert_valid hc)

theorem frame_persistGlobal {st st' : State} {n : String} {x : Val} (g : G)
    (h : persistGlobal q r st n x = .ok st') : R st st' := by
  obtain ⟨v, sv, hv, hc, rfl⟩ := persistGlobal_ok h
  exact F.persisted g hv (convert_valid hc)

theorem frame_setSessionVar {st st' : State} {n : String} {x : Val} (s : S)
    (h : setSessionVar q r st sid n x = .ok st') : R st st' := by
  obtain ⟨s', v, sv, hs, hv, hc, rfl⟩ := setSessionVar_ok h
  exact F.sys s hs hv (convert_valid hc)

theorem scopeSetValue_frame {st : State} {sc : SetScope} {n : String} {x : Val} (hS : sc = .session → S)
    (hG : sc ≠ .session → G) : R st (scopeSetValue q r st sid sc n x).1 := by
  fun_cases scopeSetValue q r st sid sc n x
  -- GLOBAL, SESSION
  case case1 => exact lift_frame F fun _ => frame_setGlobal F (hG nofun)
  case case2 => exact lift_frame F fun _ => frame_setSessionVar F (hS rfl)
  -- PERSIST as the code does it: persisted map first, kept when `SetGlobal` then fails
  case case4 hq st1 hp =>
    exact F.trans (frame_persistGlobal F (hG nofun) hp) (lift_frame F fun _ => frame_setGlobal F (hG nofun))
  -- PERSIST as the property demands: `SetGlobal` first
  case case6 hq st1 hg =>
    exact lift_frame F fun _ h => F.trans (frame_setGlobal F (hG nofun) hg) (frame_persistGlobal F (hG nofun) h)
  -- PERSIST_ONLY
  case case7 | case10 => exact lift_frame F fun _ => frame_persistGlobal F (hG nofun)
  all_goals exact F.refl

theorem setSystemVar_frame {st : State} {t : SysRef} {v : Val} (hS : t.scope = .session → S)
    (hG : t.scope ≠ .session → G) : R st (setSystemVar q r st sid t v).1 := by
  unfold setSystemVar
  have h1 : R st (scopeSetValue q r st sid t.scope t.name v).1 := scopeSetValue_frame F hS hG
  split
  · -- the assignment itself fails
    rename_i st1 e he; rw [he] at h1; exact h1
  · rename_i st1 he
    rw [he] at h1
    split
    · -- no counterpart
      exact h1
    · split
      · -- `coupledVal` rejects the value
        exact h1
      · -- the counterpart is written through the same scope
        exact F.trans h1 (scopeSetValue_frame F hS hG)

theorem execAsg_frame {st : State} {a : Target × PRhs} (ha : Covers G S a.1) :
    R st (execAsg q r st sid a).1 := by
  fun_cases execAsg q r st sid a
  case case2 x uty hrhs n hn s hs => rw [hn] at ha; exact F.user ha hs
  case case4 x uty hrhs t ht => rw [ht] at ha; exact setSystemVar_frame F ha.1 ha.2
  -- the right-hand side fails; the session does not exist
  all_goals exact F.refl

theorem execAsgs_frame (as : List (Target × PRhs)) {st : State} (ha : ∀ a ∈ as, Covers G S a.1) :
    R st (execAsgs q r sid st as).1 := by
  induction as generalizing st with
  | nil => exact F.refl
  | cons a rest ih =>
    simp only [execAsgs]
    have h1 : R st (execAsg q r st sid a).1 := execAsg_frame F (ha a (by simp))
    have h2 := fun st' => ih (st := st') fun b hb => ha b (List.mem_cons_of_mem _ hb)
    split
    · rename_i st' he; rw [he] at h1; exact F.trans h1 (h2 st')
    · rename_i st' e he; rw [he] at h1; exact h1

theorem execSet_frame {st : State} {asgs : List (Target × Rhs)} (ha : ∀ a ∈ asgs, Covers G S a.1) :
    R st (execSet q r st sid asgs).1 := by
  unfold execSet
  split
  · -- planning fails
    exact F.refl
  · rename_i ps hp
    have h1 : R st (execAsgs q r sid st ps).1 := execAsgs_frame F ps (covers_planSet hp ha)
    split
    · rename_i st' he; rw [he] at h1; exact h1
    · rename_i st' e he
      rw [he] at h1
      -- a failed statement keeps what was done (`partialMulti`), only the persisted map (`persistFirst`
      -- alone), or nothing
      split
      · exact h1
      · split
        · exact F.rollback h1
        · exact F.refl

theorem step_set_frame {st : State} {asgs : List (Target × Rhs)} (ha : ∀ a ∈ asgs, Covers G S a.1) :
    R st (step q r st (.set sid asgs)).1 :=
  step_set_fst q r st sid asgs ▸ execSet_frame F ha

end

theorem wf_frame (r : Reg) (sid : Nat) : Frame r sid True True fun st st' => WF r st → WF r st' where
  refl h := h
  trans h1 h2 h := h2 (h1 h)
  global _ hv hs hw := ⟨MapWF_put hw.1 ⟨_, hv, .inl hs⟩, hw.2.1, hw.2.2⟩
  persisted _ hv hs hw := ⟨hw.1, hw.2.1, MapWF_put hw.2.2 ⟨_, hv, .inl hs⟩⟩
  sys _ hsess hv hs hw := hw.putSess (MapWF_put (hw.sess hsess) ⟨_, hv, .inl hs⟩)
  user _ hsess hw := hw.putSess (hw.sess hsess :)
  rollback h hw := ⟨hw.1, hw.2.1, (h hw).2.2⟩

theorem step_wf {q : Quirks} {r : Reg} {st : State} (s : Stmt) (hw : WF r st) : WF r (step q r st s).1 := by
  cases s with
  | newSession sid => exact hw.putSess hw.1
  | set sid asgs => exact step_set_frame (wf_frame r sid) (fun a _ => covers_all a.1) hw
  | get sid refs => simp only [step]; split <;> exact hw
  | getPersisted n => simp only [step]; split <;> exact hw

theorem run_wf {q : Quirks} {r : Reg} {st : State} (h : List Stmt) (hw : WF r st) : WF r (run q r st h).1 := by
  induction h generalizing st with
  | nil => exact hw
  | cons s rest ih => exact ih (step_wf s hw)

theorem otherSession_frame (r : Reg) {sid sid' : Nat} (h : sid' ≠ sid) :
    Frame r sid True True fun st st' => st'.sess sid' = st.sess sid' where
  refl := rfl
  trans h1 h2 := h2.trans h1
  global _ _ _ := rfl
  persisted _ _ _ := rfl
  sys _ _ _ _ := by rw [sess_putSess, if_neg h]
  user _ _ := by rw [sess_putSess, if_neg h]
  rollback _ := rfl

theorem globals_frame (r : Reg) (sid : Nat) :
    Frame r sid False True fun st st' => st'.global = st.global ∧ st'.persisted = st.persisted where
  refl := ⟨rfl, rfl⟩
  trans h1 h2 := ⟨h2.1.trans h1.1, h2.2.trans h1.2⟩
  global g := g.elim
  persisted g := g.elim
  sys _ _ _ _ := ⟨rfl, rfl⟩
  user _ _ := ⟨rfl, rfl⟩
  rollback h := ⟨rfl, h.2⟩

theorem sessions_frame (r : Reg) (sid : Nat) :
    Frame r sid True False fun st st' => st'.sessions = st.sessions where
  refl := rfl
  trans h1 h2 := h2.trans h1
  global _ _ _ := rfl
  persisted _ _ _ := rfl
  sys s := s.elim
  user s := s.elim
  rollback _ := rfl

def isDig (c : Char) : Bool := decide ('0' ≤ c ∧ c ≤ '9')

/-- Horner value of a digit string, most significant digit first (the *definition* of the decimal
denotation): `Gms.Digits.value 10` (Lemmas/Digits.lean) of the digit values, by `List.foldl_map`. -/
def decValue (cs : List Char) : Nat := cs.foldl (fun a c => a * 10 + (c.toNat - '0'.toNat)) 0

theorem digitsVal_iff (cs : List Char) (acc n : Nat) :
    digitsVal cs acc = some n ↔
      (∀ c ∈ cs, isDig c = true) ∧ n = cs.foldl (fun a c => a * 10 + (c.toNat - '0'.toNat)) acc := by
  induction cs generalizing acc with
  | nil => simpa [digitsVal] using eq_comm
  | cons c cs ih =>
    simp only [digitsVal, List.forall_mem_cons, List.foldl_cons]
    split <;> rename_i hc
    · simp [ih, isDig, hc]
    · simp [isDig, hc]

/-- `parseNat` accepts exactly the non-empty strings of decimal digits, with their decimal value. -/
theorem parseNat_iff (cs : List Char) (n : Nat) :
    parseNat cs = some n ↔ cs ≠ [] ∧ (∀ c ∈ cs, isDig c = true) ∧ n = decValue cs := by
  cases cs with
  | nil => simp [parseNat]
  | cons c cs => simp [parseNat, digitsVal_iff, decValue]

/-- A leading zero does not change the value: `'010'` is ten, not eight. -/
theorem decValue_leading_zero (cs : List Char) : decValue ('0' :: cs) = decValue cs := by
  simp [decValue]

theorem parseNat_leading_zero {cs : List Char} (h : cs ≠ []) : parseNat ('0' :: cs) = parseNat cs := by
  cases cs with
  | nil => exact absurd rfl h
  | cons c cs => simp [parseNat, digitsVal]

theorem parseIntL_sound {cs : List Char} {i : Int} (h : parseIntL cs = some i) :
    ∃ ds, ds ≠ [] ∧ (∀ c ∈ ds, isDig c = true) ∧
      ((cs = '-' :: ds ∧ i = -(decValue ds : Int)) ∨ (cs = '+' :: ds ∧ i = (decValue ds : Int)) ∨
       (cs = ds ∧ i = (decValue ds : Int))) := by
  -- the model's `fun n => -(n : Int)` binds `n : Int`, so Lean coerces `parseNat ds` monadically; this is
  -- the shape of the three arms as elaborated
  have key : ∀ {ds : List Char} {f : Int → Int} {j : Int},
      Option.map f (parseNat ds >>= fun a => pure (a : Int)) = some j →
      ds ≠ [] ∧ (∀ c ∈ ds, isDig c = true) ∧ j = f (decValue ds) := by
    intro ds f j hr
    cases hp : parseNat ds with
    | none => simp [hp] at hr
    | some n =>
      obtain ⟨h0, h1, rfl⟩ := (parseNat_iff ds n).1 hp
      exact ⟨h0, h1, by simpa [hp] using hr.symm⟩
  unfold parseIntL at h
  simp only at h
  split at h
  · rename_i r j hr
    split at h <;> cases h
    split at hr
    · rename_i ds
      obtain ⟨h0, h1, h2⟩ := key hr
      exact ⟨ds, h0, h1, .inl ⟨rfl, h2⟩⟩
    · rename_i ds
      obtain ⟨h0, h1, h2⟩ := key hr
      exact ⟨ds, h0, h1, .inr (.inl ⟨rfl, h2⟩)⟩
    · obtain ⟨h0, h1, h2⟩ := key hr
      exact ⟨cs, h0, h1, .inr (.inr ⟨rfl, h2⟩)⟩
  · cases h

/-- Any character other than a decimal digit or a sign makes `ParseInt(s, 10, 64)` fail: no `x`, `b`,
`o`, `_`, blank, `e`, `.` anywhere. -/
theorem parseIntL_rejects (cs : List Char) (c : Char) (hc : c ∈ cs) (hd : isDig c = false)
    (hs : c ≠ '+' ∧ c ≠ '-') : parseIntL cs = none := by
  cases h : parseIntL cs with
  | none => rfl
  | some i =>
    exfalso
    obtain ⟨ds, _, h1, h2⟩ := parseIntL_sound h
    have hds : c ∉ ds := fun hm => by rw [h1 c hm] at hd; cases hd
    rcases h2 with ⟨rfl, _⟩ | ⟨rfl, _⟩ | ⟨rfl, _⟩
    · rcases List.mem_cons.mp hc with e | e
      · exact hs.2 e
      · exact hds e
    · rcases List.mem_cons.mp hc with e | e
      · exact hs.1 e
      · exact hds e
    · exact hds hc

/-- Normal form of a stored double (what `render` prints): trailing zeros of the scale removed. -/
def normSV : SVal → SVal
  | .dbl m s => .dbl (normDbl m s).1 (normDbl m s).2
  | sv => sv

/-- The numeric system_* types (those whose string arm is `convStr`). -/
def numericTy : Ty → Bool
  | .bool | .int _ _ _ | .uint _ _ | .double _ _ => true
  | _ => false

def boundsOrdered : Ty → Bool
  | .int lo hi _ => decide (lo ≤ hi) && decide (-(two63 : Int) ≤ lo) && decide (hi < two63)
  | .uint lo hi => decide (lo ≤ hi) && decide (hi < two64)
  | .double lo hi => decide (lo ≤ hi)
  | .enum vals => !vals.isEmpty
  | .set vals => !vals.isEmpty && decide (vals.length ≤ 64)
  | _ => true

/-- `SET x = DEFAULT` is accepted by the variable's own type (numeric kinds; under the property's
conversion). -/
def defaultOk (v : Var) : Bool :=
  match v.ty, v.default with
  | .int lo hi neg, d => (convert specQ (.int lo hi neg) (toVal (.int lo hi neg) d)).isSome
  | .uint lo hi, d => (convert specQ (.uint lo hi) (toVal (.uint lo hi) d)).isSome
  | .double lo hi, d => (convert specQ (.double lo hi) (toVal (.double lo hi) d)).isSome
  | .bool, .i8 _ => true
  | .bool, _ => false
  | .enum _, .str _ | .set _, .str _ | .string, .str _ => true
  | .other, _ => true
  | _, _ => false

/-- Registry entry well-formedness (checked on the regenerated registry by `decide`). Kernel
evaluation of `String` operations is very slow, so everything here is numeric; the string-valued
parts (names lower case and unique, enum / set members distinct, string defaults accepted) are
computed by the extractor on the compiled code and arrive as the facts `keyMismatch`, `dupKeys`,
`dupMembers`, `defaultRejected`. -/
def wellformed (v : Var) : Bool := boundsOrdered v.ty && defaultOk v

end Gms.SysVars

namespace Gms.C44

open Gms.Generated.C44

/-- The code paths the model transliterates still have the shape it assumes: which names the
executor and the planbuilder treat by name, the order of the checks in
`MysqlSystemVariable.SetValue`, the order of the calls for `SET PERSIST`; and the registry dump
found no duplicate / mismatching key and no entry it could not describe. -/
theorem facts_match :
    coupledVars = ["character_set_connection", "collation_connection", "character_set_server", "collation_server"] ∧
    validatedVars = ["time_zone"] ∧
    planSpecialVars = ["character_set_database", "collation_database"] ∧
    planIntSpecialVars = ["sql_mode", "collation_database", "collation_connection", "collation_server", "lc_time_names"] ∧
    setValueChecks = [("global && m.Scope.Type == SystemVariableScope_Session", "ErrSystemVariableSessionOnly"),
      ("!global && m.Scope.Type == SystemVariableScope_Global", "ErrSystemVariableGlobalOnly"),
      ("!m.Dynamic || m.ValueFunction != nil", "ErrSystemVariableReadOnly"),
      ("otherwise", "m.InitValue(ctx, val, global)")] ∧
    -- setSystemVar writes the variable and every counterpart through the scope of the statement
    coupledWrites = [("sysVar.Scope", "sysVar.Name"), ("sysVar.Scope", "\"collation_connection\""),
      ("sysVar.Scope", "\"character_set_connection\""), ("sysVar.Scope", "\"collation_server\""),
      ("sysVar.Scope", "\"character_set_server\"")] ∧
    -- SET NAMES assigns what `expandNames` assigns
    (expandNames .dflt).map (fun a => match a.1 with | .sys t => t.name | .user n => n) = namesExpansion ∧
    -- every string → number conversion of the system_* types is strconv in base 10 / ParseFloat
    strconvCalls = [("system_int.go:Convert", "strconv.ParseInt(value, 10, 64)"),
      ("system_int.go:DecodeValue", "strconv.ParseInt(val, 10, 64)"),
      ("system_uint.go:DecodeValue", "strconv.ParseUint(val, 10, 64)"),
      ("system_double.go:Convert", "strconv.ParseFloat(value, 64)"),
      ("system_double.go:DecodeValue", "strconv.ParseFloat(val, 64)"),
      ("set.go:convertStringToBitField", "strconv.ParseUint(val, 10, 64)")] ∧
    persistCalls = ["PersistGlobal", "SetGlobal"] ∧ persistOnlyCalls = ["PersistGlobal"] ∧
    keyMismatch = [] ∧ dupKeys = [] ∧ dupMembers = [] ∧ defaultRejected = ["ft_max_word_len"] ∧
    -- the only oddity of the dump: the type of `uptime` was built with another variable's name
    -- (its error messages would name `updatable_views_with_limit`); `uptime` is read-only
    badEntries = ["uptime: type carries the name \"updatable_views_with_limit\""] :=
  ⟨rfl, rfl, rfl, rfl, rfl, rfl, rfl, rfl, rfl, rfl, rfl, rfl, rfl, rfl, rfl⟩

/- Every registered variable: bounds ordered and inside the 64-bit range, enum / set types not
empty (a set has at most 64 members), the default has the Go type of the variable's kind and a
numeric default is accepted by the variable's own `Convert`.
   The full statement is false on the unchanged tree:
     theorem registry_wellformed : ∀ v ∈ sysvars, wellformed v = true
   `ft_max_word_len` is registered with bounds [10, 2^63-1] and default 0 (read-only, so the value
   can never become valid): region `registry_default_out_of_range`. -/
def defaultOutOfRange : List String := ["ft_max_word_len"]

theorem registry_wellformed_partial : ∀ v ∈ sysvars, wellformed v = true ∨ v.name ∈ defaultOutOfRange := by
  decide +kernel

theorem finding_registry_default_out_of_range : (sysvars.filter fun v => !defaultOk v).length = 1 := by
  decide +kernel

example : sysvars.length > 300 ∧ (sysvars.filter (!·.special)).length > 250 := by decide +kernel

/-- The string arm of `convert` for the numeric types is `convStr` on the characters. -/
theorem convert_str (q : Quirks) (ty : Ty) (s : String) (h : numericTy ty = true) :
    convert q ty (.str s) = convStr q ty s.toList := by
  cases ty <;> simp [numericTy] at h <;> rfl

/-- **The compiled `Convert` agrees with the model on the probe strings**: run-time table of
system_int (wide and narrow range), system_uint, system_double (two ranges) and system_bool over
plain decimals, leading zeros, signs, blanks, `0x` / `0b` / `0o` prefixes, underscores, exponent and
hexadecimal-float forms, non-ASCII digits, 64-bit boundaries (regenerated on every run). -/
theorem facts_convert_strings : ∀ e ∈ strFacts, (convStr implQ e.1 e.2.1).map normSV = e.2.2 := by
  decide +kernel

example : strFacts.length > 500 ∧ (strFacts.filter (·.2.2.isSome)).length > 100 := by decide +kernel

/-- **Which strings denote which integer.** If an integer variable accepts a string, the string is
an optional sign followed by a non-empty run of decimal digits, and the stored value is the signed
decimal (Horner) value of those digits — for the code and for the property, every range. -/
theorem int_string_is_decimal (q : Quirks) (lo hi : Int) (neg : Bool) (s : String) (sv : SVal)
    (h : convert q (.int lo hi neg) (.str s) = some sv) :
    ∃ ds, ds ≠ [] ∧ (∀ c ∈ ds, isDig c = true) ∧
      ((s.toList = '-' :: ds ∧ sv = .int (-(decValue ds : Int))) ∨
       (s.toList = '+' :: ds ∧ sv = .int (decValue ds : Int)) ∨
       (s.toList = ds ∧ sv = .int (decValue ds : Int))) := by
  rw [convert_str q _ s rfl, convStr] at h
  cases hp : parseIntL s.toList with
  | none => rw [hp] at h; cases h
  | some i =>
    simp only [hp] at h
    obtain rfl : sv = .int i := by
      unfold convInt at h
      split at h <;> cases h
      rfl
    simpa only [SVal.int.injEq] using parseIntL_sound hp

/-- A string containing any character other than a decimal digit or a sign — a base prefix letter,
an underscore, a blank, an exponent letter, a point — is rejected by every integer variable. -/
theorem int_string_rejects_nondecimal (q : Quirks) (lo hi : Int) (neg : Bool) (s : String) (c : Char)
    (hc : c ∈ s.toList) (hd : isDig c = false) (hs : c ≠ '+' ∧ c ≠ '-') :
    convert q (.int lo hi neg) (.str s) = none := by
  rw [convert_str q _ s rfl, convStr, parseIntL_rejects s.toList c hc hd hs]

/-- Leading zeros are decimal: zero-padding a digit string does not change what it denotes
(`'010'` is ten). -/
theorem leading_zero_is_decimal (q : Quirks) (lo hi : Int) (neg : Bool) (ds : List Char) (h : ds ≠ [])
    (hd : ∀ c ∈ ds, isDig c = true) :
    convStr q (.int lo hi neg) ('0' :: ds) = convStr q (.int lo hi neg) ds ∧
    convStr q (.int lo hi neg) ('-' :: '0' :: ds) = convStr q (.int lo hi neg) ('-' :: ds) ∧
    convStr q (.int lo hi neg) ('+' :: '0' :: ds) = convStr q (.int lo hi neg) ('+' :: ds) := by
  cases ds with
  | nil => exact absurd rfl h
  | cons d ds =>
    have hdig := hd d (by simp)
    have hm : d ≠ '-' := by intro e; subst e; revert hdig; decide
    have hp : d ≠ '+' := by intro e; subst e; revert hdig; decide
    refine ⟨?_, ?_, ?_⟩
    · simp [convStr, parseIntL, parseNat_leading_zero h, hm, hp]
    · simp [convStr, parseIntL, parseNat_leading_zero h]
    · simp [convStr, parseIntL, parseNat_leading_zero h]

example : convStr implQ (.int 1 1000 false) ['0', '1', '0'] = some (.int 10) ∧
    convStr implQ (.int 1 1000 false) ['0', 'x', '1', '0'] = none ∧
    convStr implQ (.int 1 1000 false) ['1', '_', '0'] = none ∧
    convStr implQ (.int 1 1000 false) ['0', '8'] = some (.int 8) := by decide +kernel

/-- An unsigned variable has no string arm at all; a boolean one only the four keywords. -/
theorem uint_rejects_strings (q : Quirks) (lo hi : Nat) (s : String) : convert q (.uint lo hi) (.str s) = none := rfl

theorem bool_string_keywords (q : Quirks) (s : String) (sv : SVal) (h : convert q .bool (.str s) = some sv) :
    s.toList.map lowerC ∈ [['o', 'n'], ['t', 'r', 'u', 'e'], ['o', 'f', 'f'], ['f', 'a', 'l', 's', 'e']] := by
  rw [convert_str q _ s rfl, convStr] at h
  -- a string that is none of the four falls through both tests of `boolOfChars`
  refine Decidable.byContradiction fun hn => ?_
  simp only [List.mem_cons, List.not_mem_nil, or_false, not_or] at hn
  simp [boolOfChars, hn] at h

/-- Under the property a double variable accepts decimal notation only: no underscore, no `0x`. -/
theorem double_spec_rejects_go_syntax (lo hi : Int) (s : String) (h : goSyntax s.toList = true) :
    convert specQ (.double lo hi) (.str s) = none := by
  rw [convert_str _ _ s rfl, convStr, parseFloatL, h]
  rfl

/- The same about the code is false: `strconv.ParseFloat` accepts `_` between digits and
hexadecimal floats (region `double_string_go_syntax`). -/
theorem finding_double_string_go_syntax :
    convStr implQ (.double 0 100000) ['1', '_', '0', '0', '0'] = some (.dbl 1000 0) ∧
    convStr implQ (.double 0 100000) ['0', 'x', '1', 'p', '4'] = some (.dbl 16 0) ∧
    convStr specQ (.double 0 100000) ['1', '_', '0', '0', '0'] = none ∧
    convStr specQ (.double 0 100000) ['0', 'x', '1', 'p', '4'] = none ∧
    convStr specQ (.double 0 100000) ['1', 'e', '3'] = some (.dbl 1000 0) := by decide +kernel

/-- **Validation + conversion.** Whatever `Convert` accepts has the variable's type (all types, all
Go values, for the code and for the property). -/
theorem set_converts_to_type (q : Quirks) (ty : Ty) (x : Val) (sv : SVal) (h : convert q ty x = some sv) :
    valid ty sv = true := convert_valid h

example : convert implQ (.int 1 100000 false) (.str "151") = some (.int 151) := by decide +kernel
example : convert implQ (.int 1 100000 false) (.int 0) = none := by decide +kernel

/-- Value classes in which `Convert` of the code reinterprets or rounds instead of rejecting. -/
def convRegion : Ty → Val → Bool
  | .int _ _ _, .uint n => decide (n ≥ two63)          -- int64(uint64) reinterpretation
  | .uint _ _, .int i => decide (i < 0)                -- uint64(int64) reinterpretation
  | .uint _ _, .dec _ _ => true                        -- DecimalIntPartUint64: rounded, sign dropped
  | .set _, .int i => decide (i < 0)
  | .set _, .dec m s | .set _, .flt m s => (integral m s).any (decide <| · < 0)
  | .double _ _, .str s => goSyntax s.toList          -- ParseFloat: `_` separators, hexadecimal floats
  | _, _ => false

theorem wrapI_of_lt {n : Nat} (h : n < two63) : wrapI n = n := by simp [wrapI, h]
theorem wrapU_of_nonneg {i : Int} (h : 0 ≤ i) : wrapU i = i.toNat := by
  have : ¬ i < 0 := by omega
  simp [wrapU, this]

theorem parseFloatL_agree {cs : List Char} (h : goSyntax cs = false) (q q' : Quirks) :
    parseFloatL q cs = parseFloatL q' cs := by
  unfold parseFloatL; simp [h]

theorem convert_indep {ty : Ty} {x : Val} (h : convRegion ty x = false) (q q' : Quirks) :
    convert q ty x = convert q' ty x := by
  -- seven arms of `convert` look at the quirks: `uint.dec` lies wholly inside the region, and outside it the
  -- two branches of each of the other six agree
  cases ty <;> cases x <;>
    first | rfl | simp only [convRegion, decide_eq_false_iff_not, Nat.not_le, Int.not_lt] at h
  case int.uint n => simp [convert, convInt, wrapI_of_lt h, h]
  case uint.int i => simp [convert, wrapU_of_nonneg h, h]
  case uint.dec => cases h
  case double.str s => simp only [convert, parseFloatL_agree h q q']
  case set.int i => simp [convert, wrapU_of_nonneg h, h]
  -- set.dec, set.flt: an integral value outside the region is not negative
  all_goals
    simp only [convert]
    split
    · rename_i i hi
      have : 0 ≤ i := by rw [hi] at h; simpa using h
      simp [wrapU_of_nonneg this, this]
    · rfl

/- The full statement `∀ ty x, convert implQ ty x = convert specQ ty x` is false
   (`finding_int_uint_reinterpreted`, `finding_uint_decimal_rounded`). -/
theorem convert_agrees_partial (ty : Ty) (x : Val) (h : convRegion ty x = false) :
    convert implQ ty x = convert specQ ty x := convert_indep h implQ specQ

example : convRegion (.int 0 10 false) (.int 5) = false ∧ convRegion (.uint 0 10) (.int (-1)) = true := by decide +kernel

theorem finding_int_uint_reinterpreted :
    ∃ ty x, convert implQ ty x ≠ convert specQ ty x ∧ convert specQ ty x = none :=
  ⟨.int (-9223372036854775808) 9223372036854775807 false, .uint 18446744073709551615, by decide +kernel, by decide +kernel⟩

theorem finding_uint_decimal_rounded :
    convert implQ (.uint 1 18446744073709551615) (.dec 15 1) = some (.uint 2) ∧
    convert implQ (.uint 1 18446744073709551615) (.dec (-30) 1) = some (.uint 3) ∧
    convert specQ (.uint 1 18446744073709551615) (.dec 15 1) = none ∧
    convert specQ (.uint 1 18446744073709551615) (.dec (-30) 1) = none := by decide +kernel

/-- **Stored values always have the variable's type**, for every registry, every history of
statements in any number of sessions, for the code's semantics and for the property's: each value in
the global map, in every session map and in the persisted map is a value of the variable's type or
its registered default. -/
theorem stored_values_typed (q : Quirks) (r : Reg) (h : List Stmt) : WF r (run q r (init r) h).1 :=
  run_wf h (init_wf r)

/-- **Session isolation.** No SET statement executed in session `sid` — whatever its targets,
scopes and outcome — changes anything in another session: its system-variable values and its user
variables are the same before and after (so a GLOBAL change is *not* seen by existing sessions, and
user variables are private). -/
theorem set_leaves_other_sessions (q : Quirks) (r : Reg) (st : State) (sid sid' : Nat)
    (asgs : List (Target × Rhs)) (h : sid' ≠ sid) :
    (step q r st (.set sid asgs)).1.sess sid' = st.sess sid' :=
  step_set_frame (otherSession_frame r h) fun a _ => covers_all a.1

/-- **A session-scope change is visible only to that session**: a SET whose targets are all
`SESSION` system variables or user variables leaves the global values and the persisted map
unchanged (together with `set_leaves_other_sessions`: nothing outside the session changes). -/
theorem session_set_leaves_globals (q : Quirks) (r : Reg) (st : State) (sid : Nat) (asgs : List (Target × Rhs))
    (h : ∀ a ∈ asgs, sessionOnlyTarget a.1 = true) :
    (step q r st (.set sid asgs)).1.global = st.global ∧ (step q r st (.set sid asgs)).1.persisted = st.persisted :=
  step_set_frame (globals_frame r sid) fun a ha => covers_sessionOnly (h a ha)

/-- **A SET without SESSION targets changes no session** — neither another one nor the one that
issued it: every session's system variables and user variables are the same before and after a SET
whose targets are all GLOBAL / PERSIST / PERSIST_ONLY system variables, whatever its outcome and
including the counterparts of coupled variables. -/
theorem global_set_leaves_all_sessions (q : Quirks) (r : Reg) (st : State) (sid : Nat) (asgs : List (Target × Rhs))
    (h : ∀ a ∈ asgs, globalishTarget a.1 = true) :
    (step q r st (.set sid asgs)).1.sessions = st.sessions :=
  step_set_frame (sessions_frame r sid) fun a ha => covers_globalish (h a ha)

/-- **A global change is seen by new sessions**: a session created now reads, for every variable,
exactly the current global value. -/
theorem new_session_sees_globals (r : Reg) (st : State) (sid : Nat) (name : String) :
    readSys r (newSession st sid) sid false name = readSys r (newSession st sid) sid true name := by
  have hs : (newSession st sid).sess sid = some { sys := st.global, user := [] } := by
    rw [newSession, sess_putSess, if_pos rfl]
  unfold readSys
  rw [hs]
  cases r.find name with
  | none => rfl
  | some v => simp [newSession, Option.bind]

theorem execSet_err_no_effect {q : Quirks} {r : Reg} {st : State} {sid : Nat} {asgs : List (Target × Rhs)} {e : Err}
    (hm : q.partialMulti = false) (hp : q.persistFirst = false)
    (h : (execSet q r st sid asgs).2 = some e) : (execSet q r st sid asgs).1 = st := by
  revert h
  fun_cases execSet q r st sid asgs
  case case2 => nofun
  case case3 hpartial => cases hm.symm.trans hpartial
  case case4 hpartial hpersist => cases hp.symm.trans hpersist
  all_goals exact fun _ => rfl

/-- **Rejected without effect** (the property's semantics): a SET statement that reports an error
leaves the whole state — globals, every session, persisted values — unchanged. -/
theorem spec_failed_set_no_effect (r : Reg) (st : State) (sid : Nat) (asgs : List (Target × Rhs)) (e : Err)
    (h : (execSet specQ r st sid asgs).2 = some e) : (execSet specQ r st sid asgs).1 = st :=
  execSet_err_no_effect rfl rfl h

/- The same statement about the code is false:
   theorem impl_failed_set_no_effect : (execSet implQ r st sid asgs).2 = some e → (execSet implQ r st sid asgs).1 = st
   Witnesses: `finding_multi_assign_partial_effect`, `finding_persist_before_checks`. It holds for
   a single assignment that is not `SET PERSIST` and whose target has no coupled counterpart: -/

def isPersistTarget : Target → Bool
  | .sys t => t.scope = .persist
  | _ => false

theorem scopeSetValue_err_no_effect {q : Quirks} {r : Reg} {st st' : State} {sid : Nat} {sc : SetScope} {n : String}
    {x : Val} {e : Err} (hsc : sc ≠ .persist) (h : scopeSetValue q r st sid sc n x = (st', some e)) : st' = st := by
  revert h
  fun_cases scopeSetValue q r st sid sc n x
  -- PERSIST
  case case3 | case4 | case5 | case6 => exact absurd rfl hsc
  -- PERSIST_ONLY under the property: a check of `SetGlobal` fails first
  case case8 | case9 => rintro ⟨⟩; rfl
  all_goals exact lift_err_state

/-- The target has no coupled counterpart in `setSystemVar` (everything except the four
character-set / collation variables). -/
def notCoupled (r : Reg) : Target → Bool
  | .sys t => (coupleOf r t.name).isNone
  | _ => true

theorem isPersistTarget_normTarget (t : Target) : isPersistTarget (normTarget t) = isPersistTarget t := by
  cases t <;> rfl

theorem notCoupled_normTarget (r : Reg) (t : Target) : notCoupled r (normTarget t) = notCoupled r t := by
  cases t <;> rfl

theorem execAsg_err_no_effect {q : Quirks} {r : Reg} {st st' : State} {sid : Nat} {p : Target × PRhs} {e : Err}
    (hp : isPersistTarget p.1 = false) (hc : notCoupled r p.1 = true)
    (he : execAsg q r st sid p = (st', some e)) : st' = st := by
  revert he
  fun_cases execAsg q r st sid p
  case case2 => nofun
  case case4 v uty hrhs t ht =>
    rw [ht] at hp hc
    rw [setSystemVar_uncoupled (by simpa [notCoupled] using hc)]
    exact scopeSetValue_err_no_effect (by simpa [isPersistTarget] using hp)
  all_goals rintro ⟨⟩; rfl

theorem impl_failed_set_no_effect_partial (q : Quirks) (r : Reg) (st : State) (sid : Nat) (a : Target × Rhs) (e : Err)
    (hp : isPersistTarget a.1 = false) (hc : notCoupled r a.1 = true)
    (h : (execSet q r st sid [a]).2 = some e) : (execSet q r st sid [a]).1 = st := by
  unfold execSet at h ⊢
  cases h1 : planAsg q r a with
  | error e1 =>
    have : planSet q r [a] = .error e1 := by rw [planSet, h1]; rfl
    rw [this]
  | ok p =>
    have hplan : planSet q r [a] = .ok [p] := by rw [planSet, h1]; rfl
    rw [hplan] at h ⊢
    rw [← isPersistTarget_normTarget, ← planAsg_fst h1] at hp
    rw [← notCoupled_normTarget, ← planAsg_fst h1] at hc
    simp only [execAsgs]
    cases he1 : execAsg q r st sid p with
    | mk st1 oe =>
      cases oe with
      | none => simp [execAsgs, he1] at h
      | some e1 =>
        obtain rfl := execAsg_err_no_effect hp hc he1
        simp only
        split
        · rfl
        · split <;> rfl

/-- **SELECT @@x returns exactly the value assigned** (session scope): after a successful
`SetSessionVariable` the session reads back the converted value, with the variable's type. -/
theorem set_session_then_read (q : Quirks) (r : Reg) (st st' : State) (sid : Nat) (n : String) (x : Val)
    (h : setSessionVar q r st sid n x = .ok st') :
    ∃ v sv, r.find n = some v ∧ convert q v.ty x = some sv ∧ valid v.ty sv = true ∧
      readSys r st' sid false n = .ok (v.ty, sv) := by
  obtain ⟨s, v, sv, hs, hv, hc, rfl⟩ := setSessionVar_ok h
  refine ⟨v, sv, hv, hc, convert_valid hc, ?_⟩
  unfold readSys
  rw [hv, sess_putSess, if_pos rfl]
  simp [Option.bind, Map.get_put]

/-- The same for the global scope: after a successful `SetGlobal`, `@@global.x` is the converted value. -/
theorem set_global_then_read (q : Quirks) (r : Reg) (st st' : State) (sid : Nat) (n : String) (x : Val)
    (h : setGlobal q r st n x = .ok st') :
    ∃ v sv, r.find n = some v ∧ convert q v.ty x = some sv ∧ valid v.ty sv = true ∧
      readSys r st' sid true n = .ok (v.ty, sv) := by
  obtain ⟨v, sv, hv, hc, rfl⟩ := setGlobal_ok h
  refine ⟨v, sv, hv, hc, convert_valid hc, ?_⟩
  unfold readSys
  simp [hv, Map.get_put]

example : ∃ st', setGlobal implQ [{ name := "a", scope := .both, dynamic := true, special := false, ty := .int 0 100 false, default := .int 5 }]
    (init []) "a" (.str "42") = .ok st' := ⟨_, rfl⟩

/-- **Scope errors** (`MysqlSystemVariable.SetValue`): a SESSION-only variable cannot be set
globally, a GLOBAL-only one not per session, a non-dynamic one not at all — before any conversion. -/
theorem scope_errors (q : Quirks) (v : Var) (x : Val) :
    (v.scope = .session → setValue q v x true = .error .sessionOnly) ∧
    (v.scope = .global → setValue q v x false = .error .globalOnly) ∧
    (v.dynamic = false → v.scope = .both → ∀ g, setValue q v x g = .error .readOnly) := by
  refine ⟨?_, ?_, ?_⟩
  · intro h; simp [setValue, h]
  · intro h; simp [setValue, h]
  · intro hd hs g; cases g <;> simp [setValue, hs, isReadOnly, hd]

/-- **@uservar returns exactly the value assigned, with its type**, and only in that session
(`set_leaves_other_sessions`): names are case-insensitive. -/
theorem uservar_roundtrip (q : Quirks) (r : Reg) (st : State) (sid : Nat) (s : Session) (n n' : String) (x : Val)
    (hs : st.sess sid = some s) (hn : lower n' = lower n) :
    readItem q r (execAsg q r st sid (.user n, .val x)).1 sid (.user n') = .ok (showVal x, showUTy (litType x)) := by
  simp only [execAsg, evalRhs, hs]
  unfold readItem
  rw [sess_putSess, if_pos rfl]
  simp [Option.bind, Map.get_put, hn]

def mkVar (name : String) (scope : Scope) (dynamic : Bool) (ty : Ty) (default : SVal) : Var :=
  { name := name, scope := scope, dynamic := dynamic, special := false, ty := ty, default := default }

/-- A small registry for the statement-level witnesses. -/
def r0 : Reg := [
  mkVar "lim" .both true (.int 0 2147483647 true) (.int 2147483647),
  mkVar "errs" .both true (.int 0 65535 false) (.int 1024),
  mkVar "conns" .global true (.int 1 100000 false) (.int 151),
  mkVar "port" .global false (.int 0 65535 false) (.int 33062)]

def sref (n : String) : Target := .sys ⟨.session, false, n⟩
def gref (n : String) : Target := .sys ⟨.global, true, n⟩

/-- `SET lim = 10, errs = -5` fails on the second assignment and keeps the first. -/
theorem finding_multi_assign_partial_effect :
    let h := [Stmt.newSession 1, .set 1 [(sref "lim", .lit (.int 10)), (sref "errs", .lit (.int (-5)))], .get 1 [sref "lim"]]
    (run implQ r0 (init r0) h).2 = [.ok, .err .invalid, .row [("10", "sys")]] ∧
    (run specQ r0 (init r0) h).2 = [.ok, .err .invalid, .row [("2147483647", "sys")]] := by decide +kernel

/-- `SET PERSIST port = 100` is rejected (read-only) but the persisted map has the value. -/
theorem finding_persist_before_checks :
    let h := [Stmt.newSession 1, .set 1 [(.sys ⟨.persist, false, "port"⟩, .lit (.int 100))], .getPersisted "port"]
    (run implQ r0 (init r0) h).2 = [.ok, .err .readOnly, .row [("100", "persisted")]] ∧
    (run specQ r0 (init r0) h).2 = [.ok, .err .readOnly, .row [("none", "persisted")]] := by decide +kernel

/-- After `SET GLOBAL conns = 500`, `@@conns` in the same session still shows the start-up copy. -/
theorem finding_global_only_stale_read :
    let h := [Stmt.newSession 1, .set 1 [(.sys ⟨.global, false, "conns"⟩, .lit (.int 500))], .get 1 [sref "conns", gref "conns"]]
    (run implQ r0 (init r0) h).2 = [.ok, .ok, .row [("151", "sys"), ("500", "sys")]] ∧
    (run specQ r0 (init r0) h).2 = [.ok, .ok, .row [("500", "sys"), ("500", "sys")]] := by decide +kernel

theorem readScoped_eq_readSys {q : Quirks} {r : Reg} {n : String}
    (h : ∀ v, r.find n = some v → isGlobalOnly v = false ∧ v.catalog = none) (st : State) (sid : Nat) (g : Bool) :
    readScoped q r st sid g n = readSys r st sid g n := by
  unfold readScoped
  cases hv : r.find n with
  | none => simp [readSys, hv]
  | some v => simp [(h v hv).1, (h v hv).2]

/- Full statement (false on the unchanged tree, see the witness above):
     theorem unqualified_read_is_current : readScoped implQ r st sid false n = readScoped specQ r st sid false n -/
theorem unqualified_read_is_current_partial (r : Reg) (st : State) (sid : Nat) (n : String)
    (h : ∀ v, r.find n = some v → isGlobalOnly v = false ∧ v.catalog = none) (g : Bool) :
    readScoped implQ r st sid g n = readScoped specQ r st sid g n := by
  rw [readScoped_eq_readSys h, readScoped_eq_readSys h]

example : ∀ v, r0.find "lim" = some v → isGlobalOnly v = false ∧ v.catalog = none := by decide +kernel

/-- **The counterpart follows in the scope of the statement (GLOBAL).** After a successful
`SET GLOBAL x = v` of a coupled variable, `@@global.<counterpart>` is the value derived from `v`
(default collation of the character set / character set of the collation), converted by the
counterpart's own type, and no session changed. -/
theorem coupled_global_follows (q : Quirks) (r : Reg) (st st' : State) (sid : Nat) (t : SysRef) (x : Val)
    (other : String) (tbl : List (String × String))
    (hsc : t.scope = .global) (hc : coupleOf r t.name = some (other, tbl))
    (h : setSystemVar q r st sid t x = (st', none)) :
    ∃ y vo svo, coupledVal tbl x = .ok y ∧ r.find other = some vo ∧ convert q vo.ty y = some svo ∧
      readSys r st' sid true other = .ok (vo.ty, svo) ∧ st'.sessions = st.sessions := by
  have hs : st'.sessions = st.sessions := by
    have := setSystemVar_frame (q := q) (st := st) (t := t) (v := x) (sessions_frame r sid)
      (fun e => by rw [hsc] at e; cases e) (fun _ => trivial)
    rwa [h] at this
  obtain ⟨st1, y, -, hv, h1⟩ := setSystemVar_coupled hc h
  rw [hsc] at h1
  obtain ⟨vo, svo, hf, hcv, _, hr⟩ := set_global_then_read q r st1 st' sid other y (lift_ok h1)
  exact ⟨y, vo, svo, hv, hf, hcv, hr, hs⟩

/-- **The counterpart follows in the scope of the statement (SESSION).** After a successful
`SET SESSION x = v` of a coupled variable the issuing session reads the derived value for the
counterpart, and the global values and the persisted map are unchanged. -/
theorem coupled_session_follows (q : Quirks) (r : Reg) (st st' : State) (sid : Nat) (t : SysRef) (x : Val)
    (other : String) (tbl : List (String × String))
    (hsc : t.scope = .session) (hc : coupleOf r t.name = some (other, tbl))
    (h : setSystemVar q r st sid t x = (st', none)) :
    ∃ y vo svo, coupledVal tbl x = .ok y ∧ r.find other = some vo ∧ convert q vo.ty y = some svo ∧
      readSys r st' sid false other = .ok (vo.ty, svo) ∧ st'.global = st.global ∧ st'.persisted = st.persisted := by
  have hs := setSystemVar_frame (q := q) (st := st) (t := t) (v := x) (globals_frame r sid)
    (fun _ => trivial) (fun hne => hne hsc)
  rw [h] at hs
  obtain ⟨st1, y, -, hv, h1⟩ := setSystemVar_coupled hc h
  rw [hsc] at h1
  obtain ⟨vo, svo, hf, hcv, _, hr⟩ := set_session_then_read q r st1 st' sid other y (lift_ok h1)
  exact ⟨y, vo, svo, hv, hf, hcv, hr, hs.1, hs.2⟩

def csT : List (String × String) := [("", "utf8mb4_0900_bin"), ("latin1", "latin1_swedish_ci"), ("utf8mb4", "utf8mb4_0900_ai_ci")]
def coT : List (String × String) := [("", "utf8mb4"), ("latin1_bin", "latin1"), ("latin1_swedish_ci", "latin1"),
  ("utf8mb4_0900_ai_ci", "utf8mb4"), ("utf8mb4_0900_bin", "utf8mb4")]

/-- A small registry with a coupled pair and a catalog variable. -/
def r1 : Reg := [
  { name := "cs_server", scope := .both, dynamic := true, special := false, ty := .string, default := .str "utf8mb4",
    allowed := some (csT.map (·.1)), couple := some ("co_server", csT) },
  { name := "co_server", scope := .both, dynamic := true, special := false, ty := .string, default := .str "utf8mb4_0900_bin",
    allowed := some (coT.map (·.1)), couple := some ("cs_server", coT) },
  { name := "cs_db", scope := .both, dynamic := true, special := false, ty := .string, default := .str "utf8mb4",
    allowed := some (csT.map (·.1)), catalog := some (.str "utf8mb4") }]

/-- `SET GLOBAL co_server = 'LATIN1_bin'` in session 1: both halves change globally, no session
value changes (sessions 1 and 2 keep their start-up copies), a new session starts with both — the
same for the code and the property. -/
theorem coupled_global_witness :
    let both (sid : Nat) := Stmt.get sid [sref "cs_server", gref "cs_server", sref "co_server", gref "co_server"]
    let h := [Stmt.newSession 1, .newSession 2,
      .set 1 [(.sys ⟨.global, false, "co_server"⟩, .lit (.str "LATIN1_bin"))], both 1, both 2, .newSession 3, both 3]
    (run implQ r1 (init r1) h).2 = [.ok, .ok, .ok,
      .row [("utf8mb4", "sys"), ("latin1", "sys"), ("utf8mb4_0900_bin", "sys"), ("LATIN1_bin", "sys")],
      .row [("utf8mb4", "sys"), ("latin1", "sys"), ("utf8mb4_0900_bin", "sys"), ("LATIN1_bin", "sys")],
      .ok,
      .row [("latin1", "sys"), ("latin1", "sys"), ("LATIN1_bin", "sys"), ("LATIN1_bin", "sys")]] ∧
    (run specQ r1 (init r1) h).2 = (run implQ r1 (init r1) h).2 := by decide +kernel

end Gms.C44

namespace Gms.SysVars

/-- The defect class of a counterpart that is written through the SESSION scope whatever the scope
of the statement (compare `setSystemVar`). -/
def setSystemVarSess (q : Quirks) (r : Reg) (st : State) (sid : Nat) (t : SysRef) (v : Val) : State × Option Err :=
  match scopeSetValue q r st sid t.scope t.name v with
  | (st1, some e) => (st1, some e)
  | (st1, none) =>
    match coupleOf r t.name with
    | none => (st1, none)
    | some (other, tbl) =>
      match coupledVal tbl v with
      | .error e => (st1, some e)
      | .ok v' => scopeSetValue q r st1 sid .session other v'

end Gms.SysVars

namespace Gms.C44

open Gms.Generated.C44

/-- The defect class (counterpart written through the SESSION scope, `setSystemVarSess`): a
`SET GLOBAL` then changes the issuing session — which `global_set_leaves_all_sessions` excludes for
the model of the code. -/
theorem counterpart_in_session_scope_diverges :
    let st := newSession (init r1) 1
    let t : SysRef := ⟨.global, false, "co_server"⟩
    (setSystemVarSess implQ r1 st 1 t (.str "latin1_bin")).1.sessions ≠ st.sessions ∧
    (setSystemVar implQ r1 st 1 t (.str "latin1_bin")).1.sessions = st.sessions ∧
    (readSys r1 (setSystemVarSess implQ r1 st 1 t (.str "latin1_bin")).1 1 true "cs_server").toOption = some (.string, .str "utf8mb4") ∧
    (readSys r1 (setSystemVar implQ r1 st 1 t (.str "latin1_bin")).1 1 true "cs_server").toOption = some (.string, .str "latin1") := by
  decide +kernel

/-- `SET NAMES latin1`-shaped statement on the small registry: an unknown name is rejected by the
validator without effect. -/
example : (run implQ r1 (init r1) [.newSession 1, .set 1 [(sref "cs_server", .lit (.str "nosuch"))],
    .get 1 [sref "cs_server", sref "co_server"]]).2 =
    [.ok, .err .charset, .row [("utf8mb4", "sys"), ("utf8mb4_0900_bin", "sys")]] := by decide +kernel

/-- `character_set_database` / `collation_database`: a SESSION-scope read is answered from the
current database — the value just assigned is not read back, and a new session does not see the
global value. -/
theorem finding_database_charset_read_from_catalog :
    let h := [Stmt.newSession 1, .set 1 [(sref "cs_db", .lit (.str "latin1"))], .get 1 [sref "cs_db"],
      .set 1 [(.sys ⟨.global, false, "cs_db"⟩, .lit (.str "latin1"))], .newSession 2, .get 2 [sref "cs_db", gref "cs_db"]]
    (run implQ r1 (init r1) h).2 = [.ok, .ok, .row [("utf8mb4", "sys")], .ok, .ok, .row [("utf8mb4", "sys"), ("latin1", "sys")]] ∧
    (run specQ r1 (init r1) h).2 = [.ok, .ok, .row [("latin1", "sys")], .ok, .ok, .row [("latin1", "sys"), ("latin1", "sys")]] := by
  decide +kernel

/-- The registry as compiled: exactly the four coupled variables, each with its counterpart, and the
two catalog variables; every one of them is validated (`allowed`). -/
theorem facts_charset_family :
    (sysvars.filter (·.couple.isSome)).map (fun v => (v.name, v.couple.map (·.1))) =
      [("character_set_connection", some "collation_connection"), ("character_set_server", some "collation_server"),
       ("collation_connection", some "character_set_connection"), ("collation_server", some "character_set_server")] ∧
    (sysvars.filter (·.catalog.isSome)).map (·.name) = ["character_set_database", "collation_database"] ∧
    (sysvars.filter fun v => (v.couple.isSome || v.catalog.isSome) && (v.allowed.isNone || v.special)).length = 0 := by
  decide +kernel

end Gms.C44
