/-
C29 — Collation comparison is a total preorder coherent with hashing.

Model: Gms/Model/Collation.lean (generic in the weight function `w`, i.e. valid for every
collation). Helper lemmas: Gms/Lemmas/Collation.lean. Regenerated facts: Gms/Generated/C29.lean.
-/
import Gms.Lemmas.Collation
import Gms.Generated.C29

namespace Gms.C29
open Gms.Collation

/-- **Refinement**: the Go loop (byte strings, interleaved decoding, early exits, the tail
comparison of remaining lengths) computes the lexicographic comparison of the rune-weight lists;
in particular it never takes its "malformed string" error exit. -/
theorem compare_refines (w : Nat → Int) (bin : Bool) (a b : List Nat) :
    compare w bin a b = some (compareSpec w bin a b) :=
  compareLoop_spec w bin _ a b (by omega)

theorem compare_range (w : Nat → Int) (bin : Bool) (a b : List Nat) :
    compareSpec w bin a b = -1 ∨ compareSpec w bin a b = 0 ∨ compareSpec w bin a b = 1 :=
  cmpW_range _ _

theorem compare_refl (w : Nat → Int) (bin : Bool) (a : List Nat) : compare w bin a a = some 0 := by
  rw [compare_refines, compareSpec, cmpW_refl]

/-- Total and antisymmetric up to equivalence: swapping the arguments negates the result. -/
theorem compare_antisymm (w : Nat → Int) (bin : Bool) (a b : List Nat) :
    compareSpec w bin a b = -(compareSpec w bin b a) :=
  cmpW_swap _ _

theorem compare_trans (w : Nat → Int) (bin : Bool) (a b c : List Nat)
    (h1 : compareSpec w bin a b ≤ 0) (h2 : compareSpec w bin b c ≤ 0) : compareSpec w bin a c ≤ 0 :=
  cmpW_trans _ _ _ h1 h2

/-- Equivalence classes are exactly "same list of rune weights". -/
theorem compare_zero_iff_weights (w : Nat → Int) (bin : Bool) (a b : List Nat) :
    compare w bin a b = some 0 ↔ (runes bin a).map w = (runes bin b).map w := by
  rw [compare_refines, Option.some.injEq, compareSpec, cmpW_eq_zero_iff]

theorem compare_ascii_chars (w : Nat → Int) {a b : Nat} (ha : a < 128) (hb : b < 128) :
    compare w false [a] [b] = some 0 ↔ w a = w b := by
  rw [compare_zero_iff_weights, runes_cons_ascii [] ha, runes_cons_ascii [] hb]
  simp [runes_nil]

/-- Non-vacuity: "aB" vs "Ab" under a weight function that folds ASCII case, and a strict case. -/
example : compare (fun r => if 97 ≤ r ∧ r ≤ 122 then (r : Int) - 32 else r) false [97, 66] [65, 98] = some 0 ∧
    compare (fun r => (r : Int)) false [97, 66] [65, 98] = some 1 ∧
    compare (fun r => (r : Int)) false [97] [97, 0] = some (-1) := by decide +kernel

/-- `WriteWeightString` never fails and writes the concatenated 4-byte weights (raw bytes for
`Collation_binary`). -/
theorem writeWeights_eq (w : Nat → Int) (binColl : Bool) (s : List Nat) :
    writeWeights w binColl s = some (if binColl then s else weightsSpec w s) :=
  writeWeights_spec w binColl s

/-- **Coherence**: for a non-binary collation whose weights are `int32`s, two strings compare
equal exactly when their weight strings are equal. -/
theorem compare_zero_iff_weightString (w : Nat → Int)
    (hw : ∀ r, -2147483648 ≤ w r ∧ w r < 2147483648) (a b : List Nat) :
    compare w false a b = some 0 ↔ writeWeights w false a = writeWeights w false b := by
  rw [compare_zero_iff_weights, writeWeights_eq, writeWeights_eq]
  simp only [Bool.false_eq_true, if_false, Option.some.injEq]
  exact (weightsSpec_inj w hw).symm

/-- `Collation_binary`: bytes are the runes, the weight is the byte, the weight string is the
string itself — equal comparison ⇔ equal bytes ⇔ equal weight strings. -/
theorem binary_compare_zero_iff (a b : List Nat) :
    (compare (fun r => (r : Int)) true a b = some 0 ↔ a = b) ∧
    (a = b ↔ writeWeights (fun r => (r : Int)) true a = writeWeights (fun r => (r : Int)) true b) := by
  constructor
  · rw [compare_zero_iff_weights, runes_bin, runes_bin]
    exact List.map_inj_right fun _ _ => Int.ofNat_inj.1
  · simp [writeWeights]

/-- Hash coherence: `HashToUint` hashes the weight string, so equal strings (under the
collation) always hash equally, and for a collision-free hash the converse holds too. -/
theorem compare_zero_iff_hash {H : List Nat → Nat} (w : Nat → Int)
    (hw : ∀ r, -2147483648 ≤ w r ∧ w r < 2147483648) (a b : List Nat) :
    (compare w false a b = some 0 → (writeWeights w false a).map H = (writeWeights w false b).map H) ∧
    ((∀ x y, H x = H y → x = y) →
      ((writeWeights w false a).map H = (writeWeights w false b).map H → compare w false a b = some 0)) := by
  refine ⟨fun h => by rw [(compare_zero_iff_weightString w hw a b).1 h], fun hH h => ?_⟩
  exact (compare_zero_iff_weightString w hw a b).2 (Option.map_injective (fun _ _ => hH _ _) h)

/-- The hypothesis is per rune of the string: the regenerated `_ci` facts hold for all letters
except the listed exception pairs. -/
theorem ci_equates_case_on {w : Nat → Int} {f : Nat → Nat} {ra : List Nat}
    (h : ∀ c ∈ ra, w (f c) = w c) : cmpW (ra.map w) ((ra.map f).map w) = 0 := by
  rw [cmpW_eq_zero_iff, List.map_map]
  exact List.map_congr_left fun c hc => (h c hc).symm

/-- If the weight function does not distinguish a rune from its case-mapped form, then strings
that differ only by that case mapping compare equal (any mapping `f`: lower, upper, accent removal). -/
theorem ci_equates_case (w : Nat → Int) (f : Nat → Nat) (h : ∀ c, w (f c) = w c) (ra : List Nat) :
    cmpW (ra.map w) ((ra.map f).map w) = 0 :=
  ci_equates_case_on fun c _ => h c

/-- Code-point order on rune lists. -/
def cmpCodepoints : List Nat → List Nat → Int
  | [], [] => 0
  | [], _ :: _ => -1
  | _ :: _, [] => 1
  | x :: xs, y :: ys => if x < y then -1 else if x > y then 1 else cmpCodepoints xs ys

/-- What the regenerated `_bin` facts instantiate, with `S` the dumped range (weight = code point
there) resp. the defined bytes of a one-byte character set (weights strictly increasing). -/
theorem bin_orders_by_codepoint_on (w : Nat → Int) (S : Nat → Prop)
    (hmono : ∀ r s, S r → S s → r < s → w r < w s) :
    ∀ (a b : List Nat), (∀ r ∈ a, S r) → (∀ r ∈ b, S r) → cmpW (a.map w) (b.map w) = cmpCodepoints a b
  | [], [], _, _ => rfl
  | [], _ :: _, _, _ => rfl
  | _ :: _, [], _, _ => rfl
  | x :: xs, y :: ys, ha, hb => by
    obtain ⟨sx, ha⟩ := List.forall_mem_cons.1 ha
    obtain ⟨sy, hb⟩ := List.forall_mem_cons.1 hb
    simp only [List.map_cons, cmpW, cmpCodepoints, bin_orders_by_codepoint_on w S hmono xs ys ha hb]
    rcases Nat.lt_trichotomy x y with h | rfl | h
    · simp [h, hmono x y sx sy h]
    · simp
    · have := hmono y x sy sx h
      simp [h, Nat.lt_asymm h, this, Int.lt_asymm this]

/-- A collation whose weights are strictly increasing in the code point orders strings by code point. -/
theorem bin_orders_by_codepoint (w : Nat → Int) (hmono : ∀ r s, r < s → w r < w s) :
    ∀ (a b : List Nat), cmpW (a.map w) (b.map w) = cmpCodepoints a b :=
  fun a b => bin_orders_by_codepoint_on w (fun _ => True) (fun r s _ _ => hmono r s) a b
    (fun _ _ => trivial) (fun _ _ => trivial)

example : cmpCodepoints [0x61, 0x10000] [0x61, 0xFFFF] = 1 := by decide

theorem likeNodes_literal (w : Nat → Int) (esc : Nat) : ∀ (p : List Nat),
    (∀ r ∈ p, r ≠ 95 ∧ r ≠ 37 ∧ r ≠ esc ∧ 0 ≤ w r) →
    likeNodes w esc p = some ((p.map w).map fun k => LikeNode.one (some k))
  | [], _ => rfl
  | r :: rest, h => by
    obtain ⟨h1, h2, h3, h4⟩ := h r (by simp)
    have ih := likeNodes_literal w esc rest (fun x hx => h x (by simp [hx]))
    have h5 : ¬ w r < 0 := by omega
    unfold likeNodes
    simp [h1, h2, h3, ih, litNode, h5]

theorem likeRun_literal : ∀ (ks xs : List Int),
    likeRun (ks.map fun k => LikeNode.one (some k)) xs = true ↔ xs = ks
  | [], xs => by cases xs <;> simp [likeRun]
  | k :: ks, [] => by simp [likeRun]
  | k :: ks, x :: xs => by
    simp only [List.map_cons, likeRun, Bool.and_eq_true, decide_eq_true_eq, List.cons.injEq]
    rw [likeRun_literal ks xs]

/-- **LIKE honours the collation**: for a pattern without wildcards, `s LIKE p` holds exactly
when `s = p` under the collation's comparison. -/
theorem like_literal_iff_compare (w : Nat → Int) (bin : Bool) (esc : Nat) (p s : List Nat)
    (hp : ∀ r ∈ runes bin p, r ≠ 95 ∧ r ≠ 37 ∧ r ≠ esc ∧ 0 ≤ w r)
    (hmp : malformed bin p = false) (hms : malformed bin s = false) :
    like w bin esc p s = some true ↔ compare w bin s p = some 0 := by
  unfold like
  rw [hmp, likeNodes_literal w esc _ hp, hms, compare_zero_iff_weights]
  simp only [Bool.false_eq_true, if_false, Bool.not_false, Bool.true_and, Option.some.injEq]
  exact likeRun_literal _ _

/-- `%` matches everything, `_` exactly one rune (whatever its weight). -/
theorem likeRun_any (xs : List Int) : likeRun [.any] xs = true := by
  induction xs with
  | nil => simp [likeRun, anySuffix]
  | cons x xs ih =>
    simp only [likeRun] at ih ⊢
    simp [anySuffix, ih]

theorem likeRun_one (xs : List Int) : likeRun [.one none] xs = true ↔ xs.length = 1 := by
  cases xs with
  | nil => simp [likeRun]
  | cons x t => cases t <;> simp [likeRun]

example : like (fun r => if 97 ≤ r ∧ r ≤ 122 then (r : Int) - 32 else r) false 92 [97, 37, 95] [65, 120, 121, 122] = some true ∧
    like (fun r => (r : Int)) false 92 [97, 37, 95] [65, 120, 121, 122] = some false ∧
    like (fun r => (r : Int)) false 92 [97, 92] [97] = none := by decide +kernel

/-! ### SQL operators on collated columns

Full statement (FALSE on the unchanged tree — `finding_in_literal_list_ignores_collation`):
`∀ w a b, sqlRowImpl w a b = sqlRowSpec w a b`. -/

/-- Equality under the literal's collation (`utf8mb4_0900_bin`, weight = code point) implies
equality under every collation. -/
theorem default_zero_imp_zero (w : Nat → Int) (a b : List Nat)
    (h : compareSpec wDefault false a b = 0) : compareSpec w false a b = 0 := by
  rw [compareSpec, cmpW_eq_zero_iff, List.map_inj_right (f := wDefault) fun _ _ => Int.ofNat_inj.1] at h
  rw [compareSpec, h, cmpW_refl]

theorem literal_test_agrees (w : Nat → Int) (a b : List Nat) (h : ¬ InLiteralRegion w a b) :
    (compare wDefault false a b == some 0) = (compareSpec w false a b == 0) := by
  rw [compare_refines, Bool.eq_iff_iff, beq_iff_eq, beq_iff_eq, Option.some.injEq]
  exact ⟨default_zero_imp_zero w a b, fun h0 => Decidable.by_contra fun h1 => h ⟨h0, h1⟩⟩

/-- Outside the region the operators `=`, `<`, `>`, `LIKE`, `IN (column list)`, `IN (literal
list)`, `<=>`, `STRCMP` all answer according to the column collation. -/
theorem sqlRow_partial (w : Nat → Int) (a b : List Nat) (h : ¬ InLiteralRegion w a b) :
    sqlRowImpl w a b = sqlRowSpec w a b := by
  rw [sqlRowImpl, sqlRowSpec, literal_test_agrees w a b h]

/-- Witness: column collation folds ASCII case, `a = 'abc'`, `b = 'ABC'`: `a IN ('ABC', …)` is 0
although `a = b`, `a IN (b, b)`, `a <=> b` are 1 and `STRCMP(a, b)` is 0. Replayed on the engine:
table `t_utf8mb4_0900_ai_ci`, row `('abc','ABC')` gives `1,0,0,1,1,0,1,0`. -/
theorem finding_in_literal_list_ignores_collation :
    ∃ (w : Nat → Int) (a b : List Nat), InLiteralRegion w a b ∧ sqlRowImpl w a b ≠ sqlRowSpec w a b :=
  ⟨fun r => if 97 ≤ r ∧ r ≤ 122 then (r : Int) - 32 else r, [97, 98, 99], [65, 66, 67], by decide +kernel⟩

/-- The same for the hash-based operators over stored rows: when no row is in the literal-IN
region with the probe, `WHERE a IN ('<y>', …)` counts the rows that compare equal to `y` under the
column collation (GROUP BY always yields the classes of the column collation). -/
theorem sqlHash_partial (w : Nat → Int) (rows : List (List Nat)) (y : List Nat)
    (h : ∀ r ∈ rows, ¬ InLiteralRegion w r y) : sqlHashImpl w rows y = sqlHashSpec w rows y := by
  rw [sqlHashImpl, sqlHashSpec, List.filter_congr fun r hr => literal_test_agrees w r y (h r hr)]

/-- Non-vacuity / what the `long` stream expects of three rows that differ only in a two-byte
character behind 63 ASCII bytes (`é`, `ñ`, `É` under a collation that folds `é`/`É`): one row
matches the probe, two groups. -/
example : sqlHashSpec (fun r => if r = 0xC9 then 0xE9 else r)
    [List.replicate 63 120 ++ [0xC3, 0xA9], List.replicate 63 120 ++ [0xC3, 0xB1], List.replicate 63 120 ++ [0xC3, 0x89]]
    (List.replicate 63 120 ++ [0xC3, 0xB1]) = ["1", "2"] := by decide +kernel

/-! ### Long strings: the position of a character does not matter

`WriteWeightString` / `Compare` decode the whole remaining string at every step (checked by
`weightDecodeSteps` / `compareDecodeSteps` in `facts_match`); nothing depends on how many bytes
precede a character. A prefix is *aligned* when decoding does not look across its end: a
multi-byte character at byte 63, 127, 4095, … behind such a prefix is told apart from another one
exactly as at byte 0. -/

def Aligned (p : List Nat) : Prop := ∀ s, runes false (p ++ s) = runes false p ++ runes false s

theorem aligned_nil : Aligned [] := by intro s; simp [runes_nil]

theorem aligned_append (p q : List Nat) (hp : Aligned p) (hq : Aligned q) : Aligned (p ++ q) := by
  intro s
  rw [List.append_assoc, hp (q ++ s), hq s, hp q, List.append_assoc]

theorem aligned_char {p : List Nat} {r : Nat} (h : ∀ s, runes false (p ++ s) = r :: runes false s) : Aligned p := by
  intro s
  have h0 := h []
  rw [List.append_nil, runes_nil] at h0
  rw [h s, h0, List.singleton_append]

theorem aligned_ascii_byte (b : Nat) (hb : b < 128) : Aligned [b] :=
  aligned_char fun s => runes_cons_ascii s hb

/-- a well-formed two-byte character (lead `C2..DF`, continuation `80..BF`) is aligned -/
theorem aligned_two_byte (b0 b1 : Nat) (h0 : 0xC2 ≤ b0 ∧ b0 < 0xE0) (h1 : 0x80 ≤ b1 ∧ b1 ≤ 0xBF) :
    Aligned [b0, b1] :=
  aligned_char fun s => runes_cons_two_byte s h0 h1

/-- every ASCII string is aligned -/
theorem aligned_ascii : ∀ (p : List Nat), (∀ c ∈ p, c < 128) → Aligned p := by
  intro p h
  induction p with
  | nil => exact aligned_nil
  | cons b t ih =>
    exact aligned_append [b] t (aligned_ascii_byte b (h b List.mem_cons_self))
      (ih fun c hc => h c (List.mem_cons_of_mem _ hc))

/-- **Weight strings are position independent**: behind an aligned prefix of any length the
weight string continues exactly as for the tail alone. -/
theorem writeWeights_append (w : Nat → Int) (p s : List Nat) (hp : Aligned p) :
    writeWeights w false (p ++ s) = some (weightsSpec w p ++ weightsSpec w s) := by
  rw [writeWeights_eq]
  simp [weightsSpec, hp s, List.map_append, List.flatMap_append]

theorem compare_append (w : Nat → Int) {p : List Nat} (hp : Aligned p) (x y : List Nat) :
    compare w false (p ++ x) (p ++ y) = compare w false x y := by
  rw [compare_refines, compare_refines, compareSpec, hp x, hp y, List.map_append, List.map_append,
    cmpW_append_left, compareSpec]

/-- **A common aligned prefix cancels**, whatever its length: comparison and weight-string
equality of `p ++ x` and `p ++ y` are those of `x` and `y`. -/
theorem common_prefix_cancels (w : Nat → Int) (hw : ∀ r, -2147483648 ≤ w r ∧ w r < 2147483648)
    (p x y : List Nat) (hp : Aligned p) :
    (compare w false (p ++ x) (p ++ y) = some 0 ↔ compare w false x y = some 0) ∧
    (writeWeights w false (p ++ x) = writeWeights w false (p ++ y) ↔ compare w false x y = some 0) := by
  exact ⟨by rw [compare_append w hp], by rw [← compare_zero_iff_weightString w hw, compare_append w hp]⟩

/-- The input class of the `long` stream: `n` ASCII bytes (any `n`: 63, 127, 4095, …), then two
different two-byte characters `é` / `ñ`, then `z` — never equal, never the same weight string,
under any weight function that separates the two characters. -/
theorem straddling_char_distinguishes (w : Nat → Int) (hw : ∀ r, -2147483648 ≤ w r ∧ w r < 2147483648)
    (hne : w 0xE9 ≠ w 0xF1) (n : Nat) :
    compare w false (List.replicate n 120 ++ [0xC3, 0xA9, 122]) (List.replicate n 120 ++ [0xC3, 0xB1, 122]) ≠ some 0 ∧
    writeWeights w false (List.replicate n 120 ++ [0xC3, 0xA9, 122]) ≠
      writeWeights w false (List.replicate n 120 ++ [0xC3, 0xB1, 122]) := by
  have hp : Aligned (List.replicate n 120) :=
    aligned_ascii _ fun c hc => by
      rw [(List.mem_replicate.1 hc).2]
      decide
  have hc := common_prefix_cancels w hw (List.replicate n 120) [0xC3, 0xA9, 122] [0xC3, 0xB1, 122] hp
  -- the two tails decode to `é z` and `ñ z`
  have hx : ¬ compare w false [0xC3, 0xA9, 122] [0xC3, 0xB1, 122] = some 0 := by
    rw [compare_zero_iff_weights, runes_cons_two_byte _ (by decide) (by decide),
      runes_cons_two_byte _ (by decide) (by decide)]
    exact fun h => hne (List.cons.inj h).1
  exact ⟨fun h => hx (hc.1.1 h), fun h => hx (hc.2.1 h)⟩

/-- Non-vacuity: the code-point weight function at prefix lengths 63 and 127. -/
example : compare (fun r => (r : Int)) false (List.replicate 63 120 ++ [0xC3, 0xA9, 122]) (List.replicate 63 120 ++ [0xC3, 0xB1, 122]) = some (-1) ∧
    Aligned (List.replicate 127 120 ++ [0xC3, 0xA9]) :=
  ⟨by decide +kernel, aligned_append _ _ (aligned_ascii _ (by intro c hc; rw [List.mem_replicate] at hc; omega))
    (aligned_two_byte _ _ (by omega) (by omega))⟩

/-! ### Regenerated facts (Gms/Generated/C29.lean, rewritten on every run)

`facts_match` ties the model to the shape of the Go code it transliterates (the tests that guard the
"malformed string" exits — note `aRead == utf8.RuneError` compares a *size* with U+FFFD —, the
weight comparison, the little-endian byte writes, the `Collation_binary` special case, the LIKE
matcher's tests). The per-table facts are decided by kernel evaluation over the complete dumped
tables of **every** collation that has a `Sorter` and an encoder. -/

section Facts
open Gms.Generated.C29

theorem facts_match :
    compareMalformedTests = ["aRead == 0", "bRead == 0", "aRead == utf8.RuneError", "bRead == utf8.RuneError"] ∧
    compareTests = ["aWeight < bWeight", "aWeight > bWeight", "len(as) < len(bs)", "len(as) > len(bs)"] ∧
    weightMalformedTests = ["strRead == 0", "strRead == utf8.RuneError"] ∧
    weightByteWrites = ["i * 4 <- byte(runeWeight)", "i*4 + 1 <- byte(runeWeight >> 8)",
      "i*4 + 2 <- byte(runeWeight >> 16)", "i*4 + 3 <- byte(runeWeight >> 24)"] ∧
    weightBinaryCase = "c == Collation_binary" ∧
    -- one loop over the whole remaining string, one decoder call on it, advance by the decoded size: no chunk /
    -- window of the input (the only bounded slice is the 4-byte window of the output buffer)
    weightDecodeSteps = ["for len(str) > 0", "decode utf8.DecodeRuneInString(str)", "window buf[i*4 : i*4+4]",
      "slice str = str[strRead:]"] ∧
    compareDecodeSteps = ["for len(as) > 0 && len(bs) > 0", "decode encoder.NextRune(as)", "decode encoder.NextRune(bs)",
      "slice as = as[aRead:]", "slice bs = bs[bRead:]"] ∧
    likeMalformedTests_ConstructLikeMatcher = ["nextRune == utf8.RuneError && advance <= 1", "nextRune == utf8.RuneError && advance <= 1"] ∧
    likeMalformedTests_Match = ["nextRune == utf8.RuneError && advance <= 1"] ∧
    likeMalformedTests_backtrack = ["nextRune == utf8.RuneError && advance <= 1"] ∧
    likeRuneMatchTest = "l.sortOrder < 0 || collation.Sorter()(r) == l.sortOrder" ∧
    tableSize = 768 :=
  ⟨rfl, rfl, rfl, rfl, rfl, rfl, rfl, rfl, rfl, rfl, rfl, rfl⟩

/-- The weight function of a dumped collation. -/
def wOf (k : Coll) : Nat → Int := tableW tableSize k.tbl

theorem wOf_lt (k : Coll) (r : Nat) (h : r < 768) : wOf k r = weightAt k.tbl r := by
  simp [wOf, tableW, tableSize, h]

/-- Hypothesis `hw` of the coherence theorems holds for every dumped table entry (and for the
default weight): the weights are `int32`s. -/
theorem wOf_int32 (k : Coll) (r : Nat) : -2147483648 ≤ wOf k r ∧ wOf k r < 2147483648 := by
  unfold wOf tableW weightAt defaultWeight
  split
  · simp only []  -- reduces the `let u` of `weightAt`, so that `split` sees its `if`
    split <;> omega
  · omega

theorem table_nonempty : (table.length == 183 && (table.filter (·.ci)).length == 140 &&
    (table.filter (·.bin)).length == 15) = true := by decide +kernel

/-- Coherence instantiated: for every dumped non-binary collation, `Compare = 0` ⇔ equal weight
strings (the tables only matter through `wOf_int32`). -/
theorem table_compare_zero_iff_weightString (k : Coll) (a b : List Nat) :
    compare (wOf k) false a b = some 0 ↔ writeWeights (wOf k) false a = writeWeights (wOf k) false b :=
  compare_zero_iff_weightString (wOf k) (wOf_int32 k) a b

/-- (collation id, name, upper-case rune) triples whose lower-case partner has a different weight
on the unchanged tree — the regions of the findings `ci_turkish_dotted_i` (I/i, and Ì Í Î Ï in the
0900 tailoring) and `ci_latin7_general_pairs`. (Tests go through the numeric id: string equality is
slow in the kernel; `facts_ci_exceptions_tight` ties ids to names.) -/
def ciExceptions : List (Nat × String × Nat) :=
  [(41, "latin7_general_ci", 84),
   (110, "utf16_turkish_ci", 73), (169, "utf32_turkish_ci", 73), (201, "utf8mb3_turkish_ci", 73),
   (233, "utf8mb4_turkish_ci", 73),
   (265, "utf8mb4_tr_0900_ai_ci", 73), (265, "utf8mb4_tr_0900_ai_ci", 204), (265, "utf8mb4_tr_0900_ai_ci", 205),
   (265, "utf8mb4_tr_0900_ai_ci", 206), (265, "utf8mb4_tr_0900_ai_ci", 207)]

def ciExc (id c : Nat) : Bool := ciExceptions.any fun e => e.1 == id && e.2.2 == c

def CiRegion (k : Coll) (c : Nat) : Prop := ciExc k.id c = true

/-- A–Z -/
def asciiUpper : List Nat := List.range' 65 26
/-- À–Þ without × -/
def latin1Upper : List Nat := (List.range' 192 31).filter (· != 215)

theorem mem_asciiUpper {c : Nat} : c ∈ asciiUpper ↔ 65 ≤ c ∧ c ≤ 90 := by
  simp only [asciiUpper, List.mem_range'_1]
  omega

theorem mem_latin1Upper {c : Nat} : c ∈ latin1Upper ↔ 192 ≤ c ∧ c ≤ 222 ∧ c ≠ 215 := by
  simp only [latin1Upper, List.mem_filter, List.mem_range'_1, bne_iff_ne, ne_eq]
  omega

/-- the 32-bit field of rune `r` that `weightAt` sign-extends; the kernel compares fields faster than `Int`s -/
def rawAt (tbl r : Nat) : Nat := (tbl >>> (32 * r)) % 4294967296

theorem weightAt_of_raw (tbl r : Nat) :
    weightAt tbl r = if rawAt tbl r ≥ 2147483648 then (rawAt tbl r : Int) - 4294967296 else (rawAt tbl r : Int) := rfl

/-- The table is looked at first, so that evaluation reaches the exception list only for pairs
that differ. -/
def foldsAt (k : Coll) (c : Nat) : Bool := rawAt k.tbl c == rawAt k.tbl (c + 32) || ciExc k.id c

theorem foldsAt_spec {k : Coll} {c : Nat} (h : foldsAt k c = true) :
    ciExc k.id c = true ∨ weightAt k.tbl c = weightAt k.tbl (c + 32) := by
  simp only [foldsAt, Bool.or_eq_true, beq_iff_eq] at h
  exact h.symm.imp_right fun h => by rw [weightAt_of_raw, weightAt_of_raw, h]

/-- the `n` fields from rune `a` on, as one number -/
def block (tbl a n : Nat) : Nat := (tbl >>> (32 * a)) % 2 ^ (32 * n)

theorem rawAt_of_block {tbl a n i : Nat} (h : i < n) :
    rawAt tbl (a + i) = rawAt (block tbl a n) i := by
  apply Nat.eq_of_testBit_eq
  intro j
  rw [rawAt, rawAt, block, show 4294967296 = 2 ^ 32 from rfl]
  simp only [Nat.testBit_mod_two_pow, Nat.testBit_shiftRight]
  by_cases hj : j < 32
  · have : 32 * i + j < 32 * n := by omega
    simp [hj, this, Nat.mul_add, Nat.add_assoc]
  · simp [hj]

/-- One comparison of two blocks, where `foldsAt` extracts two fields per rune. It fails on a
collation with an exception pair in the range; the sweeps below then fall back on `foldsAt`. -/
def foldsRange (k : Coll) (a n : Nat) : Bool := block k.tbl a n == block k.tbl (a + 32) n

theorem foldsRange_spec {k : Coll} {a n c : Nat} (h : foldsRange k a n = true) (h1 : a ≤ c) (h2 : c < a + n) :
    foldsAt k c = true := by
  obtain ⟨i, rfl⟩ : ∃ i, c = a + i := ⟨c - a, by omega⟩
  rw [foldsAt, show a + i + 32 = a + 32 + i by omega, rawAt_of_block (n := n) (by omega),
    rawAt_of_block (n := n) (by omega), beq_iff_eq.1 h, beq_self_eq_true, Bool.true_or]

theorem facts_ci_fold_ascii_b : table.all (fun k => !k.ci || foldsRange k 65 26 ||
    asciiUpper.all (foldsAt k)) = true := by decide +kernel

/-- Every `_ci` collation gives every ASCII upper-case letter the weight of its lower-case
partner, except the listed pairs. -/
theorem facts_ci_fold_ascii : ∀ k ∈ table, k.ci = true → ∀ c ∈ asciiUpper,
    ciExc k.id c = true ∨ weightAt k.tbl c = weightAt k.tbl (c + 32) := by
  intro k hk hci c hc
  have h := List.all_eq_true.1 facts_ci_fold_ascii_b k hk
  simp only [hci, Bool.not_true, Bool.false_or, Bool.or_eq_true, List.all_eq_true] at h
  have hr := mem_asciiUpper.1 hc
  exact foldsAt_spec (h.elim (fun hb => foldsRange_spec hb hr.1 (by omega)) fun ha => ha c hc)

theorem facts_ci_fold_latin1_b : table.all (fun k => !k.ci || !decide (k.maxLen > 1) ||
    (foldsRange k 192 23 && foldsRange k 216 7) || latin1Upper.all (foldsAt k)) = true := by decide +kernel

/-- The same for the Latin-1 letters À–Þ (without ×) in the `_ci` collations of the Unicode
character sets. -/
theorem facts_ci_fold_latin1 : ∀ k ∈ table, k.ci = true → k.maxLen > 1 → ∀ c ∈ latin1Upper,
    ciExc k.id c = true ∨ weightAt k.tbl c = weightAt k.tbl (c + 32) := by
  intro k hk hci hm c hc
  have h := List.all_eq_true.1 facts_ci_fold_latin1_b k hk
  simp only [hci, hm, decide_true, Bool.not_true, Bool.false_or, Bool.or_eq_true, Bool.and_eq_true,
    List.all_eq_true] at h
  have hr := mem_latin1Upper.1 hc
  refine foldsAt_spec (h.elim (fun hb => ?_) fun ha => ha c hc)
  by_cases h215 : c < 215
  · exact foldsRange_spec hb.1 hr.1 (by omega)
  · exact foldsRange_spec hb.2 (by omega) (by omega)

/-- The exception list is tight: every listed pair really differs (if a pair gets repaired the
list must shrink). These are the witnesses of the two `ci_*` findings; replayed on the real
code by the harness (`Compare("I","i")` under `utf8mb4_turkish_ci` = -1, `Compare("T","t")`
under `latin7_general_ci` = 1). -/
theorem facts_ci_exceptions_tight : ciExceptions.all (fun e => table.any fun k =>
    k.id == e.1 && k.name == e.2.1 && k.ci && weightAt k.tbl e.2.2 != weightAt k.tbl (e.2.2 + 32)) = true := by
  decide +kernel

theorem ci_exception_compares {id c : Nat} {name : String} (he : (id, name, c) ∈ ciExceptions)
    (hc : c + 32 < 128) :
    ∃ k, k ∈ table ∧ k.ci = true ∧ k.name = name ∧ compare (wOf k) false [c] [c + 32] ≠ some 0 := by
  obtain ⟨k, hk, hp⟩ := List.any_eq_true.1 (List.all_eq_true.1 facts_ci_exceptions_tight _ he)
  simp only [Bool.and_eq_true, beq_iff_eq, bne_iff_ne, ne_eq] at hp
  refine ⟨k, hk, hp.1.2, hp.1.1.2, ?_⟩
  rw [ne_eq, compare_ascii_chars _ (by omega) hc, wOf_lt k c (by omega), wOf_lt k (c + 32) (by omega)]
  exact hp.2

theorem finding_ci_turkish_dotted_i : ∃ k, k ∈ table ∧ k.ci = true ∧ k.name = "utf8mb4_turkish_ci" ∧
    compare (wOf k) false [73] [105] ≠ some 0 :=
  -- `name` and `c` come from the goal (`?c + 32` against `105`); the id is the one thing it does not determine
  ci_exception_compares (id := 233) (by decide) (by decide)

theorem finding_ci_latin7_general_pairs : ∃ k, k ∈ table ∧ k.ci = true ∧ k.name = "latin7_general_ci" ∧
    compare (wOf k) false [84] [116] ≠ some 0 :=
  ci_exception_compares (id := 41) (by decide) (by decide)

/-- `m` is the bit set of the elements seen so far: one pass over the list, where `eraseDups`
compares every pair. -/
def distinctFrom : List Nat → Nat → Bool
  | [], _ => true
  | i :: l, m => !m.testBit i && distinctFrom l (m ||| 1 <<< i)

theorem distinctFrom_spec : ∀ (l : List Nat) (m : Nat), distinctFrom l m = true →
    l.Pairwise (· ≠ ·) ∧ ∀ j ∈ l, m.testBit j = false
  | [], _, _ => ⟨.nil, fun _ h => nomatch h⟩
  | i :: l, m, h => by
    simp only [distinctFrom, Bool.and_eq_true, Bool.not_eq_true'] at h
    obtain ⟨hl, hm⟩ := distinctFrom_spec l _ h.2
    simp only [Nat.testBit_or, Nat.one_shiftLeft, Nat.testBit_two_pow, Bool.or_eq_false_iff,
      decide_eq_false_iff_not] at hm
    exact ⟨List.pairwise_cons.2 ⟨fun j hj => (hm j hj).2, hl⟩,
      fun j hj => (List.mem_cons.1 hj).elim (fun e => e ▸ h.1) fun hj => (hm j hj).1⟩

theorem eraseDups_of_pairwise_ne : ∀ {l : List Nat}, l.Pairwise (· ≠ ·) → l.eraseDups = l
  | [], _ => rfl
  | a :: l, h => by
    obtain ⟨ha, hl⟩ := List.pairwise_cons.1 h
    rw [List.eraseDups_cons, List.filter_eq_self.2 fun b hb => by simpa using (ha b hb).symm,
      eraseDups_of_pairwise_ne hl]

/-- ids identify collations -/
theorem facts_ids_distinct : (table.map (·.id)).eraseDups.length = table.length := by
  have h : distinctFrom (table.map (·.id)) 0 = true := by decide +kernel
  rw [eraseDups_of_pairwise_ne (distinctFrom_spec _ _ h).1, List.length_map]

def foldLower (latin1 : Bool) (c : Nat) : Nat :=
  if (65 ≤ c ∧ c ≤ 90) ∨ (latin1 = true ∧ 192 ≤ c ∧ c ≤ 222 ∧ c ≠ 215) then c + 32 else c

theorem foldLower_lt {c : Nat} (h : c < 128) : foldLower false c < 128 := by
  unfold foldLower
  split <;> omega

theorem wOf_foldLower {k : Coll} (hk : k ∈ table) (hci : k.ci = true) {latin1 : Bool}
    (hl : latin1 = true → k.maxLen > 1) {c : Nat} (hc : ¬ CiRegion k c) :
    wOf k (foldLower latin1 c) = wOf k c := by
  unfold foldLower
  split
  · rename_i hcase
    have hfold : c ≤ 222 ∧ (ciExc k.id c = true ∨ weightAt k.tbl c = weightAt k.tbl (c + 32)) := by
      rcases hcase with h | ⟨hl', h⟩
      · exact ⟨by omega, facts_ci_fold_ascii k hk hci c (mem_asciiUpper.2 h)⟩
      · exact ⟨by omega, facts_ci_fold_latin1 k hk hci (hl hl') c (mem_latin1Upper.2 h)⟩
    rw [wOf_lt k c (by omega), wOf_lt k (c + 32) (by omega)]
    -- `CiRegion k c` is `ciExc k.id c = true`
    exact (hfold.2.resolve_left hc).symm
  · rfl

/-- Full statement (FALSE on the unchanged tree, see the two `finding_ci_*`): without the guard
`¬ CiRegion`. **Partial**: for every `_ci` collation of the compiled code, a rune string and its
lower-cased form (A–Z, and À–Þ for the Unicode character sets) have equal weight lists, hence
compare equal, have equal weight strings and equal hashes — provided no rune is one of the
listed exception pairs. -/
theorem ci_collations_equate_case_partial : ∀ k ∈ table, k.ci = true → ∀ (s : List Nat),
    (∀ c ∈ s, ¬ CiRegion k c) →
    cmpW (s.map (wOf k)) ((s.map (foldLower (decide (k.maxLen > 1)))).map (wOf k)) = 0 :=
  fun _ hk hci _ hs => ci_equates_case_on fun c hc => wOf_foldLower hk hci of_decide_eq_true (hs c hc)

/-- The Go-level corollary: `StringType.Compare` of an ASCII string and its lower-cased form is 0
under every `_ci` collation of the compiled code (outside the exception pairs). -/
theorem ci_compare_ascii_partial : ∀ k ∈ table, k.ci = true → ∀ (s : List Nat),
    (∀ c ∈ s, c < 128) → (∀ c ∈ s, ¬ CiRegion k c) →
    compare (wOf k) false s (s.map (foldLower false)) = some 0 := by
  intro k hk hci s hascii hs
  rw [compare_zero_iff_weights, runes_ascii s hascii,
    runes_ascii _ (List.forall_mem_map.2 fun c hc => foldLower_lt (hascii c hc)), ← cmpW_eq_zero_iff]
  exact ci_equates_case_on fun c hc => wOf_foldLower (latin1 := false) hk hci nofun (hs c hc)

example : compare (wOf c_255) false [72, 105, 33] ([72, 105, 33].map (foldLower false)) = some 0 ∧
    [72, 105, 33].map (foldLower false) = [104, 105, 33] := by decide +kernel

/-- The table in which every rune of the dumped range weighs its code point. -/
def idBlock : Nat := (List.range 768).foldr (fun r acc => acc * 4294967296 + r) 0

theorem facts_idBlock : (List.range 768).all (fun r => weightAt idBlock r == (r : Int)) = true := by decide +kernel

theorem facts_bin_identity_b : table.all (fun k => !k.bin || !decide (k.maxLen > 1) ||
    k.tbl == idBlock) = true := by decide +kernel

/-- `_bin` collations of the Unicode character sets (and their `0900` variant): weight = code
point on the whole dumped range. -/
theorem facts_bin_identity : ∀ k ∈ table, k.bin = true → k.maxLen > 1 → ∀ r ∈ List.range 768,
    weightAt k.tbl r = (r : Int) := by
  intro k hk hb hm r hr
  have h := List.all_eq_true.1 facts_bin_identity_b k hk
  simp only [hb, hm, decide_true, Bool.not_true, Bool.false_or, beq_iff_eq] at h
  rw [h]
  exact beq_iff_eq.1 (List.all_eq_true.1 facts_idBlock r hr)

/-- one pass: the `some` entries increase strictly (`p` = the last one seen) -/
def strictInc : Option Int → List (Option Int) → Bool
  | _, [] => true
  | p, none :: t => strictInc p t
  | none, some x :: t => strictInc (some x) t
  | some p, some x :: t => decide (p < x) && strictInc (some x) t

theorem strictInc_spec : ∀ (l : List (Option Int)) (p : Option Int), strictInc p l = true →
    List.Pairwise (fun a b => ∀ x ∈ a, ∀ y ∈ b, x < y) (p :: l)
  | [], _, _ => List.pairwise_singleton _ _
  | none :: t, p, h => by
    obtain ⟨h1, h2⟩ := List.pairwise_cons.1 (strictInc_spec t p h)
    exact List.pairwise_cons.2 ⟨List.forall_mem_cons.2 ⟨fun _ _ => nofun, h1⟩,
      List.pairwise_cons.2 ⟨fun _ _ => nofun, h2⟩⟩
  | some x :: t, none, h => List.pairwise_cons.2 ⟨fun _ _ => nofun, strictInc_spec t (some x) h⟩
  | some x :: t, some p, h => by
    simp only [strictInc, Bool.and_eq_true, decide_eq_true_eq] at h
    have ih := strictInc_spec t (some x) h.2
    refine List.pairwise_cons.2 ⟨fun b hb p' hp' y hy => ?_, ih⟩
    cases hp'
    -- `p < x`, and `x` is below everything after it
    rcases List.mem_cons.1 hb with rfl | hb
    · cases hy; exact h.1
    · exact Int.lt_trans h.1 ((List.pairwise_cons.1 ih).1 b hb x rfl y hy)

theorem facts_bin_single_byte_strictInc_b : table.all (fun k => !k.bin || !(k.maxLen == 1) ||
    strictInc none ((List.range 256).map (byteWeightAt k.byteW))) = true := by decide +kernel

/-- `binary` and the `_bin` collations of the one-byte character sets: the weights of the
characters increase strictly with the byte that encodes them (all 256 bytes). -/
theorem facts_bin_single_byte_strictInc : ∀ k ∈ table, k.bin = true → k.maxLen = 1 →
    strictInc none ((List.range 256).map (byteWeightAt k.byteW)) = true := by
  intro k hk hb hm
  have h := List.all_eq_true.1 facts_bin_single_byte_strictInc_b k hk
  simpa only [hb, hm, beq_self_eq_true, Bool.not_true, Bool.false_or] using h

theorem facts_bin_single_byte_order (k : Coll) (hk : k ∈ table) (hb : k.bin = true) (hm : k.maxLen = 1)
    (i j : Nat) (hj : j < 256) (hij : i < j) :
    ∀ x ∈ byteWeightAt k.byteW i, ∀ y ∈ byteWeightAt k.byteW j, x < y := by
  have h := (List.pairwise_cons.1 (strictInc_spec _ none (facts_bin_single_byte_strictInc k hk hb hm))).2
  rw [List.pairwise_iff_getElem] at h
  have := h i j (by simpa using Nat.lt_trans hij hj) (by simpa using hj) hij
  simpa using this

/-- **Binary collations of the Unicode character sets order by code point** (runes of the dumped
range; the harness checks monotonicity of the real `Sorter` over all code points). -/
theorem bin_collations_order_by_codepoint : ∀ k ∈ table, k.bin = true → k.maxLen > 1 →
    ∀ (a b : List Nat), (∀ r ∈ a, r < 768) → (∀ r ∈ b, r < 768) →
    cmpW (a.map (wOf k)) (b.map (wOf k)) = cmpCodepoints a b := by
  intro k hk hb hm
  apply bin_orders_by_codepoint_on (wOf k) (· < 768)
  intro r s hr hs hrs
  rw [wOf_lt k r hr, wOf_lt k s hs,
    facts_bin_identity k hk hb hm r (List.mem_range.2 hr), facts_bin_identity k hk hb hm s (List.mem_range.2 hs)]
  omega

/-- The weight function of a one-byte character set over its *bytes* (character codes). -/
def byteW (k : Coll) (b : Nat) : Int := (byteWeightAt k.byteW b).getD defaultWeight

/-- **Binary collations of the one-byte character sets (and `binary`) order by the character code
in the character set**: strings given as lists of character codes compare like the code lists. -/
theorem bin_single_byte_orders_by_charset_code : ∀ k ∈ table, k.bin = true → k.maxLen = 1 →
    ∀ (a b : List Nat), (∀ c ∈ a, c < 256 ∧ (byteWeightAt k.byteW c).isSome) →
      (∀ c ∈ b, c < 256 ∧ (byteWeightAt k.byteW c).isSome) →
    cmpW (a.map (byteW k)) (b.map (byteW k)) = cmpCodepoints a b := by
  intro k hk hb hm
  apply bin_orders_by_codepoint_on (byteW k) (fun c => c < 256 ∧ (byteWeightAt k.byteW c).isSome)
  intro r s ⟨_, hr2⟩ ⟨hs, hs2⟩ hrs
  obtain ⟨x, hx⟩ := Option.isSome_iff_exists.1 hr2
  obtain ⟨y, hy⟩ := Option.isSome_iff_exists.1 hs2
  have := facts_bin_single_byte_order k hk hb hm r s hs hrs x (by simp [hx]) y (by simp [hy])
  simp [byteW, hx, hy, this]

/-- Full statement of the property's wording "binary collations order by (Unicode) code point":
FALSE for the `_bin` collations of one-byte character sets whose byte order differs from the
code-point order (they order by character code in the set, as MySQL does — theorem above).
Witness: `armscii8_bin`, U+00AB « (byte 0xA7) sorts after U+00BB » (byte 0xA6). -/
theorem finding_bin_single_byte_charset_order : ∃ k, k ∈ table ∧ k.bin = true ∧ k.maxLen = 1 ∧
    k.name = "armscii8_bin" ∧ cmpCodepoints [171] [187] = -1 ∧ compare (wOf k) false [194, 171] [194, 187] = some 1 := by
  have h : table.any (fun k => k.bin && k.maxLen == 1 && k.name == "armscii8_bin" &&
      decide (cmpCodepoints [171] [187] = -1) && decide (compare (wOf k) false [194, 171] [194, 187] = some 1)) = true := by
    decide +kernel
  obtain ⟨k, hk, hp⟩ := List.any_eq_true.1 h
  simp only [Bool.and_eq_true, beq_iff_eq, decide_eq_true_eq] at hp
  exact ⟨k, hk, hp.1.1.1.1, hp.1.1.1.2, hp.1.1.2, hp.1.2, hp.2⟩

end Facts

end Gms.C29
