/-
C04 — ORDER BY output is ordered and LIMIT/OFFSET select the right slice.

The Impl models of Gms/Model/Sort.lean (`RowSorter.CompareRows`, `sort.Stable`, the top-N heap, the
LIMIT-1 scan, the plan `Offset(m, TopN(n+m))`) compute the ORDER BY and LIMIT/OFFSET of the SQL
definition (`Gms.Rel.orderRows`, `limitRows`), for all rows, key lists, directions, limits and offsets;
that ordering is a total preorder with NULLs lowest, so "sorted" is meaningful.
-/
import Gms.Lemmas.Sort
import Gms.Generated.C04

namespace Gms.C04
open Gms.Sql Gms.Rel Gms.Sort List

/-- `CompareRows` (Impl) = the reference key comparison (Spec). -/
theorem cmpRows_impl_eq_spec (ds : List Bool) (a b : Row) : cmpRowsImpl ds a b = keysCmp ds a b := by
  induction a generalizing ds b with
  | nil => cases ds <;> simp [cmpRowsImpl, keysCmp]
  | cons x as ih =>
    cases b with
    | nil => cases ds <;> simp [cmpRowsImpl, keysCmp]
    | cons y bs =>
      rw [cmpRowsImpl_cons, keysCmp_cons, cmpKeyImpl_eq, ih]
      cases dcmp (ds.headD false) x y <;> rfl

/-- The row comparison of ORDER BY is a total preorder (keys of one length). -/
theorem cmpRows_total_preorder (ds : List Bool) (key : Row → Row) (k : Nat) (hk : ∀ r, (key r).length = k) :
    TotalPre (fun a b => keysCmp ds (key a) (key b)) where
  swap a b := keysCmp_swap ds (key a) (key b)
  trans a b c := by
    simpa only [Ordering.isLE_iff_ne_gt] using
      keysCmp_isLE_trans ds (key a) (key b) (key c) (by rw [hk, hk]) (by rw [hk, hk])

theorem ltImpl_eq (ds : List Bool) (key : Row → Row) :
    ltImpl ds key = ltOf (fun a b => keysCmp ds (key a) (key b)) := by
  funext a b
  simp [ltImpl, ltOf, cmpRows_impl_eq_spec]

theorem orderRows_eq (ds : List Bool) (key : Row → Row) (rows : List Row) :
    orderRows ds key rows = sortBy (leOf (fun a b => keysCmp ds (key a) (key b))) rows := rfl

/-- `sort.Stable` over `RowSorter` (Impl) = the reference ORDER BY (Spec): same sequence. -/
theorem sort_impl_eq_spec (ds : List Bool) (key : Row → Row) (k : Nat) (hk : ∀ r, (key r).length = k)
    (rows : List Row) : sortL2R (ltImpl ds key) rows = orderRows ds key rows := by
  rw [ltImpl_eq, orderRows_eq]
  exact sortL2R_eq_sortBy (cmpRows_total_preorder ds key k hk) rows

/-- The output of ORDER BY is ordered: no row is followed (anywhere later) by a strictly smaller one. -/
theorem sort_sorted (ds : List Bool) (key : Row → Row) (k : Nat) (hk : ∀ r, (key r).length = k) (rows : List Row) :
    (orderRows ds key rows).Pairwise (fun a b => keysCmp ds (key a) (key b) ≠ .gt) := by
  have h := cmpRows_total_preorder ds key k hk
  rw [orderRows_eq]
  exact (sortBy_sorted _ h.le_total h.le_trans rows).imp leOf_iff.mp

/-- … and a permutation of its input (no row lost, duplicated or invented). -/
theorem sort_perm (ds : List Bool) (key : Row → Row) (rows : List Row) : orderRows ds key rows ~ rows :=
  sortBy_perm _ rows

/-- **Top-N heap = the first n rows of the stable sort**, exactly. -/
theorem topN_spec (ds : List Bool) (key : Row → Row) (k : Nat) (hk : ∀ r, (key r).length = k) (n : Nat)
    (rows : List Row) : topN (ltImpl ds key) n rows = (orderRows ds key rows).take n := by
  rw [topN_eq_take_sort, sort_impl_eq_spec ds key k hk]

/-- The LIMIT-1 scan (`topRowIter`) returns the first row of the ordering. -/
theorem top1_spec (ds : List Bool) (key : Row → Row) (k : Nat) (hk : ∀ r, (key r).length = k)
    (rows : List Row) : top1 (ltImpl ds key) rows = (orderRows ds key rows).head? := by
  rw [top1_eq_head_sort, sort_impl_eq_spec ds key k hk]

/-- `Offset(m, TopN(n + m))` = rows m+1 … m+n of the ordering. -/
theorem limit_offset_slice (ds : List Bool) (key : Row → Row) (k : Nat) (hk : ∀ r, (key r).length = k)
    (n m : Nat) (rows : List Row) :
    topNPlan (ltImpl ds key) n m rows = limitRows n m (orderRows ds key rows) := by
  rw [topNPlan_eq_slice, sort_impl_eq_spec ds key k hk]
  rfl

theorem evalEs_length (db : Db) (env : Env) (es : List Expr) : (evalEs db env es).length = es.length := by
  rw [evalEs_eq_map, List.length_map]

/-- The SQL definition of `… ORDER BY ks LIMIT n OFFSET m` is what the engine's plan computes. -/
theorem eval_limit_orderBy (db : Db) (env : Env) (ks : List Expr) (ds : List Bool) (n m : Nat) (q : Query) :
    evalQ db env (.limit n m (.orderBy ks ds q))
      = topNPlan (ltImpl ds (fun r => evalEs db (r :: env) ks)) n m (evalQ db env q) := by
  rw [limit_offset_slice ds _ ks.length (fun r => evalEs_length db (r :: env) ks)]
  simp [evalQ]

theorem eval_orderBy (db : Db) (env : Env) (ks : List Expr) (ds : List Bool) (q : Query) :
    evalQ db env (.orderBy ks ds q)
      = sortL2R (ltImpl ds (fun r => evalEs db (r :: env) ks)) (evalQ db env q) := by
  rw [sort_impl_eq_spec ds _ ks.length (fun r => evalEs_length db (r :: env) ks)]
  simp [evalQ]

/-- ASC: NULL sorts before every non-NULL value. -/
theorem nulls_first_asc (v : Value) (hv : v ≠ .null) (rest : List Bool) (as bs : Row) :
    keysCmp (false :: rest) (.null :: as) (v :: bs) = .lt := by
  cases v with
  | null => exact absurd rfl hv
  | int i => simp [keysCmp, Value.ord]
  | str s => simp [keysCmp, Value.ord]

/-- DESC: NULL sorts after every non-NULL value. -/
theorem nulls_last_desc (v : Value) (hv : v ≠ .null) (rest : List Bool) (as bs : Row) :
    keysCmp (true :: rest) (.null :: as) (v :: bs) = .gt := by
  cases v with
  | null => exact absurd rfl hv
  | int i => simp [keysCmp, Value.ord, Ordering.swap]
  | str s => simp [keysCmp, Value.ord, Ordering.swap]

/-- In the output of `ORDER BY k ASC`, a row whose key is not NULL is never followed by a row
whose key is NULL (NULLs first); under DESC it is never preceded by one (NULLs last). -/
theorem sorted_nulls_first (d : Bool) (kf : Row → Value) (rows : List Row) :
    (orderRows [d] (fun r => [kf r]) rows).Pairwise
      (fun a b => if d then (kf a = .null → kf b = .null) else (kf b = .null → kf a = .null)) := by
  refine (sort_sorted [d] (fun r => [kf r]) 1 (fun _ => rfl) rows).imp fun {a b} hab => ?_
  cases d
  · intro hb
    refine Decidable.byContradiction fun ha => hab ?_
    rw [hb, keysCmp_swap, nulls_first_asc (kf a) ha]
    rfl
  · intro ha
    refine Decidable.byContradiction fun hb => hab ?_
    rw [ha]
    exact nulls_last_desc (kf b) hb [] [] []

example : orderRows [false, true] (fun r => r) [[.int 2, .int 1], [.null, .int 5], [.int 2, .int 3], [.int 1, .null]]
    = [[.null, .int 5], [.int 1, .null], [.int 2, .int 3], [.int 2, .int 1]] := by decide +kernel

example : topN (ltImpl [false] (fun r => r.take 1)) 2 [[.int 2, .int 1], [.int 1, .int 9], [.int 2, .int 0], [.int 1, .int 7]]
    = [[.int 1, .int 9], [.int 1, .int 7]] := by decide +kernel

example : topNPlan (ltImpl [true] (fun r => r)) 1 1 [[.int 2], [.null], [.int 3]] = [[.int 2]] := by decide +kernel

/-! ## Finding on the unchanged tree: the order provided by a merge join over reverse index scans

The Impl models above cover the Sort / TopN / Offset / Limit operators. When the ORDER is instead
*provided by the plan* — index scans, and merge joins over index scans — the result is covered by
the correspondence only. One such plan is wrong on the unchanged tree (region
`reverse_merge_join_null_peek`, decided on the plan skeleton + data): the recorded engine output on
the corpus witness is not even a permutation of the definition's result. -/

def wDb : Db :=
  [{ width := 2, rows := [[.int (-1), .int (-2)], [.null, .int 5], [.null, .int 6]] },
   { width := 2, rows := [[.int (-1), .int 7], [.int 3, .int 8]] }]

/-- `SELECT * FROM t0 s1 JOIN t1 s2 ON s1.c0 = s2.c0 ORDER BY s1.c0 DESC` -/
def wQ : Query :=
  .orderBy [.col 0 0] [true] (.join .inner (.cmp .eq (.col 0 0) (.col 0 2)) (.table 0) (.table 1))

/-- What the engine returns under `MERGE_JOIN(s1,s2)` (MergeJoin over two reverse index scans),
replayed with `.build/c04 sql` and on every run by the corpus case. -/
def wObserved : List Row := List.replicate 3 [.int (-1), .int (-2), .int (-1), .int 7]

theorem finding_reverse_merge_join_null_peek :
    eval wDb wQ = [[.int (-1), .int (-2), .int (-1), .int 7]] ∧ ¬ (wObserved ~ eval wDb wQ) := by
  refine ⟨by decide +kernel, ?_⟩
  intro h
  have := h.length_eq
  revert this
  decide +kernel

/-- Guarded statement (the part of the engine that IS modelled): whenever the order is produced by
the Sort / TopN / Offset operators, the Impl model returns exactly the definition's sequence — for
every database, key list, direction list, limit and offset. -/
theorem impl_eq_spec_partial (db : Db) (ks : List Expr) (ds : List Bool) (n m : Nat) (q : Query) :
    evalQ db [] (.limit n m (.orderBy ks ds q))
        = topNPlan (ltImpl ds (fun r => evalEs db [r] ks)) n m (evalQ db [] q)
    ∧ evalQ db [] (.orderBy ks ds q) = sortL2R (ltImpl ds (fun r => evalEs db [r] ks)) (evalQ db [] q) :=
  ⟨eval_limit_orderBy db [] ks ds n m q, eval_orderBy db [] ks ds q⟩

/-- The decision points the Impl models transliterate are the ones in the source: `CompareRows`
swaps for DESC, skips two NULLs, returns −1 / 1 for a NULL on the left / right under NullsFirst, and
returns the type comparison otherwise; `IsLesserRow` is `< 0`; the heap is a max-heap with the later
arrival treated as larger among equals; a row is popped when the heap exceeds `n`; the result is
filled back to front; the LIMIT-1 scan replaces the candidate only by a strictly smaller row; the
sort is `sort.Stable`; the planner asks TopN for `limit + offset` rows; `limit == 1` selects the scan;
the planner's zero `NullOrdering` is NullsFirst. -/
theorem facts_match :
    Generated.C04.compareRowsSteps = ["desc-swap:av, bv = bv, av", "both-null:continue", "nulls-first", "decided:return cmp"]
    ∧ Generated.C04.nullsFirstReturns = ["av == nil => -1", "bv == nil => 1"]
    ∧ Generated.C04.isLesserRow = "s.CompareRows(a, b) < 0"
    ∧ Generated.C04.heapLess = ["if cmp == 0", "return h.order[i] > h.order[j]", "return cmp > 0"]
    ∧ Generated.C04.topNPopCondition = ["int64(rowsHeap.Len()) > n"]
    ∧ Generated.C04.topNFillLoop = "i := l - 1; i >= 0; i--"
    ∧ Generated.C04.top1Update = ["sorter.IsLesserRow(row, topRow) => topRow = row"]
    ∧ Generated.C04.sortIterCalls = ["sort.Stable"]
    ∧ Generated.C04.topNLimitArgs = ["expression.NewPlus(limit.Limit, offset.Offset)", "limit.Limit"]
    ∧ Generated.C04.buildTopNDispatch = ["limit == 1", "iters.NewTopRowIter", "iters.NewTopRowsIter"]
    ∧ Generated.C04.zeroNullOrderingIsNullsFirst = true :=
  ⟨rfl, rfl, rfl, rfl, rfl, rfl, rfl, rfl, rfl, rfl, rfl⟩

end Gms.C04
