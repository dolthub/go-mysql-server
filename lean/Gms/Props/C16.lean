/-
C16 — Indexes stay consistent with table data across histories.

Models: `Gms/Model/MemIndex.lean` (partitions, `secondaryIndexStorage` rows = key values ++
location, `deleteRowFromIndexes` renumbering, `partitionssort.Swap` relocation,
`sortSecondaryIndexes`, `insertHelper` / `deleteHelper`, truncate, rebuild) and
`Gms/Model/MemIndexDdl.lean` (how `indexes` and `secondaryIndexStorage` are keyed by names).

The invariant (`LocInv` + `KeysOk`): for an index, **every live slot of the table is the location of
exactly one storage row and no storage row is located anywhere else**, and a storage row's key
values are those of the row in its slot. For ALL partition layouts, entry lists and slots it is kept
by each writer of the storage: `idxInv_delete` (the renumbering of `deleteRowFromIndexes`),
`idxInv_insert`, `idxInv_swap` (hence any sequence of swaps, whatever `sort.Sort` does:
`idxInv_swaps`), `idxInv_perm` (`sortSecondaryIndexes`), `idxInv_empty` (truncate, a fresh table).
`idxInv_rewrite` is about a writer the model does not have and the fact `storageWriters` does not
list (`rewriteEntries`: a row overwritten in place with its storage row refreshed; the model's
UPDATE is delete + insert + sort): what such a writer would owe, for every shortcut "key unchanged"
that implies equal stored key values; `columnsMatch` WITH the index's prefix lengths is not one
(`prefix_match_is_not_key_equality`, `prefix_shortcut_breaks_invariant`). For deletion,
`delFromIndex_locs` ties the entry-list view (`entriesOf`) to the Impl model's heap of shared index
rows (`delFromIndex`); the other writers have no such theorem. Under the invariant an index scan
resolves exactly the stored rows, none missing, stale or duplicated (`lookup_eq_scan`,
`index_read_eq_scan_read`). A prefix index (`KEY (s(4))`) stores the full column values
(`extVals_ignores_pfx`), so all of this holds verbatim for prefix indexes over string columns.

NOT proved and not stated as a Lean proposition (covered by the correspondence and the oracle only):
that every state `runHistory` reaches satisfies `IdxInvE` for every index, i.e. the lifting of these
per-operation lemmas through the heap-threading `applyEditsP` — it needs the hygiene invariant "row
objects of different indexes are distinct" carried through `addRowToIndexes`, and the fact that
`tableEditor.Insert` never lets `insertHelper` take its overwrite-in-place branch (no finding is
recorded for it, but it is unproved: that branch would leave a stale storage row, see
`overwrite_breaks_invariant`).

Findings on the unchanged tree (name handling of DDL, `MemIndexDdl`):
* `finding_drop_index_keeps_storage_of_mixed_case_name` — DROP INDEX deletes the storage under the
  lower-cased map key, the storage is keyed by the name as written: the storage stays, and the next
  `sortSecondaryIndexes` dereferences a missing index (panic in the real code);
* `finding_rename_index_keeps_storage_key` — RENAME INDEX re-keys `indexes` and sets `Index.Name`
  but leaves the storage under the old name: index scans read an absent storage (rows missing) and
  the next DML panics as above.
`drop_index_wf_partial`: DROP INDEX leaves no storage under the map key of the index it found.
`rename_noop_wf`: two closed cases where RENAME INDEX is harmless — `kv` to itself, and `kv` to `kw` on a
table without rows (no storage yet); with rows, `kv` to `kw`, both lower case, is the finding above.
-/
import Gms.Model.MemIndex
import Gms.Model.MemIndexDdl
import Gms.Lemmas.MemTable
import Gms.Lemmas.MemIndex
import Gms.Generated.C16

namespace Gms.MemIndex
open Gms.MemTable

/-- Go: `deleteRowFromIndexes` on one location: later rows of the same partition move up. -/
def renum (p i : Nat) (l : Loc) : Loc := if l.part = p ∧ l.idx > i then ⟨p, l.idx - 1⟩ else l

/-- where a slot of the table after the removal was before it. -/
def unrenum (p i : Nat) (l : Loc) : Loc := if l.part = p ∧ l.idx ≥ i then ⟨p, l.idx + 1⟩ else l

theorem renum_iff (p i : Nat) (l l' : Loc) (hl : l ≠ ⟨p, i⟩) : renum p i l = l' ↔ l = unrenum p i l' := by
  cases l with | mk lp li =>
  cases l' with | mk lp' li' =>
  simp only [ne_eq, Loc.mk.injEq, not_and] at hl
  simp only [renum, unrenum]
  split <;> split <;> simp only [Loc.mk.injEq] <;> omega

theorem unrenum_ne (p i : Nat) (l' : Loc) : unrenum p i l' ≠ ⟨p, i⟩ := by
  cases l' with | mk lp li =>
  simp only [unrenum]
  split <;> simp only [ne_eq, Loc.mk.injEq] <;> omega

theorem rowAt_removeAt (parts : List (List Row)) (p i : Nat) (l' : Loc) :
    rowAt (removeAt parts p i) l' = rowAt parts (unrenum p i l') := by
  unfold removeAt unrenum
  rw [rowAt_modifyAt]
  by_cases hp : l'.part = p
  · subst hp
    rw [if_pos rfl]
    by_cases hi : l'.idx ≥ i
    · rw [if_pos ⟨rfl, hi⟩]
      unfold rowAt
      cases parts[l'.part]? with
      | none => rfl
      | some q => simp [List.getElem?_eraseIdx, Nat.not_lt.mpr hi]
    · rw [if_neg (fun h => hi h.2)]
      unfold rowAt
      cases parts[l'.part]? with
      | none => rfl
      | some q => simp [List.getElem?_eraseIdx, Nat.lt_of_not_ge hi]
  · rw [if_neg hp, if_neg (fun h => hp h.1)]

/-- every live slot is the location of exactly one storage row; no storage row points elsewhere. -/
def LocInv (parts : List (List Row)) (L : List Loc) : Prop :=
  ∀ l : Loc, L.count l = if (rowAt parts l).isSome then 1 else 0

theorem LocInv.isSome_of_mem {parts : List (List Row)} {L : List Loc} (h : LocInv parts L) {l : Loc} (hl : l ∈ L) :
    (rowAt parts l).isSome :=
  Decidable.by_contra fun hn => List.count_eq_zero.1 ((h l).trans (if_neg hn)) hl

/-- an index seen as its storage rows: (key values, location). -/
abbrev Entries := List (List Val × Loc)

def KeysOk (env : Env) (d : IdxDef) (parts : List (List Row)) (E : Entries) : Prop :=
  ∀ e ∈ E, ∀ r, rowAt parts e.2 = some r → e.1 = extVals env d r

/-- **The C16 invariant for one index.** -/
def IdxInvE (env : Env) (d : IdxDef) (parts : List (List Row)) (E : Entries) : Prop :=
  LocInv parts (E.map (·.2)) ∧ KeysOk env d parts E

/-- what the Impl model's heap and id list denote. -/
def entriesOf (h : Heap) (ids : List Nat) : Entries := ids.map (fun id => ((getE h id).vals, (getE h id).loc))

def delEntries (p i : Nat) (E : Entries) : Entries :=
  (E.filter (fun e => !decide (e.2 = ⟨p, i⟩))).map (fun e => (e.1, renum p i e.2))

/-- Storage rows re-pointed through `f`, with inverse `g` on the locations `keep` accepts. Deletion
(`renum`, `unrenum`) and `partitionssort.Swap` (`swapLoc`, its own inverse) are the two instances. -/
theorem idxInv_relocate {env : Env} {d : IdxDef} {parts parts' : List (List Row)} {E : Entries}
    (keep : Loc → Bool) (f g : Loc → Loc) (hfg : ∀ l l', keep l = true → (f l = l' ↔ l = g l'))
    (hkeep : ∀ l', keep (g l') = true) (hrow : ∀ l', rowAt parts' l' = rowAt parts (g l'))
    (h : IdxInvE env d parts E) :
    IdxInvE env d parts' ((E.filter (fun e => keep e.2)).map (fun e => (e.1, f e.2))) := by
  refine ⟨fun l' => ?_, fun e he r hr => ?_⟩
  · have : ((E.filter (fun e => keep e.2)).map (fun e => (e.1, f e.2))).map (·.2) =
        ((E.map (·.2)).filter keep).map f := by
      simp [List.filter_map, Function.comp_def]
    rw [this, count_map_of_inv fun l hl => hfg l l' (List.mem_filter.1 hl).2, List.count_filter (hkeep l'), h.1, hrow]
  · obtain ⟨e0, he0, rfl⟩ := List.mem_map.1 he
    obtain ⟨he0, hk⟩ := List.mem_filter.1 he0
    rw [hrow, ← (hfg e0.2 _ hk).1 rfl] at hr
    exact h.2 e0 he0 r hr

/-- **The renumbering lemma** (`deleteHelper` + `deleteRowFromIndexes` on one index): after the
row at `(p,i)` is removed from its partition, the storage rows located there are dropped and
those located later in partition `p` have their `idx` decremented, the invariant holds again. -/
theorem idxInv_delete (env : Env) (d : IdxDef) (parts : List (List Row)) (E : Entries) (p i : Nat)
    (h : IdxInvE env d parts E) : IdxInvE env d (removeAt parts p i) (delEntries p i E) :=
  -- `delEntries p i E` unfolds to the filter-then-map of `idxInv_relocate` at this `keep` and `f = renum p i`
  idxInv_relocate (fun l => !decide (l = ⟨p, i⟩)) (renum p i) (unrenum p i)
    (fun l l' hl => renum_iff p i l l' (by simpa using hl)) (fun l' => by simpa using unrenum_ne p i l')
    (rowAt_removeAt parts p i) h

/-- `deleteRowFromIndexes` on one index of the Impl model (`delFromIndex`: in-place decrement of
shared index rows + filtering of the storage slice) is `delEntries` on what the heap denotes,
provided the storage slice holds distinct row objects. -/
theorem delFromIndex_locs (h : Heap) (ids : List Nat) (p i : Nat) (hnd : ids.Nodup) (hlt : ∀ id ∈ ids, id < h.length) :
    entriesOf (delFromIndex h ids p i).1 (delFromIndex h ids p i).2 = delEntries p i (entriesOf h ids) := by
  -- a row that is not moved is re-pointed at its own location
  have hstep : (fun (h : Heap) id => if (getE h id).loc.part = p ∧ (getE h id).loc.idx > i
      then setLoc h id ⟨p, (getE h id).loc.idx - 1⟩ else h) = fun h id => setLoc h id (renum p i (getE h id).loc) := by
    funext h id
    by_cases hc : (getE h id).loc.part = p ∧ (getE h id).loc.idx > i
    · simp only [renum, if_pos hc]
    · simp only [renum, if_neg hc, setLoc_self]
  simp only [delFromIndex, hstep, entriesOf, delEntries, List.filter_map, List.map_map]
  apply List.map_congr_left
  intro id hid
  have hid := (List.mem_filter.1 hid).1
  simp only [Function.comp_apply, getE_foldl_setLoc (renum p i) ids h hnd id, if_pos (And.intro hid (hlt id hid))]

/-- `insertHelper` (append branch) + `addRowToIndexes` on one index: the row goes to the end of
partition `p` (which holds `q`), the new storage row points at the new slot `(p, len q)`. -/
theorem idxInv_insert (env : Env) (d : IdxDef) (parts : List (List Row)) (E : Entries) (p : Nat) (r : Row)
    (q : List Row) (hq : parts[p]? = some q) (h : IdxInvE env d parts E) :
    IdxInvE env d (modifyAt (fun q => q ++ [r]) p parts) (E ++ [(extVals env d r, ⟨p, q.length⟩)]) := by
  have hfresh : rowAt parts ⟨p, q.length⟩ = none := by simp [rowAt, hq]
  refine ⟨?_, ?_⟩
  · intro l
    simp only [List.map_append, List.map_cons, List.map_nil, List.count_append, List.count_cons, List.count_nil,
      beq_iff_eq, h.1 l, rowAt_append hq l]
    by_cases hl : l = ⟨p, q.length⟩
    · subst hl; simp [hfresh]
    · have : ¬ (⟨p, q.length⟩ : Loc) = l := fun e => hl e.symm
      simp [hl, this]
  · intro e he r' hr'
    rw [rowAt_append hq] at hr'
    rcases List.mem_append.1 he with he | he
    · have hne : e.2 ≠ ⟨p, q.length⟩ := fun heq => by
        have := h.1.isSome_of_mem (List.mem_map_of_mem he)
        rw [heq, hfresh] at this
        cases this
      rw [if_neg hne] at hr'
      exact h.2 e he r' hr'
    · simp only [List.mem_singleton] at he
      subst he
      simp only [if_true, Option.some.injEq] at hr'
      subst hr'; rfl

def swapEntries (la lb : Loc) (E : Entries) : Entries := E.map (fun e => (e.1, swapLoc la lb e.2))

/-- one `partitionssort.Swap(i, j)`: the two rows are exchanged and every storage row located at
either slot is re-pointed at the other. -/
theorem idxInv_swap (env : Env) (d : IdxDef) (parts : List (List Row)) (E : Entries) (la lb : Loc) (ra rb : Row)
    (ha : rowAt parts la = some ra) (hb : rowAt parts lb = some rb) (h : IdxInvE env d parts E) :
    IdxInvE env d (setRow (setRow parts la rb) lb ra) (swapEntries la lb E) := by
  have := idxInv_relocate (fun _ => true) (swapLoc la lb) (swapLoc la lb) (fun l l' _ => swapLoc_iff la lb l l')
    (fun _ => rfl) (rowAt_swap parts la lb ra rb ha hb) h
  rwa [List.filter_eq_self.2 fun _ _ => rfl] at this

theorem idxInv_perm (env : Env) (d : IdxDef) (parts : List (List Row)) (E E' : Entries) (hp : E'.Perm E)
    (h : IdxInvE env d parts E) : IdxInvE env d parts E' := by
  refine ⟨fun l => ?_, fun e he => h.2 e (hp.mem_iff.1 he)⟩
  rw [(hp.map (·.2)).count_eq l]
  exact h.1 l

/-- a fresh or truncated table (`truncate`: empty partitions, empty storage). -/
theorem idxInv_empty (env : Env) (d : IdxDef) (n : Nat) : IdxInvE env d (List.replicate n []) [] := by
  refine ⟨fun l => ?_, fun e he => by simp at he⟩
  simp [rowAt_replicate_nil]

/-- the live slots of the table, in scan order. -/
def allLocs : List (List Row) → List Loc
  | [] => []
  | q :: qs => (List.range q.length).map (fun i => (⟨0, i⟩ : Loc)) ++ (allLocs qs).map (fun l => ⟨l.part + 1, l.idx⟩)

theorem map_rowAt_allLocs (parts : List (List Row)) : (allLocs parts).map (rowAt parts) = parts.flatten.map some := by
  induction parts with
  | nil => rfl
  | cons q qs ih =>
    simp only [allLocs, List.map_append, List.map_map, List.flatten_cons, Function.comp_def, rowAt_cons_zero,
      rowAt_cons_succ, ih, map_getElem?_range]

theorem locInv_allLocs (parts : List (List Row)) : LocInv parts (allLocs parts) := by
  induction parts with
  | nil => intro l; simp [allLocs, rowAt]
  | cons q qs ih =>
    intro l
    rw [allLocs, List.count_append]
    -- a slot of the head partition is counted in the first summand only, a later one in the second only;
    -- `g` is the inverse, at this slot, of the map whose image is counted
    obtain ⟨_ | n, i⟩ := l
    · rw [count_map_of_inv (g := Loc.idx) (fun j _ => by simp), List.count_range,
        List.count_eq_zero.2 (by simp), rowAt_cons_zero]
      by_cases h : i < q.length <;> simp [h]
    · rw [List.count_eq_zero.2 (by simp), rowAt_cons_succ,
        count_map_of_inv (g := fun l => ⟨l.part - 1, l.idx⟩) (fun l _ => by cases l; simp), Nat.zero_add]
      exact ih ⟨n, i⟩

theorem locInv_iff_perm {parts : List (List Row)} {L : List Loc} : LocInv parts L ↔ L.Perm (allLocs parts) := by
  rw [List.perm_iff_count]
  exact forall_congr' fun l => by rw [locInv_allLocs parts l]

/-- **Lookup = scan.** Under the invariant, what an index scan resolves — for each storage row its
key values and the row at its location (`indexScanRowIter.Next`) — is, as a multiset, exactly
(key of r, r) for the stored rows r. Hence for every range predicate on the key the index-driven
read returns exactly the rows a full scan filtered by the same predicate returns: none missing,
none stale, none duplicated. -/
theorem lookup_eq_scan (env : Env) (d : IdxDef) (parts : List (List Row)) (E : Entries) (h : IdxInvE env d parts E) :
    (E.map (fun e => (e.1, rowAt parts e.2))).Perm (parts.flatten.map (fun r => (extVals env d r, some r))) := by
  -- the stored key is a function `G` of the resolved row, so the permutation of the locations is mapped through
  -- `rowAt parts`, then through `G`; every location is live, so the `[]` of `getD` is never read
  let G : Option Row → List Val × Option Row := fun o => ((o.map (extVals env d)).getD [], o)
  have hE : E.map (fun e => (e.1, rowAt parts e.2)) = ((E.map (·.2)).map (rowAt parts)).map G := by
    rw [List.map_map, List.map_map]
    refine List.map_congr_left fun e he => ?_
    obtain ⟨r, hr⟩ := Option.isSome_iff_exists.1 (h.1.isSome_of_mem (List.mem_map_of_mem he))
    simp only [Function.comp_apply, G, hr, Option.map_some, Option.getD_some, h.2 e he r hr]
  have hp := ((locInv_iff_perm.1 h.1).map (rowAt parts)).map G
  rw [← hE, map_rowAt_allLocs, List.map_map] at hp
  exact hp

/-- **Index read = scan read**, for every predicate `φ` on the stored key values (the range filter
the index scan evaluates on the storage row): under the invariant the rows an index-driven read
resolves and keeps are exactly the stored rows whose own key values satisfy `φ`. -/
theorem index_read_eq_scan_read (env : Env) (d : IdxDef) (parts : List (List Row)) (E : Entries)
    (h : IdxInvE env d parts E) (φ : List Val → Bool) :
    ((E.map (fun e => (e.1, rowAt parts e.2))).filter (fun x => φ x.1)).Perm
      ((parts.flatten.filter (fun r => φ (extVals env d r))).map (fun r => (extVals env d r, some r))) := by
  have hp := (lookup_eq_scan env d parts E h).filter (fun x => φ x.1)
  rwa [List.filter_map (l := parts.flatten)] at hp

/-- the storage of a prefix index holds the full column values: the declared prefix lengths do not
enter what `rowToIndexStorage` stores. -/
theorem extVals_ignores_pfx (env : Env) (d : IdxDef) (p : List Nat) (r : Row) :
    extVals env { d with pfx := p } r = extVals env d r := rfl

/-- The storage rows of one index after the row stored at `l` was overwritten in place by `new`
(`insertHelper`'s "map semantics" branch made index-aware): the storage row located at `l` gets the
new row's key values — unless the shortcut `same old new` claims the key did not change. -/
def rewriteEntries (env : Env) (d : IdxDef) (same : Row → Row → Bool) (old new : Row) (l : Loc) (E : Entries) : Entries :=
  E.map (fun e => if e.2 = l ∧ same old new = false then (extVals env d new, e.2) else e)

theorem rewriteEntries_eq (env : Env) (d : IdxDef) (same : Row → Row → Bool) (old new : Row) (l : Loc) (E : Entries) :
    rewriteEntries env d same old new l E =
      E.map fun e => (if e.2 = l ∧ same old new = false then extVals env d new else e.1, e.2) :=
  List.map_congr_left fun e _ => by split <;> rfl

/-- **In-place rewrite.** Overwriting the row at a live slot and refreshing the storage row located
there keeps the invariant for EVERY shortcut `same` that is sound for the stored key: whenever it
answers "unchanged", the full extended key values (`rowToIndexStorage`) of both versions agree. -/
theorem idxInv_rewrite (env : Env) (d : IdxDef) (parts : List (List Row)) (E : Entries) (l : Loc) (old new : Row)
    (same : Row → Row → Bool) (hold : rowAt parts l = some old)
    (hsound : same old new = true → extVals env d old = extVals env d new)
    (h : IdxInvE env d parts E) :
    IdxInvE env d (setRow parts l new) (rewriteEntries env d same old new l E) := by
  rw [rewriteEntries_eq]
  refine ⟨fun l' => ?_, fun e he r hr => ?_⟩
  · rw [List.map_map, Function.comp_def, h.1 l', rowAt_setRow]
    by_cases hl : l' = l
    · subst hl; simp [hold]
    · simp [hl]
  · obtain ⟨e0, he0, rfl⟩ := List.mem_map.1 he
    rw [rowAt_setRow] at hr
    by_cases hl : e0.2 = l
    · -- the storage row of the rewritten slot is refreshed, or kept by the sound shortcut
      rw [if_pos hl, hold] at hr
      cases hr
      cases hs : same old new
      · exact if_pos ⟨hl, rfl⟩
      · exact (if_neg fun hc => nomatch hc.2).trans ((h.2 e0 he0 old (hl ▸ hold)).trans (hsound hs))
    · rw [if_neg hl] at hr
      exact (if_neg fun hc => hl hc.1).trans (h.2 e0 he0 r hr)

/-- the shortcut that compares the FULL values of the extended key columns (`columnsMatch` without
prefix lengths) is sound. -/
theorem fullMatch_sound (env : Env) (d : IdxDef) (old new : Row)
    (h : columnsMatch (extCols env d) [] old new = true) : extVals env d old = extVals env d new :=
  (columnsMatch_nil_iff (extCols env d) old new).1 h

theorem idxInv_rewrite_fullMatch (env : Env) (d : IdxDef) (parts : List (List Row)) (E : Entries) (l : Loc) (old new : Row)
    (hold : rowAt parts l = some old) (h : IdxInvE env d parts E) :
    IdxInvE env d (setRow parts l new)
      (rewriteEntries env d (fun a b => columnsMatch (extCols env d) [] a b) old new l E) :=
  idxInv_rewrite env d parts E l old new _ hold (fullMatch_sound env d old new) h

theorem getElem?_set_self_some {α : Type} (q : List α) (i : Nat) (a : α) (h : i < q.length) : (q.set i a)[i]? = some a := by
  simp [h]

end Gms.MemIndex

namespace Gms.C16
open Gms.MemTable Gms.MemIndex Gms.MemIndexDdl

/-- Where the source forms the two kinds of keys, and the shape of every index-maintenance step
the models transliterate. -/
theorem facts_match :
    Generated.C16.addStorageKeys = ["table.secondaryIndexStorage[indexName(memIdx.ID())]", "table.secondaryIndexStorage[indexName(memIdx.ID())]"] ∧
    Generated.C16.delStorageKeys = ["table.secondaryIndexStorage[indexName(memIdx.ID())]", "table.secondaryIndexStorage[indexName(memIdx.ID())]"] ∧
    Generated.C16.delConds = ["rowLoc.partition == partKey && rowLoc.idx == rowIdx", "rowLoc.partition == partKey && rowLoc.idx > rowIdx"] ∧
    Generated.C16.delRenumber = ["primaryRowLocation{rowLoc.partition, rowLoc.idx - 1}"] ∧
    Generated.C16.sortSecRange = ["td.secondaryIndexStorage"] ∧
    Generated.C16.sortSecIndexLookup = ["td.indexes[strings.ToLower(string(idxName))]"] ∧
    Generated.C16.sortSecCall = ["sort.SliceStable"] ∧
    Generated.C16.truncateResets = ["td.partitions = partitions", "td.secondaryIndexStorage = make(map[indexName][]sql.Row)"] ∧
    Generated.C16.createIndexKeys = ["data.indexes[strings.ToLower(index.ID())]"] ∧
    Generated.C16.dropIndexDeletes = ["data.indexes<-idxName", "data.secondaryIndexStorage<-indexName(idxName)"] ∧
    Generated.C16.dropIndexRange = ["idxName := range data.indexes"] ∧
    Generated.C16.renameIndexEffects = ["data.indexes<-lowerCaseOldName", "data.indexes[lowerCaseNewName] = idx", "idx.(*Index).Name = newName"] ∧
    Generated.C16.scanStorageKey = ["data.secondaryIndexStorage[indexName(isp.index.Name)]"] ∧
    Generated.C16.scanSkipsWhen = ["len(i.primaryRows[rowLoc.partition]) <= rowLoc.idx"] ∧
    Generated.C16.swapConds = ["rowLoc.partition == lidx.partitionName && rowLoc.idx == lidx.rowIdx", "rowLoc.partition == ridx.partitionName && rowLoc.idx == ridx.rowIdx"] ∧
    Generated.C16.locationStoredAt = ["newRow[len(exprs)]"] ∧
    Generated.C16.storageUses = ["idx.ExtendedExprs"] ∧
    Generated.C16.pkApplyEdits = ["deleteHelper", "insertHelper", "tableData.sortRows"] ∧
    Generated.C16.klApplyEdits = ["deleteHelper", "insertHelper", "tableData.sortSecondaryIndexes"] ∧
    Generated.C16.pkHelperCalls = ["deleteHelper:deleteRowFromIndexes", "insertHelper:addRowToIndexes"] ∧
    Generated.C16.klHelperCalls = ["deleteHelper:deleteRowFromIndexes", "insertHelper:addRowToIndexes"] ∧
    -- who writes the index storage: exactly the writers the model transliterates (a further writer,
    -- e.g. one that rewrites storage rows in place, owes `idxInv_rewrite`'s soundness hypothesis)
    Generated.C16.storageWriters = ["table.go:Table.DropIndex", "table_data.go:TableData.copy", "table_data.go:TableData.truncate",
      "table_editor.go:addRowToIndexes", "table_editor.go:deleteRowFromIndexes"] ∧
    -- prefix-truncated comparison serves the unique-key lookups only (it is not equality of stored
    -- keys: `prefix_match_is_not_key_equality`), and a storage row is built without prefix lengths
    Generated.C16.prefixCompareUsers = ["keylessTableEditAccumulator.GetByCols:prefixLengths", "pkTableEditAccumulator.GetByCols:prefixLengths"] ∧
    Generated.C16.storedKeyPrefixRefs = ["none"] :=
  ⟨rfl, rfl, rfl, rfl, rfl, rfl, rfl, rfl, rfl, rfl, rfl, rfl, rfl, rfl, rfl, rfl, rfl, rfl, rfl, rfl, rfl, rfl, rfl, rfl⟩

/-- A swap whose slots are not both live is a no-op in `swapStep`. -/
def swapParts (parts : List (List Row)) (ab : Loc × Loc) : List (List Row) :=
  match rowAt parts ab.1, rowAt parts ab.2 with
  | some ra, some rb => setRow (setRow parts ab.1 rb) ab.2 ra
  | _, _ => parts

-- `swapParts` and `swapEnts` are one guarded `swapStep` seen on the partitions and on the entries of one index:
-- `swapEntries` when both slots are live, nothing otherwise
def swapEnts (parts : List (List Row)) (E : Entries) (ab : Loc × Loc) : Entries :=
  match rowAt parts ab.1, rowAt parts ab.2 with
  | some _, some _ => swapEntries ab.1 ab.2 E
  | _, _ => E

/-- Any sequence of swaps — whatever `sort.Sort` decides to do — keeps the invariant. -/
theorem idxInv_swaps (env : Env) (d : IdxDef) (swaps : List (Loc × Loc)) (parts : List (List Row)) (E : Entries)
    (h : IdxInvE env d parts E) :
    IdxInvE env d (swaps.foldl (fun pe ab => (swapParts pe.1 ab, swapEnts pe.1 pe.2 ab)) (parts, E)).1
      (swaps.foldl (fun pe ab => (swapParts pe.1 ab, swapEnts pe.1 pe.2 ab)) (parts, E)).2 := by
  induction swaps generalizing parts E with
  | nil => exact h
  | cons ab rest ih =>
    simp only [List.foldl_cons]
    apply ih
    simp only [swapParts, swapEnts]
    cases ha : rowAt parts ab.1 with
    | none => exact h
    | some ra =>
      cases hb : rowAt parts ab.2 with
      | none => exact h
      | some rb => exact idxInv_swap env d parts E ab.1 ab.2 ra rb ha hb h

/-- The per-operation invariant theorems, collected. -/
theorem idxInv_steps (env : Env) (d : IdxDef) (parts : List (List Row)) (E : Entries) (h : IdxInvE env d parts E) :
    (∀ p i, IdxInvE env d (removeAt parts p i) (delEntries p i E)) ∧
    (∀ p r q, parts[p]? = some q →
      IdxInvE env d (modifyAt (fun q => q ++ [r]) p parts) (E ++ [(extVals env d r, ⟨p, q.length⟩)])) ∧
    (∀ la lb ra rb, rowAt parts la = some ra → rowAt parts lb = some rb →
      IdxInvE env d (setRow (setRow parts la rb) lb ra) (swapEntries la lb E)) ∧
    (∀ E', E'.Perm E → IdxInvE env d parts E') :=
  ⟨fun p i => idxInv_delete env d parts E p i h,
   fun p r q hq => idxInv_insert env d parts E p r q hq h,
   fun la lb ra rb ha hb => idxInv_swap env d parts E la lb ra rb ha hb h,
   fun E' hp => idxInv_perm env d parts E E' hp h⟩

/-! ## Non-vacuity: a concrete 2-partition, 2-index table through the Impl model -/

def envX : Env :=
  { sch := { cols := [{ nullable := false }, {}, {}], pk := [0], uniques := [] },
    idxs := [{ cols := [1] }, { cols := [2, 1] }], nparts := 2,
    pmap := [([.int 4], 1), ([.int 2], 0), ([.int 9], 0), ([.int 6], 1), ([.int 1], 0)] }

def x4 : Row := [.int 4, .int 1, .int 1]
def x2 : Row := [.int 2, .int 1, .int 0]
def x9 : Row := [.int 9, .int 0, .int 1]
def x6 : Row := [.int 6, .null, .int 1]

/-- insert four rows, then delete one in the middle of a partition and update a key column. -/
def stX : St :=
  runHistory envX (initSt envX)
    [⟨[.ins x4, .ins x2, .ins x9, .ins x6], .eof⟩, ⟨[.del x2, .upd x9 [.int 1, .int 5, .int 1]], .eof⟩]

/-- the reached state has rows in both partitions and satisfies the invariant for both indexes:
what the index scans resolve is exactly the Spec's index contents. -/

example : stX.data.parts = [[[.int 1, .int 5, .int 1], x4], [x6]] ∧
    (indexView stX).map (fun es => es.length) = [3, 3] := by decide +kernel

example : IdxInvE envX { cols := [1] } stX.data.parts (entriesOf stX.heap (stX.data.idx.getD 0 [])) := by
  -- one evaluation of the history `stX` for both components
  have hst : entriesOf stX.heap (stX.data.idx.getD 0 []) =
        [([.null, .int 6], ⟨1, 0⟩), ([.int 1, .int 4], ⟨0, 1⟩), ([.int 5, .int 1], ⟨0, 0⟩)] ∧
      stX.data.parts = [[[.int 1, .int 5, .int 1], x4], [x6]] := by decide +kernel
  rw [hst.1, hst.2]
  refine ⟨locInv_iff_perm.2 (by decide), fun e he r hr => ?_⟩
  simp only [List.mem_cons, List.mem_nil_iff, or_false] at he
  rcases he with rfl | rfl | rfl <;> cases hr <;> decide

/-- the overwrite-in-place branch of `insertHelper` (unreachable through `tableEditor.Insert`, which
rejects a stored key first) would break the invariant: the old storage row stays. -/
theorem overwrite_breaks_invariant :
    let hd := insertHelperP envX (stX.heap, stX.data) [.int 4, .int 3, .int 3]
    (hd.2.idx.map List.length) = [4, 4] ∧ hd.2.parts.flatten.length = 3 := by
  decide +kernel

/-! ## Prefix indexes: `KEY (c1(3))` over a string column -/

def envP : Env :=
  { sch := { cols := [{ nullable := false }, { str := true }], pk := [0], uniques := [] },
    idxs := [{ cols := [1], pfx := [3] }], nparts := 1, pmap := [([.int 1], 0), ([.int 2], 0)] }

def dP : IdxDef := { cols := [1], pfx := [3] }
def abcb : Val := .str [97, 98, 99, 98]
def abcc : Val := .str [97, 98, 99, 99]
def p1 : Row := [.int 1, .str [97, 98]]
def p2 : Row := [.int 2, abcb]
def p2' : Row := [.int 2, abcc]

/-- the prefix comparison the unique-key checks use (`columnsMatch` with the index's prefix
lengths): "same key" although the stored (full) values differ. -/
def prefixSame (d : IdxDef) (a b : Row) : Bool := columnsMatch d.cols d.pfx a b

/-- the Impl model on UPDATE … SET c1 = 'abcc' WHERE c0 = 2 (change behind the prefix): delete +
insert + sort, the storage row carries the new full value; the invariant's key part holds. -/
example :
    let st := runHistory envP (initSt envP) [⟨[.ins p1, .ins p2], .eof⟩, ⟨[.upd p2 p2'], .eof⟩]
    indexView st = specIndexView envP [p1, p2'] := by decide +kernel

/-- non-vacuity of `idxInv_rewrite`: a sound shortcut (full comparison) on the same update. -/
example : columnsMatch (extCols envP dP) [] p2 p2' = false ∧ columnsMatch (extCols envP dP) [] p2 p2 = true := by decide

/-- **`columnsMatch` with prefix lengths is not key equality for the storage**: it answers
"unchanged" for two rows whose stored key values differ … -/
theorem prefix_match_is_not_key_equality :
    prefixSame dP p2 p2' = true ∧ extVals envP dP p2 ≠ extVals envP dP p2' := by decide

/-- … so an in-place rewrite that skips "unchanged" prefix keys breaks the invariant: from a
consistent index the storage row keeps the old value, `KeysOk` fails, and the equality lookup for
the new value through the index (`φ` = "stored key = 'abcc'") returns nothing although the row is
stored (the seeded class: stale entry behind an indexed prefix). -/
theorem prefix_shortcut_breaks_invariant :
    let parts : List (List Row) := [[p1, p2]]
    let E : Entries := [(extVals envP dP p1, ⟨0, 0⟩), (extVals envP dP p2, ⟨0, 1⟩)]
    let parts' := setRow parts ⟨0, 1⟩ p2'
    let E' := rewriteEntries envP dP (prefixSame dP) p2 p2' ⟨0, 1⟩ E
    (E.map (fun e => (e.1, rowAt parts e.2)) = parts.flatten.map (fun r => (extVals envP dP r, some r))) ∧
    ¬ KeysOk envP dP parts' E' ∧
    ((E'.map (fun e => (e.1, rowAt parts' e.2))).filter (fun x => x.1.head? == some abcc)) = [] ∧
    (parts'.flatten.filter (fun r => (extVals envP dP r).head? == some abcc)) = [p2'] := by
  refine ⟨by decide, ?_, by decide, by decide⟩
  intro hk
  have := hk (extVals envP dP p2, ⟨0, 1⟩) (by decide) p2' (by decide)
  exact absurd this (by decide)

/-! ## DDL: `indexes` keyed by the lower-cased name, `secondaryIndexStorage` by the name as written -/

def kv : Name := "kv".toList
def KV : Name := "KV".toList
def kw : Name := "kw".toList

/-- after CREATE INDEX + rebuild the two maps agree, whatever the case of the name. -/
example : wf (rebuild (createIndex ⟨[], []⟩ KV) [1, 2, 3]) [1, 2, 3] = true ∧
    wf (rebuild (createIndex ⟨[], []⟩ kv) [1, 2, 3]) [1, 2, 3] = true := by decide

/-- DROP INDEX of a lower-case name removes index and storage. -/
theorem drop_index_lower_ok : dropIndex (rebuild (createIndex ⟨[], []⟩ kv) [1, 2, 3]) kv = ⟨[], []⟩ := by decide

/-- Guarded statement: if the storage is keyed exactly by the map key (names already in lower
case), DROP INDEX leaves no storage behind for that key. -/
theorem drop_index_wf_partial (t : Tbl) (name : Name) (e : Name × Name)
    (hf : t.indexes.find? (fun x => lower x.1 == lower name) = some e) :
    ∀ s ∈ (dropIndex t name).storage, s.1 ≠ e.1 := by
  intro s hs
  simp only [dropIndex, hf, aErase, List.mem_filter] at hs
  simpa using hs.2

/-- Finding `drop_index_keeps_storage_of_mixed_case_name`: the table was well formed, DROP INDEX
"succeeds", the storage of the dropped index is still there, and `sortSecondaryIndexes` (run by the
next statement that edits the table) dereferences a missing index. Replayed on the real engine:
CREATE INDEX KV ON t (v); DROP INDEX KV ON t; INSERT … → panic "interface conversion: sql.Index is nil". -/
theorem finding_drop_index_keeps_storage_of_mixed_case_name :
    wf (rebuild (createIndex ⟨[], []⟩ KV) [1, 2, 3]) [1, 2, 3] = true ∧
    (dropIndex (rebuild (createIndex ⟨[], []⟩ KV) [1, 2, 3]) KV).indexes = [] ∧
    (dropIndex (rebuild (createIndex ⟨[], []⟩ KV) [1, 2, 3]) KV).storage = [(KV, [1, 2, 3])] ∧
    sortOk (dropIndex (rebuild (createIndex ⟨[], []⟩ KV) [1, 2, 3]) KV) = false := by decide

/-- Finding `rename_index_keeps_storage_key`: after RENAME INDEX the index scan of the renamed
index reads an absent storage (every row is missing from index-driven reads) and the old storage
is orphaned (next DML panics). Replayed: ALTER TABLE u RENAME INDEX kv TO kw; SELECT … WHERE v = 20 → empty. -/
theorem finding_rename_index_keeps_storage_key :
    wf (rebuild (createIndex ⟨[], []⟩ kv) [1, 2, 3]) [1, 2, 3] = true ∧
    scanStorage (rebuild (createIndex ⟨[], []⟩ kv) [1, 2, 3]) kv = some [1, 2, 3] ∧
    scanStorage (renameIndex (rebuild (createIndex ⟨[], []⟩ kv) [1, 2, 3]) kv kw) kw = none ∧
    sortOk (renameIndex (rebuild (createIndex ⟨[], []⟩ kv) [1, 2, 3]) kv kw) = false ∧
    wf (renameIndex (rebuild (createIndex ⟨[], []⟩ kv) [1, 2, 3]) kv kw) [1, 2, 3] = false := by decide

/-- renaming an index to itself, or on an empty table (no storage yet), is harmless. -/
theorem rename_noop_wf :
    renameIndex (rebuild (createIndex ⟨[], []⟩ kv) [1, 2, 3]) kv kv = rebuild (createIndex ⟨[], []⟩ kv) [1, 2, 3] ∧
    wf (renameIndex (rebuild (createIndex ⟨[], []⟩ kv) []) kv kw) [] = true := by decide

/-- The full statement (FALSE on the unchanged tree): every DDL step keeps the two maps in agreement. -/
def DdlKeepsWf : Prop :=
  ∀ (t : Tbl) (rows : List Nat) (a b : Name), wf t rows = true →
    wf (dropIndex t a) rows = true ∧ wf (renameIndex t a b) rows = true

theorem ddlKeepsWf_false : ¬ DdlKeepsWf := by
  intro h
  have := (h (rebuild (createIndex ⟨[], []⟩ kv) [1, 2, 3]) [1, 2, 3] kv kw (by decide)).2
  revert this
  decide

end Gms.C16
