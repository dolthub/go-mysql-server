/-
C06 — Equivalent SQL formulations return equal results.

Each theorem is one of the equivalences the property names, proved for the SQL definition
(`Gms.Rel`), for all databases, environments and rows (`derived_inline` for a body whose rows have the
declared width, `const_fold` for subquery-free expressions). In the term language a FROM-subquery *is* its
body (the printer's fused, nested and CTE spellings are one term), so `derived_inline` is the only law
the inlining of derived tables needs. `hashIn_eq_listIn` is about the engine: the Impl model of
`HashInTuple` computes the list IN; `facts_match` ties that model to the Go code.
-/
import Gms.Lemmas.Rel
import Gms.Model.HashIn
import Gms.Generated.C06

namespace Gms.HashIn
open Gms.Sql Gms.Rel

theorem evalE_orChain (db : Db) (env : Env) (e : Expr) : ∀ (es : List Expr),
    evalE db env (orChain e es) = (inTri (evalE db env e) (evalEs db env es)).toValue
  | [] => rfl
  | [a] => by simp only [orChain, evalE, evalEs, inTri, Tri.or_f_right]
  | a :: b :: bs => by
    simp only [orChain, evalE, evalEs, inTri, truth_toValue, evalE_orChain db env e (b :: bs)]

theorem evalE_andChain (db : Db) (env : Env) (e : Expr) : ∀ (es : List Expr),
    evalE db env (andChain e es) = (Tri.not (inTri (evalE db env e) (evalEs db env es))).toValue
  | [] => rfl
  | [a] => by simp only [andChain, evalE, evalEs, inTri, Tri.or_f_right, cmpTri_ne]
  | a :: b :: bs => by
    simp only [andChain, evalE, evalEs, inTri, truth_toValue, cmpTri_ne, Tri.not_or,
      evalE_andChain db env e (b :: bs)]

theorem evalEs_idCols (db : Db) (env : Env) (r : Row) : evalEs db (r :: env) (idCols r.length) = r := by
  rw [idCols, evalEs_eq_map, List.map_map]
  refine List.ext_getElem (by simp) fun k _ hk => ?_
  simp [evalE, lookup_zero, List.getD_eq_getElem?_getD, List.getElem?_eq_getElem hk]

mutual
theorem substRow_ok (db : Db) (env : Env) (r r' : Row) :
    (e : Expr) → noSub e = true → evalE db (r' :: env) (substRow r e) = evalE db (r :: env) e
  | .lit _, _ => rfl
  | .col 0 i, _ => by simp [substRow, evalE, lookup_zero]
  | .col (d + 1) i, _ => by simp only [substRow, evalE, lookup_succ]
  | .neg e, h | .not e, h | .isNull e, h | .isTruth _ e, h => by
    simp only [substRow, evalE, substRow_ok db env r r' e h]
  | .arith _ a b, h | .cmp _ a b, h | .and a b, h | .or a b, h | .xor a b, h | .coalesce a b, h => by
    simp only [noSub, Bool.and_eq_true] at h
    simp only [substRow, evalE, substRow_ok db env r r' a h.1, substRow_ok db env r r' b h.2]
  | .inList e es, h => by
    simp only [noSub, Bool.and_eq_true] at h
    simp only [substRow, evalE, substRow_ok db env r r' e h.1, substRows_ok db env r r' es h.2]
  | .between a b c, h | .ite a b c, h => by
    simp only [noSub, Bool.and_eq_true] at h
    simp only [substRow, evalE, substRow_ok db env r r' a h.1.1, substRow_ok db env r r' b h.1.2,
      substRow_ok db env r r' c h.2]
  | .exists _, h | .inSub _ _, h | .scalar _, h => by simp [noSub] at h

theorem substRows_ok (db : Db) (env : Env) (r r' : Row) :
    (es : List Expr) → noSub.noSubs es = true →
      evalEs db (r' :: env) (substRow.substRows r es) = evalEs db (r :: env) es
  | [], _ => rfl
  | e :: es, h => by
    simp only [noSub.noSubs, Bool.and_eq_true] at h
    simp only [substRow.substRows, evalEs, substRow_ok db env r r' e h.1, substRows_ok db env r r' es h.2]
end

/-- Hash keys agree with `=` on the values of one IN evaluation. -/
def KeyEq {κ : Type} (key : Value → Option κ) (vals : List Value) : Prop :=
  (∀ a ∈ vals, a ≠ .null → (key a).isSome) ∧
  (∀ a ∈ vals, ∀ b ∈ vals, ∀ ka kb, key a = some ka → key b = some kb →
      (ka = kb ↔ cmpTri .eq a b = .t))

theorem evalHashIn_of_key {κ : Type} [DecidableEq κ] (key : Value → Option κ) {v : Value} {k : κ}
    (hv : v ≠ .null) (hk : key v = some k) (s : HashSet κ) :
    evalHashIn key s v = if k ∈ s.keys then .t else if s.hasNull then .u else .f := by
  cases v <;> simp_all [evalHashIn]

theorem newInMap_eq {κ : Type} (key : Value → Option κ) (vs : List Value) :
    newInMap key vs = ⟨(nonNull vs).filterMap key, vs.any Value.isNull⟩ := by
  induction vs with
  | nil => rfl
  | cons v vs ih =>
    cases v with
    | null => simp [newInMap, ih, nonNull, Value.isNull]
    | int _ | str _ =>
      simp only [newInMap, ih]
      split <;> simp [nonNull, Value.isNull, *]

end Gms.HashIn

namespace Gms.C06
open Gms.Sql Gms.Rel Gms.HashIn

/-- The decision sequence of `HashInTuple.Eval` and the NULL handling of `newInMap`, re-read
from the source on this run, are the ones the model transliterates. -/
theorem facts_match :
    Gms.Generated.C06.hashInEvalReturns =
      ["nil, err", "nil, nil", "nil, err", "false, nil", "true, nil", "nil, nil", "false, nil"]
    ∧ Gms.Generated.C06.hashInEvalConds =
      ["err != nil", "leftVal == nil", "err != nil", "inRange != sql.InRange", "_, ok := hit.cmp[key]; ok", "hit.hasNull"]
    ∧ Gms.Generated.C06.newInMapNullSkips = 2
    ∧ Gms.Generated.C06.newInMapInRangeGuard = "inRange == sql.InRange" :=
  ⟨rfl, rfl, rfl, rfl⟩

/-- `x IN (a, b, …)` is the disjunction of the equalities, in all three truth values. -/
theorem in_list_eq_or (db : Db) (env : Env) (e : Expr) (es : List Expr) (h : es ≠ []) :
    evalE db env (.inList e es) = evalE db env (orChain e es) := by
  rw [evalE_orChain db env e es]; simp [evalE]

/-- `x NOT IN (a, b, …)` is the conjunction of the inequalities. -/
theorem notin_list_eq_and (db : Db) (env : Env) (e : Expr) (es : List Expr) (h : es ≠ []) :
    evalE db env (.not (.inList e es)) = evalE db env (andChain e es) := by
  rw [evalE_andChain db env e es]; simp [evalE, truth_toValue]

/-- BETWEEN is the pair of comparisons. -/
theorem between_eq_and (db : Db) (env : Env) (e lo hi : Expr) :
    evalE db env (.between e lo hi) = evalE db env (betweenAnd e lo hi) := by
  simp [betweenAnd, evalE, betweenTri, truth_toValue]

/-- `x IN (SELECT e FROM S)` is TRUE exactly when `EXISTS (SELECT * FROM S WHERE x = e)` is. -/
theorem in_subq_eq_exists (db : Db) (env : Env) (r : Row) (i : Nat) (e : Expr) (s : Query) :
    (evalE db (r :: env) (.inSub (.col 0 i) (.project [e] s))).truth = .t ↔
      (evalE db (r :: env) (.exists (.filter (.cmp .eq (.col 1 i) e) s))).truth = .t := by
  -- both sides say that some row `b` of `S` makes `x = e` TRUE
  have hl : (evalE db (r :: env) (.inSub (.col 0 i) (.project [e] s))).truth = .t ↔
      ∃ b ∈ evalQ db (r :: env) s, cmpTri .eq (r.getD i .null) (evalE db (b :: r :: env) e) = .t := by
    simp only [evalE, truth_toValue, inTri_eq_t, exists_mem_firstCol, evalQ, exists_mem_map, evalEs, lookup_zero,
      List.headD_cons]
  rw [hl]
  simp only [evalE, truth_toValue, Tri.ofBool_eq_t, evalQ, isEmpty_filter, Bool.not_not, List.any_eq_true,
    decide_eq_true_eq, lookup_succ, lookup_zero]

/-- … hence the two WHERE clauses keep the same rows of any query. -/
theorem filter_in_subq_eq_exists (db : Db) (env : Env) (i : Nat) (e : Expr) (s base : Query) :
    evalQ db env (.filter (.inSub (.col 0 i) (.project [e] s)) base) =
      evalQ db env (.filter (.exists (.filter (.cmp .eq (.col 1 i) e) s)) base) := by
  simp only [evalQ]
  exact List.filter_congr fun r _ => decide_eq_decide.mpr (in_subq_eq_exists db env r i e s)

/-- Inner-join condition in ON or in WHERE. -/
theorem on_eq_where_inner (db : Db) (env : Env) (on : Expr) (l r : Query) :
    evalQ db env (.join .inner on l r) = evalQ db env (.filter on (.join .inner (.lit (.int 1)) l r)) :=
  evalQ_join_inner_eq_filter db env on l r

/-- A derived table (or CTE) that selects all columns of its body is its body. -/
theorem derived_inline (db : Db) (env : Env) (q : Query) (n : Nat)
    (hw : ∀ r ∈ evalQ db env q, r.length = n) :
    evalQ db env (.project (idCols n) q) = evalQ db env q := by
  simp only [evalQ]
  exact (List.map_congr_left fun r hr => hw r hr ▸ evalEs_idCols db env r).trans (List.map_id _)

/-- An expression over the columns of a row and the same expression over the literal values the
row holds (subquery-free expressions; `r'` is whatever row the constant expression is evaluated
on). -/
theorem const_fold (db : Db) (env : Env) (r r' : Row) (e : Expr) (h : noSub e = true) :
    evalE db (r' :: env) (substRow r e) = evalE db (r :: env) e :=
  substRow_ok db env r r' e h

/-- The hashed IN computes the list IN whenever hash keys agree with `=` on the values involved
(true for integers and for strings under one collation; for case-insensitive collations this
hypothesis is C07's finding). -/
theorem hashIn_eq_listIn {κ : Type} [DecidableEq κ] (key : Value → Option κ) (v : Value)
    (vs : List Value) (hne : vs ≠ []) (hk : KeyEq key (v :: vs)) :
    evalHashIn key (newInMap key vs) v = inTri v vs := by
  obtain ⟨hsome, heq⟩ := hk
  by_cases hv : v = .null
  · subst hv
    rw [inTri_null, if_neg hne]
    rfl
  · obtain ⟨kv, hkv⟩ := Option.isSome_iff_exists.mp (hsome v (by simp) hv)
    -- the key of `v` is in the set iff `v` is in the list: equal keys make `v = w` TRUE, so `w` is `v`
    have hmem : kv ∈ (nonNull vs).filterMap key ↔ v ∈ vs := by
      simp only [List.mem_filterMap, nonNull, List.mem_filter]
      refine ⟨fun ⟨w, ⟨hw, _⟩, hkw⟩ => ?_, fun hvs => ⟨v, ⟨hvs, by simp [Bool.eq_false_iff, isNull_iff, hv]⟩, hkv⟩⟩
      exact cmpTri_eq_t v w ((heq v (by simp) w (.tail _ hw) kv kv hkv hkw).mp rfl) ▸ hw
    rw [inTri_nonnull v hv, evalHashIn_of_key key hv hkv, newInMap_eq]
    simp only [hmem, any_isNull, decide_eq_true_eq]

/-- `KeyEq` is satisfiable and the theorem has content: integers keyed by themselves. -/
example : evalHashIn (fun v => some v) (newInMap (fun v => some v) [.int 1, .null, .int 3]) (.int 2) = .u
    ∧ inTri (.int 2) [.int 1, .null, .int 3] = .u
    ∧ evalHashIn (fun v => some v) (newInMap (fun v => some v) [.int 1, .null, .int 3]) (.int 3) = .t
    ∧ evalHashIn (fun v => some v) (newInMap (fun v => some v) [.int 1, .int 3]) (.int 2) = .f := by
  decide +kernel

/-- Without `KeyEq` the statement fails (Appendix-C mutant "HashInTuple ignores NULL in list" is
the same shape: a key function that drops information): a constant key makes everything IN. -/
example : evalHashIn (fun _ => some 0) (newInMap (fun _ => some 0) [.int 1]) (.int 2) ≠ inTri (.int 2) [.int 1] := by
  decide +kernel

example : Rel.eval [⟨1, [[.int 1], [.null], [.int 2]]⟩]
      (.filter (.inList (.col 0 0) [.lit (.int 2), .lit .null]) (.table 0)) = [[.int 2]]
    ∧ evalE [] [[.null]] (.inList (.col 0 0) [.lit (.int 2)]) = .null
    ∧ evalE [] [[.null]] (orChain (.col 0 0) [.lit (.int 2)]) = .null := by decide +kernel

end Gms.C06
