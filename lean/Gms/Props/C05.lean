/-
C05 — A predicate partitions rows into TRUE, FALSE and NULL parts.

The partition law of the SQL definition (`tlp`: `Q ~ σ_p Q ++ σ_{NOT p} Q ++ σ_{p IS NULL} Q` as bags), and
that the engine's handling of predicates respects it: the Impl model of
`pushNotFiltersHelper` preserves all three truth values (`pushNot_equiv`), every shape
`analyzer.simplifyExpression` may return has the value of what it replaces (`simplify_*`), filters move
below joins only on the preserved side (`pushdown_*`), and `memory.indexScanRowIter` delivers exactly the
entries its range expression accepts (`index_scan_*`). The `facts_*` tie the models to the source as
re-extracted on every run.
-/
import Gms.Lemmas.Rel
import Gms.Lemmas.MemIdxIter
import Gms.Model.PushNot
import Gms.Model.FilterFold
import Gms.Generated.C05

namespace Gms.PushNot
open Gms.Sql

theorem isBoolValue_toValue (x : Tri) : IsBoolValue x.toValue := by
  cases x <;> simp [IsBoolValue, Tri.toValue]

theorem toValue_truth_of_bool (v : Value) (h : IsBoolValue v) : v.truth.toValue = v := by
  rcases h with rfl | rfl | rfl <;> rfl

theorem cmpTri_negOp (op op' : Op) (h : negOp op = some op') (a b : Value) :
    cmpTri op' a b = Tri.not (cmpTri op a b) := by
  cases op <;> simp [negOp] at h <;> subst h <;>
    exact cmpTri_not (by decide) (by decide) (fun o => by cases o <;> rfl) a b

theorem between_not (v lo hi : Value) :
    Tri.or (cmpTri .lt v lo) (cmpTri .gt v hi) = Tri.not (betweenTri v lo hi) := by
  rw [betweenTri, Tri.not_and, cmpTri_negOp .ge .lt rfl, cmpTri_negOp .le .gt rfl]

theorem eval_isBool (ρ : Nat → Value) (F : Nat → List Value → Value) :
    (e : PExpr) → WellTyped ρ F e → isBool e = true → IsBoolValue (eval ρ F e)
  | .atom _ _, h, hb => by simp only [isBool] at hb; exact h hb
  | .other _ _ _, h, hb => by simp only [isBool] at hb; exact h.1 hb
  | .not _, _, _ => isBoolValue_toValue _
  | .and _ _, _, _ => isBoolValue_toValue _
  | .or _ _, _, _ => isBoolValue_toValue _
  | .cmp _ _ _, _, _ => isBoolValue_toValue _
  | .between _ _ _, _, _ => isBoolValue_toValue _

mutual
theorem push_ok (ρ : Nat → Value) (F : Nat → List Value → Value) :
    (e : PExpr) → WellTyped ρ F e → eval ρ F (push e) = eval ρ F e
  | .atom _ _, _ => rfl
  | .not e, h => by
    simp only [push, eval]
    exact pushNeg_ok ρ F e h
  | .and a b, h | .or a b, h | .cmp _ a b, h => by
    simp only [push, eval, push_ok ρ F a h.1, push_ok ρ F b h.2]
  | .between v lo hi, h => by
    simp only [push, eval, push_ok ρ F v h.1, push_ok ρ F lo h.2.1, push_ok ρ F hi h.2.2]
  | .other _ _ cs, h => by simp only [push, eval, pushList_ok ρ F cs h.2]

theorem pushNeg_ok (ρ : Nat → Value) (F : Nat → List Value → Value) :
    (e : PExpr) → WellTyped ρ F e → eval ρ F (pushNeg e) = (Tri.not (eval ρ F e).truth).toValue
  | .atom _ _, _ => rfl
  | .not c, h => by
    by_cases hb : isBool c = true
    · simp only [pushNeg, hb, if_true, eval, truth_toValue, Tri.not_not]
      rw [push_ok ρ F c h, toValue_truth_of_bool _ (eval_isBool ρ F c h hb)]
    · have e1 : pushNeg (.not c) = .not (pushNeg c) := by simp [pushNeg, hb]
      rw [e1]
      simp only [eval, truth_toValue, pushNeg_ok ρ F c h]
  | .and l r, h | .or l r, h => by  -- De Morgan
    simp only [pushNeg, eval, pushNeg_ok ρ F l h.1, pushNeg_ok ρ F r h.2, truth_toValue, Tri.not_and, Tri.not_or]
  | .cmp op a b, h => by
    cases hop : negOp op with
    | none => simp only [pushNeg, hop, eval, push_ok ρ F a h.1, push_ok ρ F b h.2]
    | some op' =>
      simp only [pushNeg, hop, eval, push_ok ρ F a h.1, push_ok ρ F b h.2, truth_toValue]
      rw [cmpTri_negOp op op' hop]
  | .between v lo hi, h => by
    simp only [pushNeg, eval, push_ok ρ F v h.1, push_ok ρ F lo h.2.1, push_ok ρ F hi h.2.2, truth_toValue]
    rw [between_not]
  | .other _ _ cs, h => by simp only [pushNeg, eval, pushList_ok ρ F cs h.2]

theorem pushList_ok (ρ : Nat → Value) (F : Nat → List Value → Value) :
    (cs : List PExpr) → WellTypedList ρ F cs → evalList ρ F (pushList cs) = evalList ρ F cs
  | [], _ => rfl
  | e :: es, h => by simp only [pushList, evalList, push_ok ρ F e h.1, pushList_ok ρ F es h.2]
end

end Gms.PushNot

namespace Gms.C05
open Gms.Sql Gms.Rel Gms.PushNot

/-- Row by row, exactly one of `p`, `NOT p`, `p IS NULL` is TRUE. -/
theorem tlp_exclusive (db : Db) (env : Env) (p : Expr) :
    ((evalE db env p).truth = .t ∧ (evalE db env (.not p)).truth ≠ .t ∧ (evalE db env (.isNull p)).truth ≠ .t)
    ∨ ((evalE db env p).truth ≠ .t ∧ (evalE db env (.not p)).truth = .t ∧ (evalE db env (.isNull p)).truth ≠ .t)
    ∨ ((evalE db env p).truth ≠ .t ∧ (evalE db env (.not p)).truth ≠ .t ∧ (evalE db env (.isNull p)).truth = .t) := by
  simp only [evalE, truth_toValue, ne_eq, Tri.ofBool_eq_t, isNull_iff, ← truth_eq_u]
  cases (evalE db env p).truth <;> simp [Tri.not]

/-- **TLP**: the rows of any query are the disjoint union (as a bag) of its rows filtered by `p`,
by `NOT p` and by `p IS NULL` — for every query, predicate (with subqueries, correlation, any
operator of the model), database and environment. -/
theorem tlp (db : Db) (env : Env) (p : Expr) (q : Query) :
    (evalQ db env q).Perm
      (evalQ db env (.filter p q) ++ evalQ db env (.filter (.not p) q) ++ evalQ db env (.filter (.isNull p) q)) := by
  simp only [evalQ]
  exact filter3_perm _ _ _ _ fun r _ => tlp_exclusive db (r :: env) p

/-- Corollary on counts (what the engine-level oracle checks). -/
theorem tlp_count (db : Db) (env : Env) (p : Expr) (q : Query) :
    (evalQ db env q).length =
      (evalQ db env (.filter p q)).length + (evalQ db env (.filter (.not p) q)).length
        + (evalQ db env (.filter (.isNull p) q)).length := by
  have := (tlp db env p q).length_eq
  simp only [List.length_append] at this
  omega

/-- The rewrite table extracted from the source on this run is the one the model implements:
which child kinds of a NOT are rewritten, to which constructors, with which guard. -/
theorem facts_match :
    Gms.Generated.C05.pushNotTable =
      [("Not", ["IsBoolean", "Type", "pushNotFiltersHelper"]),
       ("And", ["NewOr", "NewNot", "NewNot"]),
       ("Or", ["NewAnd", "NewNot", "NewNot"]),
       ("GreaterThan", ["NewLessThanOrEqual", "Left", "Right"]),
       ("GreaterThanOrEqual", ["NewLessThan", "Left", "Right"]),
       ("LessThan", ["NewGreaterThanOrEqual", "Left", "Right"]),
       ("LessThanOrEqual", ["NewGreaterThan", "Left", "Right"]),
       ("Between", ["NewOr", "NewLessThan", "NewGreaterThan"])]
    ∧ Gms.Generated.C05.betweenArgs = ["f.Val", "f.Lower", "f.Val", "f.Upper"]
    ∧ Gms.Generated.C05.fallThrough = "WithChildren" :=
  ⟨rfl, rfl, rfl⟩

def opOfName : String → Option CmpOp
  | "GreaterThan" => some .gt | "GreaterThanOrEqual" => some .ge
  | "LessThan" => some .lt | "LessThanOrEqual" => some .le | _ => none
def opOfCtor : String → Option CmpOp
  | "NewGreaterThan" => some .gt | "NewGreaterThanOrEqual" => some .ge
  | "NewLessThan" => some .lt | "NewLessThanOrEqual" => some .le | _ => none

/-- The model's comparison table is the extracted one. -/
theorem facts_negOp :
    Gms.Generated.C05.pushNotTable.all (fun e =>
      match opOfName e.1 with
      | some op =>
        (match e.2 with
         | [c, "Left", "Right"] => opOfCtor c == negOp op   -- complementary comparison, operands in order
         | _ => false)
      | none => true) = true := by
  decide +kernel

/-- NOT push-down preserves the value of every expression (hence all three truth values), for
every valuation of the leaves and every interpretation of the opaque sub-expressions that honours
the static boolean flags. -/
theorem pushNot_equiv (ρ : Nat → Value) (F : Nat → List Value → Value) (e : PExpr)
    (h : WellTyped ρ F e) : PushNot.eval ρ F (push e) = PushNot.eval ρ F e :=
  push_ok ρ F e h

/-- The rewritten `NOT e` is the three-valued negation of `e`. -/
theorem pushNot_not_equiv (ρ : Nat → Value) (F : Nat → List Value → Value) (e : PExpr)
    (h : WellTyped ρ F e) :
    (PushNot.eval ρ F (push (.not e))).truth = Tri.not (PushNot.eval ρ F e).truth := by
  rw [push_ok ρ F (.not e) h]
  simp [PushNot.eval, truth_toValue]

/-- Non-vacuity and sharpness: a concrete rewrite, and the boolean guard of `NOT NOT c` matters
(for the non-boolean value 2, `NOT NOT 2 = 1 ≠ 2`). -/
example : push (.not (.and (.cmp .lt (.atom 0 false) (.atom 1 false)) (.not (.between (.atom 0 false) (.atom 1 false) (.atom 2 false)))))
    = .or (.cmp .ge (.atom 0 false) (.atom 1 false)) (.between (.atom 0 false) (.atom 1 false) (.atom 2 false)) := by
  rfl

example : PushNot.eval (fun _ => .int 2) (fun _ _ => .null) (.not (.not (.atom 0 false))) = .int 1
    ∧ push (.not (.not (.atom 0 false))) = .not (.not (.atom 0 false))
    ∧ push (.not (.not (.atom 0 true))) = .atom 0 true := ⟨by decide +kernel, rfl, rfl⟩

/-- The Appendix-C mutant `NOT (a < b) ↦ a > b` is refuted by the equality case. -/
theorem mutant_lt_to_gt_refuted :
    ∃ a b, negOpWrong .lt = some .gt ∧ cmpTri .gt a b ≠ Tri.not (cmpTri .lt a b) :=
  ⟨.int 1, .int 1, rfl, by decide⟩

/-- What the BETWEEN / OR / AND / NOT cases of `simplifyExpression` can return (first result of each
`return`, in source order), as extracted from the source on this run. Each shape is covered by one
of the `simplify_*` lemmas below; in particular no BETWEEN is ever replaced by a literal. -/
theorem facts_simplify :
    Gms.Generated.C05.simplifyReturns =
      [("Between", ["NewEquals", "NewLessThanOrEqual", "NewGreaterThanOrEqual",
                    "NewAnd NewGreaterThanOrEqual NewLessThanOrEqual"]),
       ("Or", ["NewTrue", "NewTrue", "NewFalse", "e.RightChild", "e.LeftChild", "e"]),
       ("And", ["NewFalse", "NewFalse", "NewTrue", "e.RightChild", "e.LeftChild", "e"]),
       ("Not", ["e", "NewLiteral", "e"])] :=
  rfl

/-- `v BETWEEN f AND f` ↦ `v = f` (lower and upper bound are the same field). -/
theorem simplify_between_same_bounds (v f : Value) : betweenTri v f f = cmpTri .eq v f := by
  simp only [betweenTri, cmpTri]
  cases v.cmp? f with
  | none => rfl
  | some o => cases o <;> rfl

/-- Comparing `f` with itself by an operator that holds of equals gives TRUE, unless `f` is NULL; and
then every comparison of `f` is NULL too. -/
theorem and_cmpTri_self {op op' : CmpOp} (hop : op.holds .eq = true) (hn : op ≠ .nseq) (hn' : op' ≠ .nseq)
    (f w : Value) : Tri.and (cmpTri op f f) (cmpTri op' f w) = cmpTri op' f w := by
  by_cases h : f = .null
  · rw [h, cmpTri_null_left op hn, cmpTri_null_left op' hn']; rfl
  · simp only [cmpTri_of_ne_nseq hn f f, (cmp?_eq_iff f f h).mpr rfl, hop]
    exact Tri.and_t_left _

/-- `f BETWEEN f AND u` ↦ `f <= u` (tested value and lower bound are the same field). -/
theorem simplify_between_val_is_lower (f u : Value) : betweenTri f f u = cmpTri .le f u :=
  and_cmpTri_self rfl (by decide) (by decide) f u

/-- `f BETWEEN l AND f` ↦ `f >= l` (tested value and upper bound are the same field). -/
theorem simplify_between_val_is_upper (f l : Value) : betweenTri f l f = cmpTri .ge f l := by
  rw [betweenTri, Tri.and_comm]
  exact and_cmpTri_self rfl (by decide) (by decide) f l

/-- Every other BETWEEN ↦ `v >= lo AND v <= hi`: the definition. -/
theorem simplify_between_unfold (v lo hi : Value) :
    betweenTri v lo hi = Tri.and (cmpTri .ge v lo) (cmpTri .le v hi) := rfl

/-- OR / AND with an operand that is a definite (non-NULL) literal: the six return shapes. Returning
the other operand itself is guarded by `types.IsBoolean` in the code: it preserves the truth value
always and the value when the operand is boolean (`toValue_truth_of_bool`). -/
theorem simplify_or_and_literal (x : Tri) :
    Tri.or .t x = .t ∧ Tri.or x .t = .t ∧ Tri.or .f .f = .f ∧ Tri.or .f x = x ∧ Tri.or x .f = x
    ∧ Tri.and .f x = .f ∧ Tri.and x .f = .f ∧ Tri.and .t .t = .t ∧ Tri.and .t x = x ∧ Tri.and x .t = x :=
  ⟨x.or_t_left, x.or_t_right, rfl, x.or_f_left, x.or_f_right, x.and_f_left, x.and_f_right, rfl, x.and_t_left,
    x.and_t_right⟩

/-- A NULL literal operand decides nothing (`getDefiniteBoolValues` returns `false, false` for it):
`NULL OR x` and `NULL AND x` still depend on `x`. -/
theorem null_literal_is_not_definite :
    Tri.or .u .t ≠ Tri.or .u .f ∧ Tri.and .u .t ≠ Tri.and .u .f := by decide

/-- `NOT <literal>` ↦ the negated literal. -/
theorem simplify_not_literal (v : Value) :
    (Tri.not v.truth).toValue.truth = Tri.not v.truth := truth_toValue _

/-- **An empty literal range**: `v BETWEEN lo AND hi` with `lo > hi` is FALSE on every non-NULL `v`
but NULL on NULL. -/
theorem between_empty_range (v : Value) (lo hi : Int) (h : hi < lo) :
    betweenTri v (.int lo) (.int hi) = if v.isNull then .u else .f := by
  cases v with
  | null => rfl
  | str b => simp only [betweenTri, cmpTri, Value.cmp?, Value.isNull]; rfl
  | int i =>
    simp only [betweenTri, cmpTri, Value.cmp?, Value.isNull]
    by_cases h1 : i < lo
    · have : compare i lo = .lt := Int.compare_eq_lt.mpr h1
      simp [this, CmpOp.holds, Tri.ofBool, Tri.and_f_left]
    · have : compare i hi = .gt := Int.compare_eq_gt.mpr (by omega)
      simp [this, CmpOp.holds, Tri.ofBool, Tri.and_f_right]

/-- The line of the TODO list above the BETWEEN case ("If e.Lower > e.Upper, simplify to false") must
not be implemented literally: on a NULL operand the folded predicate is FALSE where the original is
NULL, so `NOT p` keeps a row that belongs to the NULL part, and `p IS NULL` loses it. -/
theorem fold_empty_range_to_false_unsound :
    ∃ (v : Value) (lo hi : Int), hi < lo ∧
      Tri.not (betweenTri v (.int lo) (.int hi)) ≠ .t ∧ Tri.not Tri.f = .t ∧
      betweenTri v (.int lo) (.int hi) = .u :=
  ⟨.null, 5, 3, by decide, by decide, rfl, rfl⟩

/-- … and it is exactly the NULL operand that goes wrong (sharpness). -/
theorem fold_empty_range_to_false_sound_on_non_null (v : Value) (lo hi : Int) (h : hi < lo)
    (hv : v.isNull = false) : betweenTri v (.int lo) (.int hi) = .f := by
  rw [between_empty_range v lo hi h, hv]; rfl

section IndexScan
open Gms.MemIdxIter

/-- The shape of `indexScanRowIter` the model `Gms.MemIdxIter` transliterates, as extracted on this
run: the state is a position in the index storage, the loop visits every entry (`i++` / `i--` from
the first / last one), and the only exits are the stale-location `continue`, the error `return`, and
the `break` on a match — after which the position moves on by one. -/
theorem facts_idxIter :
    Gms.Generated.C05.idxIterFields =
      ["index", "ranges", "lookup", "indexRows", "incrementFunc", "primaryRows", "columns", "virtualCols", "i",
       "numColumns"]
    ∧ Gms.Generated.C05.idxIterLoopCond = "i.i < len(i.indexRows) && i.i >= 0"
    ∧ Gms.Generated.C05.idxIterLoopPost = "i.incrementFunc()"
    ∧ Gms.Generated.C05.idxIterLoopExits =
      [("continue", "len(i.primaryRows[rowLoc.partition]) <= rowLoc.idx"), ("return", "err != nil"),
       ("break", "matches")]
    ∧ Gms.Generated.C05.idxIterLoopMoves = [("i.incrementFunc()", "matches")]
    ∧ Gms.Generated.C05.idxIterSetup =
      [("i := 0", ""), ("i = len(indexRows) - 1", "lookup.IsReverse"), ("iter.i--", "lookup.IsReverse"),
       ("iter.i++", "!(lookup.IsReverse)")] :=
  ⟨rfl, rfl, rfl, rfl, rfl, rfl⟩

/-- An index lookup delivers exactly the entries whose key satisfies the range expression — each
once, whatever the direction, whatever the range expression (one box, many boxes, any predicate). -/
theorem index_scan_complete {α : Type} (m : Key → Bool) (rev : Bool) (es : List (Entry α)) :
    (scan m rev es).Perm (Spec.scan m es) ∧ (∀ e, e ∈ scan m rev es ↔ e ∈ es ∧ m e.key = true) :=
  ⟨scan_perm m rev es, mem_scan m rev es⟩

/-- In the forward direction the entries come in index order, in the reverse direction backwards. -/
theorem index_scan_order {α : Type} (m : Key → Bool) (es : List (Entry α)) :
    scan m false es = Spec.scan m es ∧ scan m true es = (Spec.scan m es).reverse :=
  ⟨scan_forward m es, scan_reverse m es⟩

/-- TLP through the index: if on every key exactly one of the three range expressions (those of `p`,
`NOT p`, `p IS NULL`) holds, the three lookups partition the index, in any mix of directions. -/
theorem index_scan_tlp {α : Type} (mT mF mN : Key → Bool) (rT rF rN : Bool) (es : List (Entry α))
    (h : ∀ k, (mT k = true ∧ mF k = false ∧ mN k = false) ∨ (mT k = false ∧ mF k = true ∧ mN k = false)
      ∨ (mT k = false ∧ mF k = false ∧ mN k = true)) :
    es.Perm (scan mT rT es ++ scan mF rF es ++ scan mN rN es) := by
  -- `filter3_perm` speaks of decidable propositions: wrap the three tests in `= true`, then strip the `decide`
  have h3 := Gms.Rel.filter3_perm (fun e : Entry α => mT e.key = true) (fun e => mF e.key = true)
    (fun e => mN e.key = true) es (fun e _ => by simpa using h e.key)
  simp only [Bool.decide_eq_true] at h3
  refine h3.trans ?_
  exact ((scan_perm mT rT es).symm.append (scan_perm mF rF es).symm).append (scan_perm mN rN es).symm

/-- Leaving the loop at the first entry past a run of matches ("the entries of a single range are
adjacent") is sound for a one-column index and a single interval … -/
theorem stop_after_run_sound_single_column {α : Type} (r : Interval) (es : List (Entry α))
    (hs : es.Pairwise (fun a b => key1Le a.key b.key)) :
    scanStopAfterRun (Box.holds [r]) es = Spec.scan (Box.holds [r]) es :=
  scanStopAfterRun_of_sorted_convex (Box.holds [r]) key1Le (box1_convex r) es hs

/-- … and whenever the matches happen to be adjacent … -/
theorem stop_after_run_sound_contiguous {α : Type} (m : Key → Bool) (es : List (Entry α))
    (h : Contiguous m es) : scanStopAfterRun m es = Spec.scan m es := by
  obtain ⟨pre, mid, post, rfl, hpre, hmid, hpost⟩ := h
  refine scanStopAfterRun_eq_scan m _ ?_
  rw [List.append_assoc, List.dropWhile_append_of_pos (by simpa using hpre)]
  -- in `mid ++ post` whatever precedes a match lies in `mid`
  refine List.Pairwise.sublist (List.dropWhile_sublist _) (List.pairwise_append.mpr ⟨?_, ?_, fun a ha _ _ _ => hmid a ha⟩)
  · exact List.Pairwise.imp_mem.mpr (List.pairwise_of_forall fun a _ ha _ _ => hmid a ha)
  · exact List.Pairwise.imp_mem.mpr (List.pairwise_of_forall fun _ b _ hb hmb => by simp [hpost b hb] at hmb)

/-- … but NOT for a single box over a two-column index: for `a > 1 AND b = 2` on the sorted entries
`(2,1) (2,2) (3,1) (3,2) (4,2)` the matches `(2,2) (3,2) (4,2)` are interleaved with non-matches, and
stopping after the first run loses two of them. -/
def exIdx : List (Entry Nat) :=
  [⟨[some 2, some 1], 0⟩, ⟨[some 2, some 2], 1⟩, ⟨[some 3, some 1], 2⟩, ⟨[some 3, some 2], 3⟩, ⟨[some 4, some 2], 4⟩]
def exBox : Box := [.range (some (1, false)) none, .range (some (2, true)) (some (2, true))]

theorem stop_after_run_unsound_box :
    (scan (Box.holds exBox) false exIdx).map (·.row) = [1, 3, 4]
    ∧ (scan (Box.holds exBox) true exIdx).map (·.row) = [4, 3, 1]
    ∧ (scanStopAfterRun (Box.holds exBox) exIdx).map (·.row) = [1]
    ∧ (scanStopAfterRun (Box.holds exBox) exIdx.reverse).map (·.row) = [4, 3] := by
  decide +kernel

/-- Non-vacuity of `index_scan_tlp`: `a > 1 AND b = 2`, its negation and its NULL part on an index
with NULL keys. -/
example :
    let es : List (Entry Nat) := exIdx ++ [⟨[none, some 2], 5⟩, ⟨[some 4, none], 6⟩]
    let mT : Key → Bool := Box.holds exBox
    let mN : Key → Bool := fun k => boxesHold [[.isNull, .range (some (2, true)) (some (2, true))],
      [.range (some (1, false)) none, .isNull], [.isNull, .isNull]] k
    let mF : Key → Bool := fun k => !mT k && !mN k
    (scan mT false es).map (·.row) = [1, 3, 4] ∧ (scan mN true es).map (·.row) = [6, 5]
      ∧ (scan mF false es).map (·.row) = [0, 2] := by
  decide +kernel

end IndexScan

/-! ### Known finding `join_on_folds_false_beside_subquery` (engine level, no Impl model of the planner)

When the ON of a join constant-folds to FALSE, `simplifyFilters` puts an `EmptyTable` into the join
tree; if the same statement has a WHERE / ON subquery that is unnested into a semi / anti join, the
join planner fails: error 1105 `failed to replan join: unknown type for rel output cols:
*memo.EmptyTable`. So one of `WHERE p` / `WHERE NOT p` / `WHERE p IS NULL` fails where the others
answer. The region is decided on the case by `Gms.FilterFold.Region_join_on_folds_false_beside_subquery`
(an over-approximation of "may fold to FALSE"; mirrored by harness/cmd/c05/region.go, re-decided by the
driver); inside it a case is only taken out of the correspondence when the engine shows exactly this
error, otherwise it is compared with the definition as usual. -/

section FoldRegion
open Gms.FilterFold

def exFoldDb : Db := [⟨1, [[.int 1], [.int 2]]⟩]
/-- `t0 a LEFT JOIN t0 b ON (a.c0 > b.c0 AND 1 = 0)` -/
def exFoldQ : Query :=
  .join .left (.and (.cmp .gt (.col 0 0) (.col 0 1)) (.cmp .eq (.lit (.int 1)) (.lit (.int 0)))) (.table 0) (.table 0)
/-- `EXISTS (SELECT … FROM t0 c WHERE c.c0 = 1)` -/
def exFoldP : Expr := .exists (.filter (.cmp .eq (.col 0 0) (.lit (.int 1))) (.table 0))

/-- The witness: the statement `… WHERE NOT p` is in the region; the definition answers it (no row:
`p` is TRUE on both NULL-padded rows) — the engine fails with error 1105 (replayed, see
known_findings/C05.jsonl), while `WHERE p` returns the two rows on both sides. -/
theorem finding_join_on_folds_false_beside_subquery :
    Region_join_on_folds_false_beside_subquery (.filter (.not exFoldP) exFoldQ) = true
    ∧ Rel.eval exFoldDb (.filter (.not exFoldP) exFoldQ) = []
    ∧ Rel.eval exFoldDb (.filter exFoldP exFoldQ) = [[.int 1, .null], [.int 2, .null]] := by
  decide +kernel

/-- The region needs both ingredients: a statement without a subquery in WHERE / ON, and a statement
none of whose join conditions can fold to FALSE, are outside it (and are compared with the
definition in full). -/
theorem region_needs_subquery_and_foldable_join (q : Query) :
    (predHasSub q = false → Region_join_on_folds_false_beside_subquery q = false)
    ∧ (joinMayFoldFalse q = false → Region_join_on_folds_false_beside_subquery q = false) := by
  constructor <;> intro h <;> simp [Region_join_on_folds_false_beside_subquery, h]

/-- A condition whose every conjunct compares columns cannot fold: the ordinary ON of the generators
is outside the region, the witness' ON is inside. -/
example : (foldE (.and (.cmp .eq (.col 0 0) (.col 0 1)) (.cmp .lt (.col 0 0) (.lit (.int 3))))).mayF = false
    ∧ (foldE (.and (.cmp .gt (.col 0 0) (.col 0 1)) (.cmp .eq (.lit (.int 1)) (.lit (.int 0))))).mayF = true := by
  decide +kernel

end FoldRegion

/-- WHERE keeps exactly the rows whose select-list value of `p` is TRUE. -/
theorem where_keeps_true (db : Db) (env : Env) (p : Expr) (q : Query) :
    evalQ db env (.filter p q) =
      ((evalQ db env (.project [p] q)).zip (evalQ db env q)).filterMap
        (fun pr => if (pr.1.headD .null).truth = .t then some pr.2 else none) := by
  simp only [evalQ, evalEs]
  induction evalQ db env q with
  | nil => rfl
  | cons r rs ih =>
    simp only [List.map_cons, List.zip_cons_cons, List.filterMap_cons, List.filter_cons, List.headD_cons]
    by_cases h : (evalE db (r :: env) p).truth = .t <;> simp [h, ih]

/-- An inner-join ON clause keeps exactly the pairs on which it is TRUE. -/
theorem on_keeps_true (db : Db) (env : Env) (on : Expr) (l r : Query) (x : Row) :
    x ∈ evalQ db env (.join .inner on l r) ↔
      ∃ a ∈ evalQ db env l, ∃ b ∈ evalQ db env r, (evalE db ((a ++ b) :: env) on).truth = .t ∧ x = a ++ b := by
  simp only [evalQ, mem_innerJoin, decide_eq_true_eq]

/-- HAVING is a filter over the grouped rows. -/
theorem having_keeps_true (db : Db) (env : Env) (p : Expr) (ks : List Expr) (fns : List AggFn)
    (args : List Expr) (q : Query) (x : Row) :
    x ∈ evalQ db env (.filter p (.group ks fns args q)) ↔
      x ∈ evalQ db env (.group ks fns args q) ∧ (evalE db (x :: env) p).truth = .t := by
  rw [evalQ, List.mem_filter, decide_eq_true_eq]

/-- ON and WHERE are interchangeable for inner joins. -/
theorem on_eq_where_inner (db : Db) (env : Env) (on : Expr) (l r : Query) :
    evalQ db env (.join .inner on l r) = evalQ db env (.filter on (.join .inner (.lit (.int 1)) l r)) :=
  evalQ_join_inner_eq_filter db env on l r

/-- A filter that only looks at the left part of a joined row can be applied before an inner
join … -/
theorem pushdown_inner_equiv (m : Row → Row → Bool) (p : Row → Bool) (lw : Nat) (L R : List Row)
    (hL : ∀ a ∈ L, a.length = lw) :
    (innerJoin m L R).filter (fun x => p (x.take lw)) = innerJoin m (L.filter p) R := by
  rw [filter_innerJoin, innerJoin_filter_left]
  exact innerJoin_congr fun a ha b _ => by simp [← hL a ha]

/-- … and before a left outer join, when it looks at the *preserved* (left) side only. -/
theorem pushdown_left_preserved_equiv (m : Row → Row → Bool) (p : Row → Bool) (lw w : Nat)
    (L R : List Row) (hL : ∀ a ∈ L, a.length = lw) :
    (leftJoin m w L R).filter (fun x => p (x.take lw)) = leftJoin m w (L.filter p) R := by
  induction L with
  | nil => rfl
  | cons a L ih =>
    rw [leftJoin_cons, List.filter_append, ih fun x hx => hL x (List.mem_cons_of_mem _ hx),
      filter_map_append_left p (hL a (by simp)), List.filter_cons]
    cases p a <;> simp [leftJoin_cons]

/-- Pushing a filter to the NULL-supplying side of a left join is *not* sound: with
`L = [(1)]`, `R = [(1)]`, join on equality, filter `right column IS NULL`, filtering after the
join gives nothing, filtering `R` first gives the NULL-padded row. -/
theorem pushdown_left_null_side_unsound :
    ∃ (m : Row → Row → Bool) (p : Row → Bool) (L R : List Row),
      (leftJoin m 1 L R).filter (fun x => p (x.drop 1)) ≠ leftJoin m 1 L (R.filter p) :=
  ⟨fun a b => a == b, fun b => b == [Value.null], [[.int 1]], [[.int 1]], by decide +kernel⟩

def exT : Table := ⟨2, [[.int 1, .int 2], [.int 1, .null], [.null, .int 3], [.int 2, .int 2]]⟩

example :
    Rel.eval [exT] (.filter (.cmp .lt (.col 0 0) (.col 0 1)) (.table 0)) = [[.int 1, .int 2]]
    ∧ Rel.eval [exT] (.filter (.not (.cmp .lt (.col 0 0) (.col 0 1))) (.table 0)) = [[.int 2, .int 2]]
    ∧ Rel.eval [exT] (.filter (.isNull (.cmp .lt (.col 0 0) (.col 0 1))) (.table 0))
        = [[.int 1, .null], [.null, .int 3]] := by decide +kernel

end Gms.C05
