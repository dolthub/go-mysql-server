/-
C42 — Read-only modes block every write and nothing else.

`namespace Gms.ReadOnly`: lemmas about the model for any kind table, up to soundness of `IsReadOnly` against
the verdict on well-formed trees (`good_of_wf`) and the traversals of the two analyzer rules.
`namespace Gms.C42`: the regenerated tables and the property theorems. What walks the kind table, the
expectation table or the rules' kind lists is one proposition, `Evaluated`, checked once; the shape facts
(`kinds_complete`, `gate_shape`, `rules_shape`) are `rfl`, and two examples (`UPDATE perm JOIN temp`, the
rejected `UPDATE` in a read-only database) are evaluated on their own.
-/
import Gms.Model.ReadOnlyTie

namespace Gms.ReadOnly

theorem Node.ind {P : Node → Prop} (h : ∀ f k c a cs, (∀ d ∈ cs, P d) → P (.mk f k c a cs)) : ∀ n, P n
  | .mk f k c a cs => h f k c a cs fun d _ => Node.ind h d
termination_by n => sizeOf n
decreasing_by
  simp_wf
  have := List.sizeOf_lt_of_mem ‹_ ∈ cs›
  omega

theorem isROs_eq_map (tbl : Table) (cs : List Node) :
    isROs tbl cs = cs.map (fun c => (⟨c.field, c.isNil, isRO tbl c⟩ : ChildRes)) := by
  induction cs <;> simp [isROs, *]

theorem verdicts_eq (exp : ExpTable) (runs : List String) (cs : List Node) :
    verdicts exp runs cs = (cs.filter (fun c => runs.contains c.field)).map (verdict exp) := by
  induction cs with
  | nil => simp [verdicts]
  | cons c cs ih => by_cases h : c.field ∈ runs <;> simp [verdicts, h, ih]

theorem consulted_eq (tbl : Table) (fs : List String) (cs : List Node) :
    consulted fs (isROs tbl cs) = (cs.filter (fun c => fs.contains c.field)).map (isRO tbl) := by
  simp [isROs_eq_map, consulted, List.filter_map, Function.comp_def]

theorem sel_eq (tbl : Table) (f : String) (cs : List Node) :
    sel f (isROs tbl cs) =
      (cs.filter (fun c => c.field == f)).map (fun c => (⟨c.field, c.isNil, isRO tbl c⟩ : ChildRes)) := by
  simp [isROs_eq_map, sel, List.filter_map, Function.comp_def]

theorem conj_map_ok {α : Type} {f : α → Res} {l : List α} (h : ∀ x ∈ l, ∃ b, f x = .ok b) :
    conj (l.map f) = .ok (l.all fun x => f x == .ok true) := by
  induction l with
  | nil => rfl
  | cons x l ih =>
    have ih := ih fun y hy => h y (List.mem_cons_of_mem _ hy)
    obtain ⟨b, hb⟩ := h x List.mem_cons_self
    cases b <;> simp [conj, hb, ih]

theorem combine_block {own : V} {vs : List V} : combine own vs = .block ↔ own = .block ∨ .block ∈ vs := by
  unfold combine
  cases own <;> by_cases h : V.block ∈ vs <;> by_cases h2 : V.free ∈ vs <;> simp [h, h2]

theorem combine_allow_singleton (v : V) : combine .allow [v] = v := by cases v <;> rfl

theorem combine_allow {own : V} {vs : List V} : combine own vs = .allow ↔ own = .allow ∧ ∀ v ∈ vs, v = .allow := by
  have hall : (∀ v ∈ vs, v = .allow) ↔ V.block ∉ vs ∧ V.free ∉ vs := by
    refine ⟨fun h => ⟨(fun hm => nomatch h .block hm), (fun hm => nomatch h .free hm)⟩, fun h v hv => ?_⟩
    cases v
    · rfl
    · exact absurd hv h.1
    · exact absurd hv h.2
  rw [hall]
  unfold combine
  by_cases h : V.block ∈ vs
  · simp [h]
  · by_cases h2 : V.free ∈ vs
    · cases own <;> simp [h, h2]
    · cases own <;> simp [h, h2]

theorem wfL_eq_all (tbl : Table) (exp : ExpTable) (strict : List String) (cs : List Node) :
    wfL tbl exp strict cs = cs.all fun c => if c.kind == nilKind then !strict.contains c.field else wf tbl exp c := by
  induction cs <;> simp [wfL, *]

theorem storedProcL_eq_any (tbl : Table) (cs : List Node) : storedProcL tbl cs = cs.any (storedProc tbl) := by
  induction cs <;> simp [storedProcL, *]

theorem nilIn_eq_any (f : String) (cs : List Node) : nilIn f cs = cs.any fun c => c.field == f && c.isNil := by
  induction cs <;> simp [nilIn, *]

theorem ifSetFlagOk_eq_all (f : String) (flag : Bool) (cs : List Node) :
    ifSetFlagOk f flag cs = cs.all fun c => if c.field == f && !c.isNil then flag else true := by
  induction cs <;> simp [ifSetFlagOk, *]

theorem fieldNodesCount_eq (f : String) (cs : List Node) :
    fieldNodesCount f cs = (cs.filter fun c => c.field == f).length := by
  induction cs with
  | nil => rfl
  | cons c cs ih => by_cases h : c.field = f <;> simp [fieldNodesCount, h, ih, Nat.add_comm]

theorem wfL_mem {tbl : Table} {exp : ExpTable} {strict : List String} {cs : List Node}
    (h : wfL tbl exp strict cs = true) (c : Node) (hc : c ∈ cs) (hs : c.field ∈ strict ∨ c.isNil = false) :
    wf tbl exp c = true := by
  have := List.all_eq_true.mp (wfL_eq_all tbl exp strict cs ▸ h) c hc
  by_cases hk : c.kind = nilKind <;> simp_all [Node.isNil]

theorem wf_not_nil {tbl : Table} {exp : ExpTable} {c : Node} (h : wf tbl exp c = true) : c.isNil = false := by
  cases c with
  | mk f k ch a cs =>
    simp only [wf, Bool.and_eq_true] at h
    have : (k != nilKind) = true := h.1.1
    simpa [Node.isNil, Node.kind, bne] using this

theorem storedProcL_mem {tbl : Table} {cs : List Node} (h : storedProcL tbl cs = false) (c : Node) (hc : c ∈ cs) :
    storedProc tbl c = false := by
  rw [storedProcL_eq_any, List.any_eq_false] at h
  simpa using h c hc

theorem ifSetFlagOk_mem {f : String} {flag : Bool} {cs : List Node} (h : ifSetFlagOk f flag cs = true)
    (c : Node) (hc : c ∈ cs) (hf : c.field = f) (hn : c.isNil = false) : flag = true := by
  have := List.all_eq_true.mp (ifSetFlagOk_eq_all f flag cs ▸ h) c hc
  simpa [hf, hn] using this

theorem nilIn_of_mem {f : String} {cs : List Node} (c : Node) (hc : c ∈ cs) (hf : c.field = f)
    (hn : c.isNil = true) : nilIn f cs = true := by
  rw [nilIn_eq_any, List.any_eq_true]
  exact ⟨c, hc, by simp [hf, hn]⟩

/-- The answer `r` of an `IsReadOnly` method agrees with the verdict `v`, outside the defect region `sp`. -/
structure Agrees (r : Res) (v : V) (sp : Bool) : Prop where
  total : ∃ b, r = .ok b
  block : v = .block → r = .ok false
  allow : sp = false → v = .allow → r = .ok true

theorem agrees_iff {r : Res} {v : V} {sp : Bool} :
    Agrees r v sp ↔ (∃ b, r = .ok b) ∧ (v = .block → r = .ok false) ∧ (sp = false → v = .allow → r = .ok true) :=
  ⟨fun ⟨a, b, c⟩ => ⟨a, b, c⟩, fun ⟨a, b, c⟩ => ⟨a, b, c⟩⟩

theorem Agrees.of_region {r : Res} {v : V} {sp sp' : Bool} (h : Agrees r v sp) (hsp : sp' = false → sp = false) :
    Agrees r v sp' :=
  ⟨h.total, h.block, fun hs => h.allow (hsp hs)⟩

def Good (tbl : Table) (exp : ExpTable) (n : Node) : Prop :=
  Agrees (isRO tbl n) (verdict exp n) (storedProc tbl n)

theorem fields_case {tbl : Table} {exp : ExpTable} {fs : List String} {cs : List Node}
    (ih : ∀ c ∈ cs, wf tbl exp c = true → Good tbl exp c) (hw : wfL tbl exp fs cs = true) :
    Agrees (conj (consulted fs (isROs tbl cs))) (combine .allow (verdicts exp fs cs)) (storedProcL tbl cs) := by
  simp only [agrees_iff, combine_block, combine_allow, false_or, true_and, reduceCtorEq]
  rw [consulted_eq, verdicts_eq]
  have hgood : ∀ c ∈ cs.filter (fun c => fs.contains c.field), Good tbl exp c := by
    intro c hc
    simp only [List.mem_filter, List.contains_iff_mem] at hc
    exact ih c hc.1 (wfL_mem hw c hc.1 (.inl hc.2))
  rw [conj_map_ok fun c hc => (hgood c hc).total]
  refine ⟨⟨_, rfl⟩, fun hb => ?_, fun hsp hall => ?_⟩
  · obtain ⟨c, hc, hvc⟩ := List.mem_map.mp hb
    exact congrArg _ (List.all_eq_false.mpr ⟨c, hc, by simp [(hgood c hc).block hvc]⟩)
  · refine congrArg _ (List.all_eq_true.mpr fun c hc => ?_)
    simp [(hgood c hc).allow (storedProcL_mem hsp c (List.mem_filter.mp hc).1) (hall _ (List.mem_map.mpr ⟨c, hc, rfl⟩))]

theorem verdict_nil (exp : ExpTable) (c : Node) (h : c.isNil = true) : verdict exp c = .allow := by
  cases c with
  | mk f k ch a cs =>
    have hk : (k == nilKind) = true := h
    simp [verdict, hk]

/-- Shapes `optField f` / `ifSet f d`: the single node of field `f`. -/
theorem single_field {tbl : Table} {exp : ExpTable} {f : String} {cs : List Node}
    (hcount : fieldNodesCount f cs = 1) (hw : wfL tbl exp [] cs = true) :
    ∃ c, c ∈ cs ∧ c.field = f ∧
      sel f (isROs tbl cs) = [⟨c.field, c.isNil, isRO tbl c⟩] ∧ verdicts exp [f] cs = [verdict exp c] ∧
      (c.isNil = false → wf tbl exp c = true) := by
  rw [fieldNodesCount_eq, List.length_eq_one_iff] at hcount
  obtain ⟨c, hfl⟩ := hcount
  obtain ⟨hc, hcf⟩ := List.mem_filter.mp (hfl ▸ List.mem_singleton_self c)
  refine ⟨c, hc, by simpa using hcf, ?_, ?_, fun hn => wfL_mem hw c hc (.inr hn)⟩
  · rw [sel_eq, hfl]; rfl
  · rw [verdicts_eq]
    have : (fun c : Node => [f].contains c.field) = (fun c : Node => c.field == f) := by
      funext c; simp only [List.contains_cons, List.contains_nil, Bool.or_false]
    rw [this, hfl]; rfl

theorem isRO_mk {tbl : Table} {fld kind : String} {ch : Bool} {a : Attr} {cs : List Node} {c : Cls}
    (hnil : kind ≠ nilKind) (hR : resolve tbl 4 kind = some c) :
    isRO tbl (.mk fld kind ch a cs) = step c a (isROs tbl cs) := by
  simp [isRO, hnil, hR]

theorem verdict_mk {exp : ExpTable} {fld kind : String} {ch : Bool} {a : Attr} {cs : List Node} {eff : Eff}
    {runs : List String} (hnil : kind ≠ nilKind) (hE : lookupE exp kind = some ⟨eff, runs⟩) :
    verdict exp (.mk fld kind ch a cs) = combine (ownV eff a) (verdicts exp runs cs) := by
  simp [verdict, hnil, hE]

theorem storedProc_mk {tbl : Table} {fld kind : String} {ch : Bool} {a : Attr} {cs : List Node}
    {c : Cls} (hR : resolve tbl 4 kind = some c) :
    storedProc tbl (.mk fld kind ch a cs) =
      ((match c with | .ifSet f _ => a.flag && nilIn f cs | _ => false) || storedProcL tbl cs) := by
  cases c <;> simp [storedProc, hR]

/-- Soundness of `IsReadOnly` against the verdict, for every well-formed tree. The cases are the lines of `clsOk`. -/
theorem good_of_wf (tbl : Table) (exp : ExpTable) (n : Node) : wf tbl exp n = true → Good tbl exp n := by
  induction n using Node.ind with
  | h fld kind ch a cs ih =>
    intro hw
    simp only [wf, Bool.and_eq_true, bne_iff_ne] at hw
    obtain ⟨⟨hnil, hk⟩, hm⟩ := hw
    unfold kindOk at hk
    cases hE : lookupE exp kind with
    | none => simp [hE] at hk
    | some e =>
      simp only [hE] at hk
      generalize hR : resolve tbl 4 kind = c at hk hm
      revert hk
      fun_cases clsOk c e
      case case9 => nofun
      all_goals
        intro hk
        unfold Good
        rw [isRO_mk hnil hR, verdict_mk hnil hE, storedProc_mk hR]
      -- `const`
      case case1 | case2 | case3 => simp [agrees_iff, step, ownV, combine_block, combine_allow, verdicts_eq]
      -- `attr`
      case case7 => cases hfl : a.flag <;> simp [agrees_iff, step, ownV, hfl, combine_block, combine_allow, verdicts_eq]
      -- `fields`, `via`
      case case4 | case5 =>
        -- `step` on `fields fs` / `via f _ _` is `conj (consulted fs _)` / `conj (consulted [f] _)`, `ownV .none a` is
        -- `.allow`, the `match` of `storedProc_mk` is `false`: by unfolding, the goal is the conclusion of `fields_case`
        cases beq_iff_eq.mp hk
        exact fields_case ih hm
      -- `optField`
      case case6 f runs =>
        cases beq_iff_eq.mp hk
        simp only [Bool.and_eq_true, beq_iff_eq] at hm
        obtain ⟨d, hd, hdf, hsel, hver, hwd⟩ := single_field hm.1 hm.2
        simp only [step, hsel, hver, ownV, combine_allow_singleton, Bool.false_or]
        cases hn : d.isNil
        · exact (ih d hd (hwd hn)).of_region fun hs => storedProcL_mem hs d hd
        · simp [agrees_iff, verdict_nil exp d hn]
      -- `ifSet f false`
      case case8 f runs =>
        cases beq_iff_eq.mp hk
        simp only [Bool.and_eq_true, beq_iff_eq] at hm
        obtain ⟨d, hd, hdf, hsel, hver, hwd⟩ := single_field hm.1.1 hm.2
        simp only [step, hsel, hver, ownV]
        cases hn : d.isNil
        · simp only [ifSetFlagOk_mem hm.1.2 d hd hdf hn, if_true, combine_allow_singleton]
          exact (ih d hd (hwd hn)).of_region fun hs => storedProcL_mem (Bool.or_eq_false_iff.mp hs).2 d hd
        · rw [verdict_nil exp d hn, nilIn_of_mem d hd hdf hn]
          cases hfl : a.flag <;> simp [agrees_iff, combine]

mutual
/-- The nodes a `Children()` traversal visits, in pre-order. -/
def reach : Node → List Node
  | .mk f k c a cs => .mk f k c a cs :: reachL cs
def reachL : List Node → List Node
  | [] => []
  | c :: cs => (if c.isChild then reach c else []) ++ reachL cs
end

/-- `readOnlyDBSearch` lowers `valid` on this node. -/
def badDb (enforce : Bool) (n : Node) : Bool :=
  n.kind == resolvedTable && n.attr.roIface && (n.attr.roDb || enforce)

def isRT (n : Node) : Bool := n.kind == resolvedTable

/-- What `tempSearchL` and `dbSearchL` share. `bad` are the nodes at which `valid` is lowered; `ok` is what the node
function needs of every node it visits (the predicate of `allPerm` for `tempSearch`, nothing for `dbSearch`). -/
theorem searchL_spec {f : Node → St → St} {fL : List Node → St → St} {bad ok : Node → Bool}
    (hnil : ∀ st, fL [] st = st)
    (hcons : ∀ c cs st, fL (c :: cs) st = fL cs (if c.isChild then f c st else st)) (cs : List Node)
    (ih : ∀ c ∈ cs, reachNil c = false → (reach c).all ok = true →
      ∀ v, f c (.valid v) = .valid (v && !(reach c).any bad)) :
    reachNilL cs = false → (reachL cs).all ok = true →
      ∀ v, fL cs (.valid v) = .valid (v && !(reachL cs).any bad) := by
  induction cs with
  | nil => intro _ _ v; simp [hnil, reachL]
  | cons c cs ihl =>
    intro hn hp v
    simp only [reachNilL, Bool.or_eq_false_iff] at hn
    simp only [reachL, List.all_append, Bool.and_eq_true] at hp
    have ihl' := ihl (fun d hd => ih d (by simp [hd]))
    rw [hcons, reachL]
    by_cases hc : c.isChild = true
    · have hnc : reachNil c = false := by simpa [hc] using hn.1
      rw [if_pos hc, if_pos hc, ih c (by simp) hnc (by simpa [hc] using hp.1), ihl' hn.2 hp.2]
      simp [List.any_append, Bool.and_assoc]
    · rw [if_neg hc, if_neg hc, List.nil_append]
      exact ihl' hn.2 hp.2 v

/-- `readOnlyDBSearch` over a tree without reachable nil nodes: `valid` stays true exactly when no
visited resolved table lives in a read-only database (the pruning never hides one, because
`valid` is only ever lowered). -/
theorem dbSearch_spec (enforce : Bool) (n : Node) (hn : reachNil n = false) (v : Bool) :
    dbSearch enforce n (.valid v) = .valid (v && !(reach n).any (badDb enforce)) := by
  induction n using Node.ind generalizing v with
  | h f k c a cs ih =>
    simp only [reachNil, Bool.or_eq_false_iff] at hn
    have hl := searchL_spec (fL := dbSearchL enforce) (ok := fun _ => true) (by simp [dbSearchL])
      (by simp [dbSearchL]) cs (fun d hd hn _ => ih d hd hn) hn.2 (by simp)
    simp only [dbSearch, reach, List.any_cons, badDb, Node.kind, Node.attr, hn.1]
    cases hk : (k == resolvedTable) <;> cases hi : a.roIface <;> cases hr : a.roDb <;> cases enforce <;>
      cases v <;> simp [hl]

/-- `true && !b` is what `dbSearch_spec` / `tempSearch_perm` leave of the flag when the traversal starts from `valid = true`. -/
theorem ofSt_valid_not (b : Bool) : ofSt (.valid (true && !b)) = if b then .reject else .pass := by
  cases b <;> rfl

/-- All resolved tables the traversal can reach implement sql.TemporaryTable and are permanent. -/
def allPerm (n : Node) : Bool := (reach n).all (fun d => !isRT d || (d.attr.tempIface && !d.attr.temp))

/-- `temporaryTableSearch` when every reachable table is a permanent table that implements
sql.TemporaryTable: the statement is valid exactly when it reaches no table at all. -/
theorem tempSearch_perm (n : Node) (hn : reachNil n = false) (hp : allPerm n = true) (v : Bool) :
    tempSearch n (.valid v) = .valid (v && !(reach n).any isRT) := by
  induction n using Node.ind generalizing v with
  | h f k c a cs ih =>
    simp only [reachNil, Bool.or_eq_false_iff] at hn
    simp only [allPerm, reach, List.all_cons, Bool.and_eq_true] at hp
    have hl := searchL_spec (fL := tempSearchL) (by simp [tempSearchL]) (by simp [tempSearchL]) cs ih hn.2 hp.2
    simp only [tempSearch, reach, List.any_cons, isRT, Node.kind, hn.1]
    cases hk : (k == resolvedTable)
    · cases v <;> simp [hl]
    · have h1 := hp.1
      simp only [isRT, Node.kind, hk, Bool.not_true, Bool.false_or, Node.attr, Bool.and_eq_true,
        Bool.not_eq_true'] at h1
      simp [h1.1, h1.2]

def pairOk (tbl : Table) (exc : List String) (p : (String × Cls) × (String × Expect)) : Bool :=
  p.1.1 == p.2.1 && (clsOk (resolveCls tbl 4 p.1.2) p.2.2 || exc.contains p.1.1)

/-- `pairOk` is `kindOk` read positionally. `T` is the table in which `resolveCls` goes on looking up embedded
kinds while the induction consumes `tbl`; the caller takes both to be the same table. -/
theorem kindOk_of_pairs {T : Table} {exc : List String} {tbl : Table} {exp : ExpTable}
    (hlen : tbl.length = exp.length) (hall : (tbl.zip exp).all (pairOk T exc) = true) {k : String} {c : Cls}
    (hl : lookup tbl k = some c) (hk : k ∉ exc) :
    ∃ e, lookupE exp k = some e ∧ clsOk (resolveCls T 4 c) e = true := by
  induction tbl generalizing exp with
  | nil => simp [lookup] at hl
  | cons t ts ih =>
    obtain ⟨tk, tc⟩ := t
    cases exp with
    | nil => simp at hlen
    | cons x xs =>
      obtain ⟨xk, xe⟩ := x
      simp only [List.zip_cons_cons, List.all_cons, Bool.and_eq_true, pairOk, beq_iff_eq, Bool.or_eq_true,
        List.contains_iff_mem] at hall
      obtain ⟨⟨rfl, hok⟩, hrest⟩ := hall
      simp only [lookup, lookupE] at hl ⊢
      by_cases hkk : tk = k
      · subst hkk
        simp only [beq_self_eq_true, if_true, Option.some.injEq] at hl ⊢
        exact ⟨xe, rfl, hl ▸ hok.resolve_right hk⟩
      · simp only [beq_iff_eq, hkk, if_false] at hl ⊢
        exact ih (by simpa using hlen) hrest hl

theorem lookup_of_mem {T : Table} {p : String × Cls} (hp : p ∈ T) : ∃ c, lookup T p.1 = some c := by
  induction T with
  | nil => simp at hp
  | cons t ts ih =>
    obtain ⟨tk, tc⟩ := t
    by_cases hk : tk = p.1
    · exact ⟨tc, by simp [lookup, hk]⟩
    · obtain ⟨c, hc⟩ := ih ((List.mem_cons.mp hp).resolve_left fun h => hk (by rw [h]))
      exact ⟨c, by simp [lookup, hk, hc]⟩

theorem repairWith_id (T : Table) (exp : ExpTable) (exc : List String) (l : Table)
    (h : ∀ p ∈ l, p.1 ∉ exc → kindOk T exp p.1 = true) : repairWith T exp exc l = l := by
  induction l with
  | nil => rfl
  | cons t ts ih =>
    obtain ⟨k, c⟩ := t
    have hk : (kindOk T exp k || exc.contains k) = true := by
      simpa [Decidable.or_iff_not_imp_right] using h (k, c) List.mem_cons_self
    simp only [repairWith, hk, if_true, ih fun p hp => h p (List.mem_cons_of_mem _ hp)]

end Gms.ReadOnly

namespace Gms.C42
open Gms.ReadOnly Gms.Generated

/-- The shape the analyzer builds for `INSERT` on a table with an `AFTER INSERT … SET @x = NEW.a`
trigger. -/
def afterTriggerInsert : Node :=
  .mk "" "plan.TriggerExecutor" false Attr.none
    [.mk "left" "plan.InsertInto" true Attr.none
       [.mk "Destination" "plan.InsertDestination" true Attr.none [.mk "Child" resolvedTable true Attr.none []],
        .mk "Source" "plan.Values" true Attr.none []],
     .mk "right" "plan.TriggerBeginEndBlock" true Attr.none [.mk "statements" "plan.Set" true Attr.none []]]

def witnessCall : Node :=
  .mk "" "plan.Call" false Attr.none [.mk "Procedure" "plan.Procedure" false ⟨true, false, false, false, false⟩
    [.mk "ExternalProc" nilKind false Attr.none []]]

def witnessInsert : Node :=
  .mk "" "plan.InsertInto" false Attr.none [.mk "Destination" "plan.InsertDestination" true Attr.none
    [.mk "Child" resolvedTable true Attr.none []]]

def witnessTruncate : Node :=
  .mk "" "plan.Truncate" false Attr.none [.mk "Child" resolvedTable true ⟨false, true, false, false, false⟩ []]

def witnessCallW : Node :=
  .mk "" "plan.Call" false Attr.none [.mk "Procedure" "plan.Procedure" false Attr.none
    [.mk "ExternalProc" nilKind false Attr.none []]]

def witnessCreateView : Node := .mk "" "plan.CreateView" false ⟨false, false, false, true, true⟩ []

/-- A nested plan with a writer deep inside a trigger executor is well-formed, is a write, and is
blocked; the same plan with the writer replaced by a reader is allowed. -/
def sampleTree (leaf : String) : Node :=
  .mk "" "plan.Project" false Attr.none [.mk "Child" "plan.TriggerExecutor" true Attr.none
    [.mk "left" "plan.Filter" true Attr.none [.mk "Child" resolvedTable true Attr.none []],
     .mk "right" "plan.BeginEndBlock" true Attr.none [.mk "statements" leaf true Attr.none []]]]

def ruleKinds : List String :=
  facts.txSearchRoot ++ facts.txSearchDest ++ facts.txReject ++ facts.txTempCreate ++
    facts.dbSearchRoot ++ facts.dbSearchDest ++ facts.dbOwn

def ownEffIn (effs : List Eff) (k : String) : Bool :=
  k != nilKind && match lookupE expect k with | some e => effs.contains e.eff | none => false

/-- The predicate of `shapes_understood`, matching on the pair. With a `match e.2 with` of the same shape in a
field of `Evaluated` the proposition would be the same, but the auxiliary `match_1` that the elaborated
statement of `shapes_understood` names would be another declaration: no proof needs `shapeOk`, a comparison of
elaborated statements does. -/
def shapeOk : String × Cls → Bool
  | (_, .complex _) => false
  | (_, .via _ k gs) => resolve tbl 4 k == some (.fields gs)
  | _ => true

/-- The facts of this file that walk the regenerated kind table, the expectation table or the rules' kind
lists (`facts`), and the witness trees, as one proposition checked by one kernel evaluation (two examples that
run a rule on a tree of their own stand outside it): for `k' == k` on kind
names the kernel UTF-8 encodes both (`String.decEq`), and within one declaration it encodes each
kind name once. -/
structure Evaluated : Prop where
  table_sound : tbl.length = expect.length ∧ (tbl.zip expect).all (pairOk tbl kindExceptions) = true
  shapes_understood : tbl.all shapeOk = true
  rule_kinds :
    facts.txSearchRoot = ["plan.DeleteFrom", "plan.Update", "plan.UnlockTables"] ∧
    facts.txSearchDest = ["plan.InsertInto"] ∧ facts.txReject = ["plan.LockTables"] ∧
    facts.txTempCreate = ["plan.CreateTable"] ∧
    facts.dbSearchRoot = ["plan.DeleteFrom", "plan.Update", "plan.LockTables", "plan.UnlockTables"] ∧
    facts.dbSearchDest = ["plan.InsertInto"] ∧ facts.dbOwn = ["plan.CreateTable"]
  rule_kinds_not_readers :
    (∀ k ∈ ruleKinds, ownEffIn [.write, .free] k = true) ∧
    ∀ k ∈ facts.ddl, k = "plan.Block" ∨ ownEffIn [.write] k = true
  trigger_executor : lookupE expect "plan.TriggerExecutor" = some ⟨.none, ["left", "right"]⟩
  dml_kinds : ∀ k ∈ ["plan.InsertInto", "plan.Update", "plan.DeleteFrom", "plan.Truncate"], ownEffIn [.write] k = true
  trigger_insert : wf tbl expect afterTriggerInsert = true ∧ verdict expect afterTriggerInsert = .block ∧
    isRO tbl afterTriggerInsert = .ok false ∧
    engineGate true false (isRO tbl afterTriggerInsert) = .errReadOnly ∧
    isRO tbl (.mk "right" "plan.TriggerBeginEndBlock" true Attr.none [.mk "statements" "plan.Set" true Attr.none []]) = .ok true
  call : wf tbl expect witnessCall = true ∧ verdict expect witnessCall = .allow ∧
    storedProc tbl witnessCall = true ∧ engineGate true false (isRO tbl witnessCall) = .errReadOnly
  insert : verdict expect witnessInsert = .block ∧ roTxRule facts .ro false witnessInsert = .panic
  truncate : verdict expect witnessTruncate = .block ∧ roTxRule facts .ro false witnessTruncate = .pass
  callW : verdict expect witnessCallW = .block ∧ roTxRule facts .ro false witnessCallW = .pass
  create_view : verdict expect witnessCreateView = .block ∧ ownDbReadOnly witnessCreateView = true ∧
    roDbRule facts false witnessCreateView = .pass
  sample : wf tbl expect (sampleTree "plan.InsertInto") = true ∧ verdict expect (sampleTree "plan.InsertInto") = .block ∧
    isRO tbl (sampleTree "plan.InsertInto") = .ok false ∧
    wf tbl expect (sampleTree "plan.ShowTables") = true ∧ storedProc tbl (sampleTree "plan.ShowTables") = false ∧
    verdict expect (sampleTree "plan.ShowTables") = .allow ∧ isRO tbl (sampleTree "plan.ShowTables") = .ok true

instance : Decidable Evaluated :=
  decidable_of_iff (_ ∧ _ ∧ _ ∧ _ ∧ _ ∧ _ ∧ _ ∧ _ ∧ _ ∧ _ ∧ _ ∧ _ ∧ _)
    ⟨fun ⟨a, b, c, d, e, f, g, h, i, j, k, l, m⟩ => ⟨a, b, c, d, e, f, g, h, i, j, k, l, m⟩,
     fun ⟨a, b, c, d, e, f, g, h, i, j, k, l, m⟩ => ⟨a, b, c, d, e, f, g, h, i, j, k, l, m⟩⟩

theorem evaluated : Evaluated := by decide +kernel

/-- Every node kind the source declares today (with its `IsReadOnly` body shape as classified
from the source text) agrees with the hand-written expectation: writers answer `false`, readers
answer `true`, composite nodes consult exactly the fields that are executed. Positional over the
two name-sorted tables (so it also says: no unknown kind, no vanished kind). -/
theorem table_sound :
    tbl.length = expect.length ∧ (tbl.zip expect).all (pairOk tbl kindExceptions) = true :=
  evaluated.table_sound

/-- No `IsReadOnly` body escaped the extractor's classification, and `via` shapes are coherent
with the kind they go through (`RecursiveCte` ↦ its `SetOp`). -/
theorem shapes_understood :
    tbl.all (fun e => match e.2 with
      | .complex _ => false
      | .via _ k gs => resolve tbl 4 k == some (.fields gs)
      | _ => true) = true := by
  refine List.all_eq_true.mpr fun ⟨k, c⟩ he => ?_
  have := List.all_eq_true.mp evaluated.shapes_understood _ he
  cases c <;> exact this

/-- The harness can construct every exported node kind of the source, and knows no kind the source
lost (`kinds_complete`). -/
theorem kinds_complete : C42.registryMissing = [] ∧ C42.registryVanished = [] := ⟨rfl, rfl⟩

/-- `plan.IsReadOnly` is the method call; `Engine.readOnlyCheck` is the two guarded returns in
this order; both callers run it before the execution plan is built. -/
theorem gate_shape :
    C42.planIsReadOnlyBody = "{ return node.IsReadOnly() }" ∧
    C42.engineGate = ["e.IsReadOnly() => sql.ErrReadOnly.New()", "e.IsServerLocked => sql.ErrDatabaseWriteLocked.New()", "return nil"] ∧
    C42.gateBeforeBuild_QueryWithBindings = true ∧ C42.gateBeforeBuild_PrepQueryPlanForExecution = true :=
  ⟨rfl, rfl, rfl, rfl⟩

/-- The two analyzer rules have the shape the model transliterates: guards, root-scrutinising
kind switch with these arms and actions, and these closure bodies. -/
theorem rules_shape :
    C42.roTxSwitchOn = "root" ∧ C42.roDbSwitchOn = "root" ∧
    C42.roTxArms.map (·.2) = [actTxSearchRoot, actTxSearchDest, actTxReject, actTxTempCreate, actTxDefault] ∧
    C42.roDbArms.map (·.2) = [actDbSearchRoot, actDbSearchDest, actDbOwn, actDbDefault] ∧
    (C42.roTxArms.getLast?.map (·.1)) = some ["default"] ∧ (C42.roDbArms.getLast?.map (·.1)) = some ["default"] ∧
    C42.roTxGuards = ["t == nil", "!t.IsReadOnly() && !scope.EnforcesReadOnly()", "!valid"] ∧
    C42.body_isTempTable = "{ tt, isTempTable := table.(sql.TemporaryTable) if !isTempTable { valid = false } return tt.IsTemporary() }" ∧
    C42.body_temporaryTableSearch = "{ if rt, ok := node.(*plan.ResolvedTable); ok { valid = isTempTable(rt.Table) } return valid }" ∧
    C42.body_readOnlyDBSearch = "{ if rt, ok := node.(*plan.ResolvedTable); ok { if ro, ok := rt.SqlDatabase.(sql.ReadOnlyDatabase); ok { if ro.IsReadOnly() { readOnlyDB = ro valid = false } else if enforceReadOnly { valid = false } } } return valid }" :=
  ⟨rfl, rfl, rfl, rfl, rfl, rfl, rfl, rfl, rfl, rfl⟩

/-- The kinds of the rules' arms. -/
theorem rule_kinds :
    facts.txSearchRoot = ["plan.DeleteFrom", "plan.Update", "plan.UnlockTables"] ∧
    facts.txSearchDest = ["plan.InsertInto"] ∧ facts.txReject = ["plan.LockTables"] ∧
    facts.txTempCreate = ["plan.CreateTable"] ∧
    facts.dbSearchRoot = ["plan.DeleteFrom", "plan.Update", "plan.LockTables", "plan.UnlockTables"] ∧
    facts.dbSearchDest = ["plan.InsertInto"] ∧ facts.dbOwn = ["plan.CreateTable"] :=
  evaluated.rule_kinds

/-- No kind that one of the rules can reject is a pure reader; every DDL kind except the
`Block` wrapper is a writer. -/
theorem rule_kinds_not_readers :
    (∀ k ∈ ruleKinds, ownEffIn [.write, .free] k = true) ∧
    ∀ k ∈ facts.ddl, k = "plan.Block" ∨ ownEffIn [.write] k = true :=
  evaluated.rule_kinds_not_readers

/-- **Every write is blocked** (full strength, no region guard): for every well-formed plan tree
over the regenerated kind table whose execution modifies data or schema, `IsReadOnly` is `false`,
so the engine rejects it with `ErrReadOnly` when read-only and with `ErrDatabaseWriteLocked`
when the server is locked. -/
theorem engine_blocks_every_write (n : Node) (ro locked : Bool) (hw : wf tbl expect n = true)
    (hv : verdict expect n = .block) (hm : ro = true ∨ locked = true) :
    isRO tbl n = .ok false ∧
    engineGate ro locked (isRO tbl n) = (if ro then .errReadOnly else .errLocked) := by
  have h := (good_of_wf tbl expect n hw).block hv
  refine ⟨h, ?_⟩
  rw [h]
  cases ro <;> cases locked <;> simp_all [engineGate]

/- Full statement of "and nothing else" (false on the unchanged tree, see
`finding_stored_procedure_call_rejected`):
   ∀ n, wf tbl expect n → verdict expect n = .allow → engineGate ro locked (isRO tbl n) = .pass -/

/-- **Nothing else is blocked**, outside the region `storedProc` (a stored procedure whose body
does not write is called): a plan that modifies nothing passes the gate in every mode. -/
theorem engine_allows_reads_partial (n : Node) (ro locked : Bool) (hw : wf tbl expect n = true)
    (hr : storedProc tbl n = false) (hv : verdict expect n = .allow) :
    isRO tbl n = .ok true ∧ engineGate ro locked (isRO tbl n) = .pass := by
  have h := (good_of_wf tbl expect n hw).allow hr hv
  refine ⟨h, ?_⟩
  rw [h]
  cases ro <;> cases locked <;> simp [engineGate]

/-- `IsReadOnly` never panics and never leaves the table on a well-formed tree. -/
theorem isReadOnly_total (n : Node) (hw : wf tbl expect n = true) : ∃ b, isRO tbl n = .ok b :=
  (good_of_wf tbl expect n hw).total

/-- With both modes off nothing is rejected (and `IsReadOnly` is not even evaluated). -/
theorem read_write_mode_never_blocks (r : Res) : engineGate false false r = .pass := rfl

/-- The same two theorems for *any* kind table and expectation (not only today's): this is
what makes `table_sound` the only obligation a change of the source can break. -/
theorem isReadOnly_sound_generic (t : Table) (e : ExpTable) (n : Node) (hw : wf t e n = true) :
    (verdict e n = .block → isRO t n = .ok false) ∧
    (storedProc t n = false → verdict e n = .allow → isRO t n = .ok true) :=
  ⟨(good_of_wf t e n hw).block, (good_of_wf t e n hw).allow⟩

/-- The per-kind condition inside `wf` is discharged by `table_sound` for every kind of the
regenerated table outside the two placeholder kinds: `wf` only constrains the *shape* of the tree
(no nil in a consulted field, single optional nodes present once). -/
theorem kind_condition_holds (k : String) (c : Cls) (h : lookup tbl k = some c) (hx : k ∉ kindExceptions) :
    kindOk tbl expect k = true := by
  obtain ⟨e, he, hok⟩ := kindOk_of_pairs table_sound.1 table_sound.2 h hx
  simp [kindOk, he, resolve, h, hok]

/-! The Spec does not lean on the source's table.
`wf tbl expect` contains `kindOk tbl expect`: if a method of the source goes wrong (say
`TriggerExecutor.IsReadOnly` stops consulting the wrapped INSERT/UPDATE/DELETE), every tree
holding that kind stops being well-formed over `tbl` and the theorems above say nothing about
it. The driver therefore decides the Spec of such trees over `tblR`, the table with every unsound
entry replaced by the shape the expectation prescribes. -/

/-- Today's source needs no repair (a consequence of `table_sound`: while it holds, the table the
driver falls back to is the source's own table and `wfSpecOnly` is false on every tree). -/
theorem repair_is_identity : tblR = tbl := by
  unfold tblR repair
  apply repairWith_id
  intro p hp hx
  obtain ⟨c, hc⟩ := lookup_of_mem hp
  exact kind_condition_holds p.1 c hc hx

/-- What the driver answers as Spec on a tree that is well-formed over the repaired table: a
write must be reported (`false`), a non-write outside the stored-procedure region must pass. -/
theorem spec_over_repaired_table (n : Node) (hw : wf tblR expect n = true) :
    (verdict expect n = .block → isRO tblR n = .ok false) ∧
    (storedProc tblR n = false → verdict expect n = .allow → isRO tblR n = .ok true) :=
  isReadOnly_sound_generic tblR expect n hw

theorem wfSpecOnly_never_today (n : Node) : wfSpecOnly n = false := by
  unfold wfSpecOnly
  rw [repair_is_identity]
  cases wf tbl expect n <;> simp

theorem verdict_of_ownEffIn {effs : List Eff} {n : Node} (h : ownEffIn effs n.kind = true) :
    ∃ eff ∈ effs, ∃ vs, verdict expect n = combine (ownV eff n.attr) vs := by
  cases n with
  | mk fld k ch a cs =>
    simp only [ownEffIn, Node.kind, Bool.and_eq_true, bne_iff_ne, ne_eq] at h
    cases hE : lookupE expect k with
    | none => simp [hE] at h
    | some e => exact ⟨e.eff, by simpa [hE] using h.2, _, verdict_mk h.1 hE⟩

theorem verdict_block_of_write {n : Node} (h : ownEffIn [.write] n.kind = true) : verdict expect n = .block := by
  obtain ⟨eff, he, vs, hvd⟩ := verdict_of_ownEffIn h
  rw [hvd, combine_block, List.mem_singleton.mp he]
  exact .inl rfl

/-- **A trigger executor never hides the statement it wraps.** For AFTER triggers the analyzer
makes `TriggerExecutor(left := the INSERT/UPDATE/DELETE, right := trigger logic)` the *root* of the
plan; whatever the trigger logic is (even `SET @x = NEW.a`), a writing `left` makes the root a
write, so the engine gate rejects it in read-only / locked mode. -/
theorem trigger_executor_reports_wrapped_write (fld : String) (ch : Bool) (a : Attr) (l r : Node)
    (ro locked : Bool)
    (hw : wf tbl expect (.mk fld "plan.TriggerExecutor" ch a [l, r]) = true)
    (hl : l.field = "left") (hv : verdict expect l = .block) (hm : ro = true ∨ locked = true) :
    isRO tbl (.mk fld "plan.TriggerExecutor" ch a [l, r]) = .ok false ∧
    engineGate ro locked (isRO tbl (.mk fld "plan.TriggerExecutor" ch a [l, r])) =
      (if ro then .errReadOnly else .errLocked) := by
  apply engine_blocks_every_write _ ro locked hw _ hm
  rw [verdict_mk (by decide +kernel) evaluated.trigger_executor, combine_block, verdicts_eq]
  right
  simp [hl, hv]

/-- The same for the other position (BEFORE triggers: the executor is the row source *below* the
DML node): the DML node itself is a writer whatever it wraps. -/
theorem dml_over_trigger_executor_is_write (fld kind : String) (ch : Bool) (a : Attr) (cs : List Node)
    (hk : kind ∈ ["plan.InsertInto", "plan.Update", "plan.DeleteFrom", "plan.Truncate"]) :
    verdict expect (.mk fld kind ch a cs) = .block :=
  verdict_block_of_write (evaluated.dml_kinds kind hk)

set_option maxRecDepth 100000 in
/-- Non-vacuity of `trigger_executor_reports_wrapped_write`, and the trigger logic alone is a
reader (so only the wrapped statement makes the root a write). -/
example : wf tbl expect afterTriggerInsert = true ∧ verdict expect afterTriggerInsert = .block ∧
    isRO tbl afterTriggerInsert = .ok false ∧
    engineGate true false (isRO tbl afterTriggerInsert) = .errReadOnly ∧
    isRO tbl (.mk "right" "plan.TriggerBeginEndBlock" true Attr.none [.mk "statements" "plan.Set" true Attr.none []]) = .ok true :=
  evaluated.trigger_insert

/-- Finding (region `stored_procedure_call_rejected`): CALL of a stored procedure whose body only
reads is a read-only statement, yet `Procedure.IsReadOnly` answers `false` for every
non-external procedure and the engine rejects the call in read-only mode. -/
theorem finding_stored_procedure_call_rejected :
    ∃ n, wf tbl expect n = true ∧ verdict expect n = .allow ∧ storedProc tbl n = true ∧
      engineGate true false (isRO tbl n) = .errReadOnly :=
  ⟨witnessCall, evaluated.call⟩

theorem not_ruleKind_of_allow {n : Node} (hv : verdict expect n = .allow) : n.kind ∉ ruleKinds := by
  intro hk
  obtain ⟨eff, he, vs, hvd⟩ := verdict_of_ownEffIn (rule_kinds_not_readers.1 _ hk)
  rw [hvd, combine_allow] at hv
  simp only [List.mem_cons, List.mem_nil_iff, or_false] at he
  rcases he with he | he <;> simp [he, ownV] at hv

/-- **Reads are unaffected by a READ ONLY transaction**: whatever the transaction and scope, a
plan that modifies nothing passes the rule (no reachable nil node). -/
theorem roTx_reads_pass (n : Node) (tx : Tx) (enforce : Bool) (hnil : reachNil n = false)
    (hv : verdict expect n = .allow) : roTxRule facts tx enforce n = .pass := by
  have hk := not_ruleKind_of_allow hv
  simp only [ruleKinds, List.mem_append, not_or] at hk
  unfold roTxRule
  simp only [List.contains_eq_mem, hk, decide_false, hnil]
  cases tx <;> cases enforce <;> simp

/-- **DML on permanent tables is rejected in a READ ONLY transaction** (the guarded, `_partial`
form of "every write is rejected"): root UPDATE / DELETE (or UNLOCK TABLES) whose reachable
tables all implement sql.TemporaryTable and are permanent is rejected iff it reaches a table. -/
theorem roTx_dml_on_permanent_tables_partial (n : Node) (enforce : Bool)
    (hk : facts.txSearchRoot.contains n.kind = true) (hnil : reachNil n = false) (hp : allPerm n = true) :
    roTxRule facts .ro enforce n = (if (reach n).any isRT then .reject else .pass) := by
  unfold roTxRule
  simp only [hk, if_true, tempSearch_perm n hnil hp, ofSt_valid_not]
  rfl -- `if b then` against `if b = true then`

/-- Finding (region `rotx_table_without_temporary_iface_panics`): a table that does not implement
sql.TemporaryTable (every table of the in-memory backend) makes `isTempTable` call a method on a
nil interface: INSERT/UPDATE/DELETE in a READ ONLY transaction panics instead of returning
ErrReadOnlyTransaction. -/
theorem finding_rotx_table_without_temporary_iface_panics :
    ∃ n, verdict expect n = .block ∧ roTxRule facts .ro false n = .panic :=
  ⟨witnessInsert, evaluated.insert⟩

/-- Finding (region `rotx_ddl_passes`): every kind of `IsDDLNode` is waved through ("implicit
commit"), so TRUNCATE / CREATE / DROP / ALTER take effect inside a READ ONLY transaction. -/
theorem finding_rotx_ddl_passes :
    ∃ n, verdict expect n = .block ∧ roTxRule facts .ro false n = .pass :=
  ⟨witnessTruncate, evaluated.truncate⟩

/-- Finding (region `rotx_call_not_checked`): CALL is not one of the rule's arms: a procedure that
writes is not stopped by the rule. -/
theorem finding_rotx_call_not_checked :
    ∃ n, verdict expect n = .block ∧ roTxRule facts .ro false n = .pass :=
  ⟨witnessCallW, evaluated.callW⟩

/-- Observation (not a listed region: the property is silent about temporary tables): the
traversal overwrites `valid` at every table, so the *last* table reached decides —
`UPDATE perm JOIN temp` passes, `UPDATE temp JOIN perm` is rejected. -/
example :
    let rt (temp : Bool) (fld : String) : Node := .mk fld resolvedTable true ⟨false, true, temp, false, false⟩ []
    roTxRule facts .ro false (.mk "" "plan.Update" false Attr.none [.mk "Child" "plan.JoinNode" true Attr.none [rt false "left", rt true "right"]]) = .pass ∧
    roTxRule facts .ro false (.mk "" "plan.Update" false Attr.none [.mk "Child" "plan.JoinNode" true Attr.none [rt true "left", rt false "right"]]) = .reject := by
  decide +kernel

/-- **Exactly the statements that touch a read-only database through a resolved table are
rejected**, for root UPDATE / DELETE / LOCK / UNLOCK: rejected iff the traversal reaches a
resolved table whose database is read-only (or merely implements the interface, when the scope
enforces read-only). -/
theorem roDb_dml_rejected_iff (n : Node) (enforce : Bool)
    (hk : facts.dbSearchRoot.contains n.kind = true) (hnil : reachNil n = false) :
    roDbRule facts enforce n = (if (reach n).any (badDb enforce) then .reject else .pass) := by
  unfold roDbRule
  simp only [hk, if_true, dbSearch_spec enforce n hnil, ofSt_valid_not]

/-- The same for every DDL kind other than CREATE TABLE (which looks at its own database). -/
theorem roDb_ddl_rejected_iff (n : Node) (enforce : Bool)
    (h1 : facts.dbSearchRoot.contains n.kind = false) (h2 : facts.dbSearchDest.contains n.kind = false)
    (h3 : facts.dbOwn.contains n.kind = false) (hk : facts.ddl.contains n.kind = true) (hnil : reachNil n = false) :
    roDbRule facts enforce n = (if (reach n).any (badDb enforce) then .reject else .pass) := by
  unfold roDbRule
  simp only [h1, h2, h3, hk, if_true, Bool.false_eq_true, if_false, dbSearch_spec enforce n hnil, ofSt_valid_not]

/-- **Reads are unaffected by read-only databases**: a plan that modifies nothing passes (the
top-level `Block` wrapper excepted, which the rule treats as DDL). -/
theorem roDb_reads_pass (n : Node) (enforce : Bool) (hnil : reachNil n = false)
    (hv : verdict expect n = .allow) (hb : n.kind ≠ "plan.Block") : roDbRule facts enforce n = .pass := by
  have hk := not_ruleKind_of_allow hv
  simp only [ruleKinds, List.mem_append, not_or] at hk
  have hddl : n.kind ∉ facts.ddl := fun h => by
    rcases rule_kinds_not_readers.2 _ h with hB | hW
    · exact hb hB
    · exact nomatch (verdict_block_of_write hW).symm.trans hv
  unfold roDbRule
  simp [List.contains_eq_mem, hk, hddl, hnil]

/-- Finding (region `rodb_statement_without_resolved_table_passes`): the rule only sees a read-only
database through a resolved table (or CREATE TABLE's own database): CREATE VIEW / PROCEDURE /
EVENT, RENAME TABLE, DROP DATABASE, ALTER … AUTO_INCREMENT in a read-only database pass. -/
theorem finding_rodb_statement_without_resolved_table_passes :
    ∃ n, verdict expect n = .block ∧ ownDbReadOnly n = true ∧ roDbRule facts false n = .pass :=
  ⟨witnessCreateView, evaluated.create_view⟩

set_option maxRecDepth 100000 in
example : wf tbl expect (sampleTree "plan.InsertInto") = true ∧ verdict expect (sampleTree "plan.InsertInto") = .block ∧
    isRO tbl (sampleTree "plan.InsertInto") = .ok false ∧
    wf tbl expect (sampleTree "plan.ShowTables") = true ∧ storedProc tbl (sampleTree "plan.ShowTables") = false ∧
    verdict expect (sampleTree "plan.ShowTables") = .allow ∧ isRO tbl (sampleTree "plan.ShowTables") = .ok true :=
  evaluated.sample

set_option maxRecDepth 100000 in
example : roDbRule facts false (.mk "" "plan.Update" false Attr.none
      [.mk "Child" "plan.UpdateSource" true Attr.none [.mk "Child" resolvedTable true ⟨false, false, false, true, true⟩ []]]) = .reject ∧
    reachNil (sampleTree "plan.ShowTables") = false := by
  decide +kernel

end Gms.C42
