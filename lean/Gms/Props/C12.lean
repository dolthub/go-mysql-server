/-
C12 — Prepared statements behave like the inlined statement text.

Model: Gms/Model/Prepared.lean. `exec σ st db` = one execution of the cached statement AST with
bindings σ (placeholder lookups while planning, `used` bookkeeping, the two binding errors);
`execInlined σ st db` = the statement text with the values written as literals.
-/
import Gms.Model.Prepared
import Gms.Model.PreparedSchema
import Gms.Generated.C12
open Gms.Sql Gms.Prepared Gms.PreparedSchema

namespace Gms.C12

/- An unbound placeholder evaluates to NULL on both sides, so the substitution lemmas hold for every
`σ`; only the guards of `exec` turn a missing binding into an error. -/

theorem atom_eval_subst (σ : Bindings) (a : Atom) : (a.subst σ).eval [] = a.eval σ := by
  cases a with
  | lit v => rfl
  | param i =>
    simp only [Atom.eval, Atom.subst]
    cases lookup σ i <;> rfl

theorem atom_eval_comp_subst (σ : Bindings) : Atom.eval [] ∘ Atom.subst σ = Atom.eval σ :=
  funext (atom_eval_subst σ)

theorem eval_subst (σ : Bindings) (row : Row) (e : PExpr) : (e.subst σ).eval [] row = e.eval σ row := by
  induction e with
  | atom a => exact atom_eval_subst σ a
  | col i => rfl
  | _ => simp only [PExpr.eval, PExpr.subst, List.map_map, atom_eval_comp_subst, *]

theorem eval_comp_subst (σ : Bindings) (row : Row) : PExpr.eval [] row ∘ PExpr.subst σ = PExpr.eval σ row :=
  funext (eval_subst σ row)

/-- substitution lemma for expressions: evaluating with the bindings looked up at the placeholder
nodes = evaluating the expression in which the values are written as literals -/
theorem pexpr_eval_subst (σ : Bindings) (row : Row) (e : PExpr) (h : ∀ i ∈ e.params, (lookup σ i).isSome) :
    e.eval σ row = (e.subst σ).eval [] row :=
  (eval_subst σ row e).symm

theorem run_eq_run_subst (σ : Bindings) (st : Stmt) (db : Table) : run σ st db = run [] (st.subst σ) db := by
  cases st with
  | select proj w lim =>
    cases lim <;> simp only [run, Stmt.subst, Option.map, List.map_map, eval_subst, eval_comp_subst, atom_eval_subst]
  | _ => simp only [run, Stmt.subst, List.map_map, eval_subst, atom_eval_comp_subst]

/-- substitution lemma for statements (results *and* effects) -/
theorem run_subst (σ : Bindings) (st : Stmt) (db : Table) (h : ∀ i ∈ st.params, (lookup σ i).isSome) :
    run σ st db = run [] (st.subst σ) db :=
  run_eq_run_subst σ st db

theorem no_missing {σ : Bindings} {ps : List Nat} (h : ∀ i ∈ ps, (lookup σ i).isSome) :
    ps.any (fun i => (lookup σ i).isNone) = false :=
  List.any_eq_false.2 fun i hi => by
    rw [← Option.not_isSome, h i hi]
    exact Bool.false_ne_true

theorem no_unused {σ : Bindings} {ps : List Nat} (h : ∀ i, i < σ.length → (lookup σ i).isSome → i ∈ ps) :
    (List.range σ.length).any (fun i => (lookup σ i).isSome && !ps.contains i) = false :=
  List.any_eq_false.2 fun i hi hc => by
    rw [Bool.and_eq_true] at hc
    simp [h i (List.mem_range.1 hi) hc.1] at hc

/-- **bind = inline**: executing the prepared statement with bindings `σ` returns the same result
and leaves the same table as executing its text with the values written as literals. -/
theorem exec_eq_inlined (σ : Bindings) (st : Stmt) (db : Table) (h : WellBound σ st) :
    exec σ st db = execInlined σ st db := by
  unfold exec execInlined
  rw [no_missing h.1, no_unused h.2]
  exact run_eq_run_subst σ st db

/-- a missing binding is reported, never silently read as NULL -/
theorem exec_missing (σ : Bindings) (st : Stmt) (db : Table) (i : Nat) (hi : i ∈ st.params) (hn : lookup σ i = none) :
    exec σ st db = (.errMissing, db) := by
  unfold exec
  have : st.params.any (fun i => (lookup σ i).isNone) = true := by
    rw [List.any_eq_true]; exact ⟨i, hi, by simp [hn]⟩
  rw [this]; rfl

/-- a binding no placeholder refers to is reported (unless a placeholder is missing) -/
theorem exec_unused (σ : Bindings) (st : Stmt) (db : Table) (i : Nat) (hlt : i < σ.length)
    (hs : (lookup σ i).isSome) (hni : i ∉ st.params) (hall : ∀ j ∈ st.params, (lookup σ j).isSome) :
    exec σ st db = (.errUnused, db) := by
  unfold exec
  have h2 : (List.range σ.length).any (fun i => (lookup σ i).isSome && !st.params.contains i) = true := by
    rw [List.any_eq_true]
    exact ⟨i, by simpa using hlt, by simp [hs, hni]⟩
  rw [no_missing hall, h2]; rfl

theorem run_unchanged_or_ok (σ : Bindings) (st : Stmt) (db : Table) :
    (run σ st db).2 = db ∨ ∃ n, (run σ st db).1 = .ok n := by
  fun_cases run σ st db
  -- the INSERT that stores its row, UPDATE, DELETE
  case case7 | case8 | case9 => exact .inr ⟨_, rfl⟩
  all_goals exact .inl rfl

/-- errors of the binding step leave the table unchanged -/
theorem exec_error_no_effect (σ : Bindings) (st : Stmt) (db : Table)
    (h : (exec σ st db).1 = .errMissing ∨ (exec σ st db).1 = .errUnused ∨ (exec σ st db).1 = .errDup ∨
      (exec σ st db).1 = .errNullKey ∨ (exec σ st db).1 = .errLimit) : (exec σ st db).2 = db := by
  revert h
  fun_cases exec σ st db with
  | case1 hmissing => exact fun _ => rfl
  | case2 hbound hunused => exact fun _ => rfl
  | case3 hbound hused =>
    intro h
    rcases run_unchanged_or_ok σ st db with hu | ⟨n, hn⟩
    · exact hu
    · rw [hn] at h
      rcases h with h | h | h | h | h <;> cases h

/-- histories: every execution of every prepared statement equals the inlined execution, whatever
was executed before (re-execution with other values, DML in between) -/
theorem execAll_eq_inlined (hist : List (Stmt × Bindings)) (db : Table)
    (h : ∀ p ∈ hist, WellBound p.2 p.1) : execAll hist db = execAllInlined hist db := by
  induction hist generalizing db with
  | nil => rfl
  | cons p rest ih =>
    obtain ⟨st, σ⟩ := p
    have hp := h (st, σ) (by simp)
    simp only [execAll, execAllInlined]
    rw [exec_eq_inlined σ st db hp]
    exact congrArg (_ :: ·) (ih _ (fun q hq => h q (by simp [hq])))

/-- the inlined text contains no placeholder any more: a second binding cannot change it
(no state of an earlier execution can leak into a later one through the statement) -/
theorem atom_subst_closed (σ τ : Bindings) (a : Atom) (h : ∀ i ∈ a.params, (lookup σ i).isSome) :
    (a.subst σ).subst τ = a.subst σ := by
  cases a with
  | lit v => rfl
  | param i =>
    have := h i (by simp [Atom.params])
    cases hl : lookup σ i with
    | none => simp [hl] at this
    | some v => simp [Atom.subst, hl]

theorem stmt_subst_closed_atoms (σ τ : Bindings) (items : List Atom) (h : ∀ i ∈ items.flatMap Atom.params, (lookup σ i).isSome) :
    (items.map (Atom.subst σ)).map (Atom.subst τ) = items.map (Atom.subst σ) := by
  rw [List.map_map]
  exact List.map_congr_left fun a ha =>
    atom_subst_closed σ τ a fun i hi => h i (List.mem_flatMap.mpr ⟨a, ha, hi⟩)

def demoTable : Table := [[.int 1, .int 5, .str [97]], [.int 2, .null, .str [98]], [.int 4, .int 7, .null]]
def demoUpdate : Stmt := .update 1 (.arith .add (.col 1) (.atom (.param 0))) (.cmp .gt (.col 0) (.atom (.param 1)))
def demoSelect : Stmt := .select [.col 1] (.inList (.col 0) [.param 0, .lit (.int 4)]) (some (.param 1))

example : WellBound [some (.int 10), some (.int 1)] demoUpdate := by
  refine ⟨?_, ?_⟩ <;> decide
example : execAll [(demoUpdate, [some (.int 10), some (.int 1)]), (demoUpdate, [some (.int 1), some (.int 3)]),
      (demoSelect, [some (.int 2), some (.int 5)])] demoTable
    = [.ok 1, .ok 1, .rows [[.int 2, .null], [.int 4, .int 18]]] := by decide +kernel
example : (exec [some (.int 10)] demoUpdate demoTable).1 = .errMissing := by decide
example : (exec [some (.int 10), some (.int 1), some (.int 7)] demoUpdate demoTable).1 = .errUnused := by decide

/-! ## Prepared statements across schema changes (Gms/Model/PreparedSchema.lean)

The cached statement AST is re-bound against the catalog of the moment at every execution; the implicit
lists (INSERT column list, `*`, NATURAL JOIN's USING list) must therefore be those of the moment, exactly
as for the statement text parsed afresh. -/

/-- the binder has nothing to record in `s` -/
structure Inert (s : SStmt) : Prop where
  strip_eq : s.strip = s
  not_drifted : drifted s = false
  not_stale (db : Db) : stale db s = false
  bind_eq (db : Db) : bindAst db s = s

theorem Inert.of_not_natJoin {s : SStmt} (h : s.isNatJoin = false) : Inert s := by
  cases s with
  | natJoin l w => cases h
  | _ => exact ⟨rfl, rfl, fun _ => rfl, fun _ => rfl⟩

/-- the binder leaves every statement but a natural join exactly as it found it (nothing derived from the
catalog or from the bindings of one execution is recorded in the cached AST) -/
theorem bind_eq_self (db : Db) (s : SStmt) (h : s.isNatJoin = false) : bindAst db s = s :=
  (Inert.of_not_natJoin h).bind_eq db

theorem effUsing_idem (db : Db) (l : List Nat) : effUsing db (effUsing db l) = effUsing db l := by
  unfold effUsing
  by_cases h : l.isEmpty = true
  · simp only [h, if_true]; split <;> rfl
  · simp [h]

theorem bind_idem (db : Db) (s : SStmt) : bindAst db (bindAst db s) = bindAst db s := by
  cases s with
  | natJoin l w => simp only [bindAst, effUsing_idem]
  | _ => rfl

theorem strip_bind (db : Db) (s : SStmt) : (bindAst db s).strip = s.strip := by
  cases s <;> rfl

theorem params_bind (db : Db) (s : SStmt) : (bindAst db s).params = s.params := by
  cases s <;> rfl

theorem params_strip (s : SStmt) : s.strip.params = s.params := by
  cases s <;> rfl

theorem isNatJoin_strip (s : SStmt) : s.strip.isNatJoin = s.isNatJoin := by
  cases s <;> rfl

theorem Inert.of_strip {s text : SStmt} (hs : s.strip = text) (hn : text.isNatJoin = false) : Inert s :=
  Inert.of_not_natJoin (by rw [← isNatJoin_strip, hs]; exact hn)

theorem strip_strip (s : SStmt) : s.strip.strip = s.strip := by
  cases s <;> rfl

/-- running the re-bound AST is running the AST: the binder's expansion is the one `runS` performs -/
theorem runS_bind (σ : Bindings) (db : Db) (s : SStmt) : runS σ (bindAst db s) db = runS σ s db := by
  cases s with
  | natJoin l w => simp only [bindAst, runS, effUsing_idem]
  | _ => rfl

theorem runS_eq_runS_subst (σ : Bindings) (st : SStmt) (db : Db) : runS σ st db = runS [] (st.subst σ) db := by
  cases st <;> simp only [runS, SStmt.subst, List.map_map, ← run_eq_run_subst, eval_subst, atom_eval_comp_subst]

/-- substitution lemma for the catalog-dependent statements, for every physical column order -/
theorem runS_subst (σ : Bindings) (st : SStmt) (db : Db) (h : ∀ i ∈ st.params, (lookup σ i).isSome) :
    runS σ st db = runS [] (st.subst σ) db :=
  runS_eq_runS_subst σ st db

/-- a cached AST that is its text up to the recorded USING list, and whose recorded list is the current
one, binds to what the text binds to -/
theorem bind_eq_of_fresh (db : Db) (text cached : SStmt) (hrel : cached.strip = text)
    (hf : stale db cached = false) : bindAst db cached = bindAst db text := by
  subst hrel
  cases cached with
  | natJoin l w =>
    simp only [stale, Bool.and_eq_false_iff, Bool.not_eq_false', bne_eq_false_iff_eq] at hf
    simp only [SStmt.strip, bindAst, effUsing]
    rcases hf with hf | hf
    · simp [hf]
    · subst hf; simp only [List.isEmpty_nil, if_true]; split <;> rfl
  | _ => rfl

theorem execS_ast (σ : Bindings) (cached : SStmt) (db : Db) : (execS σ cached db).2.2 = bindAst db cached := by
  unfold execS
  fun_cases execG bindAst σ cached db <;> rfl

theorem any_not_contains_self (l : List Nat) : (l.any fun c => !l.contains c) = false :=
  List.any_eq_false.2 fun c hc => by simp [hc]

/-- a catalog error found while planning is the outcome of the reference semantics too -/
theorem runS_of_planErr (σ : Bindings) (db : Db) (s : SStmt) (e : SOutcome) (h : planErr db s = some e) :
    runS σ s db = (e, db) := by
  revert h
  fun_cases planErr db s with
  | case1 vals hcount =>
    rintro ⟨⟩
    simp only [runS, insertRow, any_not_contains_self, Bool.false_eq_true, if_false, List.length_map, hcount, if_true]
  | case3 cols vals hunknown =>
    rintro ⟨⟩
    simp only [runS, insertRow, hunknown, if_true]
  | case4 cols vals hknown hcount =>
    rintro ⟨⟩
    simp only [runS, insertRow, hknown, Bool.false_eq_true, if_false, List.length_map, hcount, if_true]
  | case6 l w hunknown =>
    rintro ⟨⟩
    simp only [runS, hunknown, if_true]
  | _ => rintro ⟨⟩

theorem execG_of_wellBound (b : Db → SStmt → SStmt) {σ : Bindings} {cached : SStmt} (hw : WellBoundS σ cached) (db : Db) :
    execG b σ cached db = ((runS σ (b db cached) db).1, (runS σ (b db cached) db).2, b db cached) := by
  fun_cases execG b σ cached db with
  | case1 e herr => rw [runS_of_planErr σ db _ e herr]
  | case2 hplan hmissing => exact absurd hmissing (ne_true_of_eq_false (no_missing hw.1))
  | case3 hplan hbound hunused => exact absurd hunused (ne_true_of_eq_false (no_unused hw.2))
  | case4 => rfl

/-- **bind = inline across schema changes** (one execution): the cached AST, executed with bindings
against the catalog of the moment, gives the result and the table of the statement text with the values
inlined and parsed afresh — provided the AST is not a natural join with a stale USING list. -/
theorem execS_eq_inlined_partial (σ : Bindings) (text cached : SStmt) (db : Db) (hrel : cached.strip = text)
    (hf : stale db cached = false) (hw : WellBoundS σ text) :
    (execS σ cached db).1 = (execSInlined σ text db).1 ∧ (execS σ cached db).2.1 = (execSInlined σ text db).2 := by
  have hw' : WellBoundS σ cached := by
    unfold WellBoundS
    rw [← params_strip, hrel]
    exact hw
  unfold execS execSInlined
  rw [execG_of_wellBound bindAst hw' db, bind_eq_of_fresh db text cached hrel hf, runS_bind, runS_eq_runS_subst]
  exact ⟨rfl, rfl⟩

/- Without the `stale` guard the statement is false on the unchanged tree:
    `∀ σ text cached db, cached.strip = text → WellBoundS σ text → (execS σ cached db).1 = (execSInlined σ text db).1`
fails where `cached = .natJoin l w` joins on a list `l` that is neither empty nor `common db.ord` (the region `stale`);
the history of `finding_natural_join_using_memoised` reaches such a cached AST from the empty cache. -/

/-- outside natural joins the guard is vacuous: the binder records nothing in such a statement (`Inert`), so its cached AST is its text -/
theorem execS_eq_inlined_of_not_natJoin (σ : Bindings) (text : SStmt) (db : Db) (hn : text.isNatJoin = false)
    (hw : WellBoundS σ text) :
    (execS σ text db).1 = (execSInlined σ text db).1 ∧ (execS σ text db).2.1 = (execSInlined σ text db).2 :=
  execS_eq_inlined_partial σ text text db (Inert.of_not_natJoin hn).strip_eq ((Inert.of_not_natJoin hn).not_stale db) hw

theorem cachedOf_strip (texts : List SStmt) (c : Cache) (i : Nat) (hU : ∀ j, (textOf texts j).strip = textOf texts j)
    (hc : CacheOk texts c) : (cachedOf texts c i).strip = textOf texts i := by
  unfold cachedOf
  cases hl : c.lookup i with
  | none => exact hU i
  | some s => exact hc i s hl

theorem cacheOk_cons (texts : List SStmt) (c : Cache) (i : Nat) (s : SStmt) (hc : CacheOk texts c)
    (hs : s.strip = textOf texts i) : CacheOk texts ((i, s) :: c) := by
  intro j t hj
  rw [List.lookup_cons] at hj
  by_cases hji : (j == i) = true
  · simp only [hji] at hj
    have : j = i := by simpa using hji
    cases hj; rw [this]; exact hs
  · simp only [hji] at hj
    exact hc j t hj

theorem cacheOk_nil (texts : List SStmt) : CacheOk texts [] := fun _ _ h => nomatch h

theorem cacheOk_step (texts : List SStmt) (hU : ∀ j, (textOf texts j).strip = textOf texts j) (c : Cache)
    (hc : CacheOk texts c) (i : Nat) (σ : Bindings) (db : Db) :
    CacheOk texts ((i, (execS σ (cachedOf texts c i) db).2.2) :: c) :=
  cacheOk_cons texts c i _ hc (by rw [execS_ast, strip_bind]; exact cachedOf_strip texts c i hU hc)

/-- **histories with schema changes**: whatever was executed before — other statements, re-executions with
other values, DML, `ALTER TABLE … MODIFY/ADD/DROP COLUMN` — every execution of every prepared statement
returns what the inlined text returns at that moment, as long as no natural join is run on a stale USING
list (the region of the listed finding, decided along the run). -/
theorem implAll_eq_specAll_partial (texts : List SStmt) (hU : ∀ j, (textOf texts j).strip = textOf texts j)
    (steps : List Step) (db : Db) (c : Cache) (hc : CacheOk texts c) (hw : StepsWellBound texts steps)
    (hs : staleFree texts steps db c = true) : implAll texts steps db c = specAll texts steps db := by
  induction steps generalizing db c with
  | nil => rfl
  | cons st rest ih =>
    cases st with
    | ddl d =>
      simp only [implAll, implAllG, specAll]
      exact congrArg (_ :: ·) (ih _ c hc (fun q hq => hw q (by simp [hq])) (by simpa [staleFree] using hs))
    | exec i σ =>
      simp only [staleFree, Bool.and_eq_true, Bool.not_eq_eq_eq_not, Bool.not_true] at hs
      have hrel := cachedOf_strip texts c i hU hc
      have hwb : WellBoundS σ (textOf texts i) := hw (.exec i σ) (by simp)
      obtain ⟨h1, h2⟩ := execS_eq_inlined_partial σ (textOf texts i) (cachedOf texts c i) db hrel hs.1 hwb
      unfold execS at h1 h2
      simp only [implAll, implAllG, specAll]
      rw [h1, ← h2]
      exact congrArg (_ :: ·) (ih ((execS σ (cachedOf texts c i) db).2.1) _ (cacheOk_step texts hU c hc i σ db)
        (fun q hq => hw q (by simp [hq])) hs.2)

theorem staleFree_of_no_natJoin (texts : List SStmt) (hn : ∀ j, (textOf texts j).isNatJoin = false)
    (steps : List Step) (db : Db) (c : Cache) (hc : CacheOk texts c) : staleFree texts steps db c = true := by
  have hU := fun j => (Inert.of_not_natJoin (hn j)).strip_eq
  induction steps generalizing db c with
  | nil => rfl
  | cons st rest ih =>
    cases st with
    | ddl d => simpa [staleFree] using ih _ c hc
    | exec i σ =>
      have hst := (Inert.of_strip (cachedOf_strip texts c i hU hc) (hn i)).not_stale db
      simp only [staleFree, hst, Bool.not_false, Bool.true_and]
      exact ih _ _ (cacheOk_step texts hU c hc i σ db)

/-- **full strength outside natural joins**: for every pool of statements without NATURAL JOIN (implicit
INSERT column lists, `SELECT *`, explicit lists, named SELECT / UPDATE / DELETE), every history of
executions interleaved with arbitrary schema changes, starting from an empty statement cache: the
prepared executions observe exactly what the inlined texts observe. -/
theorem implAll_eq_specAll (texts : List SStmt) (hn : ∀ j, (textOf texts j).isNatJoin = false)
    (steps : List Step) (db : Db) (hw : StepsWellBound texts steps) :
    implAll texts steps db [] = specAll texts steps db :=
  implAll_eq_specAll_partial texts (fun j => (Inert.of_not_natJoin (hn j)).strip_eq) steps db [] (cacheOk_nil texts) hw
    (staleFree_of_no_natJoin texts hn steps db [] (cacheOk_nil texts))

/-- the statement cache stays "text up to the USING list" along every history -/
theorem cacheOk_final (texts : List SStmt) (hU : ∀ j, (textOf texts j).strip = textOf texts j)
    (steps : List Step) (db : Db) (c : Cache) (hc : CacheOk texts c) :
    CacheOk texts (finalCacheG bindAst texts steps db c) := by
  induction steps generalizing db c with
  | nil => exact hc
  | cons st rest ih =>
    cases st with
    | ddl d => exact ih _ c hc
    | exec i σ => exact ih _ _ (cacheOk_step texts hU c hc i σ db)

/-- **no execution leaves anything behind in the cached AST of a statement that is not a natural join**:
after every history with every schema change, every AST the session holds for a pool without NATURAL JOIN
is still the parse of its text (what the harness observes as `String(cached) = String(parse text)`) -/
theorem no_drift_without_natJoin (texts : List SStmt) (hn : ∀ j, (textOf texts j).isNatJoin = false)
    (steps : List Step) (db : Db) : driftedStmts texts (finalCacheG bindAst texts steps db []) = [] := by
  have hf := cacheOk_final texts (fun j => (Inert.of_not_natJoin (hn j)).strip_eq) steps db [] (cacheOk_nil texts)
  unfold driftedStmts
  rw [List.filter_eq_nil_iff]
  intro i _
  cases hl : (finalCacheG bindAst texts steps db []).lookup i with
  | none => simp
  | some s => simp [(Inert.of_strip (hf i s hl) (hn i)).not_drifted]

def sDb : Db := { ord := [0, 1, 2], rows := [[.int 1, .int 10, .str [97]], [.int 2, .int 20, .str [66]], [.int 3, .int 30, .str [99]]],
                  u := [[.int 10, .int 7, .int 100], [.int 20, .int 8, .int 200], [.int 30, .int 7, .int 300], [.int 10, .int 9, .int 400]] }

def sTexts : List SStmt :=
  [ .natJoin [] (.cmp .gt (.col 0) (.atom (.param 0))),
    .insertAll [.param 0, .param 1, .param 2],
    .selectStar (.cmp .gt (.col 0) (.atom (.param 0))) ]

/-- witness (replayed on the real engine, known_findings/C12.jsonl): prepared
`SELECT * FROM t NATURAL JOIN u WHERE id > ?`, executed, then `ALTER TABLE t ADD COLUMN c INT DEFAULT 7`,
executed again: the cached AST still joins USING (k) — 4 rows of 6 columns — while the text joins on (k, c). -/
theorem finding_natural_join_using_memoised :
    ∃ texts steps db, StepsWellBound texts steps ∧ implAll texts steps db [] ≠ specAll texts steps db :=
  ⟨sTexts, [.exec 0 [some (.int 0)], .ddl (.addCol none), .exec 0 [some (.int 0)]], sDb,
    by intro st hst; simp at hst; rcases hst with rfl | rfl | rfl <;> first | trivial | (constructor <;> decide),
    by decide +kernel⟩

example : implAll sTexts [.exec 0 [some (.int 0)], .ddl (.addCol none), .exec 0 [some (.int 0)]] sDb [] =
    [.out (.base (.rows [[.int 10, .int 1, .str [97], .int 7, .int 100], [.int 10, .int 1, .str [97], .int 9, .int 400],
        [.int 20, .int 2, .str [66], .int 8, .int 200], [.int 30, .int 3, .str [99], .int 7, .int 300]])), .ddl,
     .out (.base (.rows [[.int 10, .int 1, .str [97], .int 7, .int 7, .int 100], [.int 10, .int 1, .str [97], .int 7, .int 9, .int 400],
        [.int 20, .int 2, .str [66], .int 7, .int 8, .int 200], [.int 30, .int 3, .str [99], .int 7, .int 7, .int 300]]))] := by decide +kernel

example : staleFree sTexts [.exec 0 [some (.int 0)], .ddl (.addCol none), .exec 0 [some (.int 0)]] sDb [] = false := by decide

/-- a history that never runs the natural join of the pool `sTexts`: implicit INSERT re-executed across a column
re-order and an added column, observed through `SELECT *` -/
def sHist : List Step :=
  [.exec 1 [some (.int 4), some (.int 40), some (.str [100])], .ddl (.moveFirst 1),
   .exec 1 [some (.int 50), some (.int 5), some (.str [101])], .exec 2 [some (.int 3)],
   .ddl (.addCol (some none)), .exec 1 [some (.int 6), some (.int 60), some (.str [102])], .exec 2 [some (.int 4)]]

example : implAll sTexts sHist sDb [] =
    [.out (.base (.ok 1)), .ddl, .out (.base (.ok 1)), .out (.base (.rows [[.int 40, .int 4, .str [100]], [.int 50, .int 5, .str [101]]])),
     .ddl, .out .errCount, .out (.base (.rows [[.int 7, .int 50, .int 5, .str [101]]]))] := by decide +kernel

/-- **the class of the seeded change**: a binder that records the expanded column list of
`INSERT INTO t VALUES (…)` in the cached AST (`bindMemoInsert`) is *not* equivalent to the inlined text on
histories without any natural join — the same history as above tells them apart (second INSERT: the
values go to the columns of the first bind; third INSERT: succeeds where the text is rejected). -/
theorem memo_insert_diverges :
    ∃ texts steps db, (∀ j, (textOf texts j).isNatJoin = false) ∧ StepsWellBound texts steps ∧
      implAllG bindMemoInsert texts steps db [] ≠ specAll texts steps db :=
  ⟨sTexts.drop 1, [.exec 0 [some (.int 4), some (.int 40), some (.str [100])], .ddl (.moveFirst 1),
      .exec 0 [some (.int 50), some (.int 5), some (.str [101])], .exec 1 [some (.int 3)]], sDb,
    by
      intro j
      match j with
      | 0 => rfl
      | 1 => rfl
      | (_ + 2) => rfl,
    by intro st hst; simp at hst; rcases hst with rfl | rfl | rfl | rfl <;> first | trivial | (constructor <;> decide),
    by decide +kernel⟩

/-- …and it is invisible as long as the catalog does not change: on a history without schema changes the
recording binder observes what the unchanged binder observes (why ordinary use never shows it) -/
example : implAllG bindMemoInsert sTexts [.exec 1 [some (.int 4), some (.int 40), some (.str [100])],
      .exec 1 [some (.int 5), some (.int 50), some (.str [101])], .exec 2 [some (.int 3)]] sDb [] =
    implAll sTexts [.exec 1 [some (.int 4), some (.int 40), some (.str [100])],
      .exec 1 [some (.int 5), some (.int 50), some (.str [101])], .exec 2 [some (.int 3)]] sDb [] := by decide +kernel

/-- conservative extension: on the base schema the implicit INSERT of this layer is the INSERT of
Gms/Model/Prepared.lean -/
theorem insertAll_base (σ : Bindings) (a b c : Atom) (rows u : Table) :
    runS σ (.insertAll [a, b, c]) { ord := [0, 1, 2], rows := rows, u := u } =
      (.base (run σ (.insert [a, b, c]) rows).1, { ord := [0, 1, 2], rows := (run σ (.insert [a, b, c]) rows).2, u := u }) := by
  have hrow : ∀ x y z : Value, rowOf (width { ord := [0, 1, 2], rows := rows, u := u }) [0, 1, 2] [x, y, z] = [x, y, z] :=
    fun _ _ _ => rfl
  simp only [runS, insertRow, run, List.map, hrow, any_not_contains_self, Bool.false_eq_true, if_false]
  rw [if_neg (show ¬ ([0, 1, 2].length != [a.eval σ, b.eval σ, c.eval σ].length) = true from Bool.false_ne_true)]
  split
  · rfl
  · split <;> rfl

/-- the AST literal built from a bound wire value has the class the parser gives the literal text -/
theorem literal_kind_agrees (c : WireClass) : astKindOfWire c = astKindOfText c := by cases c <;> rfl

def classOfWireType : String → Option WireClass
  | "NULL_TYPE" => some .null
  | "INT8" | "INT16" | "INT24" | "INT32" | "INT64" | "UINT8" | "UINT16" | "UINT24" | "UINT32" | "UINT64" | "YEAR" => some .integral
  | "FLOAT32" | "FLOAT64" => some .float
  | "DECIMAL" => some .decimal
  | "VARCHAR" | "CHAR" | "TEXT" | "VARBINARY" | "BINARY" | "BLOB" | "DATE" | "DATETIME" | "TIMESTAMP" | "TIME" => some .quoted
  | _ => none

def kindName : AstKind → String
  | .nullVal => "NullVal" | .intVal => "IntVal" | .floatVal => "FloatVal" | .strVal => "StrVal"

/-- regenerated on every run: (a) for every wire type the server's `bindingsToExprs` produces the AST
literal class of the model and the parser assigns the same class to the literal text; (b) the
binder's bookkeeping the Impl model `exec` transliterates: `GetSubstitute` marks the name used,
`UnusedBindings` compares the two sets, the two error texts, the prepared-AST cache is keyed by the
statement text and bindings are installed with `SetBindings`. -/
theorem facts_match :
    Gms.Generated.C12.literalKinds.length = 25 ∧
    (Gms.Generated.C12.literalKinds.all fun (ty, wire, text) =>
      match classOfWireType ty with
      | some c => wire == kindName (astKindOfWire c) && text == kindName (astKindOfText c)
      | none => false) = true ∧
    Gms.Generated.C12.getSubstituteMarksUsed = true ∧
    Gms.Generated.C12.unusedBindingsFastPath = "len(bv.used) == len(bv.Bindings)" ∧
    Gms.Generated.C12.normalizeValArgErrors = ["bind variable not provided: '%s'", "bind variable not provided: '%s'"] ∧
    Gms.Generated.C12.queryWithBindingsErrors = ["invalid arguments. expected: %d, found: %d"] ∧
    Gms.Generated.C12.preparedStatementCalls =
      ["ctx.Session.GetPreparedQuery(query)", "ctx.Session.GetPreparedQuery(query)", "binder.SetBindings(bindings)"] :=
  ⟨rfl, by decide +kernel, rfl, rfl, rfl, rfl, rfl⟩

/-- the model statement a corpus entry of the regenerated run-time table `astStable` corresponds to -/
def modelKindOf : String → Option SStmt
  | "insert_implicit_columns" => some (.insertAll [.param 0, .param 1, .param 2])
  | "insert_explicit_columns" => some (.insertCols [0, 1, 2] [.param 0, .param 1, .param 2])
  | "select_star" => some (.selectStar (.cmp .gt (.col 0) (.atom (.param 0))))
  | "natural_join" => some (.natJoin [] (.cmp .gt (.col 0) (.atom (.param 0))))
  | "update_where" => some (.plain (.update 1 (.arith .add (.col 1) (.atom (.param 0))) (.cmp .eq (.col 0) (.atom (.param 1)))))
  | "delete_where" => some (.plain (.delete (.or (.cmp .eq (.col 0) (.atom (.param 0))) (.cmp .gt (.col 1) (.atom (.param 1))))))
  | _ => none

/-- regenerated on every run — **what a bind leaves behind in the prepared statement**.
(a) `astWrites` (go/ast over sql/planbuilder): the complete list of assignments whose left-hand side goes
through a variable holding a node of the parsed statement. The only one that records something computed
from the *catalog* is `buildUsingJoin: te.Condition.Using` (the model's `bindAst`, finding
`natural_join_using_memoised`); the others record something computed from the statement itself (GRANT
auth plumbing, the table qualifier of `VALUES(col)` in ON DUPLICATE KEY UPDATE, the charset-introducer
COLLATE child, an integer `SET sql_mode`/collation literal turned into its name, a column definition's
collation). A new write — e.g. recording the expanded column list of an INSERT — changes this list.
(b) `astStable` (engine run, PrepareQuery + two executions of one statement per kind): the AST the session
holds afterwards is still the parse of the statement text for every kind except the three listed
(natural joins: USING list; ON DUPLICATE KEY UPDATE: `VALUES(k)` → `VALUES(pt.k)`; introducer + COLLATE),
every execution succeeds, and for the kinds that have a model statement the cached AST drifts exactly
when `bindAst` changes that statement (`bind_eq_self`). -/
theorem facts_ast :
    Gms.Generated.C12.astWrites =
      [("buildGrantPrivilege", "n.Auth.Extra"), ("buildGrantProxy", "n.Auth.Extra"), ("buildGrantRole", "n.Auth.Extra"),
       ("buildRevokePrivilege", "n.Auth.Extra"), ("buildRevokeRole", "n.Auth.Extra"),
       ("buildScalar", "v.Name.Name"), ("buildScalar", "v.Name.Qualifier.Name"), ("buildUnaryScalar", "e.Expr"),
       ("buildUsingJoin", "te.Condition.Using"), ("setExprsToExpressions", "setExpr.Expr"),
       ("tableSpecToSchema", "cd.Type.Collate"), ("visible", "auth.TargetType")] ∧
    Gms.Generated.C12.astStable.length = 26 ∧
    ((Gms.Generated.C12.astStable.filter fun e => !e.2.1).map fun e => e.1) =
      ["insert_on_duplicate_key", "natural_join", "natural_left_join", "select_introducer_collate"] ∧
    (Gms.Generated.C12.astStable.all fun e => e.2.2 == "ok") = true ∧
    (Gms.Generated.C12.astStable.all fun e =>
      match modelKindOf e.1 with
      | some s => e.2.1 == !s.isNatJoin
      | none => true) = true ∧
    ((Gms.Generated.C12.astStable.filter fun e => (modelKindOf e.1).isSome).length = 6) :=
  ⟨rfl, rfl, rfl, by decide +kernel, by decide +kernel⟩

end Gms.C12
