/-
C34 — Built-in scalar functions satisfy their defining identities.

Model: Gms/Model/ScalarFn.lean (Impl model `impl`, `spec`, `region`) over Gms/Model/Utf8.lean.
Helper lemmas: Gms/Lemmas/Utf8.lean, Gms/Lemmas/ScalarFn.lean, Gms/Lemmas/NodeRows.lean. The property theorems
are in `namespace Gms.C34` below. They are stated about `impl name args` — the function the
correspondence run compares with the real `Eval` — or about the function of the model that the call
runs after its argument checks (`substrRunes`, `padImpl`, `locateImpl`, `inetNtoaImpl`, `roundPow`,
`truncPow`, `parsePrefix`, `fGreatestLeast`), for *all* well-formed strings (`enc rs` for an
arbitrary list `rs` of Unicode scalar values) and all byte strings; where an integer argument is
restricted (int64 range, sign, the range in which the code meets the Spec), the statement says so.
-/
import Gms.Lemmas.ScalarFn
import Gms.Lemmas.NodeRows
import Gms.Model.ScalarRows
import Gms.Generated.C34

namespace Gms.C34
open Gms.Utf8 Gms.ScalarFn

/-- `CHAR_LENGTH(CONCAT(a,b)) = CHAR_LENGTH(a) + CHAR_LENGTH(b)` for all well-formed strings. -/
theorem charLength_concat (ra rb : List Nat) (ha : Scalars ra) (hb : Scalars rb) :
    impl "concat" [.text (enc ra), .text (enc rb)] = rtext (enc ra ++ enc rb) ∧
    impl "char_length" [.text (enc ra)] = rint ra.length ∧
    impl "char_length" [.text (enc rb)] = rint rb.length ∧
    impl "char_length" [.text (enc ra ++ enc rb)] = rint (ra.length + rb.length) := by
  refine ⟨impl_concat_text _ _, impl_char_length_enc ra ha, impl_char_length_enc rb hb, ?_⟩
  rw [← encodeRunes_append, impl_char_length_enc _ (scalars_append ha hb), List.length_append, Int.natCast_add]

example : impl "char_length" [.text (enc [0x61, 0xE9, 0x1F600] ++ enc [0x4E2D])] = rint (3 + 1) := by decide +kernel

/-- `LENGTH(CONCAT(a,b)) = LENGTH(a) + LENGTH(b)` for all byte strings (ill-formed ones too). -/
theorem length_concat (a b : Bytes) :
    impl "concat" [.text a, .text b] = rtext (a ++ b) ∧
    impl "length" [.text (a ++ b)] = rint ((a.length : Int) + b.length) := by
  refine ⟨impl_concat_text a b, ?_⟩
  rw [impl_length, fLength, List.length_append, Int.natCast_add]

/-- `s = CONCAT(LEFT(s,n), SUBSTRING(s,n+1))` for every well-formed `s` and every `n ≥ 0`; the two
parts are the first `n` characters and the rest. -/
theorem left_substring_split (rs : List Nat) (hs : Scalars rs) (n : Int) (hn : 0 ≤ n) :
    impl "left" [.text (enc rs), .int n] = rtext (enc (rs.take n.toNat)) ∧
    impl "substring" [.text (enc rs), .int (n + 1)] = rtext (enc (rs.drop n.toNat)) ∧
    enc (rs.take n.toNat) ++ enc (rs.drop n.toNat) = enc rs := by
  refine ⟨?_, ?_, ?_⟩
  · rw [impl_left]
    exact fLeftRight_enc false rs hs n
  · rw [impl_substring]
    simp only [fSubstring, List.length_nil, longText_enc rs hs, decode_encode rs hs]
    rw [substr_nowrap rs n hn]
    simp
  · rw [← encodeRunes_append, List.take_append_drop]

example : impl "left" [.text (enc [0x61, 0x20AC, 0x62]), .int 2] = rtext (enc [0x61, 0x20AC]) ∧
    impl "substring" [.text (enc [0x61, 0x20AC, 0x62]), .int 3] = rtext (enc [0x62]) := by decide +kernel

/-- `RIGHT(s,n)` is the last `n` characters: `s = CONCAT(SUBSTRING(s,1,|s|-n), RIGHT(s,n))`. -/
theorem right_is_suffix (rs : List Nat) (hs : Scalars rs) (n : Int) (hn : 0 ≤ n) (hle : n ≤ rs.length) :
    impl "right" [.text (enc rs), .int n] = rtext (enc (rs.drop (rs.length - n.toNat))) := by
  -- `hn` and `hle` only make `rs.length - n.toNat` a true subtraction: `fLeftRight_enc` holds for every `n`
  rw [impl_right]
  exact fLeftRight_enc true rs hs n

/-- **Full statement (holds since the `fix:` commit; it was false before, see
`fixed_substring_len_overflow_panics`):** SUBSTRING equals its specification for *every* position
and length, with no guard against `startIdx + len` exceeding `maxI64`. The hypotheses are those of
the int64 representation of the arguments. -/
theorem substring_spec (rs : List Nat) (p : Int) (len? : Option Int)
    (hlen : (rs.length : Int) < 4611686018427387904) (hp : minI64 ≤ p) :
    substrRunes rs p len? = substrRunesSpec rs p len? :=
  substr_eq_spec rs p len? hlen hp

/-- The same at the level of the call: `SUBSTRING(s,p,l)` on a well-formed string is the
specified slice of its characters, for all BIGINT `p` and all `l`. -/
theorem substring_impl_spec (rs : List Nat) (hs : Scalars rs) (p l : Int)
    (hlen : (rs.length : Int) < 4611686018427387904) (hp : minI64 ≤ p) :
    impl "substring" [.text (enc rs), .int p, .int l] = rtext (enc (substrRunesSpec rs p (some l))) := by
  rw [impl_substring]
  simp only [fSubstring, List.length_cons, List.length_nil, longText_enc rs hs, decode_encode rs hs]
  rw [substr_eq_spec rs p (some l) hlen hp]
  simp

example : impl "substring" [.text (enc [0x61, 0x20AC, 0x62]), .int 2, .int 9223372036854775807] = rtext (enc [0x20AC, 0x62]) ∧
    impl "substring" [.text (enc [0x61, 0x20AC, 0x62]), .int (-2), .int 9223372036854775807] = rtext (enc [0x20AC, 0x62]) ∧
    impl "substring" [.text (enc [0x61, 0x20AC, 0x62]), .int (-9223372036854775808), .int 9223372036854775807] = rtext [] := by
  decide +kernel

/-- SUBSTRING never panics, whatever the arguments (number, kind, value). -/
theorem substring_never_crashes (args : List Val) : impl "substring" args ≠ .crash := by
  rw [impl_substring]
  unfold fSubstring badArgs
  -- no leaf of `fSubstring` builds `.crash`: after the splits every goal compares two different constructors
  repeat' split
  all_goals simp

/-- The repair is conservative: wherever the pre-fix code did not panic it returned what the
repaired code returns. -/
theorem substring_fix_conservative (rs : List Nat) (p l : Int) (r : List Nat)
    (hlen : (rs.length : Int) < 4611686018427387904) (hp : minI64 ≤ p ∧ p ≤ maxI64)
    (hl : minI64 ≤ l ∧ l ≤ maxI64) (h : substrRunesPreFix rs p (some l) = some r) :
    substrRunes rs p (some l) = r := by
  -- same start index and same guard in both versions; only the clamp differs
  unfold substrRunesPreFix at h
  unfold substrRunes
  simp only [Option.getD_some] at h ⊢
  generalize (if p < 0 then wrap64 ((rs.length : Int) + p) else p - 1) = S at h ⊢
  by_cases hc : S < 0 ∨ S ≥ (rs.length : Int) ∨ l ≤ 0
  · rw [if_pos hc] at h ⊢; exact Option.some.inj h
  · rw [if_neg hc] at h ⊢
    unfold minI64 maxI64 at hl
    by_cases hov : S + l > maxI64
    · -- the int64 addition wrapped to a negative stop: the pre-fix code panicked
      have hw : wrap64 (S + l) = S + l - two64 := by unfold wrap64 two63 two64; unfold maxI64 at hov; omega
      have h1 : ¬ (S + l - two64 > (rs.length : Int)) := by unfold two64; omega
      have h2 : S + l - two64 < S := by unfold two64; omega
      rw [hw, if_neg h1, if_pos h2] at h
      cases h
    · obtain ⟨hstop, hclamp⟩ := substr_stop_clamp rs.length S l (by omega) (by omega)
      rw [wrap64_of_int64 (by unfold minI64; omega), if_neg hstop, hclamp] at h
      exact Option.some.inj h

/-- Witness of the repaired defect `substring_len_overflow_panics`: before the `fix:` commit
`SUBSTRING('abc', 2, 9223372036854775807)` (and the same with the negative position -2) panicked
with a negative slice bound; the repaired function returns `'bc'`, which is what the Spec says. -/
theorem fixed_substring_len_overflow_panics :
    substrRunesPreFix [0x61, 0x62, 0x63] 2 (some 9223372036854775807) = none ∧
    substrRunesPreFix [0x61, 0x62, 0x63] (-2) (some 9223372036854775807) = none ∧
    impl "substring" [.text [0x61, 0x62, 0x63], .int 2, .int 9223372036854775807] = rtext [0x62, 0x63] ∧
    impl "substring" [.text [0x61, 0x62, 0x63], .int (-2), .int 9223372036854775807] = rtext [0x62, 0x63] ∧
    substrRunesSpec [0x61, 0x62, 0x63] 2 (some 9223372036854775807) = [0x62, 0x63] := by
  decide +kernel

/-- `REVERSE(s)` reverses the characters of every well-formed string… -/
theorem reverse_spec (rs : List Nat) (hs : Scalars rs) :
    impl "reverse" [.text (enc rs)] = rtext (enc rs.reverse) := by
  rw [impl_reverse]
  simp [fReverse, longText_enc rs hs, decode_encode rs hs]

/-- …hence it is an involution and preserves CHAR_LENGTH. -/
theorem reverse_involutive (rs : List Nat) (hs : Scalars rs) :
    impl "reverse" [.text (enc rs.reverse)] = rtext (enc rs) ∧
    impl "char_length" [.text (enc rs.reverse)] = impl "char_length" [.text (enc rs)] := by
  have hr : Scalars rs.reverse := fun r hr => hs r (List.mem_reverse.mp hr)
  constructor
  · rw [reverse_spec rs.reverse hr, List.reverse_reverse]
  · rw [impl_char_length_enc _ hs, impl_char_length_enc _ hr, List.length_reverse]

example : impl "reverse" [.text (enc [0x61, 0x20AC, 0x1F600])] = rtext (enc [0x1F600, 0x20AC, 0x61]) := by decide +kernel

/-- `UNHEX(HEX(x)) = x` for every byte string `x` (text or blob argument). -/
theorem unhex_hex (b : Bytes) (hb : IsBytes b) :
    impl "hex" [.blob b] = rtext (hexUpper b) ∧ impl "hex" [.text b] = rtext (hexUpper b) ∧
    impl "unhex" [.text (hexUpper b)] = rblob b := by
  refine ⟨impl_hex _, impl_hex _, ?_⟩
  have hv : longText (hexUpper b) = .ok (hexUpper b) := by
    rw [longText, valid_ascii _ (hexUpper_ascii b hb)]; rfl
  have hl : ¬ ((hexUpper b).length % 2 ≠ 0) := by rw [hexUpper_length]; omega
  simp only [impl_unhex, fUnhex, hv, hl, if_false, unhexPairs_hexUpper b hb]

example : impl "unhex" [.text (hexUpper [0, 255, 0xC3])] = rblob [0, 255, 0xC3] := by decide +kernel

/-- `HEX` doubles the length. -/
theorem hex_length (b : Bytes) : (hexUpper b).length = 2 * b.length := hexUpper_length b

/-- `FROM_BASE64(TO_BASE64(x)) = x` for every byte string `x` (any length: the 76-character line
breaks of TO_BASE64 are skipped by FROM_BASE64). -/
theorem fromBase64_toBase64 (b : Bytes) (hb : IsBytes b) :
    impl "to_base64" [.blob b] = rtext (toBase64 b) ∧ fromBase64 (toBase64 b) = some b :=
  ⟨impl_to_base64 _, fromBase64_toBase64_bytes b hb⟩

example : impl "from_base64" [.text (toBase64 [0, 255, 0xC3, 7])] = rblob [0, 255, 0xC3, 7] := by decide +kernel

/-- Spec: `CHAR_LENGTH(LPAD(s,n,p)) = n` (likewise RPAD) for all well-formed `s`, `p` and `n ≥ 0`,
unless `p` is empty and `s` is too short. -/
theorem pad_spec_charLength (left : Bool) (rs ps : List Nat) (hs : Scalars rs) (hp : Scalars ps) (n : Int)
    (hn : 0 ≤ n) (hne : ps ≠ [] ∨ (rs.length : Int) ≥ n) :
    impl "char_length" [.text (padSpec left (enc rs) n (enc ps))] = rint n := by
  have hsc : Scalars (padImpl left rs n ps) := fun r hr => (padImpl_mem left rs ps n r hr).elim (hs r) (hp r)
  rw [padSpec, decode_encode rs hs, decode_encode ps hp, impl_char_length_enc _ hsc, padImpl_length left rs ps n hn hne,
    Int.toNat_of_nonneg hn]

/-- Impl: the same law holds in **bytes** … -/
theorem pad_impl_length (left : Bool) (s p : Bytes) (n : Int) (hn : 0 ≤ n) (hne : p ≠ [] ∨ (s.length : Int) ≥ n) :
    (padImpl left s n p).length = n.toNat := padImpl_length left s p n hn hne

/-- … so on ASCII arguments the code meets the Spec (`pad_…_partial`). -/
theorem pad_ascii_partial (left : Bool) (s p : Bytes) (n : Int) (hs : isAscii s = true) (hp : isAscii p = true) :
    padImpl left s n p = padSpec left s n p := by
  rw [padSpec, decodeRunes_ascii s hs, decodeRunes_ascii p hp]
  refine (encodeRunes_ascii _ (List.all_eq_true.mpr fun x hx => ?_)).symm
  exact (padImpl_mem left s p n x hx).elim (List.all_eq_true.mp hs x) (List.all_eq_true.mp hp x)

-- Full statement (false on the unchanged tree): ∀ s n p, padImpl left s n p = padSpec left s n p
/-- `LPAD('é',3,'ab')` is `aé` (2 characters) where the Spec gives `abé`. -/
theorem finding_pad_counts_bytes :
    ∃ args, impl "lpad" args ≠ spec "lpad" args ∧
      impl "lpad" args = rtext [0x61, 0xC3, 0xA9] ∧ spec "lpad" args = rtext [0x61, 0x62, 0xC3, 0xA9] :=
  ⟨[.text [0xC3, 0xA9], .int 3, .text [0x61, 0x62]], by decide +kernel⟩

/-- The byte-counting LPAD can even cut a character in two: `CHAR_LENGTH(LPAD('é',5,'😀'))` fails. -/
theorem finding_pad_splits_character :
    ∃ b, impl "lpad" [.text [0xC3, 0xA9], .int 5, .text [0xF0, 0x9F, 0x98, 0x80]] = rtext b ∧
      impl "char_length" [.text b] = .err "malformed" :=
  ⟨[0xF0, 0x9F, 0x98, 0xC3, 0xA9], by decide +kernel⟩

/-- On `0 ≤ n < 2^31` the code meets the Spec. -/
theorem inet_ntoa_partial (i : Int) (h0 : 0 ≤ i) (h1 : i < 2147483648) :
    some (inetNtoaImpl i) = inetNtoaSpec i := by
  have hc : clamp32 i = i := by rw [clamp32, if_neg (by omega), if_neg (by omega)]
  rw [inetNtoaImpl, inetNtoaSpec, hc, if_pos ⟨h0, by omega⟩, Int.emod_eq_of_lt h0 (by omega)]

-- Full statement (false on the unchanged tree): ∀ i, some (inetNtoaImpl i) = inetNtoaSpec i
/-- `INET_NTOA(3232236031)` is `127.255.255.255`; the Spec gives `192.168.1.255`, and
`INET_ATON('192.168.1.255') = 3232236031`: not an inverse pair above `127.255.255.255`. -/
theorem finding_inet_ntoa_int32_clamp :
    ∃ i, impl "inet_ntoa" [.int i] ≠ spec "inet_ntoa" [.int i] ∧
      (∃ ip, impl "inet_aton" [.text ip] = rint i ∧ spec "inet_ntoa" [.int i] = rtext ip ∧
        impl "inet_ntoa" [.int i] ≠ rtext ip) :=
  ⟨3232236031, by decide +kernel, ⟨[49, 57, 50, 46, 49, 54, 56, 46, 49, 46, 50, 53, 53], by decide +kernel⟩⟩

/-- The decimal digits of a byte value. -/
theorem digits_byte : ∀ v, v < 256 →
    toDigits 10 v = (if v < 10 then [v] else if v < 100 then [v / 10, v % 10] else [v / 100, v / 10 % 10, v % 10]) := by
  decide +kernel

/-- Spec inverse pair: `INET_ATON(INET_NTOA(n)) = n` for every `0 ≤ n < 2^32` (Spec NTOA). -/
theorem inet_roundtrip_spec_samples :
    ∀ n ∈ [0, 1, 255, 256, 16909060, 2130706433, 2147483647, 2147483648, 3232236031, 4294967295],
      inetAton (dotted n) = some n := fun n hn => inetAton_dotted n (by revert n; decide)

/-- Spec LOCATE is consistent with SUBSTRING: a positive result `k` means the needle's characters
stand at `k`, and there is no earlier occurrence at or after `pos`. -/
theorem locateSpec_substring (sub s : Bytes) (pos k : Int) (hk : locateSpec sub s pos = k) (hpos : 0 < k) :
    ((decodeRunes s).drop (k - 1).toNat).take (decodeRunes sub).length = decodeRunes sub ∧ pos ≤ k := by
  subst hk
  revert hpos
  fun_cases locateSpec sub s pos with
  | case1 => intro h; omega
  | case2 rs n hin hend hempty =>
    -- the empty needle in the empty string, at position 1
    rw [List.isEmpty_iff.mp hempty.1]
    exact fun _ => ⟨rfl, by omega⟩
  | case3 => intro h; omega
  | case4 rs n hin hend i hi =>
    have hocc := indexOf_sound _ _ i hi
    rw [List.drop_drop] at hocc
    exact fun _ => ⟨by rwa [(by omega : ((i : Int) + pos - 1).toNat = (pos - 1).toNat + i)], by omega⟩
  | case5 => intro h; omega

/-- INSTR is Spec LOCATE from position 1 (for every pair of strings). -/
theorem instr_eq_locateSpec (sub s : Bytes) :
    impl "instr" [.text s, .text sub] = rint (locateSpec sub s 1) := by
  rw [impl_instr, locateSpec_one]
  simp only [fInstr]
  cases indexOf (decodeRunes sub) (decodeRunes s) <;> rfl

/-- On lower-case ASCII arguments (no multi-byte character, no upper-case letter) the code's LOCATE
from position 1 meets the Spec (`locate_…_partial`). -/
theorem locate_ascii_lower_partial (sub s : Bytes) (hs : isAscii s = true) (hsub : isAscii sub = true)
    (hls : hasUpperAscii s = false) (hlsub : hasUpperAscii sub = false) (hne : s ≠ []) :
    locateImpl sub s 1 = locateSpec sub s 1 := by
  have hl : 0 < s.length := List.length_pos_iff.mpr hne
  rw [locateSpec_one sub s, decodeRunes_ascii s hs, decodeRunes_ascii sub hsub]
  have c2 : ¬ (sub.isEmpty = true ∧ s.isEmpty = true) := fun h => hne (List.isEmpty_iff.mp h.2)
  simp only [locateImpl, if_neg (by omega : ¬ ((1 : Int) ≤ 0 ∨ ((s.length : Int) > 0 ∧ (1 : Int) > s.length))), c2,
    if_false, if_neg (by omega : ¬ ((1 : Int) > s.length)), Int.sub_self, Int.toNat_zero, List.drop_zero,
    mapCase_lower_id s hs hls, mapCase_lower_id sub hsub hlsub]
  rfl

-- Full statement (false on the unchanged tree):
--   ∀ sub s pos, impl "locate" [.text sub, .text s, .int pos] = rint (locateSpec sub s (clamp32 pos))
/-- `LOCATE('b','×b')` is 3 (a byte offset) while `INSTR('×b','b')` is 2. -/
theorem finding_locate_counts_bytes :
    impl "locate" [.text [0x62], .text [0xC3, 0x97, 0x62]] = rint 3 ∧
    impl "instr" [.text [0xC3, 0x97, 0x62], .text [0x62]] = rint 2 ∧
    spec "locate" [.text [0x62], .text [0xC3, 0x97, 0x62]] = rint 2 := by decide +kernel

/-- `LOCATE('A','a')` is 1 while `INSTR('a','A')` is 0 (the default collation is case-sensitive). -/
theorem finding_locate_folds_case :
    impl "locate" [.text [0x41], .text [0x61]] = rint 1 ∧ impl "instr" [.text [0x61], .text [0x41]] = rint 0 ∧
    spec "locate" [.text [0x41], .text [0x61]] = rint 0 := by decide +kernel

/-- **Full statement (holds since the `fix:` commit; it was false before, see
`fixed_locate_empty_str_pos_panics`):** LOCATE never panics, whatever the arguments. -/
theorem locate_never_crashes (args : List Val) : impl "locate" args ≠ .crash := by
  rw [impl_locate]
  unfold fLocate badArgs
  -- no leaf of `fLocate` builds `.crash`
  repeat' split
  all_goals simp

/-- …and in the formerly panicking class (empty haystack, non-empty needle, any start position) it
returns 0, as the Spec (and MySQL) says. -/
theorem locate_empty_str (sub : Bytes) (pos : Int) (hne : sub ≠ []) :
    locateImpl sub [] pos = 0 ∧ locateSpec sub [] pos = 0 := by
  have hs : sub.isEmpty = false := by cases sub; contradiction; rfl
  constructor
  · unfold locateImpl
    simp only [List.length_nil, hs]
    -- `len(str) = 0`: the first case takes `pos ≤ 0`, the repaired third case `position > len(str)` every other `pos`
    by_cases h : pos ≤ 0
    · simp [h]
    · simp [h]
  · unfold locateSpec
    have hd : decodeRunes ([] : Bytes) = [] := rfl
    simp only [hd, List.length_nil, hs]
    -- `n = 0` (still written as a cast): past the first guard only `pos = n + 1 = 1` is left, and the needle is not empty
    by_cases c : pos ≤ 0 ∨ pos > ((0 : Nat) : Int) + 1
    · rw [if_pos c]
    · rw [if_neg c]
      have : pos = ((0 : Nat) : Int) + 1 := by omega
      rw [if_pos this]
      simp

/-- The repair is conservative: wherever the pre-fix code did not panic it returned what the
repaired code returns (byte counting, case folding and the ignored NULL position are unchanged —
they stay listed findings). -/
theorem locate_fix_conservative (sub s : Bytes) (pos r : Int) (h : locateImplPreFix sub s pos = some r) :
    locateImpl sub s pos = r := by
  revert h
  unfold locateImpl
  dsimp only
  fun_cases locateImplPreFix sub s pos with
  | case1 n c1 => rw [if_pos c1]; exact Option.some.inj
  | case2 n c1 c2 c3 => rw [if_neg c1, if_pos c2, if_pos c3]; exact Option.some.inj
  | case3 n c1 c2 c3 => rw [if_neg c1, if_pos c2, if_neg c3]; exact Option.some.inj
  | case4 => nofun
  | case5 n c1 c2 c3 i hi =>
    have c4 : ¬ pos > (s.length : Int) := fun c4 => by
      -- `pos = len + 1`, which the first case leaves only for the empty string: the pre-fix code
      -- searched the empty slice for a non-empty needle, and found nothing
      obtain rfl : s = [] := List.length_eq_zero_iff.mp (by omega)
      cases sub with
      | nil => exact c2 ⟨rfl, rfl⟩
      | cons a t =>
        rw [List.drop_nil] at hi
        cases hx : mapCase lowerByte (a :: t) with
        | nil => exact mapCase_ne_nil lowerByte a t hx
        | cons x xs => rw [hx] at hi; cases hi
    rw [if_neg c1, if_neg c2, if_neg c4, hi]; exact Option.some.inj
  | case6 n c1 c2 c3 hi => rw [if_neg c1, if_neg c2, hi, ite_self]; exact Option.some.inj

/-- Witness of the repaired defect `locate_empty_str_pos_panics`: before the `fix:` commit
`LOCATE('a','',2)` panicked (`str[position-1:]` on the empty string); the repaired function
returns 0, which is what the Spec says. -/
theorem fixed_locate_empty_str_pos_panics :
    locateImplPreFix [0x61] [] 2 = none ∧
    impl "locate" [.text [0x61], .text [], .int 2] = rint 0 ∧
    spec "locate" [.text [0x61], .text [], .int 2] = rint 0 ∧ locateSpec [0x61] [] 2 = 0 := by
  decide +kernel

/-- `LOCATE('a','a',NULL)` is 1, not NULL. -/
theorem finding_locate_null_pos :
    impl "locate" [.text [0x61], .text [0x61], .null] = rint 1 ∧ spec "locate" [.text [0x61], .text [0x61], .null] = rnull := by
  decide +kernel

/-- Spec: GREATEST/LEAST return one of their arguments, and it bounds all of them. -/
theorem glSpec_correct (g : Bool) (xs : List Int) (hne : xs ≠ []) :
    glSpec g xs ∈ xs ∧ ∀ x ∈ xs, if g then x ≤ glSpec g xs else glSpec g xs ≤ x := by
  cases xs with
  | nil => contradiction
  | cons a rest =>
    cases g
    · have := List.min?_eq_some_iff.mp (List.min?_cons' (x := a) (xs := rest))
      rwa [← glStep_false] at this
    · have := List.max?_eq_some_iff.mp (List.max?_cons' (x := a) (xs := rest))
      rwa [← glStep_true] at this

/-- Within ±2^53 the code computes exactly the Spec (`greatest_least_…_partial`). -/
theorem greatest_least_partial (g : Bool) (xs : List Int) (hne : xs ≠ [])
    (hs : ∀ x ∈ xs, x.natAbs < 9007199254740992) :
    fGreatestLeast g (xs.map Val.int) = rint (glSpec g xs) := by
  cases xs with
  | nil => contradiction
  | cons a rest =>
    obtain ⟨ha, hrest⟩ := List.forall_mem_cons.mp hs
    unfold fGreatestLeast
    have h1 : ((a :: rest).map Val.int).isEmpty = false := rfl
    have h2 : ((a :: rest).map Val.int).any (· == .null) = false := by simp
    simp only [h1, h2, Bool.false_eq_true, if_false]
    simp only [List.map_cons, glAux, true_or, if_true, f64OfInt_small a ha]
    rw [glAux_small g rest 1 a (by omega) hrest]
    rfl

-- Full statement (false on the unchanged tree): ∀ xs ≠ [], fGreatestLeast g (xs.map .int) = rint (glSpec g xs)
/-- `GREATEST(9007199254740993, 1)` is 9007199254740992 — not one of its arguments. -/
theorem finding_greatest_least_float_precision :
    impl "greatest" [.int 9007199254740993, .int 1] = rint 9007199254740992 ∧
    spec "greatest" [.int 9007199254740993, .int 1] = rint 9007199254740993 := by decide +kernel

/-- `ROUND(i,-k)` is a multiple of `10^k` within half a unit of `i`. -/
theorem round_within_half (i : Int) (k : Nat) :
    ((10 ^ k : Nat) : Int) ∣ roundPow i k ∧ 2 * (roundPow i k - i).natAbs ≤ 10 ^ k := by
  unfold roundPow
  refine ⟨dvd_signed, ?_⟩
  have hdm := Nat.div_add_mod' i.natAbs (10 ^ k)
  have hml := Nat.mod_lt i.natAbs (Nat.pow_pos (by omega) : 0 < 10 ^ k)
  -- reduces the `let`s of the definition, so that the `generalize` lines find their terms
  simp only
  generalize i.natAbs / 10 ^ k = q at *
  generalize i.natAbs % 10 ^ k = r at *
  generalize 10 ^ k = P at *
  have h1 : (q + 1) * P = q * P + P := Nat.succ_mul q P
  split <;> split <;> omega

/-- `TRUNCATE(i,-k)` is a multiple of `10^k`, not larger in magnitude than `i`, less than one unit
away, and on the same side of zero. -/
theorem truncate_within_one (i : Int) (k : Nat) :
    ((10 ^ k : Nat) : Int) ∣ truncPow i k ∧ (truncPow i k).natAbs ≤ i.natAbs ∧
      (i - truncPow i k).natAbs < 10 ^ k ∧ (0 ≤ i → 0 ≤ truncPow i k) ∧ (i ≤ 0 → truncPow i k ≤ 0) := by
  unfold truncPow
  refine ⟨dvd_signed, ?_⟩
  have hdm := Nat.div_add_mod' i.natAbs (10 ^ k)
  have hml := Nat.mod_lt i.natAbs (Nat.pow_pos (by omega) : 0 < 10 ^ k)
  -- reduces the `let`s of the definition, so that the `generalize` lines find their terms
  simp only
  generalize i.natAbs / 10 ^ k = q at *
  generalize i.natAbs % 10 ^ k = r at *
  generalize 10 ^ k = P at *
  split <;> omega

/-- FLOOR/CEIL of an integer are the integer; ROUND/TRUNCATE with `d ≥ 0` likewise. -/
theorem int_rounding_identity (i d : Int) (hd : 0 ≤ d) :
    impl "floor" [.int i] = rint i ∧ impl "ceil" [.int i] = rint i ∧ impl "round" [.int i] = rint i ∧
    impl "round" [.int i, .int d] = rint i ∧ impl "truncate" [.int i, .int d] = rint i := by
  have hc : clamp32 d ≥ 0 := clamp32_nonneg d hd
  refine ⟨rfl, rfl, impl_round _, ?_, ?_⟩
  · simp only [impl_round, fRound, hc, if_true]
  · simp only [impl_truncate, fTruncate, hc, if_true]

/-- `ABS(i) = SIGN(i) * i ≥ 0` for every BIGINT except `-2^63` (whose negation overflows: C25). -/
theorem abs_sign (i : Int) (h : minI64 < i ∧ i ≤ maxI64) :
    ∃ a s, impl "abs" [.int i] = rint a ∧ impl "sign" [.int i] = rint s ∧ 0 ≤ a ∧ a = s * i := by
  simp only [impl_abs, impl_sign, fAbs, fSign]
  by_cases h0 : i < 0
  · have hw : wrap64 (-i) = -i := wrap64_of_int64 (by unfold minI64 maxI64 at *; omega)
    exact ⟨-i, -1, by rw [if_pos h0, hw], by rw [if_neg (by omega), if_pos h0], by omega, by omega⟩
  · by_cases hz : i = 0
    · exact ⟨0, 0, by rw [if_neg h0, hz], by rw [if_pos hz], by omega, by omega⟩
    · exact ⟨i, 1, by rw [if_neg h0], by rw [if_neg hz, if_neg h0], by omega, by omega⟩

/-- Digit strings round-trip: formatting `n < 2^64` in base `2 ≤ b ≤ 36` and reading it back with
CONV's prefix parser gives `n` (the heart of `CONV(CONV(n,10,b),b,10) = n`). -/
theorem conv_digits_roundtrip (b n : Nat) (hb : 2 ≤ b) (hb36 : b ≤ 36) (hn : (n : Int) < two64) :
    parsePrefix b ((toDigits b n).map digitLower) 0 = n := by
  have hv : (toDigits b n).foldl (fun a d => a * b + d) 0 = n := ofDigits_toDigits b n hb
  rw [parsePrefix_digitLower b hb36 _ (toDigits_lt b n hb) 0 (by rwa [hv]), hv]

theorem digits_value_roundtrip (b n : Nat) (hb : 2 ≤ b) : ofDigits b (toDigits b n) = n := ofDigits_toDigits b n hb

/-- For `i ≥ 0` BIN is the binary numeral of `i` (`bin_…_partial`). -/
theorem bin_partial (i : Int) (h : 0 ≤ i) : impl "bin" [.int i] = rtext (binSpec i) := by
  rw [impl_bin]
  have : ¬ i < 0 := by omega
  simp [fBin, this]

/-- Spec BIN reads back (two's complement, 64 bits): `ofDigits 2 (digits) = i mod 2^64`. -/
theorem binSpec_value (i : Int) : ofDigits 2 (toDigits 2 (toU64 i)) = toU64 i := ofDigits_toDigits 2 _ (by omega)

-- Full statement (false on the unchanged tree): ∀ i, impl "bin" [.int i] = rtext (binSpec i)
/-- `BIN(-256)` drops the eight zero bits of the low byte (57 digits instead of 64), while
`CONV(-256,10,2)` is right. -/
theorem finding_bin_negative_drops_zeros :
    ∃ b, impl "bin" [.int (-256)] = rtext b ∧ b.length = 57 ∧ spec "bin" [.int (-256)] ≠ rtext b ∧
      impl "conv" [.int (-256), .int 10, .int 2] = spec "bin" [.int (-256)] :=
  ⟨List.replicate 56 49 ++ [48], by decide +kernel⟩

/-- The guarded statement for all functions at once: a call that is in no known-defect region
satisfies `impl = spec` (and `impl` is what the correspondence run compares with the code). -/
theorem spec_eq_impl_outside_regions (name : String) (args : List Val) (h : region name args = none) :
    spec name args = impl name args := by
  unfold spec; rw [h]

/-! Statement level (the memory model is described in Gms/Model/NodeRows.lean): `runFresh` is the discipline of
the modelled nodes, licensed by `facts_nodes_stateless`; `runScratch` is the discipline the property forbids. -/

open Gms.NodeRows in
/-- The results of a statement, read after its last row, are the single-call results row by row:
what the driver answers for a `rows` / `stmt` case (`evalRows`) is the reading of the memory model
under the stateless discipline, from any initial heap. -/
theorem rows_are_single_calls (name : String) (h : Heap) (rows : List (List Val)) :
    observe (runFresh (fun r => blobOf (impl name r)) h rows) = (evalRows name rows).map blobOf := by
  rw [fresh_observe]; simp [evalRows]

open Gms.NodeRows in
/-- (oracle R1) What is read for the first rows right after they were evaluated is what is read
after the last row of the statement: evaluating more rows changes nothing that was handed out. -/
theorem rows_prefix_stable {ρ : Type} (f : ρ → NodeRows.Bytes) (h : Heap) (a b : List ρ) :
    (observe (runFresh f h (a ++ b))).take a.length = observe (runFresh f h a) := by
  rw [fresh_observe, fresh_observe, List.map_append]
  simp

open Gms.NodeRows in
/-- (oracle R2) The reading of a row depends on that row alone — not on the rows evaluated before
it, not on the rows evaluated after it, not on the heap the statement started from. -/
theorem rows_row_independent {ρ : Type} (f : ρ → NodeRows.Bytes) (h h' : Heap) (pre post pre' post' : List ρ) (x : ρ)
    (hl : pre.length = pre'.length) :
    (observe (runFresh f h (pre ++ x :: post)))[pre.length]? = some (f x) ∧
    (observe (runFresh f h' (pre' ++ x :: post')))[pre.length]? = some (f x) := by
  rw [fresh_observe, fresh_observe]
  constructor
  · simp
  · rw [hl]; simp

example : evalRows "unhex" [[.text [0x36, 0x31, 0x36, 0x32]], [.null], [.text [0x37, 0x38]]] =
    [rblob [0x61, 0x62], rnull, rblob [0x78]] := by decide +kernel

open Gms.NodeRows in
/-- The forbidden discipline: when the second row's result fits into what the first one needed, the
node hands out the same array twice, and after the second row the FIRST value reads as the second
result followed by what is left of its own tail. -/
theorem scratch_overwrites {ρ : Type} (f : ρ → NodeRows.Bytes) (a b : ρ) (hlen : (f b).length ≤ (f a).length) :
    observeScratch (runScratch f ([], none) [a, b]) = [f b ++ (f a).drop (f b).length, f b] := by
  -- row `b` fits the capacity `2 * |f a|` that `grow` allocated for row `a`: the second `Eval` overwrites
  have h2 : (f b).length ≤ (f a).length + (f a).length := by omega
  have := take_overwrite_full (f a) (f b) (List.replicate (f a).length 0) hlen
  simp [observeScratch, runScratch, stepScratch, grow, arrOf, view, h2, this]
  simp [overwrite]

open Gms.NodeRows in
/-- … so a node with a scratch buffer breaks every two-row statement whose results have the same
length and differ (a column of hashes, ids, words): the statement's results are not the
single-call results. -/
theorem scratch_breaks_statement {ρ : Type} (f : ρ → NodeRows.Bytes) (a b : ρ)
    (hlen : (f b).length = (f a).length) (hne : f a ≠ f b) :
    observeScratch (runScratch f ([], none) [a, b]) ≠ [a, b].map f := by
  rw [scratch_overwrites f a b (Nat.le_of_eq hlen)]
  intro h
  have h1 := (List.cons.inj h).1
  rw [hlen, List.drop_length, List.append_nil] at h1
  exact hne h1.symm

open Gms.NodeRows in
/-- Non-vacuity of both, on the model of UNHEX itself: `SELECT UNHEX(c) FROM t` over the rows
'616263', '78797A' reads ["abc", "xyz"] under the stateless discipline and ["xyz", "xyz"] with a
scratch buffer in the node — HEX/UNHEX stop being an inverse pair as seen through the result set. -/
theorem scratch_unhex_witness :
    let f := fun r => blobOf (impl "unhex" r)
    let rows : List (List Val) := [[.text [0x36, 0x31, 0x36, 0x32, 0x36, 0x33]], [.text [0x37, 0x38, 0x37, 0x39, 0x37, 0x41]]]
    observe (runFresh f [] rows) = [[0x61, 0x62, 0x63], [0x78, 0x79, 0x7A]] ∧
    observeScratch (runScratch f ([], none) rows) = [[0x78, 0x79, 0x7A], [0x78, 0x79, 0x7A]] := by decide +kernel

def expectedRegistry : List (String × String × String) :=
  [("length", "Function1", "NewLength"), ("char_length", "Function1", "NewCharLength"),
   ("concat", "FunctionN", "NewConcat"), ("substring", "FunctionN", "NewSubstring"),
   ("left", "Function2", "NewLeft"), ("right", "Function2", "NewRight"), ("instr", "Function2", "NewInstr"),
   ("locate", "FunctionN", "NewLocate"), ("reverse", "Function1", "NewReverse"),
   ("repeat", "Function2", "NewRepeat"), ("replace", "Function3", "NewReplace"),
   ("lpad", "FunctionN", "NewLeftPad"), ("rpad", "FunctionN", "NewRightPad"),
   ("ltrim", "Function1", "NewLeftTrim"), ("rtrim", "Function1", "NewRightTrim"),
   ("upper", "Function1", "NewUpper"), ("lower", "Function1", "NewLower"), ("hex", "Function1", "NewHex"),
   ("unhex", "Function1", "NewUnhex"), ("to_base64", "Function1", "NewToBase64"),
   ("from_base64", "Function1", "NewFromBase64"), ("abs", "Function1", "NewAbsVal"),
   ("sign", "Function1", "NewSign"), ("floor", "Function1", "NewFloor"), ("ceil", "Function1", "NewCeil"),
   ("round", "FunctionN", "NewRound"), ("truncate", "Function2", "NewTruncate"),
   ("greatest", "FunctionN", "NewGreatest"), ("least", "FunctionN", "NewLeast"), ("conv", "Function3", "NewConv"),
   ("bin", "Function1", "NewBin"), ("oct", "Function1", "NewOct"), ("inet_aton", "Function1", "NewInetAton"),
   ("inet_ntoa", "Function1", "NewInetNtoa")]

/-- Every modelled function (TRIM is built by the parser, not the registry) is registered under
the name, arity class and constructor the model was written against. -/
theorem facts_registry : ∀ e ∈ expectedRegistry, e ∈ Generated.C34.registry := by decide +kernel

theorem facts_modelled_registered :
    ∀ n ∈ modelled, n ∈ ["trim_both", "trim_leading", "trim_trailing"] ∨ n ∈ expectedRegistry.map (·.1) := by decide +kernel

/-- Constants the model hard-codes. -/
theorem facts_constants :
    Generated.C34.decimalMaxPrecision = 65 ∧ Generated.C34.decimalMaxScale = 30 ∧
    Generated.C34.toBase64Literals = [0, 76] ∧
    Generated.C34.convFromLiterals = [0, 1, 2, 36, 64] ∧ Generated.C34.convToLiterals = [0, 2, 36] ∧
    Generated.C34.padStringConds =
      ["length <= 0", "int64(len(str)) >= length", "len(padStr) == 0", "err != nil", "padType == lPadType"] ∧
    Generated.C34.inetNtoaConvertTypes = ["types.Int32"] := ⟨rfl, rfl, rfl, rfl, rfl, rfl, rfl⟩

/-- `Locate.Eval` and `Substring.Eval` have the **repaired** shape the Impl model was written
against (`fix:` commit for the regions `locate_empty_str_pos_panics` and
`substring_len_overflow_panics`): the edge-case switch of LOCATE ends with the bounds case
`position > len(str)` before its only slice `str[position-1:]`, and SUBSTRING clamps the length by
comparing it with `runeCount-startIdx` (no int64 addition before the clamp). If either repair is
reverted this obligation breaks, and `fixed_locate_empty_str_pos_panics` /
`fixed_substring_len_overflow_panics` give the replays. -/
theorem facts_match_locate_substring :
    Generated.C34.locateSwitchConds =
      ["position <= 0 || (len(str) > 0 && position > len(str))", "len(substr) == 0 && len(str) == 0",
       "position > len(str)"] ∧
    Generated.C34.locateSliceExprs = ["str[position-1:]"] ∧
    Generated.C34.substringRuneCountConds =
      ["startIdx < 0 || startIdx >= runeCount || length <= 0", "length > runeCount-startIdx"] ∧
    Generated.C34.substringClampAssigns = ["length = runeCount - startIdx"] ∧
    Generated.C34.substringSliceExprs = ["text[startIdx : startIdx+length]"] := ⟨rfl, rfl, rfl, rfl, rfl⟩

/-- The model's HEX agrees with the compiled `HEX` on every byte; its ASCII case tables with the
compiled UPPER/LOWER; its base64 alphabet and padding with the compiled TO_BASE64. -/
theorem facts_tables :
    (List.range 256).map (fun b => hexUpper [b]) = Generated.C34.hexTable ∧
    (List.range 128).map upperByte = Generated.C34.upperAscii ∧
    (List.range 128).map lowerByte = Generated.C34.lowerAscii ∧
    (List.range 64).map b64Char = Generated.C34.base64Alphabet ∧
    toBase64 [0x61] = Generated.C34.base64OfA := by decide +kernel

/-- The field types a stateless node may have: children, result type, name / mode. -/
def configFieldTypes : List String :=
  ["sql.Expression", "[]sql.Expression", "sql.Type", "string", "function.CountType", "function.padType"]

/-- **No modelled node keeps state between rows.** Regenerated on every run: (1) the node the
registry constructor of every modelled function builds (reflection on the freshly compiled code,
embedded structs flattened) has only fields of child / configuration types — no `[]byte`, buffer,
builder, map, pointer, counter to keep a row's data in; (2) no method of these node types, nor of
the structs they embed, contains a statement that writes through its receiver (go/ast: assignment,
`++`/`--`, `copy`/`append` rooted at the receiver). This is what licenses `runFresh` (and
`evalRows`) as the statement-level Impl model; a scratch field or a write in `Eval` breaks it. -/
theorem facts_nodes_stateless :
    Generated.C34.nodeReceiverWrites = [] ∧
    (∀ n ∈ Generated.C34.nodeFields, ∀ f ∈ n.2.2, f.2 ∈ configFieldTypes) ∧
    (∀ m ∈ modelled, m ∈ Generated.C34.nodeFields.map (·.1)) ∧
    Generated.C34.nodeFields.length = modelled.length := by decide +kernel

/-- … and the method scan covered the node type of every modelled function and the three
expression stubs / `UnaryFunc` they embed. -/
theorem facts_nodes_scanned :
    (∀ n ∈ Generated.C34.nodeFields, n.2.1 ∈ Generated.C34.nodeStructs) ∧
    (∀ s ∈ ["sql/expression.UnaryExpressionStub", "sql/expression.BinaryExpressionStub",
            "sql/expression.NaryExpression", "sql/expression/function.UnaryFunc"], s ∈ Generated.C34.nodeStructs) := by
  -- every name is found where it stands in `nodeStructs` (`a = a`); deciding the memberships would
  -- compare these long strings with all the others, for which the kernel has no shortcut
  unfold Generated.C34.nodeFields
  simp only [↓List.forall_mem_cons]
  simp only [Generated.C34.nodeStructs, List.mem_cons, true_or, or_true, and_self, List.not_mem_nil, forall_const,
    false_imp_iff]

end Gms.C34
