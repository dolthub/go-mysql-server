/-
C20 — AUTO_INCREMENT values are unique, increasing and reported correctly.

Model: Gms/Model/AutoInc.lean (Impl model of the counter code of the in-memory backend, the
INSERT row loop, LAST_INSERT_ID / InsertID bookkeeping; ghost log of inserted values).
-/
import Gms.Model.AutoInc
import Gms.Generated.C20

namespace Gms.AutoInc

theorem goodFrom_iff (pre l : List Ev) :
    goodFrom pre l = true ↔
      (∀ w ∈ pre, ∀ e ∈ l, e.gen = true → w.v < e.v) ∧ l.Pairwise (fun w e => e.gen = true → w.v < e.v) := by
  induction l generalizing pre with
  | nil => simp [goodFrom]
  | cons x xs ih =>
    simp only [goodFrom, ih, Bool.and_eq_true, Bool.or_eq_true, Bool.not_eq_true', List.all_eq_true, decide_eq_true_eq,
      List.mem_append, List.mem_cons, List.pairwise_cons, or_imp, forall_and, forall_eq, List.not_mem_nil, false_imp_iff,
      and_true, and_assoc]
    cases x.gen <;> simp

theorem goodLog_iff (l : List Ev) : goodLog l = true ↔ l.Pairwise (fun w e => e.gen = true → w.v < e.v) := by
  simp [goodLog, goodFrom_iff]

theorem reuses_append (hi : Int) (l x y : List Ev) :
    reuses hi l (x ++ y) = (reuses hi l x || reuses hi (l ++ x) y) := by
  induction x generalizing l with
  | nil => simp [reuses]
  | cons e es ih =>
    simp only [List.cons_append, reuses, ih, List.append_assoc, List.nil_append, Bool.or_assoc]

theorem logHas_iff (l : List Ev) (v : Int) : logHas l v = true ↔ ∃ w ∈ l, w.v = v := by
  simp [logHas]

theorem bump_cases (c : Cfg) (ctr : Nat) :
    ((ctr : Int) + 1 ≤ c.hi ∧ (bump c ctr : Int) = ctr + 1) ∨ (¬ ((ctr : Int) + 1 ≤ c.hi) ∧ (bump c ctr : Int) = ctr) := by
  unfold bump
  by_cases h : (ctr : Int) + 1 ≤ c.hi
  · exact .inl ⟨h, by rw [if_pos h]; rfl⟩
  · exact .inr ⟨h, by rw [if_neg h]⟩

theorem afterInsert_eq (c : Cfg) (ctr : Nat) (v : Int) :
    afterInsert c ctr v = if (ctr : Int) ≤ v then bump c v.toNat else ctr := by
  unfold afterInsert
  split
  · rw [if_pos (by omega)]
  · split
    · next h => rw [if_pos (by omega), h, Int.toNat_natCast]
    · rw [if_neg (by omega)]

theorem evalAuto_of_isGenGiven (c : Cfg) (ctr : Nat) {g : Option Int} (hg : isGenGiven g = true) :
    evalAuto c ctr g = if c.lo ≤ (ctr : Int) ∧ (ctr : Int) ≤ c.hi then .ok ctr ctr true else .err := by
  cases g with
  | none => rfl
  | some v =>
    obtain rfl : v = 0 := by simpa [isGenGiven] using hg
    rfl

/-- A successful `Eval`, clause by clause: the flag; the counter (`GetNextAutoIncrementValue`); what the editor is
handed; a generated value; an explicit value. -/
theorem evalAuto_ok {c : Cfg} {ctr : Nat} {g : Option Int} {v : Int} {ctr' : Nat} {gen : Bool}
    (he : evalAuto c ctr g = .ok v ctr' gen) :
    gen = isGenGiven g ∧ (ctr' : Int) = max (ctr : Int) v ∧ (v < 0 ∨ v ≤ c.hi) ∧
      (gen = true → v = (ctr : Int) ∧ c.lo ≤ v ∧ v ≤ c.hi) ∧ (gen = false → g = some v) := by
  revert he
  fun_cases evalAuto c ctr g
  case case1 x h_neg h_lo => -- negative
    rintro ⟨⟩
    exact ⟨by simp [isGenGiven]; omega, by omega, .inl h_neg, nofun, fun _ => rfl⟩
  case case3 h_range _ => -- 0 (the `_` is `¬ 0 < 0`)
    rintro ⟨⟩
    exact ⟨rfl, by omega, .inr h_range.2, fun _ => ⟨rfl, h_range⟩, nofun⟩
  case case5 x h_neg h_zero ctr₁ h_hi => -- positive; `ctr₁` is the model's local `ctr'`
    intro he
    obtain ⟨rfl, rfl, rfl⟩ := EvalRes.ok.inj he
    refine ⟨by simp [isGenGiven, h_zero], ?_, .inr h_hi, nofun, fun _ => rfl⟩
    unfold ctr₁
    split <;> omega
  case case7 h_range => -- NULL / DEFAULT
    rintro ⟨⟩
    exact ⟨rfl, by omega, .inr h_range.2, fun _ => ⟨rfl, h_range⟩, nofun⟩
  all_goals nofun

theorem evalAuto_gen {c : Cfg} {ctr : Nat} {g : Option Int} {v : Int} {ctr' : Nat}
    (he : evalAuto c ctr g = .ok v ctr' true) : v = (ctr : Int) ∧ c.lo ≤ v ∧ v ≤ c.hi :=
  (evalAuto_ok he).2.2.2.1 rfl

/-- Every logged value is below the counter, or the counter is stuck at the type maximum. -/
def CtrInv (c : Cfg) (ctr : Nat) (l : List Ev) : Prop :=
  ∀ w ∈ l, w.v < (ctr : Int) ∨ ((ctr : Int) = c.hi ∧ w.v ≤ c.hi)

/-- The clause of `CtrInv` for one value. -/
def Covers (c : Cfg) (ctr : Nat) (v : Int) : Prop := v < (ctr : Int) ∨ ((ctr : Int) = c.hi ∧ v ≤ c.hi)

theorem ctrInv_iff_covers {c : Cfg} {ctr : Nat} {l : List Ev} : CtrInv c ctr l ↔ ∀ w ∈ l, Covers c ctr w.v :=
  Iff.rfl

theorem Covers.mono {c : Cfg} {ctr n : Nat} {v : Int} (h : Covers c ctr v) (hn : ctr ≤ n) : Covers c n v := by
  unfold Covers at *
  omega

theorem afterInsert_covers (c : Cfg) (k : Nat) (v : Int) (h : v < (k : Int) ∨ v ≤ c.hi) :
    k ≤ afterInsert c k v ∧ Covers c (afterInsert c k v) v := by
  rw [afterInsert_eq]
  unfold Covers
  split
  · have := bump_cases c v.toNat
    omega
  · omega

-- with `reinsertCtr_le_hi`: the model header's "the model never lets it exceed …", for the editor's chain
theorem afterInsert_le_hi (c : Cfg) (k : Nat) (v : Int) (hk : (k : Int) ≤ c.hi) (hv : v ≤ c.hi) :
    (afterInsert c k v : Int) ≤ c.hi := by
  rw [afterInsert_eq]
  split
  · have := bump_cases c v.toNat
    omega
  · exact hk

theorem CtrInv.mono {c : Cfg} {ctr n : Nat} {l : List Ev} (h : CtrInv c ctr l) (hn : ctr ≤ n) :
    CtrInv c n l :=
  ctrInv_iff_covers.mpr fun w hw => (ctrInv_iff_covers.mp h w hw).mono hn

theorem row_keeps_inv {c : Cfg} {ctr : Nat} {l : List Ev} {g : Option Int} {v : Int} {ctr' : Nat} {gen : Bool}
    (hinv : CtrInv c ctr l) (he : evalAuto c ctr g = .ok v ctr' gen) :
    CtrInv c (afterInsert c ctr' v) (l ++ [⟨v, gen⟩]) := by
  -- `Eval` does not lower the counter, and hands the editor a value below it or within the range
  obtain ⟨_, hmax, hle, _⟩ := evalAuto_ok he
  have hctr : ctr ≤ ctr' := by omega
  obtain ⟨hN, hv⟩ := afterInsert_covers c ctr' v (by omega)
  rw [ctrInv_iff_covers] at hinv ⊢
  intro w hw
  rcases List.mem_append.mp hw with hw | hw
  · exact (hinv w hw).mono (Nat.le_trans hctr hN)
  · rw [List.mem_singleton.mp hw]
    exact hv

theorem CtrInv.below {c : Cfg} {ctr : Nat} {l : List Ev} (hinv : CtrInv c ctr l)
    (h : (logHas l ctr && (ctr : Int) == c.hi) = false) : ∀ w ∈ l, w.v < (ctr : Int) := by
  intro w hw
  rcases hinv w hw with hlt | ⟨hhi, hle⟩
  · exact hlt
  · have hne : w.v ≠ (ctr : Int) := by
      intro heq
      rw [(logHas_iff l ctr).mpr ⟨w, hw, heq⟩, beq_iff_eq.mpr hhi] at h
      cases h
    omega

theorem row_keeps_good {c : Cfg} {ctr : Nat} {l : List Ev} {g : Option Int} {v : Int} {ctr' : Nat} {gen : Bool}
    (hinv : CtrInv c ctr l) (he : evalAuto c ctr g = .ok v ctr' gen) (hg : goodLog l = true)
    (hre : (gen && (logHas l v && v == c.hi)) = false) : goodLog (l ++ [⟨v, gen⟩]) = true := by
  rw [goodLog_iff] at hg ⊢
  refine List.pairwise_append.mpr ⟨hg, List.pairwise_singleton _ _, fun w hw e he' hgen => ?_⟩
  -- a generated value is the counter, which the invariant puts above the whole log
  obtain rfl := List.mem_singleton.mp he'
  obtain rfl : gen = true := hgen
  obtain ⟨rfl, _⟩ := evalAuto_gen he
  exact hinv.below hre w hw

theorem insRow_ok {c : Cfg} {a a' : InsAcc} {g : Option Int} (h : insRow c a g = (a', none)) :
    ∃ v ctr' gen, evalAuto c a.tbl.ctr g = .ok v ctr' gen ∧
      a'.tbl.ctr = afterInsert c ctr' v ∧ a'.evs = a.evs ++ [⟨v, gen⟩] ∧
      a'.fgi = (tickLast a.fgi a.last v).1 ∧ a'.last = (tickLast a.fgi a.last v).2 ∧
      a'.first = (match a.first with | none => some v | some f => some f) := by
  revert h
  fun_cases insRow c a g
  · nofun
  · nofun
  · next v ctr' gen he _ _ =>
    rintro ⟨⟩
    exact ⟨v, ctr', gen, he, rfl, rfl, rfl, rfl, rfl⟩

theorem insRow_err {c : Cfg} {a a' : InsAcc} {g : Option Int} {e : Err} (h : insRow c a g = (a', some e)) :
    a' = a := by
  revert h
  fun_cases insRow c a g
  · rintro ⟨⟩; rfl
  · rintro ⟨⟩; rfl
  · nofun

/-- `I a todo`: `todo` are the tuples not yet inserted. After an error `rest` begins with the failing tuple (`insRow`
returns its argument then); an invariant that ignores `todo` is `fun x _ => …`. -/
theorem insLoop_rule {c : Cfg} (I : InsAcc → List (Option Int) → Prop)
    (row : ∀ {a a' g gs}, I a (g :: gs) → insRow c a g = (a', none) → I a' gs)
    {gs : List (Option Int)} {a af : InsAcc} {e : Option Err}
    (h : insLoop c gs a = (af, e)) (h0 : I a gs) : ∃ rest, I af rest ∧ (e = none → rest = []) := by
  fun_induction insLoop c gs a with
  | case1 a =>
    cases h
    exact ⟨[], h0, fun _ => rfl⟩
  | case2 g gs a a' e' hrow =>
    cases h
    rw [insRow_err hrow]
    exact ⟨g :: gs, h0, nofun⟩
  | case3 g gs a a' hrow ih => exact ih h (row h0 hrow)

-- `insLoop` on `evs`, for an argument outside `insLoop_rule`; the invariants below carry their facts through the rule
theorem insLoop_evs (c : Cfg) (gs : List (Option Int)) (a af : InsAcc) (e : Option Err)
    (h : insLoop c gs a = (af, e)) : ∃ r, af.evs = a.evs ++ r := by
  obtain ⟨_, hI, _⟩ := insLoop_rule (fun x _ => ∃ r, x.evs = a.evs ++ r)
    (fun ⟨r, hr⟩ hrow => by
      obtain ⟨v, _, gen, _, _, hev, _⟩ := insRow_ok hrow
      exact ⟨r ++ [⟨v, gen⟩], by rw [hev, hr, List.append_assoc]⟩)
    h ⟨[], (List.append_nil _).symm⟩
  exact hI

theorem insLoop_good {c : Cfg} {L : List Ev} {gs : List (Option Int)} {a af : InsAcc} {e : Option Err}
    (h : insLoop c gs a = (af, e)) (hinv : CtrInv c a.tbl.ctr (L ++ a.evs)) :
    CtrInv c af.tbl.ctr (L ++ af.evs) ∧
    (goodLog (L ++ a.evs) = true → reuses c.hi L af.evs = false → goodLog (L ++ af.evs) = true) := by
  obtain ⟨_, hI, _⟩ := insLoop_rule
    (fun x _ => CtrInv c x.tbl.ctr (L ++ x.evs) ∧
      (goodLog (L ++ a.evs) = true → reuses c.hi L x.evs = false → goodLog (L ++ x.evs) = true))
    (fun ⟨hI, hG⟩ hr => by
      obtain ⟨v, ctr', gen, he, hctr, hev, _⟩ := insRow_ok hr
      rw [hctr, hev, ← List.append_assoc]
      refine ⟨row_keeps_inv hI he, fun hg hre => ?_⟩
      simp only [reuses_append, reuses, Bool.or_false, Bool.or_eq_false_iff] at hre
      exact row_keeps_good hI he (hG hg hre.1) hre.2)
    h ⟨hinv, fun hg _ => hg⟩
  exact hI

/-- The accumulator `step` starts an INSERT with. -/
def insAcc0 (s : St) (sess : Nat) (gs : List (Option Int)) : InsAcc :=
  { tbl := s.tbl, fgi := firstGenIdx gs, last := s.last sess, first := none, evs := [], tag := s.opn * 100 }

theorem firstGen_append (x y : List Ev) : firstGen (x ++ y) = (firstGen x).or (firstGen y) := by
  simp only [firstGen, List.find?_append, Option.map_or]

theorem firstGenIdx_eq (gs : List (Option Int)) : firstGenIdx gs = gs.findIdx? isGenGiven := by
  rw [List.findIdx?_eq_guard_findIdx_lt]
  simp [firstGenIdx, Option.guard]

theorem firstGenIdx_cons (g : Option Int) (gs : List (Option Int)) :
    firstGenIdx (g :: gs) = if isGenGiven g then some 0 else (firstGenIdx gs).map (· + 1) := by
  simp only [firstGenIdx_eq, List.findIdx?_cons]

theorem tickLast_firstGenIdx (g : Option Int) (gs : List (Option Int)) (last : Nat) (v : Int) :
    tickLast (firstGenIdx (g :: gs)) last v = if isGenGiven g then (none, toU64 v) else (firstGenIdx gs, last) := by
  rw [firstGenIdx_cons]
  cases isGenGiven g
  · cases firstGenIdx gs <;> rfl
  · rfl

/-- `firstGen` of a statement's events in terms of the given values. -/
def gensOf (gs : List (Option Int)) : List Bool := gs.map isGenGiven

@[simp] theorem gensOf_nil : gensOf [] = [] := rfl

@[simp] theorem gensOf_cons (g : Option Int) (gs : List (Option Int)) : gensOf (g :: gs) = isGenGiven g :: gensOf gs :=
  rfl

/-- The loop invariant of `updateLastInsertId`, `todo` being the given values not yet processed: the session
value is what the Spec prescribes for a successful statement that inserted the rows reached so far (also when
the loop has stopped at a failing row), and the countdown is off once a value has been generated. -/
def LastInv (old : Nat) (a : InsAcc) (todo : List (Option Int)) : Prop :=
  a.last = specLast old true a.evs ∧ a.fgi = if (firstGen a.evs).isSome then none else firstGenIdx todo

/-- The statement-level bookkeeping of `insertIter` as a function of the events so far, `todo` being the
given values of `gs` still to come: the OK-packet value, which events are generated ones, the countdown. -/
structure Book (old : Nat) (gs : List (Option Int)) (a : InsAcc) (todo : List (Option Int)) : Prop where
  first : a.first = a.evs.head?.map (·.v)
  gens : a.evs.map (·.gen) ++ gensOf todo = gensOf gs
  last : LastInv old a todo

theorem Book.row {c : Cfg} {old : Nat} {gs : List (Option Int)} {a a' : InsAcc} {g : Option Int}
    {todo : List (Option Int)} (h : Book old gs a (g :: todo)) (hr : insRow c a g = (a', none)) :
    Book old gs a' todo := by
  obtain ⟨v, _, gen, he, _, hev, hfgi, hlast, hfirst⟩ := insRow_ok hr
  rw [(evalAuto_ok he).1] at hev
  refine ⟨?_, ?_, ?_⟩
  · rw [hfirst, hev, h.first]
    cases a.evs <;> rfl
  · rw [hev, ← h.gens]
    simp
  · rw [LastInv, hfgi, hlast, hev, h.last.1, h.last.2]
    unfold specLast
    rw [firstGen_append]
    cases firstGen a.evs with
    | none =>
      -- nothing generated so far: the countdown stands at the index of the first generating row
      rw [if_neg nofun, tickLast_firstGenIdx]
      cases isGenGiven g <;> exact ⟨rfl, rfl⟩
    | some w => exact ⟨rfl, rfl⟩

theorem insLoop_book {c : Cfg} {s : St} {sess : Nat} {gs : List (Option Int)} {a : InsAcc} {e : Option Err}
    (h : insLoop c gs (insAcc0 s sess gs) = (a, e)) :
    ∃ rest, Book (s.last sess) gs a rest ∧ (e = none → rest = []) :=
  insLoop_rule (Book (s.last sess) gs) Book.row h ⟨rfl, rfl, ⟨rfl, rfl⟩⟩

theorem Book.firstGenIdx_lt {old : Nat} {gs todo : List (Option Int)} {a : InsAcc} (h : Book old gs a todo)
    {v : Int} (hv : firstGen a.evs = some v) : ∃ i, firstGenIdx gs = some i ∧ i < a.evs.length := by
  have hex : ∃ e ∈ a.evs, e.gen = true := by
    simpa [firstGen] using Option.isSome_of_eq_some hv
  refine ⟨a.evs.findIdx (·.gen), ?_, List.findIdx_lt_length_of_exists hex⟩
  -- the flags of the events come first among the flags of the tuples, so the first `true` of both is the same
  have := congrArg (List.findIdx? id) h.gens
  rw [firstGenIdx_eq]
  simpa [gensOf, List.findIdx?_eq_some_of_exists hex] using this.symm

theorem step_ins_ok {c : Cfg} {s : St} {sess : Nat} {gs : List (Option Int)} {a : InsAcc}
    (h : insLoop c gs (insAcc0 s sess gs) = (a, none)) :
    step c s (.ins sess gs) =
      ({ tbl := a.tbl, last := setLast s.last sess a.last, log := s.log ++ a.evs, opn := s.opn + 1 },
       .ok gs.length (toU64 (a.first.getD 0)),
       (if reuses c.hi s.log a.evs then [Region.saturated_reuse] else []) ++
        -- `generalizing := false`: else this `match` would abstract `h`, which speaks of `gs`; the one in `step` does not
        (match (generalizing := false) gs with
         | g :: _ => if !isGenGiven g && a.evs.any (·.gen) then [Region.okpacket_first_row_explicit] else []
         | [] => [])) := by
  unfold insAcc0 at h
  simp only [step]
  rw [h]
  rfl

theorem step_ins_err {c : Cfg} {s : St} {sess : Nat} {gs : List (Option Int)} {a : InsAcc} {e : Err}
    (h : insLoop c gs (insAcc0 s sess gs) = (a, some e)) :
    step c s (.ins sess gs) =
      ({ tbl := s.tbl, last := setLast s.last sess a.last, log := s.log, opn := s.opn + 1 }, .err e,
       match firstGenIdx gs with
        | some i => if i < a.evs.length then [Region.failed_insert_sets_last_insert_id] else []
        | none => []) := by
  unfold insAcc0 at h
  simp only [step]
  rw [h]
  rfl

theorem step_upd_keeps (c : Cfg) (s : St) (a b : Int) :
    (step c s (.upd a b)).1.tbl.ctr = s.tbl.ctr ∧ (step c s (.upd a b)).1.log = s.log := by
  -- one `iteInduction` per `if` of the `.upd` branch, `P` holding of every leaf by `rfl`; unfolding `step` and `split`
  -- rewrites both copies of the `step` term at each level and is far dearer to check
  let P (r : St × Res × List Region) : Prop := r.1.tbl.ctr = s.tbl.ctr ∧ r.1.log = s.log
  exact iteInduction (motive := P) (fun _ => ⟨rfl, rfl⟩) fun _ =>
    iteInduction (motive := P) (fun _ => ⟨rfl, rfl⟩) fun _ =>
      iteInduction (motive := P) (fun _ => ⟨rfl, rfl⟩) fun _ => ⟨rfl, rfl⟩

theorem reinsertCtr_spec (c : Cfg) (rows : List Row) (k : Nat) (hr : ∀ r ∈ rows, r.id ≤ c.hi) :
    k ≤ reinsertCtr c k rows ∧ ∀ r ∈ rows, Covers c (reinsertCtr c k rows) r.id := by
  induction rows generalizing k with
  | nil => exact ⟨Nat.le_refl _, nofun⟩
  | cons x xs ih =>
    obtain ⟨hk, hx⟩ := afterInsert_covers c k x.id (.inr (hr x List.mem_cons_self))
    obtain ⟨h1, h2⟩ := ih (afterInsert c k x.id) (fun y hy => hr y (List.mem_cons_of_mem _ hy))
    exact ⟨Nat.le_trans hk h1, List.forall_mem_cons.mpr ⟨hx.mono h1, h2⟩⟩

theorem reinsertCtr_le_hi (c : Cfg) (rows : List Row) (k : Nat) (hk : (k : Int) ≤ c.hi)
    (hr : ∀ r ∈ rows, r.id ≤ c.hi) : (reinsertCtr c k rows : Int) ≤ c.hi := by
  induction rows generalizing k with
  | nil => exact hk
  | cons x xs ih =>
    exact ih (afterInsert c k x.id) (afterInsert_le_hi c k x.id hk (hr x List.mem_cons_self))
      (fun y hy => hr y (List.mem_cons_of_mem _ hy))

/-- **The editor alone keeps the counter above the rows it stores.** After any list of rows went
through `tableEditor.Insert` directly (a table rewrite re-inserting the old rows after the
truncation, a loader writing through `sql.RowInserter`), every one of them is below the counter,
or the counter is stuck at the type maximum — whatever the order and whatever gaps the ids have.
(This is what the `cmp > 0 ⇒ set, bump` branch of the editor is for: `AutoIncrement.Eval` never
saw these rows.) -/
theorem reinsert_covers_rows (c : Cfg) (rows : List Row) (k : Nat) (hk : (k : Int) ≤ c.hi)
    (hr : ∀ r ∈ rows, r.id ≤ c.hi) :
    ∀ r ∈ rows, r.id < (reinsertCtr c k rows : Int) ∨ ((reinsertCtr c k rows : Int) = c.hi ∧ r.id ≤ c.hi) :=
  (reinsertCtr_spec c rows k hr).2

/-- A rewrite of a table whose rows are all in the log keeps the counter invariant's *row* part:
the next generated id exceeds every stored id (or the counter is saturated). -/
theorem rewrite_counter_above_rows (c : Cfg) (s : St) (h1 : (1 : Int) ≤ c.hi)
    (hr : ∀ r ∈ s.tbl.rows, r.id ≤ c.hi) :
    ∀ r ∈ (step c s .rewrite).1.tbl.rows,
      r.id < ((step c s .rewrite).1.tbl.ctr : Int) ∨
      (((step c s .rewrite).1.tbl.ctr : Int) = c.hi ∧ r.id ≤ c.hi) :=
  reinsert_covers_rows c s.tbl.rows 1 h1 hr

/-- A lowering ALTER or a re-generation (the three "values" regions). -/
def valueRegion : Region → Bool
  | .alter_below_existing | .alter_below_counter | .saturated_reuse | .rewrite_lowers_counter => true
  | _ => false

end Gms.AutoInc

namespace Gms.C20
open Gms.AutoInc

/-- The branch structure and the counter arithmetic the model transliterates are the ones the
extractor read from the source / dumped from the compiled code on this run. -/
theorem facts_match :
    Gms.Generated.C20.insertCounterChain = ["cmp > 0 => set,bump", "cmp == 0 => bump"] ∧
    Gms.Generated.C20.setAutoIncrementBody = ["t.editedTable.data.autoIncVal = val", "return nil"] ∧
    Gms.Generated.C20.getNextGuards = ["cmp > 0 && insertVal != nil => set"] ∧
    Gms.Generated.C20.truncateCounterValues = ["0", "1"] ∧
    Gms.Generated.C20.truncateSetsCounterTo = ["uint64(1)"] ∧
    Gms.Generated.C20.evalBranchConds = ["cmp < 0", "cmp == 0", "given == nil", "err == nil && inRange != sql.InRange"] ∧
    Gms.Generated.C20.updateLastInsertIdShape =
      ["if i.firstGeneratedAutoIncRowIdx < 0 return", "if i.firstGeneratedAutoIncRowIdx == 0 store",
       "i.firstGeneratedAutoIncRowIdx--"] ∧
    Gms.Generated.C20.insertIdGuards = ["!i.updatedAutoIncrementValue", "i.lastInsertIdGetter != nil"] :=
  ⟨rfl, rfl, rfl, rfl, rfl, rfl, rfl, rfl⟩

/-- `bump` is `updateAutoIncrementSafe`: on every dumped (type, counter) pair. -/
theorem bump_matches_code :
    Gms.Generated.C20.bumpTable.all (fun e => bump ⟨e.1, e.2.1, true⟩ e.2.2.1 == e.2.2.2) = true := by
  decide +kernel

/-- The invariant pair behind the main theorem is preserved, from any state satisfying it, by every region-free step. -/
theorem invariant_step (c : Cfg) (s : St) (o : Op)
    (hinv : CtrInv c s.tbl.ctr s.log) (hg : goodLog s.log = true)
    (hfl : ∀ r ∈ (step c s o).2.2, valueRegion r = false) :
    CtrInv c (step c s o).1.tbl.ctr (step c s o).1.log ∧ goodLog (step c s o).1.log = true := by
  cases o with
  | ins sess gs =>
    rcases hl : insLoop c gs (insAcc0 s sess gs) with ⟨a, _ | e⟩
    · rw [step_ins_ok hl] at hfl ⊢
      obtain ⟨hI, hG⟩ := insLoop_good (L := s.log) hl (by simpa [insAcc0] using hinv)
      refine ⟨hI, hG (by simpa [insAcc0] using hg) ?_⟩
      cases hre : reuses c.hi s.log a.evs with
      | false => rfl
      | true => exact absurd (hfl .saturated_reuse (by simp [hre])) (by decide)
    · rw [step_ins_err hl]; exact ⟨hinv, hg⟩
  | del lo hi => exact ⟨hinv, hg⟩
  | upd a b =>
    obtain ⟨h1, h2⟩ := step_upd_keeps c s a b
    rw [h1, h2]; exact ⟨hinv, hg⟩
  | alter n =>
    simp only [step] at hfl ⊢
    refine ⟨hinv.mono (Nat.le_of_not_lt fun hlt => ?_), hg⟩
    -- an ALTER below the counter raises one of its two flags
    simp only [hlt, if_true] at hfl
    split at hfl
    · exact absurd (hfl .alter_below_existing (by simp)) (by decide)
    · exact absurd (hfl .alter_below_counter (by simp)) (by decide)
  | trunc => exact ⟨nofun, rfl⟩
  | rewrite =>
    simp only [step] at hfl ⊢
    refine ⟨hinv.mono (Nat.le_of_not_lt fun hlt => ?_), hg⟩
    simp only [hlt, if_true] at hfl
    exact absurd (hfl .rewrite_lowers_counter (by simp)) (by decide)

theorem run_good (c : Cfg) (s : St) (h : List Op)
    (hinv : CtrInv c s.tbl.ctr s.log) (hg : goodLog s.log = true)
    (hfl : ∀ r ∈ (run c s h).2, valueRegion r = false) :
    CtrInv c (run c s h).1.tbl.ctr (run c s h).1.log ∧ goodLog (run c s h).1.log = true := by
  induction h generalizing s with
  | nil => exact ⟨hinv, hg⟩
  | cons o os ih =>
    simp only [run] at hfl ⊢
    have h1 := invariant_step c s o hinv hg (fun r hr => hfl r (List.mem_append_left _ hr))
    exact ih (step c s o).1 h1.1 h1.2 (fun r hr => hfl r (List.mem_append_right _ hr))

/-- **Main theorem (unique, strictly increasing, above earlier explicit values, no reuse after
delete).** For every column range, key kind, start state satisfying the invariant and every
history of INSERT / DELETE / UPDATE / ALTER / TRUNCATE statements: if no step of the run falls
into one of the three value regions (lowering ALTER, re-generation at the type maximum), then in
the final log every generated value is greater than every value inserted before it (generated or
explicit, deleted since or not). -/
theorem gen_exceeds_all_earlier_partial (c : Cfg) (h : List Op)
    (hfl : ∀ r ∈ (run c St.init h).2, valueRegion r = false) :
    ∀ a e b, (run c St.init h).1.log = a ++ e :: b → e.gen = true → ∀ w ∈ a, w.v < e.v := by
  intro a e b hl hg w hw
  have := (goodLog_iff _).mp (run_good c St.init h nofun rfl hfl).2
  rw [hl, List.pairwise_append] at this
  exact this.2.2 w hw e List.mem_cons_self hg

/-- Corollary: generated values are strictly increasing in generation order (hence unique). -/
theorem gen_strict_mono_partial (c : Cfg) (h : List Op)
    (hfl : ∀ r ∈ (run c St.init h).2, valueRegion r = false)
    (a b d : List Ev) (e1 e2 : Ev) (hl : (run c St.init h).1.log = a ++ e1 :: b ++ e2 :: d)
    (_h1 : e1.gen = true) (h2 : e2.gen = true) : e1.v < e2.v := by
  have := gen_exceeds_all_earlier_partial c h hfl (a ++ e1 :: b) e2 d (by simpa using hl) h2 e1
  exact this (by simp)

/-
Full statement (FALSE on the unchanged code; kept visible):
  theorem gen_exceeds_all_earlier (c h) : ∀ a e b, (run c St.init h).1.log = a ++ e :: b → e.gen → ∀ w ∈ a, w.v < e.v
Witnesses: `finding_alter_below_existing`, `finding_alter_below_counter`, `finding_saturated_reuse`,
`finding_rewrite_lowers_counter`.
-/

def t8 : Cfg := ⟨-128, 127, true⟩
def t8key : Cfg := ⟨-128, 127, false⟩

/-- DESIGN §8 F-C20-a: ids up to 127, `ALTER TABLE … AUTO_INCREMENT = 60`, next id is 60. -/
theorem finding_alter_below_existing :
    ∃ c h, goodLog (run c St.init h).1.log = false ∧ (run c St.init h).2 = [Region.alter_below_existing] :=
  ⟨t8, [.ins 0 [none, none], .ins 0 [some 127], .alter 60, .ins 0 [none]], by decide +kernel⟩

/-- ids 1..3 generated, all rows deleted, `ALTER … AUTO_INCREMENT = 2`: id 2 is handed out again. -/
theorem finding_alter_below_counter :
    ∃ c h, goodLog (run c St.init h).1.log = false ∧ (run c St.init h).2 = [Region.alter_below_counter] :=
  ⟨t8, [.ins 0 [none, none, none], .del (-128) 127, .alter 2, .ins 0 [none]], by decide +kernel⟩

/-- TINYINT with a plain KEY: 126 explicit, then NULL, NULL → 127 is generated twice. -/
theorem finding_saturated_reuse :
    ∃ c h, goodLog (run c St.init h).1.log = false ∧ (run c St.init h).2 = [Region.saturated_reuse] :=
  ⟨t8key, [.ins 0 [some 126], .ins 0 [none], .ins 0 [none]], by decide +kernel⟩

/-- ids 1..3 generated, 10 explicit and deleted again, then a table rewrite (ALTER TABLE … DROP
COLUMN): the counter 11 is re-derived as 4 and the next generated id is 4 < 10. -/
theorem finding_rewrite_lowers_counter :
    ∃ c h, goodLog (run c St.init h).1.log = false ∧ (run c St.init h).2 = [Region.rewrite_lowers_counter] :=
  ⟨t8, [.ins 0 [none, none, none], .ins 0 [some 10], .del 10 10, .rewrite, .ins 0 [none]], by decide +kernel⟩

/-- A rewrite of a table with gaps in its ids (1,2,3,10 stored) keeps the counter at 11: the next
generated id is 11 (non-vacuity of `rewrite_counter_above_rows`; no region is raised). -/
example : (run t8 St.init [.ins 0 [none, none, none], .ins 0 [some 10], .rewrite, .ins 0 [none]]).1.tbl.ctr = 12 ∧
    (run t8 St.init [.ins 0 [none, none, none], .ins 0 [some 10], .rewrite, .ins 0 [none]]).2 = [] := by decide +kernel

/-- Where `hhas` is met: at the type maximum (`saturation_errors`, the instance that follows) and after an ALTER
down to a stored value. -/
theorem stored_counter_errors (c : Cfg) (s : St) (sess : Nat) (g : Option Int) (gs : List (Option Int))
    (hg : isGenGiven g = true) (hu : c.uniq = true)
    (hin : c.lo ≤ (s.tbl.ctr : Int) ∧ (s.tbl.ctr : Int) ≤ c.hi) (hhas : s.tbl.has s.tbl.ctr = true) :
    (step c s (.ins sess (g :: gs))).2.1 = .err .dup ∧
    (step c s (.ins sess (g :: gs))).1.tbl = s.tbl ∧ (step c s (.ins sess (g :: gs))).1.log = s.log := by
  -- for a variable accumulator on this table, so that `rw` meets `s.tbl` and not the unfolded `insAcc0`
  have hrow : ∀ a : InsAcc, a.tbl = s.tbl → insRow c a g = (a, some .dup) := by
    intro a ha
    unfold insRow
    rw [ha, evalAuto_of_isGenGiven c _ hg, if_pos hin]
    simp [hu, hhas]
  have hl : insLoop c (g :: gs) (insAcc0 s sess (g :: gs)) = (insAcc0 s sess (g :: gs), some .dup) := by
    simp only [insLoop, hrow (insAcc0 s sess (g :: gs)) rfl]
  rw [step_ins_err hl]
  exact ⟨rfl, rfl, rfl⟩

/-- With a PRIMARY KEY / UNIQUE column the saturated counter makes the insert fail (duplicate key)
as long as the maximum is still stored … -/
theorem saturation_errors (c : Cfg) (s : St) (sess : Nat) (gs : List (Option Int))
    (hu : c.uniq = true) (hsat : (s.tbl.ctr : Int) = c.hi) (hlo : c.lo ≤ c.hi)
    (hhas : s.tbl.has c.hi = true) :
    (step c s (.ins sess (none :: gs))).2.1 = .err .dup ∧
    (step c s (.ins sess (none :: gs))).1.tbl = s.tbl ∧ (step c s (.ins sess (none :: gs))).1.log = s.log :=
  stored_counter_errors c s sess none gs rfl hu (by omega) (hsat ▸ hhas)

/-- … but after deleting the maximum it is handed out again (finding, same region). -/
theorem finding_saturated_reuse_after_delete :
    ∃ c h, goodLog (run c St.init h).1.log = false ∧ (run c St.init h).2 = [Region.saturated_reuse] :=
  ⟨t8, [.ins 0 [some 126], .ins 0 [none], .del 127 127, .ins 0 [none]], by decide +kernel⟩

/-- DELETE and UPDATE never touch the counter or the log ("not reused after deletes" is then
part of the main theorem, whose log keeps deleted values). -/
theorem delete_update_keep_counter (c : Cfg) (s : St) (lo hi a b : Int) :
    (step c s (.del lo hi)).1.tbl.ctr = s.tbl.ctr ∧ (step c s (.del lo hi)).1.log = s.log ∧
    (step c s (.upd a b)).1.tbl.ctr = s.tbl.ctr ∧ (step c s (.upd a b)).1.log = s.log :=
  ⟨rfl, rfl, step_upd_keeps c s a b⟩

/-- A failed INSERT leaves the table (rows and counter) and the log exactly as they were. -/
theorem failed_insert_restores (c : Cfg) (s : St) (sess : Nat) (gs : List (Option Int)) (e : Err)
    (h : (step c s (.ins sess gs)).2.1 = .err e) :
    (step c s (.ins sess gs)).1.tbl = s.tbl ∧ (step c s (.ins sess gs)).1.log = s.log := by
  rcases hl : insLoop c gs (insAcc0 s sess gs) with ⟨a, _ | e'⟩
  · rw [step_ins_ok hl] at h; cases h
  · rw [step_ins_err hl]; exact ⟨rfl, rfl⟩

/-- ALTER … AUTO_INCREMENT = n sets the counter to n; a value generated next is n itself. -/
theorem alter_sets_counter (c : Cfg) (s : St) (n : Nat) (v : Int) (ctr' : Nat)
    (he : evalAuto c (step c s (.alter n)).1.tbl.ctr none = .ok v ctr' true) : v = n :=
  (evalAuto_gen he).1

/-- **LAST_INSERT_ID().** After a *successful* INSERT the session value is the first value the
statement generated, or unchanged if it generated none; other sessions are never touched. -/
theorem last_insert_id_correct (c : Cfg) (s : St) (sess : Nat) (gs : List (Option Int)) (n i : Nat)
    (h : (step c s (.ins sess gs)).2.1 = .ok n i) :
    (step c s (.ins sess gs)).1.last sess =
      specLast (s.last sess) true ((step c s (.ins sess gs)).1.log.drop s.log.length) ∧
    ∀ other, other ≠ sess → (step c s (.ins sess gs)).1.last other = s.last other := by
  rcases hl : insLoop c gs (insAcc0 s sess gs) with ⟨a, _ | e⟩
  · rw [step_ins_ok hl]
    simp only [setLast, if_true, List.drop_left]
    obtain ⟨_, hb, _⟩ := insLoop_book hl
    exact ⟨hb.last.1, fun other ho => by simp [ho]⟩
  · rw [step_ins_err hl] at h; cases h

/-- A failed INSERT changes LAST_INSERT_ID() only in the listed region (a value had already
been generated and inserted when a later row failed). -/
theorem last_insert_id_failed_partial (c : Cfg) (s : St) (sess : Nat) (gs : List (Option Int)) (e : Err)
    (h : (step c s (.ins sess gs)).2.1 = .err e)
    (hfl : Region.failed_insert_sets_last_insert_id ∉ (step c s (.ins sess gs)).2.2) :
    (step c s (.ins sess gs)).1.last sess = s.last sess := by
  rcases hl : insLoop c gs (insAcc0 s sess gs) with ⟨a, _ | e'⟩
  · rw [step_ins_ok hl] at h; cases h
  · rw [step_ins_err hl] at hfl ⊢
    simp only [setLast, if_true]
    obtain ⟨_, hb, _⟩ := insLoop_book hl
    rw [hb.last.1]
    cases h1 : firstGen a.evs with
    | none => simp [specLast, h1]
    | some v =>
      -- a value was generated: then the flag is raised — contradiction
      obtain ⟨i, hi1, hi2⟩ := hb.firstGenIdx_lt h1
      rw [hi1] at hfl
      exact absurd (by simp [hi2]) hfl

/-- **OK packet.** InsertID of a successful INSERT is the first generated value whenever the
statement's first row is a generating one (NULL / DEFAULT / 0 / column omitted). -/
theorem insert_id_partial (c : Cfg) (s : St) (sess : Nat) (g : Option Int) (gs : List (Option Int)) (n i : Nat)
    (hg : isGenGiven g = true)
    (h : (step c s (.ins sess (g :: gs))).2.1 = .ok n i) :
    specInsertId ((step c s (.ins sess (g :: gs))).1.log.drop s.log.length) = some i := by
  rcases hl : insLoop c (g :: gs) (insAcc0 s sess (g :: gs)) with ⟨a, _ | e⟩
  · rw [step_ins_ok hl] at h ⊢
    simp only [Res.ok.injEq] at h
    simp only [List.drop_left]
    -- the events carry the flags of all the given values, so the first event is a generated one
    obtain ⟨_, hb, hrest⟩ := insLoop_book hl
    have hgens := hb.gens
    rw [hrest rfl] at hgens
    cases hevs : a.evs with
    | nil => simp [hevs] at hgens
    | cons e r =>
      simp only [hevs, gensOf_nil, gensOf_cons, List.map_cons, List.append_nil, List.cons.injEq, hg] at hgens
      rw [hb.first, hevs] at h
      simp [specInsertId, firstGen, hgens.1, ← h.2]
  · rw [step_ins_err hl] at h; cases h

/-
Full statement (FALSE on the unchanged code): InsertID = first generated value for *every*
successful INSERT that generated a value. `insertRowHandler` takes the auto column of the first
row, generated or not.
-/
theorem finding_okpacket_first_row_explicit :
    (step t8 St.init (.ins 0 [some 20, none])).2.1 = .ok 2 20 ∧
    specInsertId ((step t8 St.init (.ins 0 [some 20, none])).1.log) = some 21 ∧
    (step t8 St.init (.ins 0 [some 20, none])).2.2 = [Region.okpacket_first_row_explicit] := by
  decide +kernel

/-
Full statement (FALSE on the unchanged code): a failed INSERT leaves LAST_INSERT_ID() alone.
`updateLastInsertId` stores the value as soon as the generating row is inserted; DiscardChanges
restores the table, not the session value.
-/
theorem finding_failed_insert_sets_last_insert_id :
    let s1 := (step t8 St.init (.ins 0 [some 5])).1
    s1.last 0 = 0 ∧ (step t8 s1 (.ins 0 [none, some 5])).2.1 = .err .dup ∧
    (step t8 s1 (.ins 0 [none, some 5])).1.last 0 = 6 ∧
    (step t8 s1 (.ins 0 [none, some 5])).2.2 = [Region.failed_insert_sets_last_insert_id] := by
  decide +kernel

/-- TRUNCATE starts a new lifetime: counter 1, empty log. -/
theorem truncate_resets (c : Cfg) (s : St) :
    (step c s .trunc).1.tbl.ctr = 1 ∧ (step c s .trunc).1.log = [] ∧ (step c s .trunc).1.tbl.rows = [] :=
  ⟨rfl, rfl, rfl⟩

/-- A region-free history with explicit, generated, negative, zero, failed and deleted rows,
two sessions and a raising ALTER: no flag, and the log is what MySQL would produce. -/
example :
    (run t8 St.init [.ins 0 [none, some 5, none, some 3], .ins 1 [some 5], .del 1 100,
                     .ins 1 [some 0, some (-2)], .alter 40, .ins 0 [none, none], .upd 40 90]).2 = [] ∧
    (run t8 St.init [.ins 0 [none, some 5, none, some 3], .ins 1 [some 5], .del 1 100,
                     .ins 1 [some 0, some (-2)], .alter 40, .ins 0 [none, none], .upd 40 90]).1.log
      = [⟨1, true⟩, ⟨5, false⟩, ⟨6, true⟩, ⟨3, false⟩, ⟨7, true⟩, ⟨-2, false⟩, ⟨40, true⟩, ⟨41, true⟩] := by
  decide +kernel

/-- `saturation_errors` is not vacuous: TINYINT PK holding 127 with the counter at 127. -/
example : (step t8 ⟨⟨127, [⟨127, 0⟩]⟩, fun _ => 0, [⟨127, false⟩], 1⟩ (.ins 0 [none])).2.1 = .err .dup := by
  decide

/-- `last_insert_id_correct`: first generated value of a mixed statement, other session untouched. -/
example : (step t8 St.init (.ins 1 [some 9, none, none])).1.last 1 = 10 ∧
    (step t8 St.init (.ins 1 [some 9, none, none])).1.last 0 = 0 := by decide

end Gms.C20
