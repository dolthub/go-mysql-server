/-
C15 — A failed data-modifying statement has no effect.

Models: `Gms/Model/MemIndex.lean` (partitions, secondary index storage with shared index rows, the
`TableEditorIter` / `tableEditor` statement protocol, `IndexedAccess` = early `ApplyEdits`) and
`Gms/Model/RowAlias.lean` (rows as Go slices over backing arrays on the `INSERT … ON DUPLICATE KEY
UPDATE` path: `append(oldRow, newRow...)` → `SetField.Eval`* → `updateAcc[:len(oldRow)]` → `updater.Update`).

`namespace Gms.MemIndex`: what a run of editor calls cannot change — the snapshot; without
`IndexedAccess` the heap and the data; the key values of index rows always (`KeysKept`).
`namespace Gms.C15`, for all tables, states, call sequences and fault positions: a failed statement
restores the table data, and without `IndexedAccess` the whole state. Unguarded that is false
(`StmtAtomicFull`, `finding_index_rows_shared_with_snapshot`): the restored snapshot shares the index
rows that the early `ApplyEdits` relocated in place. Row aliasing, for every table of valid slices of `n`
cells (any memory, capacities, allocator slack) and statements with rows of `n` cells: no statement
writes the first `n` cells of a backing array that existed before,
although `append` may run in place on a stored row; so the memory-level Impl model computes the
value-level Spec. A `SetField` that assigns in place (not in the source) loses all of it.
-/
import Gms.Model.MemIndex
import Gms.Lemmas.MemTable
import Gms.Lemmas.MemIndex
import Gms.Lemmas.RowAlias
import Gms.Generated.C15

namespace Gms.MemIndex
open Gms.MemTable

theorem stepOp_cases {env : Env} {s s' : EdSt} {o : Op} (h : stepOp env s o = some s') :
    (o = .idx ∧ s' = applyNow env s) ∨ (o.isIdx = false ∧ ∃ a, s' = { s with acc := a }) := by
  cases o with
  | ins r =>
    rw [stepOp] at h
    split at h
    · exact Or.inr ⟨rfl, _, (Option.some.inj h).symm⟩
    · cases h
  | del r => exact Or.inr ⟨rfl, _, (Option.some.inj h).symm⟩
  | upd a b =>
    rw [stepOp] at h
    split at h
    · exact Or.inr ⟨rfl, _, (Option.some.inj h).symm⟩
    · cases h
  | idx => exact Or.inl ⟨rfl, (Option.some.inj h).symm⟩

theorem runOps_rel (env : Env) (R : EdSt → EdSt → Prop) (ht : ∀ {a b c}, R a b → R b c → R a c)
    (hidx : ∀ s, R s (applyNow env s)) (hacc : ∀ s a, R s { s with acc := a }) (ops : List Op) (s : EdSt) :
    R s (runOps env s ops).1 := by
  induction ops generalizing s with
  | nil => exact hacc s s.acc  -- reflexivity: `{ s with acc := s.acc }` is `s`
  | cons o os ih =>
    rw [runOps]
    split
    · next s' h =>
      refine ht ?_ (ih s')
      rcases stepOp_cases h with ⟨_, rfl⟩ | ⟨_, a, rfl⟩
      · exact hidx s
      · exact hacc s a
    · exact hacc s s.acc

theorem runOps_snap (env : Env) (ops : List Op) (s : EdSt) : (runOps env s ops).1.snap = s.snap :=
  runOps_rel env (fun s s' => s'.snap = s.snap) (fun h1 h2 => h2.trans h1) (fun _ => rfl) (fun _ _ => rfl) ops s

theorem runOps_of_midApplied_eq_false {env : Env} {ops : List Op} {s : EdSt} (h : midApplied env s ops = false) :
    ∃ a, (runOps env s ops).1 = { s with acc := a } := by
  induction ops generalizing s with
  | nil => exact ⟨s.acc, rfl⟩
  | cons o os ih =>
    rw [runOps]
    rw [midApplied] at h
    split
    · next s' hs =>
      rw [hs] at h
      rcases stepOp_cases hs with ⟨rfl, _⟩ | ⟨_, a, rfl⟩
      · cases h
      · exact ih (Bool.or_eq_false_iff.mp h).2
    · exact ⟨s.acc, rfl⟩

theorem midApplied_eq_false_of_noIdx (env : Env) (ops : List Op) (s : EdSt) (h : ∀ o ∈ ops, o.isIdx = false) :
    midApplied env s ops = false := by
  induction ops generalizing s with
  | nil => rfl
  | cons o os ih =>
    simp only [midApplied]
    split
    · rename_i s' _
      rw [h o (List.mem_cons_self), ih s' (fun o' ho' => h o' (List.mem_cons_of_mem _ ho'))]
      rfl
    · rfl

/-- `KeysKept h h'`: every index row of `h` is still there in `h'` with the same key values. -/
def KeysKept (h h' : Heap) : Prop := h.length ≤ h'.length ∧ ∀ id, id < h.length → (getE h' id).vals = (getE h id).vals

theorem KeysKept.refl (h : Heap) : KeysKept h h := ⟨Nat.le_refl _, fun _ _ => rfl⟩

theorem KeysKept.trans {a b c : Heap} (h1 : KeysKept a b) (h2 : KeysKept b c) : KeysKept a c :=
  ⟨Nat.le_trans h1.1 h2.1, fun id hid => (h2.2 id (Nat.lt_of_lt_of_le hid h1.1)).trans (h1.2 id hid)⟩

theorem keysKept_setLoc (h : Heap) (n : Nat) (l : Loc) : KeysKept h (setLoc h n l) :=
  ⟨by rw [setLoc_length]; exact Nat.le_refl _, fun id _ => setLoc_vals h n l id⟩

theorem keysKept_append (h : Heap) (e : Entry) : KeysKept h (h ++ [e]) := by
  refine ⟨by simp, fun id hid => ?_⟩
  simp [getE, List.getD_eq_getElem?_getD, List.getElem?_append_left hid]

theorem keysKept_foldl {σ α : Type} (π : σ → Heap) {f : σ → α → σ} (hf : ∀ s a, KeysKept (π s) (π (f s a)))
    (l : List α) (s : σ) : KeysKept (π s) (π (l.foldl f s)) :=
  List.foldlRecOn l f (motive := fun s' => KeysKept (π s) (π s')) (KeysKept.refl _) fun s' h a _ => h.trans (hf s' a)

theorem keysKept_addRow (env : Env) (row : Row) (loc : Loc) (ds : List IdxDef) (h : Heap) (idx : List (List Nat)) :
    KeysKept h (addRowToIndexes env row loc ds h idx).1 := by
  fun_induction addRowToIndexes env row loc ds h idx with
  | case1 d ds h ids rest h' rest' heq ih => exact (keysKept_append h _).trans (heq ▸ ih)
  | case2 => exact KeysKept.refl _

theorem keysKept_delFromIndex (h : Heap) (ids : List Nat) (p i : Nat) : KeysKept h (delFromIndex h ids p i).1 := by
  refine keysKept_foldl id (fun h' j => ?_) ids h
  dsimp only [id]
  split
  · exact keysKept_setLoc _ _ _
  · exact KeysKept.refl _

theorem keysKept_deleteRow (h : Heap) (idx : List (List Nat)) (p i : Nat) :
    KeysKept h (deleteRowFromIndexes h idx p i).1 := by
  induction idx generalizing h with
  | nil => exact KeysKept.refl h
  | cons ids rest ih =>
    simp only [deleteRowFromIndexes]
    exact (keysKept_delFromIndex h ids p i).trans (ih _)

theorem keysKept_deleteHelper (env : Env) (hd : Heap × TData) (row : Row) :
    KeysKept hd.1 (deleteHelperP env hd row).1 := by
  simp only [deleteHelperP]
  split
  · exact KeysKept.refl _
  · exact keysKept_deleteRow _ _ _ _

theorem keysKept_insertHelper (env : Env) (hd : Heap × TData) (row : Row) :
    KeysKept hd.1 (insertHelperP env hd row).1 := by
  simp only [insertHelperP]
  split <;> exact keysKept_addRow _ _ _ _ _ _

theorem keysKept_relocate (la lb : Loc) (h : Heap) (ids : List Nat) :
    KeysKept h (relocate la lb h ids) :=
  keysKept_foldl id (fun _ _ => keysKept_setLoc _ _ _) ids h

theorem keysKept_swapStep (la lb : Loc) (hd : Heap × TData) : KeysKept hd.1 (swapStep la lb hd).1 := by
  simp only [swapStep]
  split
  · exact keysKept_foldl id (keysKept_relocate la lb) _ _
  · exact KeysKept.refl _

theorem keysKept_sortRows (env : Env) (hd : Heap × TData) : KeysKept hd.1 (sortRowsP env hd).1 :=
  keysKept_foldl Prod.fst (fun hd _ => keysKept_swapStep _ _ hd) _ hd

theorem keysKept_helpers (env : Env) {ds as : List Row} (hd : Heap × TData) :
    KeysKept hd.1 (as.foldl (insertHelperP env) (ds.foldl (deleteHelperP env) hd)).1 :=
  (keysKept_foldl Prod.fst (keysKept_deleteHelper env) ds hd).trans
    (keysKept_foldl Prod.fst (keysKept_insertHelper env) as _)

theorem keysKept_applyEdits (env : Env) (hd : Heap × TData) (acc : Ed) : KeysKept hd.1 (applyEditsP env hd acc).1 := by
  rw [applyEditsP]
  split
  · exact keysKept_helpers env hd
  · exact (keysKept_helpers env hd).trans (keysKept_sortRows env _)

theorem keysKept_applyNow (env : Env) (s : EdSt) : KeysKept s.heap (applyNow env s).heap :=
  keysKept_applyEdits env (s.heap, s.data) s.acc

theorem keysKept_runOps (env : Env) (ops : List Op) (s : EdSt) : KeysKept s.heap (runOps env s ops).1.heap :=
  runOps_rel env (fun s s' => KeysKept s.heap s'.heap) KeysKept.trans (keysKept_applyNow env)
    (fun _ _ => KeysKept.refl _) ops s

theorem runStmt_failed {env : Env} {st : St} {stmt : Stmt} (h : (runStmt env st stmt).2 = true) :
    (runStmt env st stmt).1 = { heap := (runOps env (begin st) stmt.ops).1.heap, data := st.data } := by
  rw [runStmt] at h ⊢
  split
  · exact congrArg (St.mk _) (runOps_snap env stmt.ops (begin st))
  · next hc =>
    rw [if_neg hc] at h
    cases h

end Gms.MemIndex

namespace Gms.C15
open Gms.MemTable Gms.MemIndex

/-- `TableEditorIter.Close` discards exactly when a non-ignorable error was recorded, completes
otherwise; `Next` begins the statement once and records every error but `io.EOF`; the editor's
`StatementBegin` snapshots by `copy()`, `DiscardChanges` clears and restores the snapshot (unless
the error is ignorable), `StatementComplete` applies, clears and publishes, `IndexedAccess`
applies and clears early, `Close` publishes the snapshot after a discard; `TableData.copy`
re-allocates partitions and index-storage slices but shares the index rows; both in-place
writers of index-row locations are present. -/
theorem facts_match :
    Generated.C15.closeCond = "err != nil && !ignoreError" ∧
    Generated.C15.closeThen = ["openerCloser.DiscardChanges"] ∧
    Generated.C15.closeElse = ["openerCloser.StatementComplete"] ∧
    Generated.C15.closeDefs = ["err := s.errorEncountered", "_, ignoreError := err.(sql.IgnorableError)"] ∧
    Generated.C15.nextCalls = ["once.Do", "openerCloser.StatementBegin", "inner.Next"] ∧
    Generated.C15.nextRecordsErrorWhen = ["err != nil && err != io.EOF"] ∧
    Generated.C15.edBegin = ["initialTable = editedTable.copy()"] ∧
    Generated.C15.edDiscard = ["ea.Clear", "editedTable.replaceData(initialTable.data)", "discardChanges = true"] ∧
    Generated.C15.edDiscardGuard = "_, ignore := errorEncountered.(sql.IgnorableError); !ignore" ∧
    Generated.C15.edComplete = ["ea.ApplyEdits", "ea.Clear", "sess.putTable(editedTable.data)"] ∧
    Generated.C15.edIndexedAccess = ["ea.ApplyEdits", "ea.Clear", "editedTable.copy"] ∧
    Generated.C15.edCloseDiscard = ["sess.putTable(t.initialTable.data)", "t.editedTable.replaceData(t.initialTable.data)"] ∧
    Generated.C15.copyFreshFields = ["checks", "partitionKeys", "partitions", "schema", "secondaryIndexStorage"] ∧
    Generated.C15.copyIndexStorage = "slice-of-shared-rows" ∧
    Generated.C15.delIdxOps = ["== rowIdx", "> rowIdx", "- 1"] ∧
    Generated.C15.delRenumbersInPlace = true ∧
    Generated.C15.swapRelocatesInPlace = 2 ∧
    Generated.C15.pkApplyEdits = ["deleteHelper", "insertHelper", "tableData.sortRows", "table.replaceData"] ∧
    Generated.C15.klApplyEdits = ["deleteHelper", "insertHelper", "tableData.sortSecondaryIndexes", "table.replaceData"] :=
  ⟨rfl, rfl, rfl, rfl, rfl, rfl, rfl, rfl, rfl, rfl, rfl, rfl, rfl, rfl, rfl, rfl, rfl, rfl, rfl⟩

/-- Who writes into the cells of a row on the ON DUPLICATE KEY UPDATE path (the shape
`Gms/Model/RowAlias.lean` transliterates): `SetField` has a single entry point that is handed a
row, `Eval`; its only element write goes into `updatedRow`, which is `row.Copy()`; `Row.Copy` is
`NewRow` = `make` + `copy` (a fresh array); `applyUpdates` calls nothing but `Eval` on the
accumulator (plus the IGNORE helpers), re-binds the accumulator to the returned row and writes no
element; `handleOnDuplicateKeyUpdate` builds the accumulator by `append(oldRow, newRow...)`, cuts
the updated row out as `updateAcc[:len(oldRow)]`, hands it to `updater.Update` and writes no
element; `insertIter.Next` writes elements of the incoming row / the REPLACE result only, and the
`Existing` row of a unique-key error is only read (`Delete`, `copy(toReturn, …)`) or passed on. -/
theorem facts_match_alias :
    Generated.C15.setFieldTakesRow = ["Eval"] ∧
    Generated.C15.setFieldElementWrites = ["Eval:updatedRow"] ∧
    Generated.C15.setFieldCopies = ["Eval:updatedRow := row.Copy()"] ∧
    Generated.C15.rowCopyBody = ["return NewRow(r...)"] ∧
    Generated.C15.newRowAllocs = ["make(Row, len(values))", "copy(row, values)"] ∧
    Generated.C15.applyUpdatesCalls = ["convertDataAndWarn", "getFieldIndexFromUpdateExpr", "updateExpr.Eval"] ∧
    Generated.C15.applyUpdatesAccAssigns = ["val.(sql.Row)"] ∧
    Generated.C15.applyUpdatesElementWrites = [] ∧
    Generated.C15.odkuAccumulators = ["append(oldRow, newRow...)", "updateAcc"] ∧
    Generated.C15.odkuEvalRow = ["updateAcc[:len(oldRow)]", "updateAcc[:len(oldRow)]"] ∧
    Generated.C15.odkuStores = ["i.updater.Update(ctx, oldRow, evalRow)"] ∧
    Generated.C15.odkuElementWrites = [] ∧
    Generated.C15.insertNextElementWrites = ["origRow", "row", "toReturn"] ∧
    Generated.C15.insertExistingUses = ["i.replacer.Delete(ctx, ue.Existing)", "copy(toReturn, ue.Existing)",
      "i.handleOnDuplicateKeyUpdate(ctx, uniqueKeyError.Existing, row)"] :=
  ⟨rfl, rfl, rfl, rfl, rfl, rfl, rfl, rfl, rfl, rfl, rfl, rfl, rfl, rfl⟩

/-- A failed statement restores the table data by value: partitions and, per index, the
storage slice (which index rows it holds, in which order) — for every table, state, call
sequence (with or without `IndexedAccess`), and every way of failing. -/
theorem fail_restores_data (env : Env) (st : St) (stmt : MemIndex.Stmt) (hf : (runStmt env st stmt).2 = true) :
    (runStmt env st stmt).1.data = st.data := by
  rw [runStmt_failed hf]

/-- Index part of `fail_restores_data`: the snapshot includes `secondaryIndexStorage`. -/
theorem discard_restores_indexes (env : Env) (st : St) (stmt : MemIndex.Stmt) (hf : (runStmt env st stmt).2 = true) :
    (runStmt env st stmt).1.data.idx = st.data.idx := by
  rw [fail_restores_data env st stmt hf]

/-- **Statement atomicity** (guarded): a failed statement that did not go through
`IndexedAccess` leaves the whole state — rows, index-storage slices *and* index rows — exactly as
it was. The unguarded statement is false: `finding_index_rows_shared_with_snapshot`. -/
theorem stmt_atomic_partial (env : Env) (st : St) (stmt : MemIndex.Stmt) (hf : (runStmt env st stmt).2 = true)
    (hm : midApplied env (begin st) stmt.ops = false) : (runStmt env st stmt).1 = st := by
  obtain ⟨a, ha⟩ := runOps_of_midApplied_eq_false hm
  rw [runStmt_failed hf, ha]
  rfl

theorem atomic_of_noIdx {env : Env} {st : St} {stmt : MemIndex.Stmt} (h : ∀ o ∈ stmt.ops, o.isIdx = false)
    (hf : (runStmt env st stmt).2 = true) : runStmt env st stmt = (st, true) :=
  Prod.ext (stmt_atomic_partial env st stmt hf (midApplied_eq_false_of_noIdx env stmt.ops (begin st) h)) hf

/-- **Fault enumeration**: an injected storage error after ANY prefix of ANY sequence of
`Insert` / `Update` / `Delete` calls leaves the state as it was, and the statement is reported
as failed. -/
theorem stmt_atomic (env : Env) (st : St) (ops : List Op) (k : Nat) (h : ∀ o ∈ ops, o.isIdx = false) :
    runStmt env st ⟨ops.take k, .err⟩ = (st, true) :=
  atomic_of_noIdx (fun o ho => h o (List.mem_of_mem_take ho)) (by simp [runStmt])

/-- The same for a failure raised by an editor call itself (duplicate primary / unique key) at any
position, whatever the iterator would have returned afterwards. -/
theorem natural_failure_atomic (env : Env) (st : St) (ops : List Op) (fin : Fin) (h : ∀ o ∈ ops, o.isIdx = false)
    (hn : (runOps env (begin st) ops).2 = true) : runStmt env st ⟨ops, fin⟩ = (st, true) :=
  atomic_of_noIdx h (by simp [runStmt, hn])

/-- What a reader sees (rows by scan, rows through every index) is unchanged. -/
theorem stmt_atomic_view (env : Env) (st : St) (stmt : MemIndex.Stmt) (hf : (runStmt env st stmt).2 = true)
    (hm : midApplied env (begin st) stmt.ops = false) :
    rowsOf (runStmt env st stmt).1 = rowsOf st ∧ indexView (runStmt env st stmt).1 = indexView st := by
  rw [stmt_atomic_partial env st stmt hf hm]
  exact ⟨rfl, rfl⟩

/-- All or nothing: a statement either fails and publishes the snapshot, or succeeds and publishes
`ApplyEdits` of everything its calls accumulated. -/
theorem stmt_all_or_nothing (env : Env) (st : St) (stmt : MemIndex.Stmt) :
    ((runStmt env st stmt).2 = true ∧ (runStmt env st stmt).1.data = st.data) ∨
    ((runStmt env st stmt).2 = false ∧ (runOps env (begin st) stmt.ops).2 = false ∧
      (runStmt env st stmt).1 =
        { heap := (applyNow env (runOps env (begin st) stmt.ops).1).heap,
          data := (applyNow env (runOps env (begin st) stmt.ops).1).data }) := by
  rw [runStmt]
  split
  · exact Or.inl ⟨rfl, runOps_snap env stmt.ops (begin st)⟩
  · next hc => exact Or.inr ⟨rfl, (Bool.or_eq_false_iff.mp (Bool.eq_false_iff.mpr hc)).1, rfl⟩

/-- The documented exception: an ignorable error (INSERT IGNORE paths) completes what was done so far. -/
theorem ignorable_keeps_prefix (env : Env) (st : St) (ops : List Op) :
    runStmt env st ⟨ops, .errIgn⟩ = runStmt env st ⟨ops, .eof⟩ := by
  simp [runStmt]

/-- Whatever a statement does (early `ApplyEdits`, failure, success), every index row that existed
before still exists with the same key values: only locations are ever overwritten in place. -/
theorem index_keys_stable (env : Env) (st : St) (stmt : MemIndex.Stmt) : KeysKept st.heap (runStmt env st stmt).1.heap := by
  have h1 := keysKept_runOps env stmt.ops (begin st)
  simp only [runStmt]
  split
  · exact h1
  · exact h1.trans (keysKept_applyNow env _)

section Alias
open Gms.RowAlias

/-- **Frame**: whatever a statement does — `append` in place on a stored row included — and
however it ends, every backing array that existed before keeps its length and its first `n`
cells. For every memory, every capacity of every stored row, every allocator slack. -/
theorem stored_cells_never_written (cfg : Cfg) (st : RowAlias.St) (s : RowAlias.Stmt)
    (hw : WF cfg.n st.mem st.rows) (hr : ∀ r ∈ s.rows, r.length = cfg.n) :
    Frame cfg.n st.mem (RowAlias.runStmt cfg st s).1.mem :=
  (runStmt_spec cfg st s hw hr).1

/-- Hence every row of at most `n` cells that anybody still holds — the statement snapshot,
another session's copy of the table (both share the slices with the stored rows), an earlier
result — reads the same after the statement as before: results are independent of later statements. -/
theorem readers_unaffected (cfg : Cfg) (st : RowAlias.St) (s : RowAlias.Stmt)
    (hw : WF cfg.n st.mem st.rows) (hr : ∀ r ∈ s.rows, r.length = cfg.n)
    (sl : Slice) (hv : Valid st.mem sl) (hl : sl.len ≤ cfg.n) :
    view (RowAlias.runStmt cfg st s).1.mem sl = view st.mem sl :=
  view_of_frame (stored_cells_never_written cfg st s hw hr) hv hl

/-- **Refinement**: the memory-level Impl model (slices, in-place `append`, copying `SetField`)
computes exactly the value-level Spec: same verdict, same visible table; and the table stays
well-formed. -/
theorem odku_refines_spec (cfg : Cfg) (st : RowAlias.St) (s : RowAlias.Stmt)
    (hw : WF cfg.n st.mem st.rows) (hr : ∀ r ∈ s.rows, r.length = cfg.n) :
    visible (RowAlias.runStmt cfg st s).1 = (RowAlias.specStmt cfg (visible st) s).1 ∧
    (RowAlias.runStmt cfg st s).2 = (RowAlias.specStmt cfg (visible st) s).2 ∧
    WF cfg.n (RowAlias.runStmt cfg st s).1.mem (RowAlias.runStmt cfg st s).1.rows :=
  (runStmt_spec cfg st s hw hr).2

/-- **Atomicity on this path**: a failed INSERT / INSERT … ON DUPLICATE KEY UPDATE leaves the
visible table exactly as it was, at whichever row and for whichever reason it fails (NOT NULL,
CHECK on the incoming or on the updated row, conversion, duplicate key), whatever rows it had
updated before — including rows whose array the accumulator shared. -/
theorem odku_failed_stmt_invisible (cfg : Cfg) (st : RowAlias.St) (s : RowAlias.Stmt)
    (hw : WF cfg.n st.mem st.rows) (hr : ∀ r ∈ s.rows, r.length = cfg.n)
    (hf : (RowAlias.runStmt cfg st s).2 = true) : visible (RowAlias.runStmt cfg st s).1 = visible st := by
  have h := odku_refines_spec cfg st s hw hr
  rw [h.1]
  rw [h.2.1] at hf
  simp only [RowAlias.specStmt] at hf ⊢
  split
  · rfl
  · rename_i heq
    rw [heq] at hf
    simp at hf

def specHistory (cfg : Cfg) : List Row → List RowAlias.Stmt → List Row
  | t, [] => t
  | t, s :: ss => specHistory cfg (RowAlias.specStmt cfg t s).1 ss

/-- …and along every history of statements (each failed one is a no-op, each successful one
applies the Spec), starting from any well-formed table. -/
theorem odku_history_refines (cfg : Cfg) (ss : List RowAlias.Stmt) (st : RowAlias.St)
    (hw : WF cfg.n st.mem st.rows) (hr : ∀ s ∈ ss, ∀ r ∈ s.rows, r.length = cfg.n) :
    visible (RowAlias.runHistory cfg st ss) = specHistory cfg (visible st) ss := by
  induction ss generalizing st with
  | nil => rfl
  | cons s ss ih =>
    have h := odku_refines_spec cfg st s hw (hr s List.mem_cons_self)
    simp only [RowAlias.runHistory, specHistory]
    rw [ih _ h.2.2 (fun x hx => hr x (List.mem_cons_of_mem _ hx)), h.1]

def cfgA : Cfg := { n := 2, nn := [1], ck := some (1, 100) }

/-- a table whose row 1 has been rewritten once by ON DUPLICATE KEY UPDATE. -/
def stA : RowAlias.St :=
  RowAlias.runHistory cfgA ⟨[], []⟩ [.ins [[.int 1, .int 9], [.int 2, .int 20]], .odku [[.int 1, .int 0]] [.add 1 1]]

/-- updates row 1 again, then fails on its second row (CHECK). -/
def stmtA : RowAlias.Stmt := .odku [[.int 1, .int 0], [.int 3, .int 150]] [.add 1 1]

example : visible stA = [[.int 1, .int 10], [.int 2, .int 20]] ∧ WF cfgA.n stA.mem stA.rows := by
  unfold WF
  decide +kernel

/-- A row stored by the ON DUPLICATE KEY UPDATE path has spare capacity (2 cells here, the
length of the VALUES row), and the accumulator the next such statement builds on it is the stored
array itself: the premise "the scratch row is private" is false, the theorems above do not rely on it. -/
theorem spare_capacity_arises :
    stA.rows.head? = some ⟨3, 2⟩ ∧ capOf stA.mem ⟨3, 2⟩ = 4 ∧
    (appendS stA.mem ⟨3, 2⟩ [.int 1, .int 0] 0).2.arr = 3 := by
  decide +kernel

/-- the failing statement on the Impl model: failed, nothing visible changed (an instance of
`odku_failed_stmt_invisible` whose accumulator aliased the stored row). -/
example : (RowAlias.runStmt cfgA stA stmtA).2 = true ∧ visible (RowAlias.runStmt cfgA stA stmtA).1 = visible stA := by
  decide +kernel

/-- a successful statement does change the table. -/
example : visible (RowAlias.runStmt cfgA stA (.odku [[.int 1, .int 0], [.int 3, .int 50]] [.add 1 1])).1 =
    [[.int 1, .int 11], [.int 2, .int 20], [.int 3, .int 50]] := by
  decide +kernel

/-- **What the frame theorem excludes.** With a `SetField` that assigns into the accumulator in
place (`setFieldInPlace`, not in the source: an allocation "optimisation" of `applyUpdates`) the
same failing statement changes the stored row 1 behind the accumulator's back: the statement
reports a failure and the table reads (1, 11). Copying in `SetField.Eval` is what atomicity of
this path rests on. -/
theorem inplace_assignment_breaks_atomicity :
    (runStmtG setFieldInPlace cfgA stA stmtA).2 = true ∧
    visible (runStmtG setFieldInPlace cfgA stA stmtA).1 = [[.int 1, .int 11], [.int 2, .int 20]] ∧
    visible stA = [[.int 1, .int 10], [.int 2, .int 20]] := by
  decide +kernel

end Alias

def envW : Env :=
  { sch := { cols := [{ nullable := false }, {}, {}], pk := [0], uniques := [] },
    idxs := [{ cols := [2] }], nparts := 1, pmap := [] }

def r5 : Row := [.int 5, .null, .int 50]
def r7 : Row := [.int 7, .null, .int 70]
def r1 : Row := [.int 1, .null, .int 10]

/-- rows 5 and 7 stored, index on column 2 consistent. -/
def stW : St := (runStmt envW (initSt envW) ⟨[.ins r5, .ins r7], .eof⟩).1

example : rowsOf stW = [r5, r7] ∧ indexView stW = [[([.int 50, .int 5], some r5), ([.int 70, .int 7], some r7)]] := by
  decide +kernel

/-- `stmt_atomic` is not vacuous: a two-call prefix with pending edits is discarded. -/
example : runStmt envW stW ⟨([Op.ins r1, Op.del r5, Op.ins r7] : List Op).take 2, .err⟩ = (stW, true) :=
  stmt_atomic envW stW [Op.ins r1, Op.del r5, Op.ins r7] 2 (by decide)

/-- `natural_failure_atomic` is not vacuous: the third call hits a duplicate key after two pending edits. -/
example : (runOps envW (begin stW) [Op.ins r1, Op.del r5, Op.ins r7]).2 = true := by decide +kernel

/-- a successful statement does change the table (so "unchanged" above is not a property of every run). -/
example : rowsOf (runStmt envW stW ⟨[.ins r1, .del r5], .eof⟩).1 = [r1, r7] := by decide +kernel

/-- The full statement, without the `IndexedAccess` guard (FALSE on the unchanged tree). -/
def StmtAtomicFull : Prop :=
  ∀ (env : Env) (st : St) (stmt : MemIndex.Stmt), (runStmt env st stmt).2 = true →
    rowsOf (runStmt env st stmt).1 = rowsOf st ∧ indexView (runStmt env st stmt).1 = indexView st

/-- Witness of region `index_rows_shared_with_snapshot` (replayed on the real code: corpus case 1
of harness/cmd/c15 and the SQL script in known_findings/C15.jsonl): the failed statement leaves
the rows alone but the index entry of key 50 now resolves to row 7 and the entry of key 70 dangles. -/
theorem finding_index_rows_shared_with_snapshot :
    (runStmt envW stW ⟨[.ins r1, .idx], .err⟩).2 = true ∧
    rowsOf (runStmt envW stW ⟨[.ins r1, .idx], .err⟩).1 = rowsOf stW ∧
    indexView (runStmt envW stW ⟨[.ins r1, .idx], .err⟩).1 =
      [[([.int 50, .int 5], some r7), ([.int 70, .int 7], none)]] ∧
    regionMidApply envW stW ⟨[.ins r1, .idx], .err⟩ = true := by
  decide +kernel

theorem stmtAtomicFull_false : ¬ StmtAtomicFull := by
  intro h
  have := (h envW stW ⟨[.ins r1, .idx], .err⟩ (by decide +kernel)).2
  revert this
  decide +kernel

/-- Outside the region the Impl model meets the Spec (restating `stmt_atomic_view` with the
region predicate the driver evaluates). -/
theorem stmt_atomic_outside_region (env : Env) (st : St) (stmt : MemIndex.Stmt) (hf : (runStmt env st stmt).2 = true)
    (hr : midApplied env (begin st) stmt.ops = false) :
    rowsOf (runStmt env st stmt).1 = rowsOf st ∧ indexView (runStmt env st stmt).1 = indexView st :=
  stmt_atomic_view env st stmt hf hr

end Gms.C15
