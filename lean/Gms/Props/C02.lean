/-
C02 — Query results match the SQL definition of the query.

The definition is `Gms.Rel.eval` (M1 + M2, Gms/Model/Sql.lean + Rel.lean). The engine is compared
with it by correspondence (harness/cmd/c02 ↔ Drivers/C02.lean). The theorems below make the
definition a credible oracle (they are the SQL laws the property statement names, proved for all
databases, rows and environments; the semi-join and anti-join laws for uncorrelated subqueries), tie the
scalar operators to the engine's own operators through regenerated truth tables (`facts_match`), model the code path of correlated `IN` subqueries
(`plan.InSubquery.Eval`: `insub_probe_correct`, `insub_scan_*`) and tie it to the compiled engine by
a regenerated table of per-row values in 72 scan orders (`facts_corr_rows_independent`), and state
the known-defect regions (`finding_*`, `impl_eq_spec_partial`).
-/
import Gms.Lemmas.Rel
import Gms.Model.InSubProbe
import Gms.Model.SqlQuirks
import Gms.Generated.C02

namespace Gms.C02
open Gms.Sql Gms.Rel Gms.Quirks Gms.InSubProbe

def optV : Option Int → Value
  | none => .null
  | some i => .int i

def lit (x : Option Int) : Expr := .lit (optV x)

def ev (e : Expr) : Value := evalE [] [] e

def bin2 (f : Expr → Expr → Expr) (t : List (Option Int × Option Int × Option Int)) : Bool :=
  t.all (fun e => ev (f (lit e.1) (lit e.2.1)) == optV e.2.2)

def un1 (f : Expr → Expr) (t : List (Option Int × Option Int)) : Bool :=
  t.all (fun e => ev (f (lit e.1)) == optV e.2)

def tern3 (f : Expr → Expr → Expr → Expr)
    (t : List (Option Int × Option Int × Option Int × Option Int)) : Bool :=
  t.all (fun e => ev (f (lit e.1) (lit e.2.1) (lit e.2.2.1)) == optV e.2.2.2)

open Gms.Generated.C02 in
/-- Every entry of the truth tables dumped from the freshly compiled `sql/expression` operators
(AND, OR, XOR, NOT, the six comparisons and `<=>`, IS NULL, IS TRUE, IS FALSE, IN / NOT IN over a
two-element list, BETWEEN; all over {NULL,0,1,2}) is what M1 prescribes, and the tables are
complete (4, 16, 64 entries). -/
theorem facts_match :
    bin2 .and andTable = true ∧ bin2 .or orTable = true ∧ bin2 .xor xorTable = true
    ∧ bin2 (.cmp .eq) eqTable = true ∧ bin2 (.cmp .ne) neTable = true
    ∧ bin2 (.cmp .lt) ltTable = true ∧ bin2 (.cmp .le) leTable = true
    ∧ bin2 (.cmp .gt) gtTable = true ∧ bin2 (.cmp .ge) geTable = true
    ∧ bin2 (.cmp .nseq) nseqTable = true
    ∧ un1 .not notTable = true ∧ un1 .isNull isNullTable = true
    ∧ un1 (.isTruth true) isTrueTable = true ∧ un1 (.isTruth false) isFalseTable = true
    ∧ tern3 (fun x y z => .inList x [y, z]) inTable = true
    ∧ tern3 (fun x y z => .not (.inList x [y, z])) notInTable = true
    ∧ tern3 .between betweenTable = true
    ∧ [andTable.length, orTable.length, xorTable.length, eqTable.length, neTable.length,
        ltTable.length, leTable.length, gtTable.length, geTable.length, nseqTable.length] = List.replicate 10 16
    ∧ [notTable.length, isNullTable.length, isTrueTable.length, isFalseTable.length] = List.replicate 4 4
    ∧ [inTable.length, notInTable.length, betweenTable.length] = List.replicate 3 64 := by
  decide +kernel

/-- `x NOT IN (… NULL …)` is never TRUE (list form). -/
theorem eval_notIn_null (db : Db) (env : Env) (e : Expr) (es : List Expr)
    (h : Value.null ∈ evalEs db env es) :
    (evalE db env (.not (.inList e es))).truth ≠ .t := by
  simp only [evalE, truth_toValue]
  exact notIn_null_never_true _ _ h

/-- `x NOT IN (subquery)` is never TRUE when the subquery returns a NULL. -/
theorem eval_notInSub_null (db : Db) (env : Env) (e : Expr) (q : Query)
    (h : Value.null ∈ firstCol (evalQ db env q)) :
    (evalE db env (.not (.inSub e q))).truth ≠ .t := by
  simp only [evalE, truth_toValue]
  exact notIn_null_never_true _ _ h

/-- `x NOT IN (subquery)` is TRUE exactly when `x = y` is FALSE for every returned `y` — in
particular for every `x`, even NULL, over an empty subquery. -/
theorem eval_notInSub_iff (db : Db) (env : Env) (e : Expr) (q : Query) :
    (evalE db env (.not (.inSub e q))).truth = .t ↔
      ∀ w ∈ firstCol (evalQ db env q), cmpTri .eq (evalE db env e) w = .f := by
  simp only [evalE, truth_toValue]
  exact notIn_eq_t _ _

theorem eval_inSub_iff (db : Db) (env : Env) (e : Expr) (q : Query) :
    (evalE db env (.inSub e q)).truth = .t ↔
      ∃ w ∈ firstCol (evalQ db env q), cmpTri .eq (evalE db env e) w = .t := by
  simp only [evalE, truth_toValue]
  exact inTri_eq_t _ _

theorem eval_exists_iff (db : Db) (env : Env) (q : Query) :
    (evalE db env (.exists q)).truth = .t ↔ evalQ db env q ≠ [] := by
  simp [evalE, truth_toValue, Tri.ofBool_eq_t]

/-- EXISTS is two-valued. -/
theorem eval_exists_not_null (db : Db) (env : Env) (q : Query) :
    (evalE db env (.exists q)).truth ≠ .u := by
  simp only [evalE, truth_toValue]
  exact Tri.ofBool_ne_u _

/-- WHERE keeps exactly the rows on which the predicate is TRUE. -/
theorem eval_filter_mem (db : Db) (env : Env) (p : Expr) (q : Query) (r : Row) :
    r ∈ evalQ db env (.filter p q) ↔ r ∈ evalQ db env q ∧ (evalE db (r :: env) p).truth = .t := by
  rw [evalQ, List.mem_filter, decide_eq_true_eq]

/-- `WHERE x IN (uncorrelated subquery)` is the semi-join on `=`. -/
theorem eval_in_iff_semijoin (db : Db) (env : Env) (i : Nat) (q base : Query)
    (huncorr : ∀ r, evalQ db (r :: env) q = evalQ db env q) :
    evalQ db env (.filter (.inSub (.col 0 i) q) base) =
      semiJoin (fun a b => decide (cmpTri .eq (a.getD i .null) (b.headD .null) = .t))
        (evalQ db env base) (evalQ db env q) := by
  simp only [evalQ, semiJoin]
  refine List.filter_congr fun r _ => ?_
  rw [Bool.eq_iff_iff, decide_eq_true_eq, eval_inSub_iff, huncorr r, exists_mem_firstCol]
  simp [evalE, lookup]

/-- `WHERE x NOT IN (uncorrelated subquery)` is the anti-join that respects NULLs: a row survives
iff `x = y` is FALSE (not merely "not TRUE") for every `y`. -/
theorem eval_notIn_iff_antijoinNulls (db : Db) (env : Env) (i : Nat) (q base : Query)
    (huncorr : ∀ r, evalQ db (r :: env) q = evalQ db env q) :
    evalQ db env (.filter (.not (.inSub (.col 0 i) q)) base) =
      antiJoin (fun a b => decide (cmpTri .eq (a.getD i .null) (b.headD .null) ≠ .f))
        (evalQ db env base) (evalQ db env q) := by
  simp only [evalQ, antiJoin]
  refine List.filter_congr fun r _ => ?_
  rw [Bool.eq_iff_iff, decide_eq_true_eq, eval_notInSub_iff, huncorr r, forall_mem_firstCol]
  simp [evalE, lookup]

/-- `WHERE EXISTS (correlated subquery σ_p(S))` is the semi-join with `p` as its condition. -/
theorem eval_exists_iff_semijoin (db : Db) (env : Env) (p : Expr) (s base : Query)
    (huncorr : ∀ r, evalQ db (r :: env) s = evalQ db env s) :
    evalQ db env (.filter (.exists (.filter p s)) base) =
      semiJoin (fun a b => decide ((evalE db (b :: a :: env) p).truth = .t))
        (evalQ db env base) (evalQ db env s) := by
  simp only [evalQ, semiJoin]
  refine List.filter_congr fun r _ => ?_
  rw [Bool.eq_iff_iff, decide_eq_true_eq, eval_exists_iff, evalQ, huncorr r]
  simp [List.filter_eq_nil_iff]

/-- Outer joins pad with NULL: the left join of two queries is, as a bag, the inner join plus
the unmatched left rows extended by NULLs. -/
theorem eval_leftJoin_pads (db : Db) (env : Env) (on : Expr) (l r : Query) :
    (evalQ db env (.join .left on l r)).Perm
      (evalQ db env (.join .inner on l r) ++
        (antiJoin (fun a b => decide ((evalE db ((a ++ b) :: env) on).truth = .t))
          (evalQ db env l) (evalQ db env r)).map (· ++ nulls (r.width db))) := by
  simp only [evalQ]
  exact leftJoin_perm _ _ _ _

/-- … and no left row is lost. -/
theorem eval_leftJoin_keeps (db : Db) (env : Env) (on : Expr) (l r : Query) (a : Row)
    (ha : a ∈ evalQ db env l) : ∃ x ∈ evalQ db env (.join .left on l r), a <+: x := by
  simp only [evalQ]
  exact leftJoin_keeps_left _ _ _ _ a ha

theorem eval_distinct_nodup (db : Db) (env : Env) (q : Query) :
    (evalQ db env (.distinct q)).Nodup ∧ ∀ r, r ∈ evalQ db env (.distinct q) ↔ r ∈ evalQ db env q := by
  simp only [evalQ]
  exact ⟨dedup_nodup _, fun r => mem_dedup r _⟩

theorem eval_union_distinct_nodup (db : Db) (env : Env) (l r : Query) :
    (evalQ db env (.setop .union false l r)).Nodup
    ∧ ∀ x, x ∈ evalQ db env (.setop .union false l r) ↔ x ∈ evalQ db env l ∨ x ∈ evalQ db env r := by
  simp only [evalQ, setOp]
  exact ⟨dedup_nodup _, fun x => by rw [mem_dedup, List.mem_append]⟩

theorem eval_union_all_count (db : Db) (env : Env) (l r : Query) (x : Row) :
    (evalQ db env (.setop .union true l r)).count x = (evalQ db env l).count x + (evalQ db env r).count x := by
  simp [evalQ, setOp]

theorem eval_intersect_all_count (db : Db) (env : Env) (l r : Query) (x : Row) :
    (evalQ db env (.setop .intersect true l r)).count x =
      min ((evalQ db env l).count x) ((evalQ db env r).count x) := by
  simp only [evalQ, setOp]
  exact count_intersectAll _ _ _

theorem eval_except_all_count (db : Db) (env : Env) (l r : Query) (x : Row) :
    (evalQ db env (.setop .except true l r)).count x =
      (evalQ db env l).count x - (evalQ db env r).count x := by
  simp only [evalQ, setOp]
  exact count_exceptAll _ _ _

theorem eval_intersect_distinct_count (db : Db) (env : Env) (l r : Query) (x : Row) :
    (evalQ db env (.setop .intersect false l r)).count x =
      if x ∈ evalQ db env l ∧ x ∈ evalQ db env r then 1 else 0 := by
  simp only [evalQ, setOp, count_dedup]
  simp [List.mem_filter]

theorem eval_except_distinct_count (db : Db) (env : Env) (l r : Query) (x : Row) :
    (evalQ db env (.setop .except false l r)).count x =
      if x ∈ evalQ db env l ∧ x ∉ evalQ db env r then 1 else 0 := by
  simp only [evalQ, setOp, count_dedup]
  simp [List.mem_filter]

/-- GROUP BY with keys: one output row per group of the partition of the input by key value,
carrying the key and the aggregates folded over exactly that group. -/
theorem eval_groupby_partition (db : Db) (env : Env) (k : Expr) (ks : List Expr) (fns : List AggFn)
    (args : List Expr) (q : Query) :
    let key := fun r => evalEs db (r :: env) (k :: ks)
    let groups := groupRows true key (evalQ db env q)
    evalQ db env (.group (k :: ks) fns args q) = groups.map (fun g => g.1 ++ evalAggs db env g.2 fns args)
    ∧ (groups.flatMap (·.2)).Perm (evalQ db env q)
    ∧ (groups.map (·.1)).Nodup
    ∧ ∀ g ∈ groups, (∀ r ∈ g.2, key r = g.1) ∧ g.2 ≠ [] := by
  intro key groups
  refine ⟨by simp [evalQ, groups, key], ?_⟩
  exact groupRows_partition key _

/-- Aggregation without GROUP BY returns exactly one row, even over an empty input. -/
theorem eval_group_noKeys (db : Db) (env : Env) (fns : List AggFn) (args : List Expr) (q : Query) :
    evalQ db env (.group [] fns args q) = [evalAggs db env (evalQ db env q) fns args] := by
  simp [evalQ, groupRows]

/-- COUNT(*) of a group is its size; COUNT(x) skips NULLs; SUM/MIN/MAX over no non-NULL value are
NULL. -/
theorem aggregate_laws (vs : List Value) :
    aggregate .countStar vs = .int vs.length
    ∧ aggregate .count vs = .int (vs.filter (fun v => !v.isNull)).length
    ∧ ((∀ v ∈ vs, v = .null) → aggregate .sum vs = .null ∧ aggregate .min vs = .null ∧ aggregate .max vs = .null) := by
  refine ⟨rfl, rfl, ?_⟩
  intro h
  have : nonNull vs = [] := by
    simp only [nonNull, List.filter_eq_nil_iff]
    intro v hv; simp [h v hv, Value.isNull]
  simp [aggregate, this, extremum]

/-- ORDER BY returns a permutation of its input; LIMIT/OFFSET is the slice. -/
theorem eval_orderBy_perm (db : Db) (env : Env) (ks : List Expr) (d : List Bool) (q : Query) :
    (evalQ db env (.orderBy ks d q)).Perm (evalQ db env q) := by
  simp only [evalQ, orderRows]
  exact sortBy_perm _ _

theorem eval_limit_slice (db : Db) (env : Env) (n off : Nat) (q : Query) :
    evalQ db env (.limit n off q) = ((evalQ db env q).drop off).take n := by
  simp [evalQ, limitRows]

theorem find?_eq_self (x : Value) (ws : List Value) :
    ws.find? (fun w => decide (w = x)) = if x ∈ ws then some x else none := by
  induction ws with
  | nil => rfl
  | cons w ws ih => by_cases h : w = x <;> simp [h, ih, Ne.symm]

/-! ## Correlated subqueries: one expression object, many outer rows

`filter` and `project` evaluate their expression once per row with that row pushed on the
environment, so the value on a row is a function of that row alone. The engine evaluates ONE
`plan.InSubquery` / `plan.Subquery` object on the successive rows of the scan; the theorems below
say that the Impl model of that object computes the definition on every call
(`insub_probe_correct`), hence that a scan is a map (`insub_scan_eq_spec`, `insub_scan_append`,
`insub_scan_perm`), and — on a table regenerated by running the engine over 24 outer rows in 72
scan orders — that the compiled code carries nothing from one row to the next
(`facts_corr_rows_independent`). -/

/-- `InSubquery.Eval` (hash probe + probe of the NULL key) is `IN` of the SQL definition. -/
theorem insub_probe_correct (x : Value) (ws : List Value) : probe x ws = (inTri x ws).toValue := by
  unfold probe
  by_cases hx : x = .null
  · subst hx
    rw [inTri_null]
    cases ws <;> rfl
  · rw [inTri_nonnull x hx, if_neg (mt (isNull_iff x).mp hx), find?_eq_self, any_isNull]
    by_cases h1 : x ∈ ws
    · simp [h1, (cmp?_eq_iff x x hx).mpr rfl, Tri.ofBool]
    · by_cases h2 : Value.null ∈ ws <;> simp [h1, h2, Tri.toValue]

/-- … so `x NOT IN (… NULL …)` is never TRUE on that code path either, whatever was evaluated before. -/
theorem insub_probe_notIn_null (x : Value) (ws : List Value) (h : Value.null ∈ ws) :
    notInTruth x ws ≠ .t := by
  simp only [notInTruth, insub_probe_correct, truth_toValue]
  exact notIn_null_never_true x ws h

/-- A scan by one `InSubquery` object returns on every row the definition's value of that row. -/
theorem insub_scan_eq_spec (calls : List (Value × List Value)) :
    probeRows calls = calls.map (fun c => (inTri c.1 c.2).toValue) := by
  simp [probeRows, insub_probe_correct]

/-- Results of successive calls are independent: the values on the rows of a scan do not depend on
the rows scanned before them … -/
theorem insub_scan_append (a b : List (Value × List Value)) :
    probeRows (a ++ b) = probeRows a ++ probeRows b := by
  simp [probeRows]

/-- … nor on the scan order. -/
theorem insub_scan_perm (a b : List (Value × List Value)) (h : a.Perm b) :
    (probeRows a).Perm (probeRows b) := h.map _

/-- The same for the definition itself: the value of a select item / the decision of a WHERE on a
row does not depend on the other rows of the input (here: of a base table split in two). -/
theorem eval_rows_independent (db : Db) (env : Env) (p : Expr) (es : List Expr) (l₁ l₂ : List Row) (n : Nat)
    (t : Table) (ht : db[n]? = some t) (hrows : t.rows = l₁ ++ l₂) :
    evalQ db env (.filter p (.table n)) =
        l₁.filter (fun r => (evalE db (r :: env) p).truth = .t) ++ l₂.filter (fun r => (evalE db (r :: env) p).truth = .t)
    ∧ evalQ db env (.project es (.table n)) =
        l₁.map (fun r => evalEs db (r :: env) es) ++ l₂.map (fun r => evalEs db (r :: env) es) := by
  simp [evalQ, ht, hrows]

/-- The excluded class is really excluded by the model: a node that keeps "the set has a NULL" from
its first miss returns different values than `probeRows` … -/
theorem memo_scan_differs :
    ∃ calls, probeMemoRows none calls ≠ probeRows calls :=
  ⟨[(.int 1, [.int 5]), (.int 2, [.null, .int 7])], by decide +kernel⟩

/-- … and makes `x NOT IN (… NULL …)` TRUE on the second row. -/
theorem memo_scan_notIn_null_true :
    ∃ c₁ c₂ : Value × List Value, Value.null ∈ c₂.2
      ∧ ((probeMemoRows none [c₁, c₂]).getD 1 .null).truth = .f
      ∧ notInTruth c₂.1 c₂.2 ≠ .t :=
  ⟨(.int 1, [.int 5]), (.int 2, [.null, .int 7]), by decide +kernel, by decide +kernel, by decide +kernel⟩

section CorrFacts
open Gms.Generated.C02

def toOpt : Value → Option Int
  | .int i => some i
  | _ => none

/-- Inner table `u(a, b)`: group `b` holds the members of `corrSets[b]`. -/
def fU : Table :=
  ⟨2, (corrSets.zipIdx).flatMap (fun sb => sb.1.map (fun a => [optV a, Value.int sb.2]))⟩

/-- Outer row `(id, a, b)`: `a = corrX[id / 8]`, `b = id % 8`. -/
def fRow (id : Nat) : Row := [.int id, optV ((corrX[id / corrSets.length]?).getD none), .int (id % corrSets.length : Nat)]

def fDb : Db := [⟨3, []⟩, fU]

/-- `SELECT u.a FROM u WHERE u.b = t.b` -/
def fSub : Query := .project [.col 0 0] (.filter (.cmp .eq (.col 0 1) (.col 1 2)) (.table 1))
/-- `t.a IN (SELECT u.a FROM u WHERE u.b = t.b)` -/
def fIn : Expr := .inSub (.col 0 1) fSub
/-- `EXISTS (SELECT u.a FROM u WHERE u.b = t.b AND u.a = t.a)` -/
def fExists : Expr :=
  .exists (.project [.col 0 0] (.filter (.and (.cmp .eq (.col 0 1) (.col 1 2)) (.cmp .eq (.col 0 0) (.col 1 1))) (.table 1)))
/-- `(SELECT MAX(u.a) FROM u WHERE u.b = t.b)` -/
def fMax : Expr := .scalar (.group [] [.max] [.col 0 0] (.filter (.cmp .eq (.col 0 1) (.col 1 2)) (.table 1)))

/-- What the SQL definition gives to outer row `id` ALONE (only that row on the environment). -/
def specRow (id : Nat) : Nat × Option Int × Option Int × Option Int :=
  (id, toOpt (evalE fDb [fRow id] fIn), toOpt (evalE fDb [fRow id] fExists), toOpt (evalE fDb [fRow id] fMax))

def specKeep (id : Nat) : Bool := (evalE fDb [fRow id] (.not fIn)).truth = .t

/-- The definition's table over the 24 rows (a `def`, so that `runOk` does not evaluate the definition again for each run). -/
def specTable : List (Nat × Option Int × Option Int × Option Int) := (List.range 24).map specRow
def keepTable : List Bool := (List.range 24).map specKeep

def runOk (run : List (Nat × Option Int × Option Int × Option Int) × List Nat) : Bool :=
  let ids := run.1.map (·.1)
  decide (run.1 = ids.map (fun id => (specTable[id]?).getD (id, none, none, none)))
    && decide (run.2 = ids.filter (fun id => (keepTable[id]?).getD false))
    && decide (ids.length = 24) && (List.range 24).all (fun i => ids.contains i)

/-- The set of the numbers of a list, as a bit mask (evaluated by the kernel's binary arithmetic). -/
def bitsOf (ids : List Nat) : Nat := ids.foldl (fun acc i => acc ||| 1 <<< i) 0

theorem testBit_foldl_or (ids : List Nat) (acc j : Nat) :
    (ids.foldl (fun acc i => acc ||| 1 <<< i) acc).testBit j = (acc.testBit j || ids.contains j) := by
  induction ids generalizing acc with
  | nil => simp
  | cons i ids ih =>
    rw [List.foldl_cons, ih, Nat.testBit_or, Nat.one_shiftLeft, Nat.testBit_two_pow, List.contains_cons, Bool.or_assoc]
    congr 2
    exact decide_eq_decide.mpr eq_comm

theorem all_contains_of_bitsOf (ids : List Nat) (n : Nat) (h : bitsOf ids = 2 ^ n - 1) :
    (List.range n).all (fun i => ids.contains i) = true := by
  rw [List.all_eq_true]
  intro i hi
  have := testBit_foldl_or ids 0 i
  rw [← bitsOf, h, Nat.testBit_two_pow_sub_one, Nat.zero_testBit, Bool.false_or] at this
  rw [← this]; simpa using hi

/-- **Rows are independent in the compiled engine.** In each of the 72 scan orders (every rotation
of three strides: each of the 24 rows is evaluated first in some order) every row carries, for
`a IN (correlated)`, `EXISTS (correlated)` and `(SELECT MAX … correlated)`, exactly the value the SQL
definition gives to that row alone, and `WHERE a NOT IN (correlated)` keeps exactly the rows whose
own `NOT IN` is TRUE, in scan order; each order is a permutation of the 24 rows, and the domain is
the one documented (3 probe values × the 8 member sets over {NULL,0,1}). -/
theorem facts_corr_rows_independent :
    corrRuns.all runOk = true
    ∧ corrRuns.length = 72
    ∧ corrX = [none, some 0, some 1]
    ∧ corrSets = [[], [none], [some 0], [some 1], [none, some 0], [none, some 1], [some 0, some 1], [none, some 0, some 1]]
    ∧ (List.range 24).all (fun i => (corrRuns.map (fun run => (run.1.map (·.1)).head?)).contains (some i)) = true := by
  refine ⟨?_, by decide +kernel, rfl, rfl, by decide +kernel⟩
  -- `runOk` with its last conjunct (quadratic, slow to evaluate) stated with the bit mask of the ids instead
  have h : corrRuns.all (fun run =>
      let ids := run.1.map (·.1)
      decide (run.1 = ids.map (fun id => (specTable[id]?).getD (id, none, none, none)))
        && decide (run.2 = ids.filter (fun id => (keepTable[id]?).getD false))
        && decide (ids.length = 24) && decide (bitsOf ids = 2 ^ 24 - 1)) = true := by decide +kernel
  rw [List.all_eq_true] at h ⊢
  intro run hrun
  have := h run hrun
  simp only [Bool.and_eq_true, decide_eq_true_eq] at this
  simp only [runOk, Bool.and_eq_true, decide_eq_true_eq]
  exact ⟨this.1, all_contains_of_bitsOf _ 24 this.2⟩

/-- The `IN` column of the table is also what the Impl model `probe` returns (as it must, by
`insub_probe_correct`): left value and member set of row `id` read off the domain. -/
theorem facts_corr_probe :
    corrRuns.all (fun run =>
      decide (run.1.map (fun r => r.2.1) =
        (probeRows (run.1.map (fun r =>
          (optV ((corrX[r.1 / 8]?).getD none), ((corrSets[r.1 % 8]?).getD []).map optV)))).map toOpt)) = true := by
  decide +kernel

/-- The table discriminates the excluded class: on some dumped scan order the memoising variant
returns a different column than the engine did. -/
theorem facts_corr_discriminates :
    corrRuns.any (fun run =>
      decide (run.1.map (fun r => r.2.1) ≠
        (probeMemoRows none (run.1.map (fun r =>
          (optV ((corrX[r.1 / 8]?).getD none), ((corrSets[r.1 % 8]?).getD []).map optV)))).map toOpt)) = true := by
  decide +kernel

end CorrFacts

/-- Outside the listed regions the Impl model of the engine *is* the definition. -/
theorem impl_eq_spec_partial (db : Db) (feats : List String) (q : Query)
    (h : region feats q = none) : implEval db feats q = eval db q := by
  simp [implEval, implRewrite, h]

/-
Full statement (false on the unchanged tree, see the witnesses below):
  theorem impl_eq_spec (db feats q) : implEval db feats q = eval db q
-/

def wT0 : Table := ⟨2, [[.int 1, .int 2], [.int 1, .null], [.null, .int 3], [.int 2, .int 2], [.int 1, .int 2]]⟩
def wT1 : Table := ⟨1, [[.int 5], [.int 6]]⟩
def wDb : Db := [wT0, wT1, ⟨1, []⟩]

/-- `x NOT IN (SELECT NULL FROM t1)` is TRUE in the engine for every non-NULL `x`. -/
def wNotInNull : Query := .filter (.not (.inSub (.col 0 0) (.project [.lit .null] (.table 1)))) (.table 0)

theorem finding_in_subquery_null_literal :
    ∃ db q, region [] q = some .inSubqueryNullLiteral ∧ implEval db [] q ≠ eval db q :=
  ⟨wDb, wNotInNull, by decide +kernel, by decide +kernel⟩

/-- `WHERE EXISTS (SELECT … FROM t1 LEFT JOIN t2 ON 0)` is FALSE in the engine although the left
join has a row for every row of t1. -/
def wExistsLeft : Query := .filter (.exists (.join .left (.lit (.int 0)) (.table 1) (.table 2))) (.table 0)

theorem finding_exists_left_join_const_false :
    ∃ db q, region [] q = some .existsLeftJoinConstFalse ∧ implEval db [] q ≠ eval db q :=
  ⟨wDb, wExistsLeft, by decide +kernel, by decide +kernel⟩

/-- `… UNION ALL … ORDER BY 1 DESC LIMIT 3 OFFSET 2`: the engine skips two rows *before* sorting. -/
def wSetopOffset : Query :=
  .limit 3 2 (.orderBy [.col 0 0] [true] (.setop .union true (.project [.col 0 1] (.table 0)) (.table 1)))

theorem finding_setop_offset_before_sort :
    ∃ db q, region ["setop_offset"] q = some .setopOffsetBeforeSort
      ∧ implEval db ["setop_offset"] q ≠ eval db q :=
  ⟨wDb, wSetopOffset, by decide +kernel, by decide +kernel⟩

/-- A database with NULLs and duplicates on which the laws above have content. -/
example : eval wDb (.filter (.not (.inSub (.col 0 0) (.project [.col 0 1] (.table 0)))) (.table 0)) = [] := by
  decide +kernel  -- the subquery returns a NULL: NOT IN keeps nothing

example : eval wDb (.filter (.not (.inSub (.col 0 0) (.table 2))) (.table 0)) = wT0.rows := by
  decide +kernel  -- empty subquery: NOT IN keeps everything, even the NULL row

example : eval wDb (.join .left (.cmp .eq (.col 0 0) (.col 0 2)) (.table 0) (.table 1))
    = wT0.rows.map (· ++ [.null]) := by decide +kernel  -- no partner anywhere: every row padded

example : eval wDb (.group [.col 0 0] [.countStar, .sum] [.lit (.int 1), .col 0 1] (.table 0))
    = [[.int 1, .int 3, .int 4], [.null, .int 1, .int 3], [.int 2, .int 1, .int 2]] := by decide +kernel

example : eval wDb (.setop .except true (.project [.col 0 0] (.table 0)) (.project [.lit (.int 1)] (.table 1)))
    = [[.null], [.int 2], [.int 1]] := by decide +kernel  -- 3 − 2 = 1 occurrence of 1 survives

example : eval wDb (.limit 2 1 (.orderBy [.col 0 0, .col 0 1] [true, false] (.distinct (.table 0))))
    = [[.int 1, .null], [.int 1, .int 2]] := by decide +kernel

example : ∃ r, evalQ wDb [r] (.filter (.cmp .eq (.col 0 0) (.col 1 0)) (.table 0)) ≠
    evalQ wDb [] (.filter (.cmp .eq (.col 0 0) (.col 1 0)) (.table 0)) :=
  ⟨[.int 1], by decide +kernel⟩  -- the "uncorrelated" hypothesis of the semi-join theorems is not vacuous

end Gms.C02
