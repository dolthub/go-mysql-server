/-
C52 — Geometry values round-trip through WKT/WKB and predicates agree.

Model: Gms/Model/Wkb.lean (WKB / EWKB codec of sql/types, ST_AsWKB / ST_GeomFromWKB, axis swap,
bounding boxes and the spatial-index filter) and Gms/Model/WkbTyped.lean (the typed constructors
ST_PointFromWKB … ST_GeomCollFromWKB). WKT and the exact spatial predicates are outside the
model (model-free oracles in harness/cmd/c52).
-/
import Gms.Model.Wkb
import Gms.Model.WkbTyped
import Gms.Lemmas.Basics
import Gms.Generated.C52

namespace Gms.Wkb

@[simp] theorem e32_length (big : Bool) (n : Nat) : (e32 big n).length = 4 := by
  cases big <;> rfl

@[simp] theorem wPt_length (big : Bool) (p : Pt) : (wPt big p).length = 16 := by
  cases big <;> rfl

@[simp] theorem wHdr_length (big : Bool) (t : Nat) : (wHdr big t).length = 5 := by
  simp [wHdr]

/-! The data of each type fills the buffer its `Serialize` asks `AllocateGeoTypeBuffer` for. -/

theorem wLine_length (big : Bool) (ps : List Pt) : (wLine big ps).length = Sz.bytes ⟨ps.length, 1, 0⟩ := by
  rw [wLine, List.length_append, e32_length]
  induction ps with
  | nil => rfl
  | cons p ps ih =>
    simp only [Sz.bytes, List.flatMap_cons, List.length_append, List.length_cons, wPt_length] at ih ⊢; omega

theorem wPoly_length (big : Bool) (ls : List (List Pt)) :
    (wPoly big ls).length = Sz.bytes ⟨sumLen ls, ls.length + 1, 0⟩ := by
  rw [wPoly, List.length_append, e32_length]
  induction ls with
  | nil => rfl
  | cons l ls ih =>
    simp only [Sz.bytes, List.flatMap_cons, List.length_append, List.length_cons, wLine_length, sumLen,
      List.map_cons, List.sum_cons] at ih ⊢
    omega

theorem wMPoint_length (big : Bool) (ps : List Pt) :
    (wMPoint big ps).length = Sz.bytes ⟨ps.length, 1, ps.length⟩ := by
  rw [wMPoint, List.length_append, e32_length]
  induction ps with
  | nil => rfl
  | cons p ps ih =>
    simp only [Sz.bytes, List.flatMap_cons, List.length_append, List.length_cons, wHdr_length, wPt_length] at ih ⊢
    omega

theorem wMLine_length (big : Bool) (ls : List (List Pt)) :
    (wMLine big ls).length = Sz.bytes ⟨sumLen ls, ls.length + 1, ls.length⟩ := by
  rw [wMLine, List.length_append, e32_length]
  induction ls with
  | nil => rfl
  | cons l ls ih =>
    simp only [Sz.bytes, List.flatMap_cons, List.length_append, List.length_cons, wHdr_length, wLine_length, sumLen,
      List.map_cons, List.sum_cons] at ih ⊢
    omega

theorem wMPoly_length (big : Bool) (ps : List (List (List Pt))) :
    (wMPoly big ps).length = Sz.bytes ⟨(ps.map sumLen).sum, (ps.map List.length).sum + ps.length + 1, ps.length⟩ := by
  rw [wMPoly, List.length_append, e32_length]
  induction ps with
  | nil => rfl
  | cons p ps ih =>
    simp only [Sz.bytes, List.flatMap_cons, List.length_append, List.length_cons, wHdr_length, wPoly_length,
      List.map_cons, List.sum_cons] at ih ⊢
    omega

theorem Sz.bytes_add (a b : Sz) : (a.add b).bytes = a.bytes + b.bytes := by
  simp only [Sz.add, Sz.bytes, Nat.mul_add]; ac_rfl

theorem Sz.bytes_hdr_succ (p c h : Nat) : Sz.bytes ⟨p, c, h + 1⟩ = Sz.bytes ⟨p, c, h⟩ + 5 := by
  simp only [Sz.bytes]; omega

theorem calcItem_bytes (g : Geom) : (calcItem g).bytes = (allocSz g).bytes + 5 := by
  cases g <;> exact Sz.bytes_hdr_succ _ _ _

mutual
theorem alloc_exact_any (big : Bool) : ∀ g : Geom, (wData big g).length = (allocSz g).bytes
  | .point p => wPt_length big p
  | .line ps => wLine_length big ps
  | .poly ls => wPoly_length big ls
  | .mpoint ps => wMPoint_length big ps
  | .mline ls => wMLine_length big ls
  | .mpoly ps => wMPoly_length big ps
  | .coll gs => by
    simp only [wData, allocSz, Sz.bytes, List.length_append, e32_length, items_len big gs]; omega
theorem items_len (big : Bool) : ∀ gs : List Geom, (wItems big gs).length = (calcSize gs).bytes
  | [] => rfl
  | g :: gs => by
    simp only [wItems, calcSize, Sz.bytes_add, calcItem_bytes, List.length_append, wHdr_length,
      alloc_exact_any big g, items_len big gs]
    omega
end

theorem item_len (big : Bool) : ∀ g : Geom, (wData big g).length + 5 = (calcItem g).bytes := by
  intro g; rw [calcItem_bytes, alloc_exact_any]

/-! `convert` and `fromWKB` pass the buffer length to `dColl` as fuel: it is enough, since every level of nesting writes
at least its count. -/

mutual
theorem depth_le (big : Bool) : ∀ g : Geom, depth g ≤ (wData big g).length
  | .coll gs => by
    have := depthL_le big gs
    simp only [depth, wData, List.length_append, e32_length]; omega
  | .point _ | .line _ | .poly _ | .mpoint _ | .mline _ | .mpoly _ => by simp [depth]
theorem depthL_le (big : Bool) : ∀ gs : List Geom, depthL gs ≤ (wItems big gs).length
  | [] => by simp [depthL]
  | g :: gs => by
    have h1 := depth_le big g
    have h2 := depthL_le big gs
    simp only [depthL, wItems, List.length_append]; omega
end

theorem typeId_lt (g : Geom) : typeId g < 4294967296 := by
  cases g <;> simp [typeId]

theorem u32_e32 (big : Bool) (n : Nat) (rest : List Byte) :
    u32 big (e32 big n ++ rest) = n % 4294967296 := by
  have hb (k : Nat) : (UInt8.ofNat (k % 256)).toNat = k % 256 := by simp
  cases big <;> simp only [e32, u32, if_true, Bool.false_eq_true, if_false, List.reverse_cons,
    List.reverse_nil, List.nil_append, List.cons_append, hb] <;> exact Basics.digits256 n

theorem drop4_e32 (big : Bool) (n : Nat) (l : List Byte) : (e32 big n ++ l).drop 4 = l :=
  List.drop_left' (e32_length big n)

theorem rdPt_wPt (big : Bool) (p : Pt) : rdPt big (wPt big p) = some p := by
  cases big <;> rfl

def Reads {α : Type} (dec : List Byte → Res (α × List Byte)) (enc : α → List Byte) (a : α) : Prop :=
  ∀ rest, dec (enc a ++ rest) = .ok (a, rest)

theorem dPointAt_wPt (big : Bool) (p : Pt) : Reads (dPointAt big) (wPt big) p := by
  intro rest
  simp only [dPointAt, List.take_left' (wPt_length big p), List.drop_left' (wPt_length big p), dPoint, rdPt_wPt]
  rw [if_neg (by simp)]

theorem hdr_wHdr (big : Bool) {t : Nat} (ht : t < 4294967296) (rest : List Byte) :
    hdr (wHdr big t ++ rest) = .ok (big, t, rest) := by
  rw [hdr, if_neg (by simp), List.drop_left' (wHdr_length big t)]
  cases big <;> simp [wHdr, u32_e32, Nat.mod_eq_of_lt ht]

theorem Reads.member {α : Type} {want : Nat} (hw : want < 4294967296) {data : Bool → List Byte → Res (α × List Byte)}
    {big : Bool} {enc : α → List Byte} {a : α} (h : Reads (data big) enc a) :
    Reads (dMember want data) (fun a => wHdr big want ++ enc a) a := by
  intro rest
  simp only [List.append_assoc, dMember, hdr_wHdr big hw, bne_self_eq_false, Bool.false_eq_true, if_false, h rest]

theorem rep_flatMap {α : Type} {item : List Byte → Res (α × List Byte)} {enc : α → List Byte} {as : List α}
    (h : ∀ a ∈ as, Reads item enc a) (rest : List Byte) :
    rep item as.length (as.flatMap enc ++ rest) = .ok (as, rest) := by
  induction as with
  | nil => rfl
  | cons a as ih =>
    simp only [List.flatMap_cons, List.length_cons, List.append_assoc, rep, h a List.mem_cons_self _,
      ih fun x hx => h x (List.mem_cons_of_mem a hx)]

/-- The shape every `Deserialize*` of a sequence has: length guard, read the count, skip it, loop.
`dLine big`, …, `dMPoly big`, `dColl (fuel + 1) big` unfold to this decoder, `wLine big`, …, `wMPoly big` to this
encoder; the collection's writer is brought to it by `wItems_eq_flatMap`. -/
theorem Reads.counted {α : Type} (big : Bool) {item : List Byte → Res (α × List Byte)} {enc : α → List Byte}
    {k : Nat} {as : List α} (hk : k ≤ (e32 big as.length ++ as.flatMap enc).length) (hn : as.length < 4294967296)
    (h : ∀ a ∈ as, Reads item enc a) :
    Reads (fun buf => if buf.length < k then .err else rep item (u32 big buf) (buf.drop 4))
      (fun as => e32 big as.length ++ as.flatMap enc) as := by
  intro rest
  have hg : ¬ (e32 big as.length ++ as.flatMap enc ++ rest).length < k := by
    rw [List.length_append]; omega
  simp only [if_neg hg]
  rw [List.append_assoc, u32_e32, drop4_e32, Nat.mod_eq_of_lt hn, rep_flatMap h]

/-- Where the guards come from: the count and one smallest member. -/
theorem le_counted_length {α : Type} {big : Bool} {enc : α → List Byte} (k : Nat) {as : List α} (h1 : 1 ≤ as.length)
    (h : ∀ a ∈ as, k ≤ (enc a).length) : 4 + k ≤ (e32 big as.length ++ as.flatMap enc).length := by
  cases as with
  | nil => cases h1
  | cons a as =>
    have := h a List.mem_cons_self
    simp only [List.length_append, e32_length, List.flatMap_cons]
    omega

theorem le_wLine_length (big : Bool) {ps : List Pt} {n : Nat} (h : n ≤ ps.length) :
    4 + 16 * n ≤ (wLine big ps).length := by
  rw [wLine_length]; simp only [Sz.bytes]; omega

theorem dLine_wLine (big : Bool) (ps : List Pt) (h : lineOK ps = true) : Reads (dLine big) (wLine big) ps := by
  simp only [lineOK, Bool.and_eq_true, decide_eq_true_eq] at h
  exact .counted big (le_wLine_length big h.1) h.2 fun p _ => dPointAt_wPt big p

theorem polyOK_lines (ls : List (List Pt)) (h : polyOK ls = true) : ∀ l ∈ ls, lineOK l = true := by
  simp only [polyOK, Bool.and_eq_true, decide_eq_true_eq, List.all_eq_true] at h
  intro l hl
  have := h.2 l hl
  simp [lineOK]; omega

theorem le_wPoly_length (big : Bool) (ls : List (List Pt)) (h : polyOK ls = true) : 72 ≤ (wPoly big ls).length := by
  simp only [polyOK, Bool.and_eq_true, decide_eq_true_eq, List.all_eq_true] at h
  exact le_counted_length (4 + 16 * 4) h.1.1 fun l hl => le_wLine_length big (h.2 l hl).1

theorem dPoly_wPoly (big : Bool) (ls : List (List Pt)) (h : polyOK ls = true) : Reads (dPoly big) (wPoly big) ls := by
  have hk := le_wPoly_length big ls h
  have hl := polyOK_lines ls h
  simp only [polyOK, Bool.and_eq_true, decide_eq_true_eq] at h
  exact .counted big hk h.1.2 fun l hm => dLine_wLine big l (hl l hm)

theorem dMPoint_wMPoint (big : Bool) (ps : List Pt) (h : wf (.mpoint ps) = true) :
    Reads (dMPoint big) (wMPoint big) ps := by
  simp only [wf, Bool.and_eq_true, decide_eq_true_eq] at h
  exact .counted big (le_counted_length (5 + 16) h.1 fun p _ => by simp) h.2
    fun p _ => (dPointAt_wPt big p).member (by decide)

theorem dMLine_wMLine (big : Bool) (ls : List (List Pt)) (h : wf (.mline ls) = true) :
    Reads (dMLine big) (wMLine big) ls := by
  simp only [wf, Bool.and_eq_true, decide_eq_true_eq, List.all_eq_true] at h
  refine .counted big (le_counted_length (5 + (4 + 16 * 2)) h.1.1 fun l hl => ?_) h.1.2
    fun l hl => (dLine_wLine big l (h.2 l hl)).member (by decide)
  have hok := h.2 l hl
  simp only [lineOK, Bool.and_eq_true, decide_eq_true_eq] at hok
  have := le_wLine_length big hok.1
  simp only [List.length_append, wHdr_length]; omega

theorem dMPoly_wMPoly (big : Bool) (ps : List (List (List Pt))) (h : wf (.mpoly ps) = true) :
    Reads (dMPoly big) (wMPoly big) ps := by
  simp only [wf, Bool.and_eq_true, decide_eq_true_eq, List.all_eq_true] at h
  refine .counted big (le_counted_length (5 + 72) h.1.1 fun p hp => ?_) h.1.2
    fun p hp => (dPoly_wPoly big p (h.2 p hp)).member (by decide)
  have := le_wPoly_length big p (h.2 p hp)
  simp only [List.length_append, wHdr_length]; omega

/-- The decoder of `g`'s type reads `g`'s data back. `dc` is the parameter of `dItem`: `DeserializeGeomColl` one unit of
fuel down. The point case is the member form `dPointAt` (`buf[:PointSize]`), which `dItem` calls; `dTop` calls `dPoint`.
The collection's encoder is `wData big (.coll gs)` as a function of `gs`; `Reads.counted` meets it after `wItems_eq_flatMap`. -/
def ReadsData (dc : Bool → List Byte → Res (List Geom × List Byte)) (big : Bool) : Geom → Prop
  | .point p => Reads (dPointAt big) (wPt big) p
  | .line ps => Reads (dLine big) (wLine big) ps
  | .poly ls => Reads (dPoly big) (wPoly big) ls
  | .mpoint ps => Reads (dMPoint big) (wMPoint big) ps
  | .mline ls => Reads (dMLine big) (wMLine big) ls
  | .mpoly ps => Reads (dMPoly big) (wMPoly big) ps
  | .coll gs => Reads (dc big) (fun gs => e32 big gs.length ++ wItems big gs) gs

theorem ReadsData.item {dc : Bool → List Byte → Res (List Geom × List Byte)} {big : Bool} {g : Geom}
    (h : ReadsData dc big g) : Reads (dItem dc) (fun g => wHdr big (typeId g) ++ wData big g) g := by
  intro rest
  rw [List.append_assoc, dItem, hdr_wHdr big (typeId_lt g)]
  cases g <;> simp only [typeId, wData, h rest] <;> rfl

theorem ReadsData.top {fuel : Nat} {big : Bool} {g : Geom} (h : ReadsData (dColl fuel) big g) :
    dTop fuel big (typeId g) (wData big g) = .ok g := by
  cases g with
  -- `DeserializePoint(val)`, not `DeserializePoint(buf[:PointSize])`: `h` is not what is asked
  | point p => simp only [dTop, typeId, wData, dPoint, rdPt_wPt, Res.map]
  | line _ | poly _ | mpoint _ | mline _ | mpoly _ | coll _ =>
    have := h []
    rw [List.append_nil] at this
    simp only [dTop, typeId, wData, this, Res.map]

theorem wItems_eq_flatMap (big : Bool) (gs : List Geom) :
    wItems big gs = gs.flatMap fun g => wHdr big (typeId g) ++ wData big g := by
  induction gs with
  | nil => rfl
  | cons g gs ih => rw [wItems, ih, List.flatMap_cons]

theorem wfL_eq_all (gs : List Geom) : wfL gs = gs.all wf := by
  induction gs with
  | nil => rfl
  | cons g gs ih => rw [wfL, ih, List.all_cons]

theorem depthL_le_iff {gs : List Geom} {n : Nat} : depthL gs ≤ n ↔ ∀ g ∈ gs, depth g ≤ n := by
  induction gs with
  | nil => simp [depthL]
  | cons g gs ih => simp [depthL, Nat.max_le, ih]

/-- The recursion is that of `dColl`: the members of a collection of depth `≤ fuel + 1` have depth `≤ fuel`. -/
theorem readsData_of_wf (big : Bool) : ∀ (fuel : Nat) (g : Geom), wf g = true → depth g ≤ fuel → ReadsData (dColl fuel) big g
  | _, .point p, _, _ => dPointAt_wPt big p
  | _, .line ps, hw, _ => dLine_wLine big ps hw
  | _, .poly ls, hw, _ => dPoly_wPoly big ls hw
  | _, .mpoint ps, hw, _ => dMPoint_wMPoint big ps hw
  | _, .mline ls, hw, _ => dMLine_wMLine big ls hw
  | _, .mpoly ps, hw, _ => dMPoly_wMPoly big ps hw
  | 0, .coll gs, _, hd => by cases hd
  | fuel + 1, .coll gs, hw, hd => by
    simp only [wf, wfL_eq_all, Bool.and_eq_true, decide_eq_true_eq, List.all_eq_true] at hw
    simp only [ReadsData, wItems_eq_flatMap]
    exact .counted big (by simp) hw.1 fun g hg =>
      (readsData_of_wf big fuel g (hw.2 g hg) (depthL_le_iff.mp (Nat.le_of_succ_le_succ hd) g hg)).item

/-- `DeserializeEWKBHeader` is the SRID followed by what `DeserializeWKBHeader` reads: `Convert` on
SRID ‖ `w` goes on as `EvalGeomFromWKB` does on `w`. -/
theorem convert_e32 (srid : Nat) (hs : srid < 4294967296) (w : List Byte) :
    convert (e32 false srid ++ w) = match hdr w with
      | .ok (big, typ, val) => (dTop (4 + w.length) big typ val).map fun g => (srid, g)
      | .err => .err
      | .crash => .crash := by
  have d (k : Nat) : (e32 false srid ++ w).drop (4 + k) = w.drop k := by
    rw [← List.drop_drop, drop4_e32]
  simp only [convert, hdr, List.length_append, e32_length, drop4_e32, d 1, d 5, u32_e32, Nat.mod_eq_of_lt hs]
  by_cases h : w.length < 5
  · rw [if_pos h, if_pos (by omega)]
  · rw [if_neg h, if_neg (by omega)]

theorem swapPt_swapPt (p : Pt) : swapPt (swapPt p) = p := rfl

theorem map_swapPt2 (ps : List Pt) : (ps.map swapPt).map swapPt = ps := by
  simp [List.map_map, Function.comp_def, swapPt_swapPt]

mutual
theorem swap_swap : ∀ g : Geom, swap (swap g) = g
  | .coll gs => by simp [swap, swapL_swapL gs]
  | .point _ | .line _ | .poly _ | .mpoint _ | .mline _ | .mpoly _ => by
    simp [swap, List.map_map, Function.comp_def, swapPt_swapPt]
theorem swapL_swapL : ∀ gs : List Geom, swapL (swapL gs) = gs
  | [] => rfl
  | g :: gs => by simp [swapL, swap_swap g, swapL_swapL gs]
end

theorem swapL_length : ∀ gs : List Geom, (swapL gs).length = gs.length
  | [] => rfl
  | g :: gs => by simp [swapL, swapL_length gs]

theorem lineOK_map (f : Pt → Pt) (ps : List Pt) : lineOK (ps.map f) = lineOK ps := by simp [lineOK]

theorem polyOK_map (f : Pt → Pt) (ls : List (List Pt)) : polyOK (ls.map (·.map f)) = polyOK ls := by
  simp [polyOK, List.all_map, Function.comp_def]

mutual
theorem wf_swap : ∀ g : Geom, wf (swap g) = wf g
  | .coll gs => by simp [swap, wf, swapL_length, wfL_swap gs]
  | .point _ | .line _ | .poly _ | .mpoint _ | .mline _ | .mpoly _ => by
    simp [swap, wf, List.all_map, Function.comp_def, lineOK_map, polyOK_map]
theorem wfL_swap : ∀ gs : List Geom, wfL (swapL gs) = wfL gs
  | [] => rfl
  | g :: gs => by simp [swapL, wfL, wf_swap g, wfL_swap gs]
end

theorem typeId_swap (g : Geom) : typeId (swap g) = typeId g := by cases g <;> rfl

theorem ivOverlap_iff {gMin gMax iMin iMax : Int} (hg : gMin ≤ gMax) (hi : iMin ≤ iMax) :
    ivOverlapImpl gMin gMax iMin iMax = true ↔ (iMin ≤ gMax ∧ gMin ≤ iMax) := by
  simp only [ivOverlapImpl, Bool.or_eq_true, Bool.and_eq_true, decide_eq_true_eq]
  omega

theorem ivOverlap_of_common {gMin gMax iMin iMax t : Int} (h1 : gMin ≤ t) (h2 : t ≤ gMax) (h3 : iMin ≤ t) (h4 : t ≤ iMax) :
    ivOverlapImpl gMin gMax iMin iMax = true :=
  (ivOverlap_iff (Int.le_trans h1 h2) (Int.le_trans h3 h4)).mpr ⟨Int.le_trans h3 h2, Int.le_trans h1 h4⟩

def bstep (b : Box) (v : Int × Int) : Box := ⟨min b.minX v.1, min b.minY v.2, max b.maxX v.1, max b.maxY v.2⟩

def Box.has (b : Box) (v : Int × Int) : Prop := b.minX ≤ v.1 ∧ v.1 ≤ b.maxX ∧ b.minY ≤ v.2 ∧ v.2 ≤ b.maxY

theorem Box.has_bstep_self (b : Box) (v : Int × Int) : (bstep b v).has v :=
  ⟨Int.min_le_right _ _, Int.le_max_right _ _, Int.min_le_right _ _, Int.le_max_right _ _⟩

theorem Box.has.step {b : Box} {v : Int × Int} (h : b.has v) (w : Int × Int) : (bstep b w).has v :=
  ⟨Int.le_trans (Int.min_le_left _ _) h.1, Int.le_trans h.2.1 (Int.le_max_left _ _),
    Int.le_trans (Int.min_le_left _ _) h.2.2.1, Int.le_trans h.2.2.2 (Int.le_max_left _ _)⟩

theorem Box.has_foldl (vs : List (Int × Int)) (b : Box) (v : Int × Int) (h : b.has v ∨ v ∈ vs) :
    (vs.foldl bstep b).has v := by
  induction vs generalizing b with
  | nil => simpa using h
  | cons w vs ih =>
    refine ih (bstep b w) ?_
    rcases h with h | h
    · exact .inl (h.step w)
    · rcases List.mem_cons.mp h with rfl | h
      · exact .inl (b.has_bstep_self v)
      · exact .inr h

theorem Box.has.overlap {g i : Box} {v : Int × Int} (hg : g.has v) (hi : i.has v) : boxOverlapImpl g i = true := by
  rw [boxOverlapImpl, Bool.and_eq_true]
  exact ⟨ivOverlap_of_common hg.1 hg.2.1 hi.1 hi.2.1, ivOverlap_of_common hg.2.2.1 hg.2.2.2 hi.2.2.1 hi.2.2.2⟩

theorem bboxOf_eq (big : Int) (vs : List (Int × Int)) : bboxOf big vs = vs.foldl bstep ⟨big, big, -big, -big⟩ := rfl

theorem lookup_eq_filter_scan {ρ : Type} (box : ρ → Box) (pred : ρ → Bool) (q : Box) (rows : List ρ) :
    lookup box pred q rows = (rows.filter pred).filter fun r => boxOverlapImpl (box r) q := by
  simp only [lookup, List.filter_filter, Bool.and_comm]

end Gms.Wkb

namespace Gms.C52
open Gms.Wkb

/-- Facts regenerated from the source on this run: field sizes, type ids, the SRID that swaps the
axes, the SRIDs of the build, the length guard of every `Deserialize*` function, the type → decoder
switches (collection members, `GeometryType.Convert`, `EvalGeomFromWKB`; note `buf[:PointSize]` for
a member point and the whole buffer for a top-level point), the writers (SRID and counts always
little-endian, byte-order flag 1), the readers' byte-order test (`== 0` ⇒ big-endian), the buffer
size formula, the swap rule of `AsWKB.Eval` / `EvalGeomFromWKB`, the `expectedGeomType` every typed `…FromWKB.Eval`
passes and the struct every `New…FromWKB` builds (`typedExpectedImpl`: `MPolyFromWKB` passes
`WKBPolyID`, `NewGeomCollFromWKB` builds an `MPolyFromWKB`), and the bounding-box test of the memory
spatial index. -/
theorem facts_match :
    Generated.C52.sizes = [4, 1, 4, 9, 5, 16, 4] ∧
    Generated.C52.typeIds = [0, 1, 2, 3, 4, 5, 6, 7] ∧
    Generated.C52.geoSpatialSRID = geoSRID ∧ Generated.C52.cartesianSRID = 0 ∧
    Generated.C52.supportedSRIDs = [0, 3857, 4326] ∧
    Generated.C52.lenGuards = ["DeserializeEWKBHeader < 9", "DeserializeWKBHeader < 5", "DeserializePoint != 16",
      "DeserializeLine < 36", "DeserializePoly < 72", "DeserializeMPoint < 25", "DeserializeMLine < 45",
      "DeserializeMPoly < 81", "DeserializeGeomColl < 4"] ∧
    Generated.C52.collSwitch = ["WKBPointID→DeserializePoint(buf[:PointSize])", "WKBLineID→DeserializeLine(buf)",
      "WKBPolyID→DeserializePoly(buf)", "WKBMultiPointID→DeserializeMPoint(buf)", "WKBMultiLineID→DeserializeMLine(buf)",
      "WKBMultiPolyID→DeserializeMPoly(buf)", "WKBGeomCollID→DeserializeGeomColl(buf)",
      "default→sql.ErrInvalidGISData.New(\"GeometryType.Convert\")"] ∧
    Generated.C52.convertSwitch = ["WKBPointID→DeserializePoint(val)", "WKBLineID→DeserializeLine(val)",
      "WKBPolyID→DeserializePoly(val)", "WKBMultiPointID→DeserializeMPoint(val)", "WKBMultiLineID→DeserializeMLine(val)",
      "WKBMultiPolyID→DeserializeMPoly(val)", "WKBGeomCollID→DeserializeGeomColl(val)",
      "default→sql.ErrInvalidGISData.New(\"GeometryType.Convert\")"] ∧
    Generated.C52.fromWkbSwitch = ["WKBPointID→DeserializePoint(buf)", "WKBLineID→DeserializeLine(buf)",
      "WKBPolyID→DeserializePoly(buf)", "WKBMultiPointID→DeserializeMPoint(buf)", "WKBMultiLineID→DeserializeMLine(buf)",
      "WKBMultiPolyID→DeserializeMPoly(buf)", "WKBGeomCollID→DeserializeGeomColl(buf)",
      "default→sql.ErrInvalidGISData.New"] ∧
    Generated.C52.body_WriteEWKBHeader = ["binary.LittleEndian.PutUint32(buf, srid)", "buf = buf[SRIDSize:]", "buf[0] = 1",
      "buf = buf[EndianSize:]", "binary.LittleEndian.PutUint32(buf, typ)"] ∧
    Generated.C52.body_WriteWKBHeader = ["buf[0] = 1", "buf = buf[EndianSize:]", "binary.LittleEndian.PutUint32(buf, typ)"] ∧
    Generated.C52.body_WriteCount = ["binary.LittleEndian.PutUint32(buf, count)"] ∧
    Generated.C52.body_AllocateGeoTypeBuffer =
      ["return make([]byte, EWKBHeaderSize+PointSize*numPoints+CountSize*numCounts+numWKBHeaders*WKBHeaderSize)"] ∧
    Generated.C52.body_readCount = ["if isBig { return binary.BigEndian.Uint32(buf) }", "return binary.LittleEndian.Uint32(buf)"] ∧
    Generated.C52.hdr_DeserializeEWKBHeader = ["srid = binary.LittleEndian.Uint32(buf)", "bigEndian = buf[0] == 0"] ∧
    Generated.C52.hdr_DeserializeWKBHeader = ["bigEndian = buf[0] == 0"] ∧
    Generated.C52.asWkbEval = ["if v.GetSRID() == types.GeoSpatialSRID { v = v.Swap() }", "return v.Serialize()[types.SRIDSize:]"] ∧
    Generated.C52.fromWkbOrder = ["order := srid == types.GeoSpatialSRID", "order = !order", "if order { geom = geom.Swap() }"] ∧
    Generated.C52.typedEval = ["GeomFromWKB→WKBUnknown", "PointFromWKB→WKBPointID", "LineFromWKB→WKBLineID",
      "PolyFromWKB→WKBPolyID", "MPointFromWKB→WKBMultiPointID", "MLineFromWKB→WKBMultiLineID", "MPolyFromWKB→WKBPolyID",
      "GeomCollFromWKB→WKBGeomCollID"] ∧
    Generated.C52.typedCtor = ["NewGeomFromWKB→GeomFromWKB", "NewPointFromWKB→PointFromWKB", "NewLineFromWKB→LineFromWKB",
      "NewPolyFromWKB→PolyFromWKB", "NewMPointFromWKB→MPointFromWKB", "NewMLineFromWKB→MLineFromWKB",
      "NewMPolyFromWKB→MPolyFromWKB", "NewGeomCollFromWKB→MPolyFromWKB"] ∧
    Generated.C52.bboxTest =
      ["xInt := (gMinX <= i.minX && i.minX <= gMaxX) || (gMinX <= i.maxX && i.maxX <= gMaxX) || (i.minX <= gMinX && gMinX <= i.maxX) || (i.minX <= gMaxX && gMaxX <= i.maxX)",
       "yInt := (gMinY <= i.minY && i.minY <= gMaxY) || (gMinY <= i.maxY && i.maxY <= gMaxY) || (i.minY <= gMinY && gMinY <= i.maxY) || (i.minY <= gMaxY && gMaxY <= i.maxY)",
       "if !(xInt && yInt)"] :=
  ⟨rfl, rfl, rfl, rfl, rfl, rfl, rfl, rfl, rfl, rfl, rfl, rfl, rfl, rfl, rfl, rfl, rfl, rfl, rfl, rfl, rfl⟩

/-- Every `Serialize` allocates exactly as many bytes as its `WriteData` writes — for all values,
any nesting (`GeomColl.CalculateSize` included): no write past the buffer, no padding. -/
theorem alloc_exact (g : Geom) : (wData false g).length = (allocSz g).bytes := alloc_exact_any false g

/-- `Serialize()` never panics and produces SRID ‖ flag 1 ‖ type ‖ data, for every value. -/
theorem serialize_total (srid : Nat) (g : Geom) :
    serialize srid g = .ok (e32 false srid ++ wHdr false (typeId g) ++ wData false g) := by
  simp [serialize, alloc_exact_any false g]

/-- The readers accept both byte orders: the big-endian (or little-endian) encoding of a
well-formed value decodes to the value. -/
theorem wkb_decode_any_order (big : Bool) (g : Geom) (fuel : Nat) (hw : wf g = true) (hd : depth g ≤ fuel) :
    dTop fuel big (typeId g) (wData big g) = .ok g :=
  (readsData_of_wf big fuel g hw hd).top

/-- **Binary round trip** (the stored form): `GeometryType.Convert(g.Serialize()) = g` with its
SRID, for every well-formed value of any nesting depth and any coordinates (64-bit patterns). -/
theorem wkb_roundtrip (srid : Nat) (g : Geom) (hs : srid < 4294967296) (hw : wf g = true) :
    ∃ b, serialize srid g = .ok b ∧ convert b = .ok (srid, g) := by
  refine ⟨_, serialize_total srid g, ?_⟩
  have hd : depth g ≤ 4 + (wHdr false (typeId g) ++ wData false g).length :=
    Nat.le_trans (depth_le false g) (by simp only [List.length_append]; omega)
  simp only [List.append_assoc, convert_e32 srid hs, hdr_wHdr false (typeId_lt g),
    wkb_decode_any_order false g _ hw hd, Res.map]

/-- Non-vacuity: a nested collection (point, empty collection, line) with SRID 4326. -/
example :
    let p : Pt := ⟨⟨0, 0, 0, 0, 0, 0, 240, 63⟩, ⟨0, 0, 0, 0, 0, 0, 0, 64⟩⟩
    let g := Geom.coll [.point p, .coll [], .line [p, swapPt p]]
    wf g = true ∧ (match convert (e32 false 4326 ++ wHdr false 7 ++ wData false g) with
      | .ok (s, .coll [.point q, .coll [], .line [q1, q2]]) => s == 4326 && q == p && q1 == p && q2 == swapPt p
      | _ => false) = true := by
  decide +kernel

/-- A collection member decodes from its own encoding whatever follows it (what the round
trip of a collection needs of each member, for both byte orders). -/
theorem member_roundtrip (big : Bool) (g : Geom) (fuel : Nat) (rest : List Byte) (hw : wf g = true) (hd : depth g ≤ fuel) :
    dItem (dColl fuel) ((wHdr big (typeId g) ++ wData big g) ++ rest) = .ok (g, rest) := (readsData_of_wf big fuel g hw hd).item rest

theorem fromWKBTyped_any (buf : List Byte) (srid : Nat) : fromWKBTyped 0 buf srid = fromWKB buf srid := by
  unfold fromWKBTyped fromWKB
  cases hdr buf with
  | ok r => obtain ⟨big, typ, val⟩ := r; simp
  | err => rfl
  | crash => rfl

theorem fromWKBTyped_wkb (t srid : Nat) (big : Bool) (g : Geom) (hw : wf g = true) (ht : t = 0 ∨ t = typeId g) :
    fromWKBTyped t (wHdr big (typeId g) ++ wData big g) srid = .ok (if srid = geoSRID then swap g else g) := by
  have hne : (t != 0 && typeId g != t) = false := by
    rcases ht with rfl | rfl <;> simp
  have hd : depth g ≤ (wHdr big (typeId g) ++ wData big g).length :=
    Nat.le_trans (depth_le big g) (by simp only [List.length_append]; omega)
  simp only [fromWKBTyped, hdr_wHdr big (typeId_lt g), hne, Bool.false_eq_true, if_false,
    wkb_decode_any_order big g _ hw hd, Res.map]

theorem asWKB_eq (srid : Nat) (g : Geom) :
    asWKB srid g = .ok (wHdr false (typeId (if srid = geoSRID then swap g else g)) ++
      wData false (if srid = geoSRID then swap g else g)) := by
  rw [asWKB, serialize_total, Res.map, List.append_assoc, drop4_e32]

theorem swap_involutive (g : Geom) : swap (swap g) = g := swap_swap g

/-- The bytes `ST_AsWKB` produces for `g` decode back to `g` under every `expectedGeomType` that is
`WKBUnknown` or `g`'s own type. -/
theorem typed_roundtrip_of (t srid : Nat) (g : Geom) (hw : wf g = true) (ht : t = 0 ∨ t = typeId g) :
    ∃ w, asWKB srid g = .ok w ∧ fromWKBTyped t w srid = .ok g := by
  refine ⟨_, asWKB_eq srid g, ?_⟩
  by_cases hs : srid = geoSRID
  · rw [if_pos hs, fromWKBTyped_wkb t srid false _ ((wf_swap g).trans hw) (typeId_swap g ▸ ht), if_pos hs, swap_swap]
  · rw [if_neg hs, fromWKBTyped_wkb t srid false g hw ht, if_neg hs]

/-- **SQL round trip**: `ST_GeomFromWKB(ST_AsWKB(g), srid(g)) = g` for every well-formed value,
including SRID 4326 where both functions swap the axes. -/
theorem sql_wkb_roundtrip (srid : Nat) (g : Geom) (hw : wf g = true) :
    ∃ w, asWKB srid g = .ok w ∧ fromWKB w srid = .ok g := by
  simpa only [fromWKBTyped_any] using typed_roundtrip_of 0 srid g hw (.inl rfl)

/-- Typed round trip as specified: `ST_<T>FromWKB(ST_AsWKB(g), srid) = g` for a well-formed `g` of type `T`. -/
theorem typed_spec_roundtrip (srid : Nat) (g : Geom) (hw : wf g = true) :
    ∃ w, asWKB srid g = .ok w ∧ typedFromWKBSpec (typeId g) w srid = .ok g :=
  typed_roundtrip_of (typeId g) srid g hw (Or.inr rfl)

/-
Full statement — FALSE for the code as it is (`finding_typed_fromwkb_expects_wrong_type`):
  ∀ srid g, wf g → ∃ w, asWKB srid g = .ok w ∧ typedFromWKB (typeId g) w srid = .ok g
-/

/-- Region: the SQL functions for MULTIPOLYGON and GEOMETRYCOLLECTION. -/
def rTypedWrong (t : Nat) : Bool := t == 6 || t == 7

theorem typedExpectedImpl_of_not_wrong (t : Nat) (h : rTypedWrong t = false) : typedExpectedImpl t = t := by
  unfold typedExpectedImpl
  split
  · cases h
  · cases h
  · rfl

/-- Typed round trip as implemented — guarded: not `ST_MPolyFromWKB` / `ST_GeomCollFromWKB`. -/
theorem typed_roundtrip_partial (srid : Nat) (g : Geom) (hw : wf g = true) (hr : rTypedWrong (typeId g) = false) :
    ∃ w, asWKB srid g = .ok w ∧ typedFromWKB (typeId g) w srid = .ok g := by
  unfold typedFromWKB
  rw [typedExpectedImpl_of_not_wrong _ hr]
  exact typed_roundtrip_of (typeId g) srid g hw (Or.inr rfl)

def isOk {α : Type} : Res α → Bool
  | .ok _ => true
  | _ => false

/-- Finding: `ST_MPolyFromWKB` rejects every multipolygon (it tests for `WKBPolyID`) and
`ST_GeomCollFromWKB` — which is built as an `MPolyFromWKB` — every collection; both accept polygons. -/
theorem finding_typed_fromwkb_expects_wrong_type :
    let p : Pt := ⟨⟨0, 0, 0, 0, 0, 0, 0, 0⟩, ⟨0, 0, 0, 0, 0, 0, 240, 63⟩⟩
    let ring : List Pt := [p, swapPt p, p, p]
    let mp := Geom.mpoly [[ring]]
    wf mp = true ∧ rTypedWrong (typeId mp) = true ∧
    (match asWKB 0 mp with
      | .ok w => isOk (typedFromWKBSpec 6 w 0) && !isOk (typedFromWKB 6 w 0)
      | _ => false) = true ∧
    (match asWKB 0 (Geom.coll []) with
      | .ok w => isOk (typedFromWKBSpec 7 w 0) && !isOk (typedFromWKB 7 w 0)
      | _ => false) = true ∧
    (match asWKB 0 (Geom.poly [ring]) with
      | .ok w => isOk (typedFromWKB 6 w 0) && isOk (typedFromWKB 7 w 0)
      | _ => false) = true := by
  decide +kernel

/-! ### Decoder safety — FALSE for the code as it is

Full statement (DESIGN `wkb_parse_total_safe`): `∀ b, convert b ≠ .crash` and `∀ b s, fromWKB b s ≠ .crash`.
The counted loops slice `buf[:PointSize]` / read the next member without checking what is left. -/

def isCrash {α : Type} : Res α → Bool
  | .crash => true
  | _ => false

/-- Region: the decoder runs out of bytes inside a counted loop. -/
def rPanics (b : List Byte) : Bool := isCrash (convert b)

/-- Spec: undecodable input is an error. -/
def specConvert (b : List Byte) : Res (Nat × Geom) :=
  match convert b with
  | .crash => .err
  | r => r

/-- Finding: `LINESTRING` that announces 3 points and carries 2 (EWKB, SRID 0). -/
theorem finding_decoder_panics_on_short_buffer :
    ∃ b, rPanics b = true ∧ isCrash (specConvert b) = false ∧ isCrash (fromWKB (b.drop 4) 0) = true :=
  ⟨[0, 0, 0, 0, 1, 2, 0, 0, 0, 3, 0, 0, 0] ++ List.replicate 32 0, by decide⟩

theorem convert_safe_partial (b : List Byte) (h : rPanics b = false) : isCrash (convert b) = false ∧ specConvert b = convert b := by
  unfold rPanics at h
  refine ⟨h, ?_⟩
  unfold specConvert
  cases hc : convert b <;> simp_all [isCrash]

/-- Every serialization of a well-formed value is outside the panic region. -/
theorem serialized_never_panics (srid : Nat) (g : Geom) (hs : srid < 4294967296) (hw : wf g = true) :
    ∃ b, serialize srid g = .ok b ∧ rPanics b = false := by
  obtain ⟨b, h1, h2⟩ := wkb_roundtrip srid g hs hw
  exact ⟨b, h1, by simp [rPanics, h2, isCrash]⟩

/-- The four-disjunct interval test of `spatialTableIter.Next` is exactly "the intervals share a
point", for proper intervals. -/
theorem interval_test_iff (gMin gMax iMin iMax : Int) (hg : gMin ≤ gMax) (hi : iMin ≤ iMax) :
    ivOverlapImpl gMin gMax iMin iMax = true ↔ ∃ t, gMin ≤ t ∧ t ≤ gMax ∧ iMin ≤ t ∧ t ≤ iMax := by
  refine ⟨fun h => ?_, fun ⟨_, h1, h2, h3, h4⟩ => ivOverlap_of_common h1 h2 h3 h4⟩
  obtain ⟨h1, h2⟩ := (ivOverlap_iff hg hi).mp h
  exact ⟨max gMin iMin, Int.le_max_left _ _, Int.max_le.mpr ⟨hg, h1⟩, Int.le_max_right _ _, Int.max_le.mpr ⟨h2, hi⟩⟩

/-- `BBox()` contains every vertex. -/
theorem bbox_contains (big : Int) (vs : List (Int × Int)) (v : Int × Int) (hv : v ∈ vs) :
    (bboxOf big vs).minX ≤ v.1 ∧ v.1 ≤ (bboxOf big vs).maxX ∧ (bboxOf big vs).minY ≤ v.2 ∧ v.2 ≤ (bboxOf big vs).maxY := by
  show (bboxOf big vs).has v
  rw [bboxOf_eq]
  exact Box.has_foldl vs _ v (.inr hv)

/-- Two geometries that share a vertex pass the index filter. -/
theorem shared_vertex_passes_filter (big : Int) (vs ws : List (Int × Int)) (v : Int × Int) (h1 : v ∈ vs) (h2 : v ∈ ws) :
    boxOverlapImpl (bboxOf big vs) (bboxOf big ws) = true :=
  Box.has.overlap (bbox_contains big vs v h1) (bbox_contains big ws v h2)

/-- Index lookup (bounding-box filter, then the predicate as left-over filter) returns exactly the
rows of the scan whenever the predicate implies bounding-box overlap — and only then. -/
theorem lookup_eq_scan_iff {ρ : Type} (box : ρ → Box) (pred : ρ → Bool) (q : Box) (rows : List ρ) :
    lookup box pred q rows = rows.filter pred ↔ ∀ r ∈ rows, pred r = true → boxOverlapImpl (box r) q = true := by
  rw [lookup_eq_filter_scan, List.filter_eq_self]
  simp only [List.mem_filter, and_imp]

/-- An empty geometry collection has the inverted box (Max, Max, -Max, -Max): as a query it passes
the filter for no row whose coordinates are below Max. -/
theorem empty_query_filters_everything (big : Int) (g : Box)
    (h2 : g.maxX < big) (h3 : -big < g.minX) :
    boxOverlapImpl g (bboxOf big []) = false := by
  have hx : ivOverlapImpl g.minX g.maxX big (-big) = false := by
    rw [Bool.eq_false_iff]
    intro h
    simp only [ivOverlapImpl, Bool.or_eq_true, Bool.and_eq_true, decide_eq_true_eq] at h
    omega
  simp [boxOverlapImpl, bboxOf, hx]

end Gms.C52
