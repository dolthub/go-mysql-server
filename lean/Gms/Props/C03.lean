/-
C03 — Index lookups return exactly the rows a full scan would.

What is proved here is the filter → range part of the property (sql/index_builder.go) and the
range → filter part of the in-memory backend (expression.NewRangeFilterExpr), over the range model
of C46: a key tuple lies in the ranges the builder produces iff every leaf predicate is TRUE on
it, for all literals (integer, decimal, out of the column type's range), and the backend's filter
expression is TRUE exactly on the members of a range. Between the two sits the analyzer
(sql/analyzer/costed_index_scan.go): AND / OR trees of leaves go through `rangeBuildAnd` (OR groups
intersected with `MySQLRangeCollection.Intersect`, a nil collection as the "nothing applied yet"
sentinel), `rangeBuildOr` and `buildRangeCollection`; `scan_sound_complete` says the resulting
collection is never nil and holds exactly the key tuples on which the filter is TRUE. The
engine-level statement (same WHERE on an indexed table and on an index-free copy) is the property
oracle of harness/cmd/c03.
Model: Gms/Model/IndexBuilder.lean, Gms/Model/IndexScan.lean. Helper lemmas: Gms/Lemmas/IndexBuilder.lean,
Gms/Lemmas/IndexScan.lean; `RemoveOverlappingRanges` over a set-like tree: Gms/Props/C46.lean.
-/
import Gms.Lemmas.IndexBuilder
import Gms.Lemmas.IndexScan
import Gms.Props.C46
import Gms.Generated.C03

namespace Gms.C03
open Gms.Range Gms.IndexBuilder Gms.IndexScan

/-- `rangeBuildDefaultLeaf` maps every `IndexScanOp` to the builder call the model's `Pred`
constructors stand for (`NullSafeEq` is `IsNull` or `Equals`, depending on the literal). -/
theorem facts_match_scanOps :
    Gms.Generated.C03.scanOpSwitch =
      [("Eq", ["Equals"]), ("NotEq", ["NotEquals"]), ("InSet", ["In"]), ("NotInSet", ["NotIn"]),
       ("Gt", ["GreaterThan"]), ("Gte", ["GreaterOrEqual"]), ("Lt", ["LessThan"]), ("Lte", ["LessOrEqual"]),
       ("IsNotNull", ["IsNotNull"]), ("IsNull", ["IsNull"]), ("NullSafeEq", ["IsNull", "Equals"])] :=
  rfl

/-- The four bound builders: which rounding they apply to the key and which column range they
build for an overflowing / underflowing / in-range key — the tables `potGreaterThan`,
`potGreaterOrEqual`, `potLessThan`, `potLessOrEqual` transliterate. -/
theorem facts_match_bounds :
    Gms.Generated.C03.boundSwitch =
      [("GreaterThan", "floor", ["Empty"], ["NotNull"], ["GreaterThan"]),
       ("GreaterOrEqual", "floor", ["Empty"], ["NotNull"], ["GreaterThan", "GreaterOrEqual"]),
       ("LessThan", "ceil", ["NotNull"], ["Empty"], ["LessThan"]),
       ("LessOrEqual", "ceil", ["NotNull"], ["Empty"], ["LessThan", "LessOrEqual"])] :=
  rfl

def kindCut (k : Nat) : Cut :=
  match k with
  | 0 => .belowNull | 1 => .aboveNull | 2 => .below 1 | 3 => .above 1 | _ => .aboveAll

def rtName : RangeType → String
  | .invalid => "Invalid" | .empty => "Empty" | .all => "All" | .greaterThan => "GreaterThan"
  | .greaterOrEqual => "GreaterOrEqual" | .lessThanOrNull => "LessThanOrNull"
  | .lessOrEqualOrNull => "LessOrEqualOrNull" | .closedClosed => "ClosedClosed" | .openOpen => "OpenOpen"
  | .openClosed => "OpenClosed" | .closedOpen => "ClosedOpen" | .equalNull => "EqualNull"

/-- The real `MySQLRangeColumnExpr.Type()` on all 25 pairs of cut kinds (dumped from the compiled
code on this run) is the model's `rangeType`. -/
theorem facts_match_rangeType :
    Gms.Generated.C03.rangeTypeTable.length = 25 ∧
    ∀ e ∈ Gms.Generated.C03.rangeTypeTable, rtName (rangeType ⟨kindCut e.1, kindCut e.2.1⟩) = e.2.2 := by
  decide +kernel

/-- `rangeBuildAnd` uses the nil collection as its sentinel exactly as `Gms.IndexScan.andStep` /
`rangeBuildAnd` transliterate: an OR group with nil ranges is skipped, the first non-nil group
initialises `ret`, and `ret == nil` after the loop means "no OR group": the leaf conjunction alone.
There is no other nil test on `ret` (none is needed: `intersect_sound_never_nil`). -/
theorem facts_match_andSentinel :
    Gms.Generated.C03.andNilTests =
      [("ranges == nil", "continue"), ("ret == nil", "ret = ranges; continue"),
       ("ret == nil", "return partBuilder.Ranges(b.ctx), nil")] :=
  rfl

def decCut (c : Nat × Int) : Cut :=
  match c.1 with
  | 0 => .belowNull | 1 => .aboveNull | 2 => .below c.2 | 3 => .above c.2 | _ => .aboveAll

def decColl (rs : List (List ((Nat × Int) × (Nat × Int)))) : List Range :=
  rs.map (fun r => r.map (fun c => ⟨decCut c.1, decCut c.2⟩))

/-- The real `MySQLRangeCollection.Intersect` on the 36 pairs of a grid of one-column collections
(mutually exclusive, overlapping, nested, with NULL, empty; dumped from the compiled code on this
run) never returns nil and is the model's `collectionIntersect` over the plain-set tree. -/
theorem facts_match_intersect :
    Gms.Generated.C03.intersectTable.length = 36 ∧
    ∀ e ∈ Gms.Generated.C03.intersectTable,
      e.2.2.1 = false ∧ collectionIntersect listTree 40 (decColl e.1) (decColl e.2.1) = .ok (decColl e.2.2.2) := by
  decide +kernel

/-- The rounding rules behind the builder: for an integer `x` and a literal `q = num/den`,
`x > q ↔ x > ⌊q⌋`, `x ≤ q ↔ x ≤ ⌊q⌋`, `x < q ↔ x < ⌈q⌉`, `x ≥ q ↔ x ≥ ⌈q⌉`, `x = q` only for whole `q`;
`⌈q⌉` is `⌊q⌋` or `⌊q⌋ + 1`. -/
theorem rounding (k : Lit) (x : Int) :
    (k.num < x * k.den ↔ k.floor < x) ∧ (x * k.den ≤ k.num ↔ x ≤ k.floor)
    ∧ (x * k.den < k.num ↔ x < k.ceil) ∧ (k.num ≤ x * k.den ↔ k.ceil ≤ x)
    ∧ (x * k.den = k.num ↔ (k.integral = true ∧ x = k.floor))
    ∧ k.ceil = (if k.integral then k.floor else k.floor + 1) :=
  ⟨floor_lt_iff k x, le_floor_iff k x, lt_ceil_iff k x, ceil_le_iff k x, eq_floor_iff k x, ceil_eq k⟩

example : (Lit.dec 25 1).floor = 2 ∧ (Lit.dec 25 1).ceil = 3 ∧ (Lit.dec (-25) 1).floor = -3
    ∧ (Lit.dec (-25) 1).ceil = -2 ∧ (Lit.dec 20 1).integral = true ∧ (Lit.dec 25 1).integral = false := by
  decide +kernel

/-- **Builder theorem (AND).** For an index of `n ≥ 1` integer columns and any sequence of leaf
predicates on its columns (any length, any literals): a key tuple (NULLs allowed) lies in the
ranges `MySQLIndexBuilder.Ranges` returns iff every predicate is TRUE on it — whether the builder
ended valid or "invalid" (impossible combination ⇒ the all-empty range). -/
theorem build_sound_complete (t : IntType) (n : Nat) (hn : 0 < n) (ops : List (Nat × Pred))
    (hops : ∀ op ∈ ops, op.1 < n ∧ op.2.WF) (v : List (Option Int)) (hv : v.length = n)
    (hty : ∀ x ∈ v, InType t x) :
    memAny (ranges (build t n ops)) (v.map pt) = ops.all (fun op => op.2.holds (v[op.1]?.getD none)) := by
  have call : ∀ op ∈ ops, ∀ b, (apply t b op.1 op.2).sat (v.map pt)
      = (b.sat (v.map pt) && op.2.holds (v[op.1]?.getD none)) := fun op ho b =>
    apply_sat t b op.1 op.2 (v.map pt) _ (getElem?_map_pt (hv ▸ (hops op ho).1)) (Basics.forall_getD (P := InType t) (d := none) hty trivial op.1) (hops op ho).2
  rw [ranges_sat _ _ (map_pt_ne_nil hn hv), build, foldl_sat ops call]
  exact (congrArg (· && _) (colsSat_new n (v.map pt) ((List.length_map pt).trans hv))).trans (Bool.true_and _)

/-- Non-vacuity: a 2-column conjunction with a fractional bound, an out-of-range bound and a
`<>`; two ranges come out (in the odometer's order). -/
example : ranges (build ⟨-128, 127⟩ 2 [(0, .ge (.dec 25 1)), (1, .neq (.int 0)), (0, .le (.int 300))]) =
    [[ColRange.greaterThan 2, ColRange.greaterThan 0], [ColRange.greaterThan 2, ColRange.lessThan 0]] := by
  decide +kernel

/-- `x < 1 AND x > 1` makes the builder invalid; the result is the all-empty range. -/
example : ranges (build ⟨-128, 127⟩ 2 [(0, .lt (.int 1)), (0, .gt (.int 1))]) = [[ColRange.empty, ColRange.empty]] := by
  decide +kernel

/-- **Leaf theorem.** For every comparison operator, every literal (integer, decimal, inside or
outside the column type's range) and every column value `x` (NULL or a key of the column type):
`x` lies in the ranges a single builder call produces iff the predicate is TRUE on `x`.
This is where inclusivity, rounding (`x > 2.5 ↔ x > 2`, `x >= 2.5 ↔ x > 2`, `x < 2.5 ↔ x < 3`,
`x = 2.5 ↔ False`) and Overflow/Underflow handling live. -/
theorem leaf_sound_complete (t : IntType) (p : Pred) (hwf : p.WF) (x : Option Int) (hx : InType t x) :
    memAny (ranges (apply t (B.new 1) 0 p)) [pt x] = p.holds x :=
  (build_sound_complete t 1 Nat.one_pos [(0, p)] (List.forall_mem_singleton.mpr ⟨Nat.one_pos, hwf⟩) [x] rfl
    (List.forall_mem_singleton.mpr hx)).trans (Bool.and_true _)

example : ranges (apply ⟨-128, 127⟩ (B.new 1) 0 (.gt (.dec 25 1))) = [[ColRange.greaterThan 2]]
    ∧ ranges (apply ⟨-128, 127⟩ (B.new 1) 0 (.ge (.dec 25 1))) = [[ColRange.greaterThan 2]]
    ∧ ranges (apply ⟨-128, 127⟩ (B.new 1) 0 (.lt (.dec 25 1))) = [[ColRange.lessThan 3]]
    ∧ ranges (apply ⟨-128, 127⟩ (B.new 1) 0 (.eq [.dec 25 1])) = [[ColRange.empty]]
    ∧ ranges (apply ⟨-128, 127⟩ (B.new 1) 0 (.gt (.int 300))) = [[ColRange.empty]]
    ∧ ranges (apply ⟨-128, 127⟩ (B.new 1) 0 (.lt (.int 300))) = [[ColRange.notNull]]
    ∧ ranges (apply ⟨-128, 127⟩ (B.new 1) 0 (.neq (.int 5))) = [[ColRange.greaterThan 5], [ColRange.lessThan 5]] := by
  decide +kernel

/-- **OR.** `rangeBuildOr` concatenates the ranges of its children and `buildRangeCollection`
passes them through `RemoveOverlappingRanges`: for every set-like tree, a non-error result
contains exactly the key tuples of either side (corollary of `Gms.C46.removeOverlapping_preserves`). -/
theorem or_sound_complete {T : Type} (ops : TreeOps T) (content : T → List Range)
    (hts : Gms.C46.TreeSet ops content) (fuel : Nat) (xs ys coll : List Range)
    (hx : ∀ r ∈ xs, Range.NonInv r) (hy : ∀ r ∈ ys, Range.NonInv r)
    (h : removeOverlappingRanges ops fuel (xs ++ ys) = .ok coll) (v : Tuple) (hv : v ≠ []) :
    memAny coll v = (memAny xs v || memAny ys v) := by
  rw [Gms.C46.removeOverlapping_mem hts h hv, memAny_append]

/-- A range with an inhabitant always has a valid `RangeType` (the `Invalid` classification only
hits ranges that `IsEmpty` reports empty), so `NewRangeFilterExpr` builds an expression for it. -/
theorem rangeType_invalid_isEmpty (r : ColRange) (h : rangeType r = .invalid) : r.isEmpty = true := by
  obtain ⟨lo, hi⟩ := r
  cases lo <;> cases hi <;> simp [rangeType] at h <;> simp [ColRange.isEmpty, Cut.compare]

/-- **Filter theorem.** The boolean expression `NewRangeFilterExpr` builds for a column range with
a valid type is TRUE on a column value (NULL included) exactly when the value is a member of the
range — so filtering rows by it returns the rows whose key the range denotes. -/
theorem rangeFilterExpr_eq_mem (r : ColRange) (x : Option Int) (hn : r.NonInv) (ht : rangeType r ≠ .invalid) :
    filterHolds r x = some (r.mem (pt x)) :=
  filterHolds_eq_mem r x ht

/-- **`MySQLRangeCollection.Intersect` never returns the nil collection** and denotes the
intersection: for non-nil well-formed collections of an index of `n ≥ 1` columns, over every
set-like tree, a non-error result is non-nil, well-formed, and contains exactly the key tuples of
both sides. When the two sides have nothing in common the result is the single all-empty range
(next `example`) — `rangeBuildAnd` relies on this: it uses `ret == nil` for "no OR group applied yet". -/
theorem intersect_sound_never_nil {T : Type} (ops : TreeOps T) (content : T → List Range)
    (hts : Gms.C46.TreeSet ops content) (n : Nat) (hn : 0 < n) (fuel : Nat) (xs ys coll : List Range)
    (hx : Good n xs) (hy : Good n ys) (h : collectionIntersect ops fuel xs ys = .ok coll) :
    coll ≠ [] ∧ Good n coll ∧ ∀ v : Tuple, v ≠ [] → memAny coll v = (memAny xs v && memAny ys v) :=
  have := collectionIntersect_sound ops content hts n hn fuel xs ys coll hx hy h
  ⟨this.1.ne, this.1, this.2⟩

/-- Disjoint collections: `{[1,1],[2,2]} ∩ {[5,5],[6,6]}` is the one all-empty range, not nil;
overlapping ones: `{[1,3]} ∩ {[2,5],[7,9]} = {[2,3]}`. -/
example : collectionIntersect listTree 20 [[ColRange.closed 1 1], [ColRange.closed 2 2]]
      [[ColRange.closed 5 5], [ColRange.closed 6 6]] = .ok [[ColRange.empty]]
    ∧ collectionIntersect listTree 20 [[ColRange.closed 1 3]] [[ColRange.closed 2 5], [ColRange.closed 7 9]]
      = .ok [[ColRange.closed 2 3]] := by
  decide +kernel

/-- **`rangeBuildAnd`.** The OR groups' ranges (each nil = not in the scan, or well-formed) folded
with the nil sentinel and `Intersect`, then intersected with the leaf conjunction's ranges: a
non-error result is non-nil and well-formed, and a key tuple lies in it iff it lies in the ranges of
every OR group that is in the scan and in the ranges of the leaf conjunction. -/
theorem and_sound_complete {T : Type} (ops : TreeOps T) (content : T → List Range)
    (hts : Gms.C46.TreeSet ops content) (n : Nat) (hn : 0 < n) (fuel : Nat)
    (ors : List (List Range)) (part coll : List Range)
    (hors : ∀ x ∈ ors, x = [] ∨ Good n x) (hp : Good n part)
    (h : rangeBuildAnd ops fuel (ors.map Res.ok) part = .ok coll) :
    Good n coll ∧ ∀ v : Tuple, v ≠ [] →
      memAny coll v = (ors.all (fun x => x.isEmpty || memAny x v) && memAny part v) :=
  have := rangeBuildAnd_sound ops content hts n hn fuel Res.ok
    (fun x hx _ hy => Res.ok.inj hy ▸ hors x hx) hp h
  ⟨this.1, fun v hv => this.2 v hv (groupMem · v) fun _ _ _ hy => Res.ok.inj hy ▸ rfl⟩

/-- A non-error result of a node is well-formed, not nil, and denotes the node's filter on the key
tuples of the column type. -/
def NodeSound {T : Type} (ops : TreeOps T) (fuel : Nat) (t : IntType) (n : Nat) (e : E) : Prop :=
  ∀ x, nodeRanges ops fuel t n e = .ok x →
    Good n x ∧ ∀ v : List (Option Int), v.length = n → (∀ q ∈ v, InType t q) → memAny x (v.map pt) = e.holds v

/-- The tree induction. The OR groups of an AND spine are nodes below it, not children: the second
conjunct carries them along. -/
theorem node_sound {T : Type} (ops : TreeOps T) (content : T → List Range)
    (hts : Gms.C46.TreeSet ops content) (fuel : Nat) (t : IntType) (n : Nat) (hn : 0 < n) :
    ∀ (e : E), E.WF n e → NodeSound ops fuel t n e ∧ ∀ g ∈ orGroups e, NodeSound ops fuel t n g := by
  intro e
  induction e with
  | leaf c p =>
    refine fun hwf => ⟨fun x hx => ?_, fun _ h => nomatch h⟩
    rw [nodeRanges, Res.ok.injEq] at hx
    subst hx
    exact ⟨build_ranges_good t n _, fun v hv hty =>
      (build_sound_complete t n hn [(c, p)] (List.forall_mem_singleton.mpr hwf) v hv hty).trans (Bool.and_true _)⟩
  | or a b iha ihb =>
    intro hwf
    have node : NodeSound ops fuel t n (.or a b) := fun x hx => by
      rw [nodeRanges] at hx
      obtain ⟨xa, xb, ha, hb, rfl⟩ := orAppend_ok _ _ x hx
      obtain ⟨ga, ma⟩ := (iha hwf.1).1 xa ha
      obtain ⟨gb, mb⟩ := (ihb hwf.2).1 xb hb
      exact ⟨good_append ga gb, fun v hv hty => by rw [memAny_append, ma v hv hty, mb v hv hty]; rfl⟩
    exact ⟨node, List.forall_mem_singleton.mpr node⟩
  | and a b iha ihb =>
    intro hwf
    have groups : ∀ g ∈ orGroups (.and a b), NodeSound ops fuel t n g :=
      List.forall_mem_append.mpr ⟨(iha hwf.1).2, (ihb hwf.2).2⟩
    refine ⟨fun x hx => ?_, groups⟩
    rw [nodeRanges_and] at hx
    obtain ⟨g, m⟩ := rangeBuildAnd_sound ops content hts n hn fuel _
      (fun g hg y hy => .inr (groups g hg y hy).1) (build_ranges_good t n _) hx
    refine ⟨g, fun v hv hty => ?_⟩
    rw [m (v.map pt) (map_pt_ne_nil hn hv) (·.holds v) fun g hg y hy =>
        (groupMem_good (groups g hg y hy).1 _).trans ((groups g hg y hy).2 v hv hty),
      build_sound_complete t n hn _ (andLeaves_wf n (.and a b) hwf) v hv hty, holds_split (.and a b) v]

/-- **Index-scan theorem (AND / OR trees).** For an index of `n ≥ 1` integer columns, every filter
built from leaf predicates on its columns with AND / OR (any nesting, any literals), every set-like
tree: if `buildRangeCollection` returns a collection (no error from `RemoveOverlappingRanges`), the
collection is not nil and a key tuple (NULLs allowed) lies in one of its ranges iff the filter is
TRUE on it — in particular when two OR groups of a conjunction are mutually exclusive. -/
theorem scan_sound_complete {T : Type} (ops : TreeOps T) (content : T → List Range)
    (hts : Gms.C46.TreeSet ops content) (fuel : Nat) (t : IntType) (n : Nat) (hn : 0 < n)
    (e : E) (hwf : E.WF n e) (coll : List Range) (h : rootRanges ops fuel t n e = .ok coll)
    (v : List (Option Int)) (hv : v.length = n) (hty : ∀ x ∈ v, InType t x) :
    coll ≠ [] ∧ memAny coll (v.map pt) = e.holds v := by
  unfold rootRanges at h
  generalize hr : nodeRanges ops fuel t n e = r at h
  match r, hr, h with  -- in the error arms `h` is `error = .ok coll`
  | .ok rs, hr, h =>
    obtain ⟨g, m⟩ := (node_sound ops content hts fuel t n hn e hwf).1 rs hr
    refine ⟨(removeOverlapping_good ops content hts n fuel g h).ne, ?_⟩
    rw [Gms.C46.removeOverlapping_mem hts h (map_pt_ne_nil hn hv), m v hv hty]

/-- Non-vacuity, and the class of filter the theorem is about: two mutually exclusive OR groups plus
a further restriction of the same column, `(a = 1 OR a = 2) AND (a = 5 OR a = 6) AND a > 0` on a
TINYINT index: the result is the single all-empty range (no row), not the ranges of `a > 0`;
with overlapping groups `(a = 1 OR a = 2) AND (a = 2 OR a = 6) AND a > 0` it is `[2, 2]`. -/
example :
    rootRanges listTree 50 ⟨-128, 127⟩ 1
      (.and (.and (.or (.leaf 0 (.eq [.int 1])) (.leaf 0 (.eq [.int 2])))
                  (.or (.leaf 0 (.eq [.int 5])) (.leaf 0 (.eq [.int 6]))))
            (.leaf 0 (.gt (.int 0)))) = .ok [[ColRange.empty]]
    ∧ rootRanges listTree 50 ⟨-128, 127⟩ 1
      (.and (.and (.or (.leaf 0 (.eq [.int 1])) (.leaf 0 (.eq [.int 2])))
                  (.or (.leaf 0 (.eq [.int 2])) (.leaf 0 (.eq [.int 6]))))
            (.leaf 0 (.gt (.int 0)))) = .ok [[ColRange.closed 2 2]] := by
  decide +kernel

/-! ## Engine-level regions (decided on the generated query by harness/cmd/c03)

There is no Impl model of the engine; these are the query features under which the unchanged
engine returns different rows through the index and through a full scan (both replayed on the
real engine, see known_findings/C03.jsonl). -/

/-- Features of a generated `WHERE` the regions are defined on. -/
structure InList where
  negated : Bool                 -- NOT IN
  firstIsInteger : Bool          -- the first list element is an integer literal
  anyFractional : Bool           -- some element is a non-whole decimal
  allFractionalOrOutOfType : Bool -- every element is non-whole or outside the column type

/-- Region `scan_in_list_rounds_fractional`: the full scan's hashed `IN` evaluation converts the
list to the integer type of its first element and rounds `126.3` to `126`; the index builder
(`potEqualsOne`, proved exact above) drops the value. -/
def Region_scan_in_list_rounds_fractional (l : InList) : Bool := l.firstIsInteger && l.anyFractional

/-- Region `in_list_all_values_dropped`: `inValsToMySQLRangeColl` returns an empty collection for
`a IN (300)` / `a IN (1.5)` on a single-column integer index and the engine panics (nil pointer)
instead of returning no rows. -/
def Region_in_list_all_values_dropped (l : InList) : Bool := !l.negated && l.allFractionalOrOutOfType

/-- The exact semantics the index side implements for the witness of the first region: the key 126
is not in `IN (1, 126.3)` (the full scan of the real engine returns it). -/
theorem finding_scan_in_list_rounds_fractional :
    (Pred.eq [.int 1, .dec 1263 1]).holds (some 126) = false
    ∧ memAny (ranges (apply ⟨-128, 127⟩ (B.new 1) 0 (.eq [.int 1, .dec 1263 1]))) [pt (some 126)] = false := by
  decide +kernel

/-- The witness of the second region on the builder: all values dropped ⇒ the builder is invalid
and `Ranges` is the single all-empty range (the builder path is fine; the fast path for IN on a
one-column index returns an empty collection instead, which the caller does not survive). -/
theorem finding_in_list_all_values_dropped :
    ranges (apply ⟨-128, 127⟩ (B.new 1) 0 (.eq [.int 300])) = [[ColRange.empty]]
    ∧ ranges (apply ⟨-128, 127⟩ (B.new 1) 0 (.eq [.dec 15 1])) = [[ColRange.empty]] := by
  decide +kernel

end Gms.C03
