/-
C27 — Storing a value keeps it exactly or reports the change.

Model: Gms/Model/NumConv.lean (`convert` = `sql.Type.Convert` of the ten integer types, DECIMAL(p,s)
column / non-column, YEAR, BIT(n), path by path, defects included) and Gms/Model/Store.lean (the
insert-time policy of sql/rowexec/insert.go `insertIter.Next`, the Spec `acceptableConvert` /
`acceptableOutcome`, the regions); Gms/Model/StoreStr.lean (strings into integer columns: `convertIntR` =
`ConvertRound`, `insertStr`, the Spec `acceptableConvertS` / `acceptableStrOutcome`, the numeric part of the
Spec `acceptNum` / `acceptNumOutcome`, `policy`).

Property theorems (namespace Gms.C27), for ALL well-formed values (nil, Go integers of any width,
`*apd.Decimal` of any size and scale; strings where stated) and all modelled types:

* `convert_exact_or_reported_partial` — outside the three regions `Convert` stores the value exactly
  (rounded half away from zero to the type's scale, `InRange`, no error) when that value is storable,
  and otherwise reports (flag ≠ InRange or an error) and hands back the nearest storable value or none.
* `convert_idem_partial` — converting a converted value again returns it unchanged, `InRange`, no
  error (also for string inputs) — outside `unsigned_underflow_wraps`.
* `strict_stores_only_exact_partial`, `ignore_changed_implies_warned_partial`,
  `ignore_stores_nearest_partial`, `insert_acceptable_partial` — "never silently a different value"
  for `INSERT` and `INSERT IGNORE`.
* `strict_rejects_iff`, `ignore_never_rejects`, `ignore_warns_iff` — the policy itself, unguarded.
* the full statements are FALSE for the unchanged code: `finding_*` give concrete witnesses for each region.
* strings into the integer types: `string_intText_exact_or_reported_partial`, `string_insert_intText_partial`
  (integer text within int64, not BIGINT UNSIGNED: as the integer it denotes), `string_malformed_convert_partial`,
  `string_insert_malformed_partial` (anything else but a bare sign is reported); `finding_sign_only_or_empty_string_as_zero`,
  `finding_string_via_float64`, `finding_truncated_string_skips_range_check`.
* facts about the code the model transliterates: `facts_match_clamp`, `facts_match_dispatch`, `facts_match_policy`.
* binary strings (`[]byte`; Gms/Model/StoreBin.lean, Gms/Lemmas/StoreBinL.lean) into the integer types and
  BIT: `binary_exact_or_reported` (full strength), `binary_idem`, `binary_strict_never_silently_different`
  (unguarded), `binary_insert_acceptable_partial`, `finding_binary_out_of_range_stored_as_zero`; facts
  `facts_match_kinds`, `facts_match_bytes_branch`, `facts_match_binary`.
-/
import Gms.Model.Store
import Gms.Model.StoreStr
import Gms.Lemmas.StoreIdem
import Gms.Lemmas.StoreStrL
import Gms.Lemmas.StoreBinL
import Gms.Generated.C27

namespace Gms.Store
open Gms.Num Gms.Conv

/-- decodes a dumped flag `n`; `tbl` holds the numeric values of `sql.InRange`, `sql.Overflow`, `sql.Underflow`, in
this order, as dumped from the compiled code (`Generated.C27.flagValues`) -/
def flagOfNat (tbl : List Nat) (n : Nat) : Option Flag :=
  match tbl with
  | [a, b, c] => if n = a then some .inRange else if n = b then some .overflow else if n = c then some .underflow else none
  | _ => none

/-- one row of the run-time clamp table agrees with the model: `Convert(±(10^26-1))` of the compiled code -/
def clampRowOk (tbl : List Nat) (row : String × Int × Nat × Bool × Int × Nat × Bool) : Bool :=
  let (name, hv, hf, hok, tv, tf, tok) := row
  match ITy.ofName? name, flagOfNat tbl hf, flagOfNat tbl tf with
  | some it, some hf, some tf =>
    let big : Int := 10 ^ 26 - 1
    (convertInt it (.d big 0) == ⟨.int hv, hf, if hok then .none else .fatal⟩) &&
    (convertInt it (.d (-big) 0) == ⟨.int tv, tf, if tok then .none else .fatal⟩)
  | _, _, _ => false

/-- one cell of the run-time table of binary strings agrees with the model: `Convert([]byte)` of the compiled code -/
def binCellOk (tbl : List Nat) (it : ITy) (cell : List Nat × Int × Nat × Bool) : Bool :=
  let (bytes, v, f, ok) := cell
  match flagOfNat tbl f with
  | some f => convertIntB it (bytes.map UInt8.ofNat) == ⟨.int v, f, if ok then .none else .fatal⟩
  | none => false

def binRowOk (tbl : List Nat) (row : String × List (List Nat × Int × Nat × Bool)) : Bool :=
  match ITy.ofName? row.1 with
  | some it => row.2.all (binCellOk tbl it)
  | none => false

end Gms.Store

namespace Gms.C27
open Gms.Num Gms.Conv Gms.Store

/-- the Go kinds the two 64-bit converters dispatch on. The model covers nil, the ten integer kinds,
`*apd.Decimal`, `string`, `[]byte` (Gms/Model/StoreBin.lean) and `bool` (generated as the integers 0 / 1);
`time.Time`, `float32`, `float64` are outside the model (props/C27.json). A kind added to or removed
from the dispatch breaks this obligation. -/
theorem facts_match_kinds :
    Gms.Generated.C27.converterKinds = [
      ("convertToInt64", ["time.Time", "int", "int8", "int16", "int32", "int64", "uint", "uint8", "uint16", "uint32", "uint64",
        "float32", "float64", "*apd.Decimal", "[]byte", "string", "bool", "nil", "default"]),
      ("convertToUint64", ["time.Time", "int", "int8", "int16", "int32", "int64", "uint", "uint8", "uint16", "uint32", "uint64",
        "float32", "float64", "*apd.Decimal", "[]byte", "string", "bool", "nil", "default"])] := rfl

/-- the `[]byte` branch of `convertToInt64` / `convertToUint64`: the value is parsed by
`strconv.ParseInt / ParseUint` (base 16, 64 bits) from its hex text — the range check of the signed
parse is what refuses `2^63 … 2^64-1` — and any parse error yields `0, InRange, ErrInvalidValue`:
the branch `convertToInt64B` / `convertToUint64B` transliterate. `ConvertRound` hands anything but a
Go string to `Convert`. -/
theorem facts_match_bytes_branch :
    Gms.Generated.C27.bytesBranch = [
      ("convertToInt64", "strconv.ParseInt(hex.EncodeToString(v), 16, 64)",
        ["if err != nil", "return 0, sql.InRange, sql.ErrInvalidValue.New(v, t.String())", "return i, sql.InRange, nil"]),
      ("convertToUint64", "strconv.ParseUint(hex.EncodeToString(v), 16, 64)",
        ["if err != nil", "return 0, sql.InRange, sql.ErrInvalidValue.New(v, t.String())", "return i, sql.InRange, nil"])] ∧
    Gms.Generated.C27.roundDefers = ("_, isStr := v.(string)", "!isStr", "return t.Convert(ctx, v)") := ⟨rfl, rfl⟩

/-- what the *compiled* `Convert` returns (value, flag, error) for a table of binary strings — empty,
one to ten bytes, the 8-byte strings with the top bit set, leading zero bytes — equals the model's
`convertIntB`, for each of the ten integer types. -/
theorem facts_match_binary :
    Gms.Generated.C27.binTable.map (fun r => r.1) = ITy.all.map ITy.name ∧
    (∀ row ∈ Gms.Generated.C27.binTable, row.2.length ≥ 15) ∧
    ∀ row ∈ Gms.Generated.C27.binTable, binRowOk Gms.Generated.C27.flagValues row = true := by
  decide +kernel

/-- `sql.ConvertInRange` values and, for each of the ten integer types, what the *compiled* `Convert`
returns for `+(10^26-1)` and `-(10^26-1)` (value, flag, error) equal the model's `convertInt` — including the
wrapped results of the unsigned types (MEDIUMINT UNSIGNED: `2^24`, beyond the type). -/
theorem facts_match_clamp :
    Gms.Generated.C27.flagValues.length = 3 ∧
    Gms.Generated.C27.clampTable.map (fun r => r.1) = ITy.all.map ITy.name ∧
    ∀ row ∈ Gms.Generated.C27.clampTable, clampRowOk Gms.Generated.C27.flagValues row = true := by
  decide +kernel

/-- `NumberTypeImpl_.Convert`: per base type the 64-bit converter it calls and its range guards with
the returned value and flag (go/ast) — the branches `convertInt` transliterates. -/
theorem facts_match_dispatch :
    Gms.Generated.C27.convertDispatch = [
      ("Int8", "convertToInt64", [("num > math.MaxInt8", "int8(math.MaxInt8)", "sql.Overflow"), ("num < math.MinInt8", "int8(math.MinInt8)", "sql.Underflow")]),
      ("Uint8", "convertToInt64", [("num > math.MaxUint8", "uint8(math.MaxUint8)", "sql.Overflow"), ("num < 0", "uint8(math.MaxUint8 + num + 1)", "sql.Underflow")]),
      ("Int16", "convertToInt64", [("num > math.MaxInt16", "int16(math.MaxInt16)", "sql.Overflow"), ("num < math.MinInt16", "int16(math.MinInt16)", "sql.Underflow")]),
      ("Uint16", "convertToInt64", [("num > math.MaxUint16", "uint16(math.MaxUint16)", "sql.Overflow"), ("num < 0", "uint16(math.MaxUint16 + num + 1)", "sql.Underflow")]),
      ("Int24", "convertToInt64", [("num > (1<<23 - 1)", "int32(1<<23 - 1)", "sql.Overflow"), ("num < (-1 << 23)", "int32(-1 << 23)", "sql.Underflow")]),
      ("Uint24", "convertToInt64", [("num >= (1 << 24)", "uint32(1<<24 - 1)", "sql.Overflow"), ("num < 0", "uint32(1<<24 + num)", "sql.Underflow")]),
      ("Int32", "convertToInt64", [("num > math.MaxInt32", "int32(math.MaxInt32)", "sql.Overflow"), ("num < math.MinInt32", "int32(math.MinInt32)", "sql.Underflow")]),
      ("Uint32", "convertToInt64", [("num > math.MaxUint32", "uint32(math.MaxUint32)", "sql.Overflow"), ("num < 0", "uint32(math.MaxUint32 + num + 1)", "sql.Underflow")]),
      ("Int64", "convertToInt64", []),
      ("Uint64", "convertToUint64", [])] := rfl

/-- `insertIter.Next`: a flag other than `InRange` becomes `ErrValueOutOfRange`, a truncation error
becomes `ErrInvalidValue`, any error rejects the row unless `i.ignore` (non-JSON), in which case
number types keep the converted value (`Zero()` when nil) — the conditions `insertStrict` /
`insertIgnore` model, in source order. -/
theorem facts_match_policy :
    Gms.Generated.C27.insertPolicy = [
      ("cErr == nil && inRange != sql.InRange", "cErr = sql.ErrValueOutOfRange.New(val, col.Type)"),
      ("sql.ErrTruncatedIncorrect.Is(cErr)", "cErr = sql.ErrInvalidValue.New(val, col.Type)"),
      ("cErr != nil", "if i.ignore && col.Type.Type() != query.Type_JSON { if sql.I"),
      ("i.ignore && col.Type.Type() != query.Type_JSON", "if sql.IsNumberType(col.Type) { if converted == nil { conver")] := rfl

/-- the three defect classes of `Convert` on numeric values -/
def ConvRegion (t : Ty) (v : Val) : Prop :=
  unsigned_underflow_wraps t v ∨ bit_negative_reinterpreted t v ∨ year_decimal_beyond_int64_becomes_zero t v

instance (t : Ty) (v : Val) : Decidable (ConvRegion t v) := by unfold ConvRegion; infer_instance

/-- Prop form, all types: outside the regions the result of `Convert` on a numeric value is acceptable. -/
theorem convert_acceptable (t : Ty) (ht : t.WF) (v : Val) (hwf : v.WF) (c : Int) (s : Nat)
    (hx : numOf v = some (c, s))
    (hy : ¬ (t = .year ∧ 1 ≤ target t (c, s) ∧ target t (c, s) ≤ 99))
    (hreg : ¬ ConvRegion t v) : Acceptable t (c, s) (convert t v) := by
  cases t with
  | int it => exact int_acceptable it v hwf c s hx fun h => hreg (Or.inl h)
  | dec p sc col => exact dec_acceptable p sc col ht v c s hx
  | year =>
    exact year_acceptable v hwf c s hx (fun h => hy ⟨rfl, by rw [target_year]; exact h⟩)
      fun h => hreg (Or.inr (Or.inr h))
  | bit n => exact bit_acceptable n ht v hwf c s hx fun h => hreg (Or.inr (Or.inl h))

/-- **C27, `Convert` level.** For every modelled type and every well-formed value (nil, Go integer of
any width, decimal of any size/scale, string), outside the listed regions, the Spec never says "no":
a storable value is stored exactly (`InRange`, no error), anything else is reported and — where a value
comes back for IGNORE mode — is the nearest storable one. (`none` = the Spec leaves strings and
two-digit YEAR inputs undetermined.) Full statement without the region guard: false, see `finding_*`. -/
theorem convert_exact_or_reported_partial (t : Ty) (ht : t.WF) (v : Val) (hwf : v.WF)
    (hreg : ¬ ConvRegion t v) : acceptableConvert t v (convert t v) ≠ some false := by
  by_cases hn : v = .null
  · subst hn
    rw [convert_null]; simp [acceptableConvert]
  · rw [acceptableConvert_eq t hn]
    cases hx : numOf v with
    | none => nofun
    | some x =>
      obtain ⟨c, s⟩ := x
      rw [Option.bind_some]
      by_cases hy : t = .year ∧ 1 ≤ target t (c, s) ∧ target t (c, s) ≤ 99
      · simp only [acceptNum, if_pos hy]; nofun
      · rw [acceptNum_of hy (convert_acceptable t ht v hwf c s hx hy hreg)]; nofun

/-- in words, for a storable value: stored exactly, `InRange`, no error -/
theorem convert_exact_when_storable_partial (t : Ty) (ht : t.WF) (v : Val) (hwf : v.WF) (c : Int) (s : Nat)
    (hx : numOf v = some (c, s)) (hy : ¬ (t = .year ∧ 1 ≤ target t (c, s) ∧ target t (c, s) ≤ 99))
    (hreg : ¬ ConvRegion t v)
    (hs : t.storable (target t (c, s)) = true) (hb : exactInBounds t (c, s) = true) :
    (convert t v).err = .none ∧ (convert t v).flag = .inRange ∧
      storedCoeff t (convert t v).val = some (target t (c, s)) :=
  (convert_acceptable t ht v hwf c s hx hy hreg).of_exact hs hb

/-- in words, for a value that is not storable: reported, and never a wrapped value -/
theorem convert_clamp_nearest_partial (t : Ty) (ht : t.WF) (v : Val) (hwf : v.WF) (c : Int) (s : Nat)
    (hx : numOf v = some (c, s)) (hy : ¬ (t = .year ∧ 1 ≤ target t (c, s) ∧ target t (c, s) ≤ 99))
    (hreg : ¬ ConvRegion t v) (hs : t.storable (target t (c, s)) = false) :
    conversionOk (convert t v) = false ∧
      ((convert t v).err = .fatal ∨ storedCoeff t (convert t v).val = some (nearest t (target t (c, s)))) :=
  (convert_acceptable t ht v hwf c s hx hy hreg).of_not_storable hs

/-- **C27, idempotence.** Converting an already converted value again never changes it: for every
modelled type and EVERY well-formed value (strings included), if `Convert` returns a value without a
fatal error then converting that value again returns it unchanged, `InRange`, without error —
outside `unsigned_underflow_wraps` (see `finding_not_idempotent`). -/
theorem convert_idem_partial (t : Ty) (ht : t.WF) (v : Val) (hwf : v.WF)
    (hreg : ¬ unsigned_underflow_wraps t v)
    (hne : (convert t v).err ≠ .fatal) (hv : (convert t v).val ≠ .null) :
    convert t (inject t (convert t v).val) = ⟨(convert t v).val, .inRange, .none⟩ :=
  convert_fixpoint (convert_isValueOf t v hwf hreg hne hv)

/-- strict mode rejects exactly when the conversion is not clean -/
theorem strict_rejects_iff (t : Ty) (v : Val) :
    insertStrict t v = .rejected ↔ conversionOk (convert t v) = false := by
  simp only [insertStrict]
  cases conversionOk (convert t v) <;> simp

theorem strict_stores_converted (t : Ty) (v : Val) (x : Stored) (w : Bool) (h : insertStrict t v = .stored x w) :
    w = false ∧ x = (convert t v).val ∧ conversionOk (convert t v) = true := by
  revert h
  fun_cases insertStrict t v
  case case1 r h_ok => intro h; cases h; exact ⟨rfl, rfl, h_ok⟩
  case case2 r h_bad => nofun

theorem ignore_never_rejects (t : Ty) (v : Val) : insertIgnore t v ≠ .rejected := by
  simp only [insertIgnore]
  cases conversionOk (convert t v) <;> simp

/-- IGNORE mode warns exactly when the conversion is not clean -/
theorem ignore_warns_iff (t : Ty) (v : Val) (x : Stored) (w : Bool) (h : insertIgnore t v = .stored x w) :
    (w = true ↔ conversionOk (convert t v) = false) := by
  simp only [insertIgnore] at h
  cases hc : conversionOk (convert t v) <;> simp [hc] at h <;> rcases h with ⟨_, rfl⟩ <;> simp

theorem fatal_only_year (t : Ty) (v : Val) (hwf : v.WF) (c : Int) (s : Nat) (hx : numOf v = some (c, s))
    (hy : ¬ (t = .year ∧ 1 ≤ target t (c, s) ∧ target t (c, s) ≤ 99)) (hreg : ¬ ConvRegion t v)
    (hz : ¬ ignore_stores_zero_not_nearest t v) (he : (convert t v).err = .fatal) :
    t = .year ∧ (convert t v).val = .null ∧ t.storable (target t (c, s)) = false := by
  by_cases hty : t = .year
  · subst hty
    rw [target_year] at hy ⊢
    have hconv := convertYear_num v hwf c s hx (fun h => hy ⟨rfl, h⟩) (fun h => hreg (Or.inr (Or.inr h)))
    change (convertYear v).err = .fatal at he
    change _ ∧ (convertYear v).val = .null ∧ _
    rw [hconv] at he ⊢
    split at he
    · cases he
    · next h => exact ⟨rfl, by rw [if_neg h], Bool.eq_false_iff.2 h⟩
  · exact absurd ⟨he, numOf_ne_null hx, hty⟩ hz

theorem insert_num_acceptable (ignore : Bool) (t : Ty) (ht : t.WF) (v : Val) (hwf : v.WF) (c : Int) (s : Nat)
    (hx : numOf v = some (c, s)) (hy : ¬ (t = .year ∧ 1 ≤ target t (c, s) ∧ target t (c, s) ≤ 99))
    (hreg : ¬ ConvRegion t v) (hz : ignore = true → ¬ ignore_stores_zero_not_nearest t v) :
    acceptNumOutcome ignore t (c, s) (if ignore then insertIgnore t v else insertStrict t v) = true :=
  insert_of_acceptable ignore t v (numOf_ne_null hx) (c, s) (convert_acceptable t ht v hwf c s hx hy hreg)
    fun hi => fatal_only_year t v hwf c s hx hy hreg (hz hi)

/-- **never silently a different value, strict mode**: whatever a strict `INSERT` stores for a numeric
value is the value itself (rounded to the column's scale) — outside the regions. -/
theorem strict_stores_only_exact_partial (t : Ty) (ht : t.WF) (v : Val) (hwf : v.WF) (c : Int) (s : Nat)
    (hx : numOf v = some (c, s)) (hy : ¬ (t = .year ∧ 1 ≤ target t (c, s) ∧ target t (c, s) ≤ 99))
    (hreg : ¬ ConvRegion t v) (x : Stored) (w : Bool) (h : insertStrict t v = .stored x w) :
    storedCoeff t x = some (target t (c, s)) ∧ t.storable (target t (c, s)) = true := by
  have key := insert_num_acceptable false t ht v hwf c s hx hy hreg nofun
  rw [if_neg Bool.false_ne_true, h, acceptNumOutcome_stored] at key
  split at key
  · next hs => exact ⟨key, hs⟩
  · exact absurd key.1 Bool.false_ne_true

/-- **changed ⇒ warned, IGNORE mode**: if `INSERT IGNORE` stores something other than the value itself,
a warning is raised — outside the regions. -/
theorem ignore_changed_implies_warned_partial (t : Ty) (ht : t.WF) (v : Val) (hwf : v.WF) (c : Int) (s : Nat)
    (hx : numOf v = some (c, s)) (hy : ¬ (t = .year ∧ 1 ≤ target t (c, s) ∧ target t (c, s) ≤ 99))
    (hreg : ¬ ConvRegion t v) (x : Stored) (w : Bool) (h : insertIgnore t v = .stored x w)
    (hch : storedCoeff t x ≠ some (target t (c, s))) : w = true := by
  revert h
  fun_cases insertIgnore t v
  case case1 r h_ok =>
    -- a clean conversion: strict mode stores the same row
    intro h; cases h
    exact absurd (strict_stores_only_exact_partial t ht v hwf c s hx hy hreg _ false (if_pos h_ok)).1 hch
  case case2 r h_bad => intro h; cases h; rfl

/-- **nearest under IGNORE**: a numeric value that is not storable is stored as the nearest storable
value (YEAR: `0000`), with a warning — outside the regions, `ignore_stores_zero_not_nearest` included. -/
theorem ignore_stores_nearest_partial (t : Ty) (ht : t.WF) (v : Val) (hwf : v.WF) (c : Int) (s : Nat)
    (hx : numOf v = some (c, s)) (hy : ¬ (t = .year ∧ 1 ≤ target t (c, s) ∧ target t (c, s) ≤ 99))
    (hreg : ¬ ConvRegion t v) (hz : ¬ ignore_stores_zero_not_nearest t v)
    (hs : t.storable (target t (c, s)) = false) :
    ∃ x, insertIgnore t v = .stored x true ∧ storedCoeff t x = some (nearest t (target t (c, s))) := by
  have key := insert_num_acceptable true t ht v hwf c s hx hy hreg fun _ => hz
  rw [if_pos rfl] at key
  cases ho : insertIgnore t v with
  | rejected => exact absurd ho (ignore_never_rejects t v)
  | stored st w =>
    rw [ho, acceptNumOutcome_stored, if_neg (by rw [hs]; nofun)] at key
    exact ⟨st, by rw [key.2.1], key.2.2⟩

/-- **C27, insert level.** The Spec `acceptableOutcome` (what the driver evaluates on every generated
case) never says "no" outside the regions, for both modes. -/
theorem insert_acceptable_partial (ignore : Bool) (t : Ty) (ht : t.WF) (v : Val) (hwf : v.WF)
    (hreg : ¬ ConvRegion t v) (hz : ignore = true → ¬ ignore_stores_zero_not_nearest t v) :
    acceptableOutcome ignore t v (if ignore then insertIgnore t v else insertStrict t v) ≠ some false := by
  by_cases hn : v = .null
  · subst hn
    have hc := convert_null t
    cases ignore <;> simp [acceptableOutcome, insertIgnore, insertStrict, hc, conversionOk]
  · rw [acceptableOutcome_eq ignore t hn]
    cases hx : numOf v with
    | none => nofun
    | some x =>
      obtain ⟨c, s⟩ := x
      rw [Option.bind_some]
      by_cases hy : t = .year ∧ 1 ≤ target t (c, s) ∧ target t (c, s) ≤ 99
      · rw [if_pos hy]; nofun
      · rw [if_neg hy, insert_num_acceptable ignore t ht v hwf c s hx hy hreg hz]
        nofun

/-- TINYINT UNSIGNED ← -1: `Convert` hands back the wrapped 255 (flag Underflow) instead of the nearest
value 0, and `INSERT IGNORE` stores it. -/
theorem finding_unsigned_underflow_wraps :
    ∃ t v, unsigned_underflow_wraps t v ∧ acceptableConvert t v (convert t v) = some false ∧
      insertIgnore t v = .stored (.int 255) true ∧ acceptableOutcome true t v (insertIgnore t v) = some false :=
  ⟨.int .u8, .i (-1), by decide +kernel⟩

/-- MEDIUMINT UNSIGNED ← "-9223372036854775808": the wrapped value `2^24` is not a value of the type and
converts to something else the second time: `Convert` is not idempotent. -/
theorem finding_not_idempotent :
    ∃ t v, unsigned_underflow_wraps t v ∧ (convert t v).err ≠ .fatal ∧ (convert t v).val = .int 16777216 ∧
      convert t (inject t (convert t v).val) = ⟨.int 16777215, .overflow, .none⟩ :=
  ⟨.int .u24, .s [45, 57, 50, 50, 51, 51, 55, 50, 48, 51, 54, 56, 53, 52, 55, 55, 53, 56, 48, 56], by decide +kernel⟩

/-- BIT(64) ← -1 is accepted silently as 18446744073709551615; BIT(8) ← -5.0 is stored as 5. -/
theorem finding_bit_negative_reinterpreted :
    (∃ t v, bit_negative_reinterpreted t v ∧ convert t v = ⟨.int 18446744073709551615, .inRange, .none⟩ ∧
      acceptableConvert t v (convert t v) = some false ∧ insertStrict t v = .stored (.int 18446744073709551615) false) ∧
    (∃ t v, bit_negative_reinterpreted t v ∧ convert t v = ⟨.int 5, .inRange, .none⟩ ∧
      acceptableConvert t v (convert t v) = some false) :=
  ⟨⟨.bit 64, .i (-1), by decide +kernel⟩, ⟨.bit 8, .d (-50) 1, by decide +kernel⟩⟩

/-- YEAR ← 100000000000000000000 (a decimal beyond the int64 range) is silently stored as 0000, in
strict mode, without error or warning. -/
theorem finding_year_decimal_beyond_int64_becomes_zero :
    ∃ t v, year_decimal_beyond_int64_becomes_zero t v ∧ convert t v = ⟨.int 0, .inRange, .none⟩ ∧
      insertStrict t v = .stored (.int 0) false ∧ acceptableOutcome false t v (insertStrict t v) = some false :=
  ⟨.year, .d 100000000000000000000 0, by decide +kernel⟩

/-- DECIMAL(10,2) column ← 123456789012.34 under `INSERT IGNORE`: 0.00 is stored (with a warning)
instead of the nearest value 99999999.99. -/
theorem finding_ignore_stores_zero_not_nearest :
    ∃ t v, ignore_stores_zero_not_nearest t v ∧ ¬ ConvRegion t v ∧ insertIgnore t v = .stored (.dec 0 2) true ∧
      nearest t (target t (12345678901234, 2)) = 9999999999 ∧
      acceptableOutcome true t v (insertIgnore t v) = some false :=
  ⟨.dec 10 2 true, .d 12345678901234 2, by decide +kernel⟩

example : ¬ ConvRegion (.int .i8) (.d 1275 1) ∧ (Ty.int .i8).WF ∧ (Val.d 1275 1).WF ∧
    convert (.int .i8) (.d 1275 1) = ⟨.int 127, .overflow, .none⟩ ∧          -- 127.5 rounds to 128: clamped, reported
    acceptableConvert (.int .i8) (.d 1275 1) (convert (.int .i8) (.d 1275 1)) = some true ∧
    convert (.int .i8) (.d 1274 1) = ⟨.int 127, .inRange, .none⟩ ∧           -- 127.4 rounds to 127: exact
    acceptableConvert (.int .i8) (.d 1274 1) (convert (.int .i8) (.d 1274 1)) = some true ∧
    convert (.int .i64) (.d 92233720368547758073 1) = ⟨.int 9223372036854775807, .overflow, .none⟩ ∧
    acceptableConvert (.int .i64) (.d 92233720368547758073 1) (convert (.int .i64) (.d 92233720368547758073 1)) = some true ∧
    insertIgnore (.int .i8) (.i 300) = .stored (.int 127) true ∧ insertStrict (.int .i8) (.i 300) = .rejected ∧
    insertStrict (.dec 10 2 true) (.d 12345 3) = .stored (.dec 1235 2) false ∧   -- 12.345 → 12.35
    insertStrict .year (.i 1900) = .rejected ∧ insertIgnore .year (.i 1900) = .stored (.int 0) true ∧
    convert (.int .i32) (.s [49, 50, 97]) = ⟨.int 12, .inRange, .truncated⟩ ∧      -- "12a"
    convert (.int .i32) (inject (.int .i32) (.int 12)) = ⟨.int 12, .inRange, .none⟩ := by decide +kernel

/-- the wrap region seen from the integer the text denotes -/
theorem region_of_text (it : ITy) (bs : List UInt8) (n : Int) (hn : strNum bs = some n)
    (hreg : ¬ unsigned_underflow_wraps (.int it) (.s bs)) : ¬ unsigned_underflow_wraps (.int it) (.i n) := by
  intro ⟨hu, hneg⟩
  apply hreg
  refine ⟨hu, ?_⟩
  obtain ⟨ht, hv⟩ := strNum_trunc bs n hn
  simp only [Val.negative, decide_eq_true_eq] at hneg
  simp only [Val.negative, ht]
  exact signedVal_neg_head _ (by omega)

/-- **C27 for string inputs, `Convert` level**: integer text (within the int64 range, every integer
type except BIGINT UNSIGNED) enjoys exactly the guarantee of the integer it denotes. -/
theorem string_intText_exact_or_reported_partial (it : ITy) (hu : it ≠ .u64) (bs : List UInt8) (n : Int)
    (hn : strNum bs = some n) (hr : inI64 n) (hreg : ¬ unsigned_underflow_wraps (.int it) (.s bs)) :
    acceptableConvertS (.int it) (.s bs) (convert (.int it) (.s bs)) = some true := by
  simp only [acceptableConvertS, hn, convert]
  rw [(string_intText_as_integer it hu bs n hn hr).1]
  apply acceptNum_of
  · simp
  · exact int_acceptable it (.i n) hr n 0 rfl (region_of_text it bs n hn hreg)

/-- malformed text is never stored silently by `Convert` (all ten integer types) -/
theorem string_malformed_convert_partial (it : ITy) (bs : List UInt8) (hm : strNum bs = none)
    (hreg : ¬ sign_only_or_empty_string_as_zero (.int it) (.s bs)) :
    acceptableConvertS (.int it) (.s bs) (convert (.int it) (.s bs)) = some true := by
  simp only [acceptableConvertS, hm, convert]
  rw [(string_malformed_reported it bs hm hreg).1]; rfl

/-- `insertStr` and `insertBin` are `policy` on the result of the integer conversion; on integer text that
conversion is `convertInt` of the integer denoted -/
theorem int_policy_acceptable (ignore : Bool) (it : ITy) (v : Val) (hwf : v.WF) (c : Int) (s : Nat) (hx : numOf v = some (c, s))
    (hreg : ¬ unsigned_underflow_wraps (.int it) v) :
    acceptNumOutcome ignore (.int it) (c, s) (policy ignore (convertInt it v)) = true :=
  policy_acceptable ignore (int_acceptable it v hwf c s hx hreg)
    fun _ => convertInt_num_err it v hwf c s hx

/-- **C27 for string inputs, insert level**: `INSERT [IGNORE]` of integer text behaves as the Spec
demands of the integer it denotes (within int64, every integer type except BIGINT UNSIGNED). -/
theorem string_insert_intText_partial (ignore : Bool) (it : ITy) (hu : it ≠ .u64) (bs : List UInt8) (n : Int)
    (hn : strNum bs = some n) (hr : inI64 n) (hreg : ¬ unsigned_underflow_wraps (.int it) (.s bs)) :
    acceptableStrOutcome ignore it bs (insertStr ignore it bs) = true := by
  simp only [acceptableStrOutcome, hn, insertStr]
  rw [(string_intText_as_integer it hu bs n hn hr).2]
  exact int_policy_acceptable ignore it (.i n) hr n 0 rfl (region_of_text it bs n hn hreg)

/-- malformed text: a strict `INSERT` rejects it, `INSERT IGNORE` warns — all ten integer types,
unless the text is nothing but an optional sign -/
theorem string_insert_malformed_partial (it : ITy) (bs : List UInt8) (hm : strNum bs = none)
    (hreg : ¬ sign_only_or_empty_string_as_zero (.int it) (.s bs)) :
    insertStr false it bs = .rejected ∧ ∃ x, insertStr true it bs = .stored x true := by
  have h := (string_malformed_reported it bs hm hreg).2
  simp [insertStr, policy, h]

def txt (s : String) : List UInt8 := s.toUTF8.toList

/-- `''`, `'-'`: read as 0, InRange, no error — stored by a strict `INSERT` without any report -/
theorem finding_sign_only_or_empty_string_as_zero :
    (sign_only_or_empty_string_as_zero (.int .i32) (.s []) ∧
      convert (.int .i32) (.s []) = ⟨.int 0, .inRange, .none⟩ ∧
      acceptableConvertS (.int .i32) (.s []) (convert (.int .i32) (.s [])) = some false) ∧
    (sign_only_or_empty_string_as_zero (.int .i32) (.s [45]) ∧
      insertStr false .i32 [45] = .stored (.int 0) false ∧
      acceptableStrOutcome false .i32 [45] (insertStr false .i32 [45]) = false) := by decide +kernel

/-- BIGINT ← '9223372036854775808': strict `INSERT` stores -9223372036854775808 without error or warning;
BIGINT UNSIGNED ← '+9007199254740993' stores 9007199254740992. -/
theorem finding_string_via_float64 :
    (string_via_float64 .i64 [57, 50, 50, 51, 51, 55, 50, 48, 51, 54, 56, 53, 52, 55, 55, 53, 56, 48, 56] ∧
      insertStr false .i64 [57, 50, 50, 51, 51, 55, 50, 48, 51, 54, 56, 53, 52, 55, 55, 53, 56, 48, 56]
        = .stored (.int (-9223372036854775808)) false ∧
      acceptableStrOutcome false .i64 [57, 50, 50, 51, 51, 55, 50, 48, 51, 54, 56, 53, 52, 55, 55, 53, 56, 48, 56]
        (.stored (.int (-9223372036854775808)) false) = false) ∧
    (string_via_float64 .u64 [43, 57, 48, 48, 55, 49, 57, 57, 50, 53, 52, 55, 52, 48, 57, 57, 51] ∧
      insertStr false .u64 [43, 57, 48, 48, 55, 49, 57, 57, 50, 53, 52, 55, 52, 48, 57, 57, 51]
        = .stored (.int 9007199254740992) false ∧
      acceptableStrOutcome false .u64 [43, 57, 48, 48, 55, 49, 57, 57, 50, 53, 52, 55, 52, 48, 57, 57, 51]
        (.stored (.int 9007199254740992) false) = false) := by decide +kernel

/-- TINYINT ← '300abc' under `INSERT IGNORE`: 44 (= int8(300)) is stored instead of 127 -/
theorem finding_truncated_string_skips_range_check :
    truncated_string_skips_range_check .i8 [51, 48, 48, 97, 98, 99] ∧
      insertStr true .i8 [51, 48, 48, 97, 98, 99] = .stored (.int 44) true ∧
      acceptableStrOutcome true .i8 [51, 48, 48, 97, 98, 99] (.stored (.int 44) true) = false ∧
      insertStr false .i8 [51, 48, 48, 97, 98, 99] = .rejected := by decide +kernel

example : strNum [32, 45, 52, 50, 32] = some (-42) ∧ inI64 (-42) ∧ ¬ unsigned_underflow_wraps (.int .i16) (.s [32, 45, 52, 50, 32]) ∧
    insertStr false .i16 [32, 45, 52, 50, 32] = .stored (.int (-42)) false ∧
    strNum [49, 50, 97] = none ∧ ¬ sign_only_or_empty_string_as_zero (.int .i16) (.s [49, 50, 97]) ∧
    insertStr true .i16 [49, 50, 97] = .stored (.int 12) true := by decide +kernel

/-- **C27 for binary strings, `Convert` level — full strength, no region.** For all ten integer types
and BIT(n), and EVERY binary string: a non-empty binary string is stored as the big-endian integer it
denotes, exactly, `InRange`, without error, when that integer is a value of the type; otherwise it is
reported (flag ≠ InRange or an error) and what comes back is the nearest value or nothing. In
particular an 8-byte string with the top bit set is never handed back as a negative number. The empty
string is reported by the integer types. -/
theorem binary_exact_or_reported (t : Ty) (ht : t.WF) (bs : List UInt8) :
    acceptableConvertB t bs (convertB t bs) ≠ some false := by
  cases t with
  | int it =>
    simp only [acceptableConvertB, convertB]
    by_cases he : bs = []
    · rw [if_pos he, binary_refused it bs (Or.inl he)]; simp [conversionOk]
    · rw [if_neg he, acceptNum_of (by simp) (binary_int_acceptable it bs he)]; decide
  | bit n =>
    simp only [acceptableConvertB, convertB]
    split
    · decide
    · next h => rw [acceptNum_of (by simp) (binary_bit_acceptable n ht bs h)]; decide
  | dec p s c => simp [acceptableConvertB]
  | year => simp [acceptableConvertB]

/-- what `Convert` returns for a binary string without a fatal error is a fixed point of `Convert` -/
theorem binary_idem (t : Ty) (ht : t.WF) (bs : List UInt8)
    (hne : (convertB t bs).err ≠ .fatal) (hv : (convertB t bs).val ≠ .null) :
    convert t (inject t (convertB t bs).val) = ⟨(convertB t bs).val, .inRange, .none⟩ := by
  cases t with
  | int it =>
    simp only [convertB] at hne hv ⊢
    by_cases h : bs = [] ∨ (beVal bs : Int) > binLimit it
    · rw [binary_refused it bs h] at hne; exact absurd rfl hne
    · have hr : (beVal bs : Int) ≤ binLimit it := by omega
      rw [convertIntB_eq, if_neg h] at hne hv ⊢
      exact convert_idem_partial (.int it) trivial (.u (beVal bs)) (binU_wf hr) (u_not_wraps it _) hne hv
  | bit n =>
    exact convert_idem_partial (.bit n) ht (.s bs) trivial (fun h => False.elim h) hne hv
  | dec p s c => simp [convertB] at hne
  | year => simp [convertB] at hne

/-- **C27 for binary strings, insert level.** `INSERT` / `INSERT IGNORE` of EVERY binary string into a
column of any of the ten integer types or BIT(n) leaves behind what the Spec demands: the integer the
bytes denote, exactly, or — strict mode — nothing (the row is rejected), or — IGNORE — the nearest
value with a warning; outside `binary_out_of_range_stored_as_zero` (integer columns, IGNORE only) and
`ignore_stores_zero_not_nearest` (BIT beyond the width, IGNORE only). Strict mode: unguarded. -/
theorem binary_insert_acceptable_partial (ignore : Bool) (t : Ty) (ht : t.WF) (bs : List UInt8)
    (hreg : ignore = true → ¬ binary_out_of_range_stored_as_zero t bs)
    (hz : ignore = true → ∀ n, t = .bit n → ¬ ignore_stores_zero_not_nearest t (.s bs)) :
    acceptableBinOutcome ignore t bs (insertBin ignore t bs) ≠ some false := by
  cases t with
  | int it =>
    simp only [acceptableBinOutcome, insertBin]
    by_cases he : bs = []
    · rw [if_pos he, binary_refused it bs (Or.inl he)]
      cases ignore <;> simp [policy, conversionOk]
    · -- IGNORE outside the region: within the limit, where the conversion is that of a number
      have hnf : ignore = true → (convertIntB it bs).err ≠ .fatal := fun hi => by
        have hr : (beVal bs : Int) ≤ binLimit it := Int.not_lt.1 fun h => hreg hi ⟨he, h⟩
        rw [binary_as_integer it bs he hr]
        exact convertInt_num_err it _ (binU_wf hr) (beVal bs) 0 rfl
      rw [if_neg he, policy_acceptable ignore (binary_int_acceptable it bs he) hnf]
      simp
  | bit n =>
    simp only [acceptableBinOutcome, insertBin]
    split
    · simp
    · next h =>
      rw [insert_of_acceptable ignore (.bit n) (.s bs) nofun _ (binary_bit_acceptable n ht bs h)
        fun hi he => absurd ⟨he, nofun, nofun⟩ (hz hi n rfl)]
      simp
  | dec p s c => simp [acceptableBinOutcome]
  | year => simp [acceptableBinOutcome]

/-- **never silently a different value (strict mode), binary strings — unguarded**: whatever a strict
`INSERT` of a binary string stores in an integer column is the big-endian integer of its bytes. -/
theorem binary_strict_never_silently_different (it : ITy) (bs : List UInt8) (x : Stored) (w : Bool)
    (h : insertBin false (.int it) bs = .stored x w) :
    bs ≠ [] ∧ storedCoeff (.int it) x = some (beVal bs : Int) ∧
      Ty.storable (.int it) (beVal bs : Int) = true := by
  by_cases he : bs = []
  · rw [insertBin, binary_refused it bs (Or.inl he)] at h
    simp [policy, conversionOk] at h
  · have key := policy_acceptable false (binary_int_acceptable it bs he) nofun
    rw [show policy false (convertIntB it bs) = .stored x w from h, acceptNumOutcome_stored, target_int,
      rha_scale_zero] at key
    split at key
    · next hs => exact ⟨he, key, hs⟩
    · exact absurd key.1 Bool.false_ne_true

/-- TINYINT UNSIGNED ← X'FFFFFFFFFFFFFFFF' under `INSERT IGNORE`: 0 is stored (with a warning) instead
of the nearest value 255; a strict `INSERT` rejects the row, as it must. -/
theorem finding_binary_out_of_range_stored_as_zero :
    binary_out_of_range_stored_as_zero (.int .u8) [255, 255, 255, 255, 255, 255, 255, 255] ∧
      insertBin true (.int .u8) [255, 255, 255, 255, 255, 255, 255, 255] = .stored (.int 0) true ∧
      nearest (.int .u8) (target (.int .u8) (18446744073709551615, 0)) = 255 ∧
      acceptableBinOutcome true (.int .u8) [255, 255, 255, 255, 255, 255, 255, 255]
        (insertBin true (.int .u8) [255, 255, 255, 255, 255, 255, 255, 255]) = some false ∧
      insertBin false (.int .u8) [255, 255, 255, 255, 255, 255, 255, 255] = .rejected ∧
      insertBin false (.int .i64) [255, 255, 255, 255, 255, 255, 255, 255] = .rejected := by decide +kernel

example : convertB (.int .i16) [1, 255] = ⟨.int 511, .inRange, .none⟩ ∧          -- X'01FF' = 511
    convertB (.int .i16) [128, 0] = ⟨.int 32767, .overflow, .none⟩ ∧             -- X'8000' = 32768: clamped, reported
    convertB (.int .i64) [127, 255, 255, 255, 255, 255, 255, 255] = ⟨.int 9223372036854775807, .inRange, .none⟩ ∧
    convertB (.int .i64) [128, 0, 0, 0, 0, 0, 0, 0] = ⟨.int 0, .inRange, .fatal⟩ ∧   -- 2^63: refused
    convertB (.int .u64) [255, 255, 255, 255, 255, 255, 255, 255] = ⟨.int 18446744073709551615, .inRange, .none⟩ ∧
    convertB (.int .i8) [0, 0, 0, 0, 0, 0, 0, 0, 0, 7] = ⟨.int 7, .inRange, .none⟩ ∧   -- leading zero bytes are harmless
    convertB (.bit 8) [1, 0] = ⟨.null, .overflow, .fatal⟩ ∧
    insertBin false (.int .i16) [1, 255] = .stored (.int 511) false ∧
    insertBin true (.int .i16) [128, 0] = .stored (.int 32767) true ∧
    acceptableBinOutcome true (.int .i16) [128, 0] (insertBin true (.int .i16) [128, 0]) = some true ∧
    ¬ binary_out_of_range_stored_as_zero (.int .i16) [128, 0] := by decide +kernel

end Gms.C27
