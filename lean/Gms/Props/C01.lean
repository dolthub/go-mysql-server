/-
C01 — Query results do not depend on the physical plan chosen.

What is proved here (for all inputs, by induction on the row lists; no bound):

* the memo's reordering moves are identities of the join algebra — `move_commute`, `move_assoc`,
  `move_lasscom`, `move_rasscom` — and every `always` entry of the three REGENERATED property
  tables (`assocTable`, `leftAsscomTable`, `rightAsscomTable`) outside the row and column of the group-by
  kind, which is never constructed (`facts_match`: `groupByJoinMentions`), is an instance of one of them
  (`tables_sound_assoc`, `tables_sound_lasscom`, `tables_sound_rasscom`); conditional entries never
  fire because `edge.nullRejectedRels` is never written (`conditional_entries_never_fire`,
  regenerated fact `nullRejectedRelsWrites = 0`);
* the iterator models equal the operators of the SQL definition: `phys_nl_inner`, `phys_nl_left`,
  `phys_semi`, `phys_anti`, `phys_antiNulls` (same row sequence), `phys_hash_eq` (hash join = nested
  loop join, same sequence, whenever TRUE pairs agree on the key), `phys_hash_exclNulls_partial`
  (the NULL-excluding variants, under the guard ¬`HashProbeMiss`), `phys_lookup_perm`,
  `phys_merge_inner`, `phys_merge_left` (merge join = inner / left outer join on index-ordered inputs, same
  sequence);
* the four findings on the unchanged tree as witness theorems: `finding_hash_exclude_nulls_probe_miss`,
  `finding_inner_conjunct_lost_at_outer_join`, `finding_merge_tuple_null_key`,
  `finding_transitive_edge_from_nullsafe_equality`, each beside its guarded theorem
  (`phys_hash_exclNulls_partial`, `reorder_left_inner_partial`, `phys_merge_inner`,
  `transitive_edge_partial`); the later findings stand in `section Keys` and after it:
  `finding_inner_conjunct_lost_by_conflict_rule` (model of the builder's conflict detection,
  `Gms/Model/JoinConflict.lean`; guarded: `applied_once_partial`, `lost_iff_rule_violated`) and
  `finding_left_join_replaced_by_inner_join` (guarded: `left_replaced_by_inner_partial`).
-/
import Gms.Lemmas.Phys
import Gms.Lemmas.Merge
import Gms.Lemmas.PhysKeys
import Gms.Lemmas.Rel
import Gms.Lemmas.JoinConflict
import Gms.Model.PhysRegions
import Gms.Model.PhysKeys
import Gms.Generated.C01

namespace Gms.C01
open Gms.Sql Gms.Rel Gms.Phys List

section Moves
variable {α β γ : Type}

/-- commute: `e1 ⋈ e2 ≈ e2 ⋈ e1`. -/
theorem move_commute (m : α → β → Bool) (L : List α) (R : List β) :
    ((ij m L R).map fun p => (p.2, p.1)) ~ ij (fun b a => m a b) R L := by
  rw [List.map_eq_flatMap, ij_flatMap, ij_flat]
  exact flatMap_swap_perm

/-- assoc: `(e1 ⋈A e2) opB e3 = e1 ⋈A (e2 opB e3)` for an inner/cross A and ANY left-linear B. -/
theorem move_assoc (s : Shape) (mA : α → β → Bool) (mB : β → γ → Bool)
    (L : List α) (R2 : List β) (R3 : List γ) :
    ((lop s (fun p z => mB p.2 z) (ij mA L R2) R3).map fun q => (q.1.1, (q.1.2, q.2)))
      = ij (fun a q => mA a q.1) L (lop s mB R2 R3) := by
  -- both sides as loops over `L` and `R2` around B's contribution for the row of `R2`
  rw [lop_map, ij_flatMap, ij_flat]
  simp only [lop_flatMap]
  refine Basics.flatMap_congr_mem fun a _ => Basics.flatMap_congr_mem fun b _ => ?_
  by_cases hm : mA a b = true <;> simp [hm, flatMap_nil_fun, List.map_eq_flatMap]

/-- l-asscom: `(e1 opA e2) opB e3 ≈ (e1 opB e3) opA e2` for ANY two left-linear operators. -/
theorem move_lasscom (sA sB : Shape) (mA : α → β → Bool) (mB : α → γ → Bool)
    (L : List α) (R2 : List β) (R3 : List γ) :
    ((lop sB (fun p z => mB p.1 z) (lop sA mA L R2) R3).map fun q => (q.1.1, q.1.2, q.2))
      ~ ((lop sA (fun p y => mA p.1 y) (lop sB mB L R3) R2).map fun q => (q.1.1, q.2, q.1.2)) := by
  rw [lop_map, lop_flatMap, lop_map, lop_flatMap]
  refine flatMap_congr_perm fun a _ => ?_
  -- both sides: the product of A's and B's contributions for the left row `a`
  simp only [List.map_eq_flatMap]
  exact flatMap_swap_perm

/-- r-asscom: `e1 ⋈B (e2 ⋈A e3) ≈ e2 ⋈A (e1 ⋈B e3)` for inner/cross operators. -/
theorem move_rasscom (mA : β → γ → Bool) (mB : α → γ → Bool)
    (L1 : List α) (L2 : List β) (L3 : List γ) :
    ((ij (fun a q => mB a q.2) L1 (ij mA L2 L3)).map fun q => (q.1, q.2.1, q.2.2))
      ~ ((ij (fun b q => mA b q.2) L2 (ij mB L1 L3)).map fun q => (q.2.1, q.1, q.2.2)) := by
  -- both sides in loop form; `Bool.and_comm` turns the guard `mA b c && mB a c` of the right side
  -- into the guard `mB a c && mA b c` of the left
  simp only [List.map_eq_flatMap, ij_flatMap, ite_ite_nil, Bool.and_comm (mA _ _)]
  exact flatMap_swap_perm

end Moves

/-- The inner join of the algebra is the inner join of the SQL definition. -/
theorem ij_is_innerJoin (m : Row → Row → Bool) (L R : List Row) :
    innerJoin m L R = (ij m L R).map fun p => p.1 ++ p.2 := by
  unfold innerJoin ij
  rw [List.map_flatMap]
  exact Basics.flatMap_congr_mem fun a _ => by rw [List.map_map]; rfl

theorem lop_inner_is_innerJoin (m : Row → Row → Bool) (L R : List Row) :
    innerJoin m L R = (lop .inner m L R).map fun p => p.1 ++ p.2.getD [] := by
  rw [lop_map]
  exact Basics.flatMap_congr_mem fun a _ => by simp [Shape.ext]

theorem lop_left_is_leftJoin (m : Row → Row → Bool) (w : Nat) (L R : List Row) :
    leftJoin m w L R = (lop .left m L R).map fun p => p.1 ++ p.2.getD (nulls w) := by
  rw [lop_map]
  refine Basics.flatMap_congr_mem fun a _ => ?_
  cases h : (R.filter (m a)).isEmpty <;> simp [Shape.ext, h]

theorem lop_semi_is_semiJoin (m : Row → Row → Bool) (L R : List Row) :
    semiJoin m L R = (lop .semi m L R).map fun p => p.1 := by
  rw [lop_map, semiJoin, filter_eq_flatMap]
  refine Basics.flatMap_congr_mem fun a _ => ?_
  simp only [Shape.ext, isEmpty_filter]
  cases R.any (m a) <;> rfl

theorem lop_anti_is_antiJoin (m : Row → Row → Bool) (L R : List Row) :
    antiJoin m L R = (lop .anti m L R).map fun p => p.1 := by
  rw [lop_map, antiJoin, filter_eq_flatMap]
  refine Basics.flatMap_congr_mem fun a _ => ?_
  simp only [Shape.ext, isEmpty_filter]
  cases R.any (m a) <;> rfl

def AssocHolds (A B : Kind) : Prop :=
  A.shape = some .inner ∧ ∃ sB, B.shape = some sB ∧
    ∀ (α β γ : Type) (mA : α → β → Bool) (mB : β → γ → Bool) (L : List α) (R2 : List β) (R3 : List γ),
      ((lop sB (fun p z => mB p.2 z) (ij mA L R2) R3).map fun q => (q.1.1, (q.1.2, q.2)))
        = ij (fun a q => mA a q.1) L (lop sB mB R2 R3)

def LAsscomHolds (A B : Kind) : Prop :=
  ∃ sA sB, A.shape = some sA ∧ B.shape = some sB ∧
    ∀ (α β γ : Type) (mA : α → β → Bool) (mB : α → γ → Bool) (L : List α) (R2 : List β) (R3 : List γ),
      ((lop sB (fun p z => mB p.1 z) (lop sA mA L R2) R3).map fun q => (q.1.1, q.1.2, q.2))
        ~ ((lop sA (fun p y => mA p.1 y) (lop sB mB L R3) R2).map fun q => (q.1.1, q.2, q.1.2))

def RAsscomHolds (A B : Kind) : Prop :=
  A.shape = some .inner ∧ B.shape = some .inner ∧
    ∀ (α β γ : Type) (mA : β → γ → Bool) (mB : α → γ → Bool) (L1 : List α) (L2 : List β) (L3 : List γ),
      ((ij (fun a q => mB a q.2) L1 (ij mA L2 L3)).map fun q => (q.1, q.2.1, q.2.2))
        ~ ((ij (fun b q => mA b q.2) L2 (ij mB L1 L3)).map fun q => (q.2.1, q.1, q.2.2))

theorem assoc_table_shapes : ∀ A B : Kind, A ≠ .group → B ≠ .group →
    allowed Generated.C01.assocTable A B = true → A.shape = some .inner ∧ B.shape.isSome = true :=
  Kind.forall₂ (by decide +kernel)

theorem lasscom_table_shapes : ∀ A B : Kind, A ≠ .group → B ≠ .group →
    allowed Generated.C01.leftAsscomTable A B = true → A.shape.isSome = true ∧ B.shape.isSome = true :=
  Kind.forall₂ (by decide +kernel)

theorem rasscom_table_shapes : ∀ A B : Kind, A ≠ .group → B ≠ .group →
    allowed Generated.C01.rightAsscomTable A B = true → A.shape = some .inner ∧ B.shape = some .inner :=
  Kind.forall₂ (by decide +kernel)

/-- Every pair of operator kinds for which the memo's `assoc()` table lookup succeeds on the
current source satisfies the associativity identity, for all inputs. (`group`: the kind
`JoinTypeGroupBy` is never constructed — regenerated fact `groupByJoinMentions`.) -/
theorem tables_sound_assoc (A B : Kind) (hA : A ≠ .group) (hB : B ≠ .group)
    (h : allowed Generated.C01.assocTable A B = true) : AssocHolds A B := by
  obtain ⟨h1, h2⟩ := assoc_table_shapes A B hA hB h
  obtain ⟨sB, hs⟩ := Option.isSome_iff_exists.mp h2
  exact ⟨h1, sB, hs, fun _ _ _ mA mB L R2 R3 => move_assoc sB mA mB L R2 R3⟩

theorem tables_sound_lasscom (A B : Kind) (hA : A ≠ .group) (hB : B ≠ .group)
    (h : allowed Generated.C01.leftAsscomTable A B = true) : LAsscomHolds A B := by
  obtain ⟨h1, h2⟩ := lasscom_table_shapes A B hA hB h
  obtain ⟨sA, hsA⟩ := Option.isSome_iff_exists.mp h1
  obtain ⟨sB, hsB⟩ := Option.isSome_iff_exists.mp h2
  exact ⟨sA, sB, hsA, hsB, fun _ _ _ mA mB L R2 R3 => move_lasscom sA sB mA mB L R2 R3⟩

theorem tables_sound_rasscom (A B : Kind) (hA : A ≠ .group) (hB : B ≠ .group)
    (h : allowed Generated.C01.rightAsscomTable A B = true) : RAsscomHolds A B := by
  obtain ⟨h1, h2⟩ := rasscom_table_shapes A B hA hB h
  exact ⟨h1, h2, fun _ _ _ mA mB L1 L2 L3 => move_rasscom mA mB L1 L2 L3⟩

/-- Non-vacuity: the tables do allow moves (inner below left outer; semi beside left outer). -/
example : allowed Generated.C01.assocTable .inner .left = true := by decide +kernel
example : allowed Generated.C01.leftAsscomTable .semi .left = true := by decide +kernel
example : allowed Generated.C01.rightAsscomTable .cross .inner = true := by decide +kernel

/-- With empty null-rejection sets `checkProperty` succeeds only on `always` or on an entry
without a filter bit. -/
theorem checkProperty_no_nullrej (e l r : Nat) :
    checkProperty e 0 0 l r = (e == eAlways || (e != eNever && !hasBit e eFilterA && !hasBit e eFilterB)) := by
  unfold checkProperty intersects
  by_cases h0 : e = eNever
  · subst h0; rfl
  · by_cases h1 : e = eAlways
    · subst h1; rfl
    · -- a conditional entry: no vertex set intersects the empty set, so a filter bit makes the test fail
      cases hasBit e eFilterA <;> cases hasBit e eFilterB <;> simp [h0, h1]

/-- On the current source every conditional entry of the three tables carries a filter bit, so
(with `nullRejectedRels` never written) the memo treats it as `never`: a table lookup succeeds
exactly on the `always` entries. -/
theorem conditional_entries_never_fire :
    ∀ t ∈ [Generated.C01.assocTable, Generated.C01.leftAsscomTable, Generated.C01.rightAsscomTable],
      ∀ A ∈ Kind.all, ∀ B ∈ Kind.all, allowed t A B = (tableEntry t A B == eAlways) := by decide +kernel

/-- The identity fails for a pair the table rejects: associating two LEFT joins whose upper
condition accepts NULLs changes the result (so `never` / the null-rejection side condition there
is not vacuous). -/
theorem assoc_left_left_fails :
    ∃ (L : List Nat) (R2 : List Nat) (R3 : List Nat) (mA : Nat → Nat → Bool) (mB : Option Nat → Nat → Bool),
      ((lop .left (fun p z => mB p.2 z) (lop .left mA L R2) R3).map fun q => (q.1.1, q.1.2, q.2)).length
        ≠ (L.flatMap fun a => (Shape.left.ext ((lop .left (fun y z => mB (some y) z) R2 R3).filter fun q => mA a q.1)).map
            fun y => (a, y)).length :=
  ⟨[1], [], [7, 8], fun _ _ => true, fun _ _ => true, by decide +kernel⟩

/-- `joinIter` (nested loop) as inner join: the SQL definition's inner join, same row sequence. -/
theorem phys_nl_inner (c : Row → Row → Tri) (rw : Nat) (L R : List Row) :
    nlJoin false false c rw L R = innerJoin (fun a b => c a b == .t) L R :=
  (nlJoin_eq_blockJoin false c rw L R).trans blockJoin_false

/-- `joinIter` as left outer join. -/
theorem phys_nl_left (c : Row → Row → Tri) (rw : Nat) (L R : List Row) :
    nlJoin true false c rw L R = leftJoin (fun a b => c a b == .t) rw L R :=
  (nlJoin_eq_blockJoin true c rw L R).trans blockJoin_true

/-- `existsIter` as semi join (either NULL mode). -/
theorem phys_semi (excl : Bool) (c : Row → Row → Tri) (L R : List Row) :
    existsJoin false excl c L R = semiJoin (fun a b => c a b == .t) L R := by
  unfold existsJoin semiJoin
  congr 1; funext a; exact existsScanRow_closed false excl c a R

/-- `existsIter` as `AntiJoinIncludingNulls` (NOT EXISTS). -/
theorem phys_anti (c : Row → Row → Tri) (L R : List Row) :
    existsJoin true false c L R = antiJoin (fun a b => c a b == .t) L R := by
  unfold existsJoin antiJoin
  congr 1; funext a; exact existsScanRow_closed true false c a R

/-- `existsIter` as `AntiJoin` (NOT IN): a left row survives iff the condition is FALSE — not NULL —
against every right row; for `c a b = (x a = y b)` this is exactly "`x a NOT IN (y b …)` is TRUE"
(`Gms.Sql.notIn_eq_t`). -/
theorem phys_antiNulls (c : Row → Row → Tri) (L R : List Row) :
    existsJoin true true c L R = L.filter fun a => R.all fun b => c a b == .f := by
  unfold existsJoin
  congr 1; funext a; exact existsScanRow_closed true true c a R

theorem phys_antiNulls_notIn (x y : Row → Value) (L R : List Row) :
    existsJoin true true (fun a b => cmpTri .eq (x a) (y b)) L R
      = L.filter fun a => decide (Tri.not (inTri (x a) (R.map y)) = .t) := by
  rw [phys_antiNulls]
  refine List.filter_congr fun a _ => ?_
  rw [Bool.eq_iff_iff, List.all_eq_true, decide_eq_true_iff, notIn_eq_t, List.forall_mem_map]
  simp only [beq_iff_eq]

section Hash
variable {κ : Type} [DecidableEq κ]

/-- **Hash join = nested-loop join** (inner and left outer, same row sequence), for every state of
the lazily published lookup table, provided TRUE pairs agree on the hash key — which is what
`addHashJoins` guarantees by taking the keys from the equality conjuncts of the condition. -/
theorem phys_hash_eq (lo : Bool) (c : Row → Row → Tri) (rw : Nat) (kL kR : Row → κ) (choice : Nat)
    (L R : List Row) (H : ∀ a ∈ L, ∀ b ∈ R, c a b = .t → kR b = kL a) :
    hashJoin lo false c rw kL kR choice L R = nlJoin lo false c rw L R :=
  hashJoinGo_eq_nl lo false c rw kL kR R choice L false fun a ha b hb hs =>
    H a ha b hb (by rwa [seen_false, beq_iff_eq] at hs)

/-- Region of the finding: a pair on which the condition is NULL although the hash keys differ. -/
def HashProbeMiss (c : Row → Row → Tri) (kL kR : Row → κ) (L R : List Row) : Prop :=
  ∃ a ∈ L, ∃ b ∈ R, c a b = .u ∧ kR b ≠ kL a

/-- Full statement (FALSE on the unchanged tree, see `finding_hash_exclude_nulls_probe_miss`):
`∀ …, H → hashJoin lo true c rw kL kR choice L R = nlJoin lo true c rw L R`.
Guarded statement: the NULL-excluding hash joins (`LeftOuterHashJoinExcludingNulls`, and through
it NOT IN) equal the nested-loop join outside the region, whichever bucket `buildHashLookup` returns
for an empty probe. -/
theorem phys_hash_exclNulls_partial (lo : Bool) (c : Row → Row → Tri) (rw : Nat) (kL kR : Row → κ)
    (choice : Nat) (L R : List Row) (H : ∀ a ∈ L, ∀ b ∈ R, c a b = .t → kR b = kL a)
    (hreg : ¬ HashProbeMiss c kL kR L R) :
    hashJoin lo true c rw kL kR choice L R = nlJoin lo true c rw L R := by
  apply hashJoinGo_eq_nl
  intro a ha b hb hs
  rcases seen_iff.mp hs with hc | ⟨_, hc⟩
  · exact H a ha b hb hc
  · exact Classical.byContradiction fun hk => hreg ⟨a, ha, b, hb, hc, hk⟩

/-- Lookup join ≈ nested-loop join (bag equality; the index decides the order within a key). -/
theorem phys_lookup_perm (lo : Bool) (c : Row → Row → Tri) (rw : Nat) (kL kR : Row → κ)
    (idx : κ → List Row) (L R : List Row) (hidx : ∀ k, idx k ~ R.filter (fun r => kR r = k))
    (H : ∀ a ∈ L, ∀ b ∈ R, c a b = .t → kR b = kL a) :
    lookupJoin lo c rw kL idx L ~ nlJoin lo false c rw L R :=
  lookupJoin_residual_perm lo c c rw kL kR idx L R hidx fun a ha b hb =>
    ⟨fun h => ⟨h, H a ha b hb h⟩, fun h => h.1⟩

end Hash

/-- **Merge join = inner join**, same row sequence: both inputs in index order on a nullable
integer key (NULLs first), the comparer `l.k = r.k`, any further filters `sel`. The model's NULL
test is on the key itself (the single-column comparer); the row-constructor comparer fails exactly
there (`finding_merge_tuple_null_key`). String keys: the same argument over `bytesCmp` (not
mechanised); left outer merge join: `phys_merge_left`. -/
theorem phys_merge_inner (kl kr : Row → Option Int) (sel : Row → Row → Bool) (rw : Nat) (L R : List Row)
    (hL : SortedBy kl L) (hR : SortedBy kr R) :
    mergeJoin false (mergeCmp kl kr) (fun a => (kl a).isNone) sel rw L R
      = innerJoin (mergeCond kl kr sel) L R :=
  (mergeGo_eq_blockJoin false kl kr sel rw (mergeFuel L R) L R (Nat.lt_succ_self _) hL hR).trans
    blockJoin_false

/-- Non-vacuity: sorted inputs with duplicate keys, NULL keys and a residual filter. -/
example :
    mergeJoin false (mergeCmp (fun r => match r.getD 0 .null with | .int i => some i | _ => none)
        (fun r => match r.getD 0 .null with | .int i => some i | _ => none))
      (fun a => (match a.getD 0 .null with | .int i => some i | _ => (none : Option Int)).isNone)
      (fun a b => a.getD 1 .null != b.getD 1 .null) 2
      [[.null, .int 0], [.int 1, .int 5], [.int 1, .int 6], [.int 3, .int 0]]
      [[.null, .int 9], [.int 1, .int 5], [.int 1, .int 7], [.int 2, .int 0]]
    = [[.int 1, .int 5, .int 1, .int 7], [.int 1, .int 6, .int 1, .int 5], [.int 1, .int 6, .int 1, .int 7]] := by
  decide +kernel

/-- **Left outer merge join = left outer join**, same row sequence: inputs in index order on a
nullable integer key, the comparer `l.k = r.k`, any residual filters `sel`. Whatever the order of
passing and failing rows of `sel` inside a block of equal right keys, and whatever the previous left
row did, a left row gets its NULL-extended row iff NO row of its block passes (the state
`mergeJoinIter.leftMatched` has to carry exactly that; the driver runs this model on every plain
`LeftOuterMergeJoin(Idx, Idx)` plan and compares it with the engine). -/
theorem phys_merge_left (kl kr : Row → Option Int) (sel : Row → Row → Bool) (rw : Nat) (L R : List Row)
    (hL : SortedBy kl L) (hR : SortedBy kr R) :
    mergeJoin true (mergeCmp kl kr) (fun a => (kl a).isNone) sel rw L R
      = leftJoin (mergeCond kl kr sel) rw L R :=
  (mergeGo_eq_blockJoin true kl kr sel rw (mergeFuel L R) L R (Nat.lt_succ_self _) hL hR).trans
    blockJoin_true

def intKey (i : Nat) (r : Row) : Option Int := match r.getD i .null with | .int v => some v | _ => none

/-- Non-vacuity, on the input class of the stream `mres`: a block of three right rows with key 1 on
which the residual `l.x > r.y` passes, passes and FAILS LAST (pass … fail), one where it fails first,
left rows sharing a key, NULL keys: the left rows (1,5) and (1,6) matched, so they get no NULL row. -/
example :
    mergeJoin true (mergeCmp (intKey 0) (intKey 0)) (fun a => (intKey 0 a).isNone)
      (fun a b => decide ((intKey 1 a).getD 0 > (intKey 1 b).getD 0)) 2
      [[.null, .int 0], [.int 1, .int 5], [.int 1, .int 6], [.int 2, .int 0], [.int 3, .int 1]]
      [[.null, .int 9], [.int 1, .int 3], [.int 1, .int 4], [.int 1, .int 7], [.int 2, .int 5], [.int 2, .int 9]]
    = [[.null, .int 0, .null, .null],
       [.int 1, .int 5, .int 1, .int 3], [.int 1, .int 5, .int 1, .int 4],
       [.int 1, .int 6, .int 1, .int 3], [.int 1, .int 6, .int 1, .int 4],
       [.int 2, .int 0, .null, .null], [.int 3, .int 1, .null, .null]] := by
  decide +kernel

/-- Row-constructor equality `(a0,a1) = (b0,b1)` in three-valued logic. -/
def eq2 (a b : Row) : Tri :=
  Tri.and (cmpTri .eq (a.getD 0 .null) (b.getD 0 .null)) (cmpTri .eq (a.getD 1 .null) (b.getD 1 .null))

def key2 (r : Row) : Row := r.take 2

def wL : List Row := [[.int 1, .int 2], [.int 5, .int 7]]
def wR : List Row := [[.int 1, .int 5], [.null, .int 7]]

/-- TRUE pairs agree on the key (the hypothesis of `phys_hash_eq` holds for the witness). -/
example : ∀ a ∈ wL, ∀ b ∈ wR, eq2 a b = .t → key2 b = key2 a := by decide +kernel

/-- `(5,7) NOT IN {(1,5),(NULL,7)}` is NULL, so the nested-loop `LeftOuterJoinExcludingNulls`
abandons the left row (5,7); the hash variant probes the empty bucket of key (5,7), is handed the
bucket of (1,5) instead, finds no match and emits the NULL-padded row — which the `IS NULL` filter
above it then lets through. -/
theorem finding_hash_exclude_nulls_probe_miss :
    ∃ (L R : List Row) (choice : Nat),
      (∀ a ∈ L, ∀ b ∈ R, eq2 a b = .t → key2 b = key2 a) ∧
      hashJoin true true eq2 2 key2 key2 choice L R ≠ nlJoin true true eq2 2 L R :=
  ⟨wL, wR, 0, by decide +kernel, by decide +kernel⟩

/-- … and the outcome depends on which bucket the Go map iteration yields: with the other
choice the hash join is right. -/
example : hashJoin true true eq2 2 key2 key2 1 wL wR = nlJoin true true eq2 2 wL wR := by decide +kernel

example : HashProbeMiss eq2 key2 key2 wL wR := ⟨[.int 5, .int 7], by decide +kernel, [.null, .int 7], by decide +kernel, by decide +kernel, by decide +kernel⟩

/-- The encoding of a row-constructor NOT IN used by the harness: `WHERE NOT EXISTS (SELECT * FROM q
WHERE NOT (e IS FALSE))` keeps a row iff `e` is FALSE on every row of `q` — i.e. iff the disjunction
over the rows of `q` of `e` (the row-constructor IN) is FALSE, i.e. NOT IN is TRUE. -/
theorem tupleNotIn_filter (db : Db) (env : Env) (e : Expr) (q : Query) :
    (evalE db env (.not (.exists (.filter (.not (.isTruth false e)) q)))).truth = .t
      ↔ ∀ r ∈ evalQ db env q, (evalE db (r :: env) e).truth = .f := by
  have hnot : ∀ (env' : Env) (x : Expr), (evalE db env' (.not x)).truth = .t ↔ (evalE db env' x).truth = .f := by
    intro env' x; simp [evalE, truth_toValue, Tri.not_eq_t]
  have hex : ∀ Q : Query, (evalE db env (.exists Q)).truth = .f ↔ evalQ db env Q = [] := by
    intro Q
    simp only [evalE, truth_toValue]
    cases h : evalQ db env Q <;> simp [Tri.ofBool]
  have hisf : ∀ (env' : Env), (evalE db env' (.isTruth false e)).truth = .f ↔ (evalE db env' e).truth ≠ .f := by
    intro env'
    simp only [evalE, truth_toValue]
    cases (evalE db env' e).truth <;> simp [Tri.ofBool] <;> rfl
  rw [hnot, hex]
  simp only [evalQ, List.filter_eq_nil_iff, decide_eq_true_eq, hnot, hisf, ne_eq, Classical.not_not]

/-- What `addPlans` builds for `(e1 ⟕A e2) ⋈(B1 ∧ B2) e3` when B1 mentions e1,e3 and B2 mentions
e2,e3: the plan `(e1 ⋈B1 e3) ⟕A e2` — B2 is collected as a "select filter" and never used. -/
def plannedDropped {α β γ : Type} (mA : α → β → Bool) (mB1 : α → γ → Bool)
    (L : List α) (R2 : List β) (R3 : List γ) : List (α × Option β × Option γ) :=
  (lop .left (fun p y => mA p.1 y) (lop .inner mB1 L R3) R2).map fun q => (q.1.1, q.2, q.1.2)

def original {α β γ : Type} (mA : α → β → Bool) (mB1 : α → γ → Bool) (mB2 : Option β → γ → Bool)
    (L : List α) (R2 : List β) (R3 : List γ) : List (α × Option β × Option γ) :=
  (lop .inner (fun p z => mB1 p.1 z && mB2 p.2 z) (lop .left mA L R2) R3).map fun q => (q.1.1, q.1.2, q.2)

/-- Guarded statement: when the inner join has no conjunct on the LEFT JOIN's right table (B2
trivially true) the plan is a permutation of the original (this is `move_lasscom`). The full
statement (for every `mB2`) is FALSE: `finding_inner_conjunct_lost_at_outer_join`. -/
theorem reorder_left_inner_partial {α β γ : Type} (mA : α → β → Bool) (mB1 : α → γ → Bool)
    (mB2 : Option β → γ → Bool) (h : ∀ y z, mB2 y z = true) (L : List α) (R2 : List β) (R3 : List γ) :
    original mA mB1 mB2 L R2 R3 ~ plannedDropped mA mB1 L R2 R3 := by
  unfold original plannedDropped
  have : (fun (p : α × Option β) z => mB1 p.1 z && mB2 p.2 z) = fun p z => mB1 p.1 z := by
    funext p z; simp [h]
  rw [this]
  exact move_lasscom .left .inner mA mB1 L R2 R3

/-- The corpus witness: `t0 s1 LEFT JOIN t1 s2 ON s2.c1 = s1.c1 INNER JOIN t1 s3 ON s1.c1 = s3.c2
AND s3.c2 <= s2.c2` with t0 = {(1,3)}, t1 = {(3,1,3)}: s2 is NULL-padded, `s3.c2 <= NULL` is not
TRUE, the result is empty; the planned join returns one row. -/
theorem finding_inner_conjunct_lost_at_outer_join :
    ∃ (L : List (Int × Int)) (R2 R3 : List (Int × Int × Int))
      (mA : Int × Int → Int × Int × Int → Bool) (mB1 : Int × Int → Int × Int × Int → Bool)
      (mB2 : Option (Int × Int × Int) → Int × Int × Int → Bool),
      ¬ (original mA mB1 mB2 L R2 R3 ~ plannedDropped mA mB1 L R2 R3) :=
  ⟨[(1, 3)], [(3, 1, 3)], [(3, 1, 3)], fun a b => b.2.1 == a.2, fun a c => a.2 == c.2.2,
    fun y c => match y with | some b => decide (c.2.2 ≤ b.2.2) | none => false,
    mt Perm.length_eq (by decide +kernel)⟩

/-- Three-way comparison of the two-column keys of a merge join over a composite index; `none`
(`ErrNilOperand`) as soon as one part is NULL. -/
def cmp2 (a b : Row) : Option Ordering :=
  match a.getD 0 .null, a.getD 1 .null, b.getD 0 .null, b.getD 1 .null with
  | .null, _, _, _ => none
  | _, .null, _, _ => none
  | _, _, .null, _ => none
  | _, _, _, .null => none
  | a0, a1, b0, b1 => some (match a0.ord b0 with | .eq => a1.ord b1 | o => o)

def mL : List Row := [[.null, .int 1], [.int 2, .int 0], [.int 3, .int 2]]

/-- `mergeJoinIter.msRejectNull` asks whether the LEFT operand of the comparer is nil; for a row
constructor it never is (`leftNull = fun _ => false`), so on the left row (NULL,1) the iterator
advances the right side — to its end. The self join of {(NULL,1),(2,0),(3,2)} on both columns
returns nothing; the SQL definition returns the two non-NULL rows. -/
theorem finding_merge_tuple_null_key :
    ∃ (L R : List Row),
      mergeJoin false cmp2 (fun _ => false) (fun _ _ => true) 2 L R
        ≠ innerJoin (fun a b => cmp2 a b == some .eq) L R :=
  ⟨mL, mL, by decide +kernel⟩

/-- With the NULL test on the key parts (what the single-column comparer does) the model returns
the right rows on the same input: the defect is the nil test on the tuple. -/
example : mergeJoin false cmp2 (fun a => (a.getD 0 .null).isNull || (a.getD 1 .null).isNull) (fun _ _ => true) 2 mL mL
    = innerJoin (fun a b => cmp2 a b == some .eq) mL mL := by decide +kernel

/-- The plan with the derived edge: `e1 ⋈(m12 ∧ m13) (e2 ⋈m23 e3)`. -/
def plannedTransitive {α β γ : Type} (m12 : α → β → Bool) (m13 : α → γ → Bool) (m23 : β → γ → Bool)
    (L1 : List α) (L2 : List β) (L3 : List γ) : List (α × β × γ) :=
  ij (fun a q => m12 a q.1 && m13 a q.2) L1 (ij m23 L2 L3)

/-- The query as written: `(e1 ⋈m12 e2) ⋈m13 e3`. -/
def writtenTransitive {α β γ : Type} (m12 : α → β → Bool) (m13 : α → γ → Bool)
    (L1 : List α) (L2 : List β) (L3 : List γ) : List (α × β × γ) :=
  (ij (fun p c => m13 p.1 c) (ij m12 L1 L2) L3).map fun q => (q.1.1, q.1.2, q.2)

/-- Guarded statement: adding a derived edge is harmless when it is IMPLIED by the given
conditions (true for `=`: a = b ∧ a = c ⇒ b = c). The full statement (for every `m23` the builder
derives) is FALSE for `<=>`: `finding_transitive_edge_from_nullsafe_equality`. -/
theorem transitive_edge_partial {α β γ : Type} (m12 : α → β → Bool) (m13 : α → γ → Bool) (m23 : β → γ → Bool)
    (himp : ∀ a b c, m12 a b = true → m13 a c = true → m23 b c = true)
    (L1 : List α) (L2 : List β) (L3 : List γ) :
    plannedTransitive m12 m13 m23 L1 L2 L3 = writtenTransitive m12 m13 L1 L2 L3 := by
  -- both sides as loops over `L1`, `L2`, `L3`; the plan tests `m23` first, the query `m12`
  rw [plannedTransitive, writtenTransitive, ij_flat, List.map_eq_flatMap]
  simp only [ij_flatMap]
  refine Basics.flatMap_congr_mem fun a _ => Basics.flatMap_congr_mem fun b _ => ?_
  by_cases h2 : m12 a b = true
  · rw [if_pos h2]
    refine Basics.flatMap_congr_mem fun c _ => ?_
    by_cases h3 : m13 a c = true
    · simp [h2, h3, himp a b c h2 h3]
    · simp [h3]
  · simp [h2, flatMap_nil_fun]

/-- NULL-safe equality and plain equality as join conditions on nullable integers. -/
def nseqB (a b : Option Int) : Bool := a == b
def eqB (a b : Option Int) : Bool := match a, b with | some x, some y => x == y | _, _ => false

/-- `a <=> b ∧ a <=> c` does not imply `b = c` (all NULL): the written query has the all-NULL row,
the plan with the derived plain-equality edge does not. -/
theorem finding_transitive_edge_from_nullsafe_equality :
    ∃ (L1 L2 L3 : List (Option Int)),
      plannedTransitive nseqB nseqB eqB L1 L2 L3 ≠ writtenTransitive nseqB nseqB L1 L2 L3 :=
  ⟨[none], [none], [none], by decide +kernel⟩

/-- Non-vacuity of the guard: plain equalities do imply the derived edge. -/
example : ∀ a b c : Option Int, eqB a b = true → eqB a c = true → eqB b c = true := by
  intro a b c
  cases a <;> cases b <;> cases c <;> simp [eqB]
  intro h1 h2; omega

/-! Join keys whose equality is not byte equality.

Text keys under a case/accent-insensitive collation, numeric keys of different column types: two
stored values are `=` iff their NORMAL FORMS (`Gms.PhysKeys.normValue`) are the same value. Plan
independence must hold for them as well: an operator that keys a map / an index / a DISTINCT by the
stored value instead of (a function of) the normal form loses or duplicates rows. -/

section Keys
open Gms.PhysKeys

/-- **Hash join keyed by the normal form = nested-loop join** (inner and left outer, same row
sequence, every state of the lazily published table, any residual). This is what `GetHashKey` must
provide: `HashOfSimple` hashes the collation WEIGHTS of a string / the value converted to the common
compare type. -/
theorem phys_hash_normKey (lo : Bool) (n : Value → Value) (i j : Nat) (res : Row → Row → Tri) (rw : Nat)
    (choice : Nat) (L R : List Row) :
    hashJoin lo false (keyedCond n i j res) rw (fun a => n (a.getD i .null)) (fun b => n (b.getD j .null))
        choice L R
      = nlJoin lo false (keyedCond n i j res) rw L R :=
  phys_hash_eq lo _ rw _ _ choice L R fun _ _ _ _ => keyedCond_t

/-- … and so is one keyed by any function of the normal form (a lossy hash of the collation
weights, say — `hash.HashOfSimple`). -/
theorem phys_hash_coarserKey {κ : Type} [DecidableEq κ] (lo : Bool) (n : Value → Value) (h : Value → κ)
    (i j : Nat) (res : Row → Row → Tri) (rw : Nat) (choice : Nat) (L R : List Row) :
    hashJoin lo false (keyedCond n i j res) rw (fun a => h (n (a.getD i .null))) (fun b => h (n (b.getD j .null)))
        choice L R
      = nlJoin lo false (keyedCond n i j res) rw L R :=
  phys_hash_eq lo _ rw _ _ choice L R fun _ _ _ _ hc => congrArg h (keyedCond_t hc)

/-- Normal form of a text key under an `_ai_ci` collation / of a numeric key. -/
def ciNorm (v : Value) : Value := (normValue .ci v).getD .null
def numNorm (v : Value) : Value := (normValue .num v).getD .null

/-- 'bob', 'BOB', 'bób' (UTF-8). -/
def sBob : Value := .str [0x62, 0x6F, 0x62]
def sBOB : Value := .str [0x42, 0x4F, 0x42]
def sBob' : Value := .str [0x62, 0xC3, 0xB3, 0x62]
def sX : Value := .str [0x78]

example : ciNorm sBOB = sBob ∧ ciNorm sBob' = sBob := by decide +kernel
example : numNorm (.str [0x31, 0x2E, 0x35, 0x30]) = .int 1500 ∧ numNorm (.str [0x2D, 0x30, 0x2E, 0x30]) = .int 0
    ∧ numNorm (.int 1) = numNorm (.str [0x31, 0x2E, 0x30, 0x30, 0x30]) := by decide +kernel

def kL1 : List Row := [[.int 1, sBob], [.int 2, sBOB], [.int 3, sBob']]
def kR1 : List Row := [[.int 1, sBob]]

/-- Non-vacuity of `phys_hash_normKey`, and the reason the stream `keq` exists: keyed by the STORED
value (a "strings are comparable map keys anyway" fast path in `HashLookup.GetHashKey`) the hash join
loses every left row spelled differently from its partner — except the first left row, which still
scans the whole right side because the lookup table is published lazily. The hypothesis of
`phys_hash_eq` (TRUE pairs agree on the key) is what fails. -/
theorem hash_key_finer_than_equality_loses_rows :
    hashJoin false false (keyedCond ciNorm 1 1 fun _ _ => .t) 2 (fun a => a.getD 1 .null) (fun b => b.getD 1 .null) 0 kL1 kR1
      = [[.int 1, sBob, .int 1, sBob]]
    ∧ nlJoin false false (keyedCond ciNorm 1 1 fun _ _ => .t) 2 kL1 kR1
      = [[.int 1, sBob, .int 1, sBob], [.int 2, sBOB, .int 1, sBob], [.int 3, sBob', .int 1, sBob]]
    ∧ hashJoin false false (keyedCond ciNorm 1 1 fun _ _ => .t) 2 (fun a => ciNorm (a.getD 1 .null))
        (fun b => ciNorm (b.getD 1 .null)) 0 kL1 kR1
      = nlJoin false false (keyedCond ciNorm 1 1 fun _ _ => .t) 2 kL1 kR1 := by
  decide +kernel

def weightOf (tbl : List (Nat × Int)) (r : Nat) : Int := ((tbl.find? (·.1 == r)).map (·.2)).getD 0

theorem injOn_of_strictMonoOn (w : Nat → Int) (S : List Nat)
    (h : ∀ b1 ∈ S, ∀ b2 ∈ S, b1 < b2 → w b1 < w b2) : ∀ b1 ∈ S, ∀ b2 ∈ S, w b1 = w b2 → b1 = b2 := by
  intro b1 h1 b2 h2 he
  rcases Nat.lt_trichotomy b1 b2 with hlt | heq | hgt
  · have := h b1 h1 b2 h2 hlt; omega
  · exact heq
  · have := h b2 h2 b1 h1 hgt; omega

theorem strictMonoOn_of_step (w : Nat → Int) (lo n : Nat) (h : ∀ i ∈ List.range n, w (lo + i) < w (lo + i + 1)) :
    ∀ b1 ∈ (List.range (n + 1)).map (lo + ·), ∀ b2 ∈ (List.range (n + 1)).map (lo + ·), b1 < b2 → w b1 < w b2 := by
  have step : ∀ j i, i < j → j ≤ n → w (lo + i) < w (lo + j) := by
    intro j
    induction j with
    | zero => intro i hi; omega
    | succ j ih =>
      intro i hi hj
      have hj' := h j (List.mem_range.mpr hj)
      rcases Nat.lt_succ_iff_lt_or_eq.mp hi with hlt | rfl
      · exact Int.lt_trans (ih i hlt (Nat.le_of_succ_le hj)) hj'
      · exact hj'
  intro b1 h1 b2 h2 hlt
  obtain ⟨i, _, rfl⟩ := List.mem_map.mp h1
  obtain ⟨j, hj, rfl⟩ := List.mem_map.mp h2
  exact step j i (by omega) (Nat.le_of_lt_succ (List.mem_range.mp hj))

/-- For every case-insensitive collation the stream uses, on the stream's alphabet: the table lists
exactly the alphabet, a rune has the weight of its fold, and the base letters have pairwise different
— indeed increasing — weights. (Weights dumped by running the collation's `Sorter`.) -/
theorem facts_fold_weights : ∀ c ∈ Generated.C01.ciWeights,
    c.2.map (·.1) = alphabet
    ∧ (∀ r ∈ alphabet, weightOf c.2 r = weightOf c.2 (foldRune r))
    ∧ (∀ b1 ∈ baseLetters, ∀ b2 ∈ baseLetters, weightOf c.2 b1 = weightOf c.2 b2 → b1 = b2)
    ∧ (∀ b1 ∈ baseLetters, ∀ b2 ∈ baseLetters, b1 < b2 → weightOf c.2 b1 < weightOf c.2 b2) := by
  -- the base letters are consecutive runes: their weights are compared one letter to the next
  have sweep : ∀ c ∈ Generated.C01.ciWeights, c.2.map (·.1) = alphabet
      ∧ (∀ r ∈ alphabet, weightOf c.2 r = weightOf c.2 (foldRune r))
      ∧ (∀ i ∈ List.range 25, weightOf c.2 (0x61 + i) < weightOf c.2 (0x61 + i + 1)) := by
    decide +kernel
  intro c hc
  obtain ⟨hal, hfold, hstep⟩ := sweep c hc
  have hmono := strictMonoOn_of_step (weightOf c.2) 0x61 25 hstep
  exact ⟨hal, hfold, injOn_of_strictMonoOn _ _ hmono, hmono⟩

theorem fold_in_base : ∀ r ∈ alphabet, foldRune r ∈ baseLetters := by decide +kernel

/-- Two runes of the alphabet have the same collation weight iff they have the same fold. -/
theorem fold_eq_iff_weight_eq (c : String × List (Nat × Int)) (hc : c ∈ Generated.C01.ciWeights)
    (r1 r2 : Nat) (h1 : r1 ∈ alphabet) (h2 : r2 ∈ alphabet) :
    weightOf c.2 r1 = weightOf c.2 r2 ↔ foldRune r1 = foldRune r2 := by
  obtain ⟨_, hw, hinj, _⟩ := facts_fold_weights c hc
  constructor
  · intro h
    apply hinj _ (fold_in_base r1 h1) _ (fold_in_base r2 h2)
    rw [← hw r1 h1, ← hw r2 h2, h]
  · intro h
    rw [hw r1 h1, hw r2 h2, h]

example : Generated.C01.ciWeights.length = 2 := by decide +kernel

/-- `HashLookup.GetHashKey`, run on typed values for every pair of key column types the stream joins:
every pair of values that `expression.Equals` calls equal gets the same map key (the hypothesis of
`phys_hash_eq` on the real key function), and each type pair has such pairs. -/
theorem facts_hash_key_respects_eq :
    Generated.C01.hashKeyBreaks = []
    ∧ (∀ f ∈ Generated.C01.hashKeyFacts, f.2.2.2.1 = f.2.2.2.2 ∧ 0 < f.2.2.2.1)
    ∧ Generated.C01.hashKeyFacts.length = 28 := by
  decide +kernel

def ciCond2 (a b : Row) : Tri :=
  Tri.and (cmpTri .eq (ciNorm (a.getD 1 .null)) (ciNorm (b.getD 1 .null)))
    (cmpTri .eq (ciNorm (a.getD 2 .null)) (ciNorm (b.getD 2 .null)))

def rawKey2 (r : Row) : Row := [r.getD 1 .null, r.getD 2 .null]
def normKey2 (r : Row) : Row := [ciNorm (r.getD 1 .null), ciNorm (r.getD 2 .null)]

def tL : List Row := [[.int 1, sBob, sX], [.int 2, sBOB, sX], [.int 3, sBob', sX]]
def tR : List Row := [[.int 1, sBob, sX]]

/-- `plan.NewHashLookup` takes `leftKeySch` from the ONE row-constructor expression, so `hash.HashOf`
sees no string type for the parts and hashes their bytes: the model with the raw two-column key.
Guarded statement: `phys_hash_eq` (its hypothesis holds for `normKey2`, fails for `rawKey2`). -/
theorem finding_hash_join_tuple_key_not_by_equality :
    ∃ (L R : List Row), hashJoin false false ciCond2 3 rawKey2 rawKey2 0 L R ≠ nlJoin false false ciCond2 3 L R :=
  ⟨tL, tR, by decide +kernel⟩

example : hashJoin false false ciCond2 3 normKey2 normKey2 0 tL tR = nlJoin false false ciCond2 3 tL tR := by decide +kernel
example : ∀ a ∈ tL, ∀ b ∈ tR, ciCond2 a b = .t → normKey2 b = normKey2 a := by decide +kernel

/-- Guarded statement: dropping the equality conjunct of a lookup join is sound when "the index
returns the row" and "the condition is TRUE" coincide. -/
theorem phys_lookup_dropped_cond_partial {κ : Type} [DecidableEq κ] (lo : Bool) (c : Row → Row → Tri) (rw : Nat)
    (kL kR : Row → κ) (idx : κ → List Row) (L R : List Row)
    (hidx : ∀ k, idx k ~ R.filter (fun r => kR r = k))
    (H : ∀ a ∈ L, ∀ b ∈ R, (c a b = .t ↔ kR b = kL a)) :
    lookupJoin lo (fun _ _ => Tri.t) rw kL idx L ~ nlJoin lo false c rw L R :=
  lookupJoin_residual_perm lo c _ rw kL kR idx L R hidx fun a ha b hb =>
    (H a ha b hb).trans ⟨fun h => ⟨rfl, h⟩, fun h => h.2⟩

/-- Thousandths rounded to a whole number (half away from zero), as the conversion to BIGINT does. -/
def roundK (v : Value) : Value :=
  match v with
  | .int n => .int (if n ≥ 0 then (n + 500) / 1000 * 1000 else -((-n + 500) / 1000 * 1000))
  | v => v

def numEq (a b : Row) : Tri := cmpTri .eq (a.getD 1 .null) (b.getD 1 .null)
def lkL : List Row := [[.int 1, .int 3000], [.int 3, .int 2500]]
def lkR : List Row := [[.int 1, .int 2000], [.int 2, .int 3000]]

/-- t1(c1 DOUBLE) = {3.0, 2.5}, t2(c1 BIGINT UNSIGNED, KEY) = {2, 3} (in thousandths): the lookup
join probes the index with 2.5 converted to 3 and, the equality having been removed as "implied by
the lookup", returns (2.5, 3) as a match. -/
theorem finding_lookup_join_probe_key_rounded :
    ∃ (L R : List Row),
      ¬ (lookupJoin false (fun _ _ => Tri.t) 2 (fun a => roundK (a.getD 1 .null))
            (fun k => R.filter fun b => b.getD 1 .null = k) L ~ nlJoin false false numEq 2 L R) :=
  ⟨lkL, lkR, mt Perm.length_eq (by decide +kernel)⟩

/-- Non-vacuity of the guard: with the exact key the same lookup join is right. -/
example : lookupJoin false (fun _ _ => Tri.t) 2 (fun a => a.getD 1 .null)
      (fun k => lkR.filter fun b => b.getD 1 .null = k) lkL = nlJoin false false numEq 2 lkL lkR := by decide +kernel

/-- Guarded statement: the memo's rewrite `L ⋉ R = π_L (L ⋈ Distinct(R))` is sound when the
de-duplicated right side `D` has, for every left row, a match iff `R` has one, and at most one. The
full statement (for `D` = the rows of `R` distinct AS STORED) is FALSE:
`finding_semi_join_distinct_not_by_key_equality`. -/
theorem semi_as_distinct_inner_partial (m : Row → Row → Bool) (L R D : List Row)
    (hany : ∀ a ∈ L, D.any (m a) = R.any (m a))
    (hone : ∀ a ∈ L, (D.filter (m a)).length ≤ 1) :
    (L.flatMap fun a => (D.filter (m a)).map fun _ => a) = semiJoin m L R := by
  rw [semiJoin, filter_eq_flatMap]
  refine Basics.flatMap_congr_mem fun a ha => ?_
  -- `D` has one matching row where `R` has some, none where `R` has none
  rw [← hany a ha, ← Bool.not_not (D.any (m a)), ← isEmpty_filter]
  have h1 := hone a ha
  -- `h1` leaves no case of two or more matching rows
  match hf : D.filter (m a), h1 with
  | [], _ => rfl
  | [_], _ => rfl

def ciMatch (a b : Row) : Bool := cmpTri .eq (ciNorm (a.getD 0 .null)) (ciNorm (b.getD 0 .null)) == .t

/-- `plan.Distinct` hashes rows without a schema (C07 `distinct_collation`): 'bob' and 'BOB' both
survive, and the left row 'bób' comes out twice. -/
theorem finding_semi_join_distinct_not_by_key_equality :
    ∃ (L R : List Row),
      (L.flatMap fun a => ((dedup R).filter (ciMatch a)).map fun _ => a) ≠ semiJoin ciMatch L R :=
  ⟨[[sBob']], [[sBob], [sBOB], [sBob]], by decide +kernel⟩

/-- Non-vacuity of the guard: de-duplicated by the normal form the rewrite is right on that input. -/
example : ([[sBob']].flatMap fun a => ((dedup ([[sBob], [sBOB], [sBob]].map fun r => r.map ciNorm)).filter (ciMatch a)).map fun _ => a)
    = semiJoin ciMatch [[sBob']] [[sBob], [sBOB], [sBob]] := by decide +kernel

end Keys

/-! NULL keys: NOT IN planned as a left outer join, a lookup made NULL-safe for all its key parts. -/

/-- Guarded statement: `Filter(right IS NULL, LeftOuterJoin)` — i.e. the anti join that treats NULL
like FALSE (`AntiJoinIncludingNulls`, NOT EXISTS) — is the NOT IN anti join when the condition is
never NULL. The full statement is FALSE as soon as a key is NULL: `finding_not_in_as_left_outer_join`. -/
theorem notIn_as_leftOuter_partial (c : Row → Row → Tri) (L R : List Row)
    (h : ∀ a ∈ L, ∀ b ∈ R, c a b ≠ .u) :
    existsJoin true true c L R = existsJoin true false c L R := by
  unfold existsJoin
  exact List.filter_congr fun a ha => existsScanRow_excl_of_never_null true true c a R (h a ha)

def keyEq0 (a b : Row) : Tri := cmpTri .eq (a.getD 0 .null) (b.getD 0 .null)

/-- a = {1, NULL, 9}, b = {1, NULL}: `a.k NOT IN (SELECT b.k FROM b)` is never TRUE (b has a NULL);
as `LeftOuterMergeJoin` / `LeftOuterLookupJoin` + `IS NULL` the rows NULL and 9 are returned. -/
theorem finding_not_in_as_left_outer_join :
    ∃ (L R : List Row), existsJoin true false keyEq0 L R ≠ existsJoin true true keyEq0 L R :=
  ⟨[[.int 1], [.null], [.int 9]], [[.int 1], [.null]], by decide +kernel⟩

/-- Guarded statement: a lookup join that keeps the residual `c'` and is keyed on `kL`/`kR` is the
join on `c` when "`c` is TRUE" means "`c'` is TRUE and the index returns the row". It fails when the
index also returns the rows whose key is NULL for a probe key NULL although `c` demands `=`:
`finding_lookup_join_nullsafe_for_all_key_parts`. -/
theorem phys_lookup_residual_partial {κ : Type} [DecidableEq κ] (lo : Bool) (c c' : Row → Row → Tri) (rw : Nat)
    (kL kR : Row → κ) (idx : κ → List Row) (L R : List Row)
    (hidx : ∀ k, idx k ~ R.filter (fun r => kR r = k))
    (H : ∀ a ∈ L, ∀ b ∈ R, (c a b = .t ↔ (c' a b = .t ∧ kR b = kL a))) :
    lookupJoin lo c' rw kL idx L ~ nlJoin lo false c rw L R :=
  lookupJoin_residual_perm lo c c' rw kL kR idx L R hidx H

def nsCond (a b : Row) : Tri :=
  Tri.and (cmpTri .nseq (a.getD 0 .null) (b.getD 0 .null)) (cmpTri .eq (a.getD 1 .null) (b.getD 1 .null))
def nsL : List Row := [[.int 7, .null], [.int 7, .int 5]]

/-- t(c1, c3) = {(7, NULL), (7, 5)} joined with itself ON c1 <=> c1 AND c3 = c3: the lookup on the
index of c3 is made NULL-safe by the `<=>` conjunct (the index returns the NULL-keyed row for the
probe key NULL) and `c3 = c3` is dropped, so (7, NULL) finds itself. -/
theorem finding_lookup_join_nullsafe_for_all_key_parts :
    ∃ (L R : List Row),
      ¬ (lookupJoin false (fun a b => cmpTri .nseq (a.getD 0 .null) (b.getD 0 .null)) 2 (fun a => a.getD 1 .null)
            (fun k => R.filter fun b => b.getD 1 .null = k) L ~ nlJoin false false nsCond 2 L R) :=
  ⟨nsL, nsL, mt Perm.length_eq (by decide +kernel)⟩

/-! An inner-join conjunct lost through a conflict rule (inner-only chains, ≥ 4 tables).

`Gms/Model/JoinConflict.lean` is the Impl model of `edge.calcTES` / `edge.applicable` on left-deep
chains of inner joins (unit correspondence with the real functions: the `jcd` cases of the run).
The builder's `assoc` / `leftAsscom` refuse a move that would "estrange" a relation BEFORE they look
at their tables, so an inner edge gets conflict rules — which the published algorithm never gives
to a pair of inner joins (the table entries are `always`: `inner_cross_entries_always`). A table set
that violates a rule of edge e can still be joined through other edges; e's filter is then put at no
node of that plan. -/

open Gms.JoinConflict in
/-- Inner and cross operators: `checkProperty` allows assoc, l-asscom and r-asscom for every pair
(REGENERATED tables), so on inner-only chains the only source of conflict rules is the estrange
test in front of it. -/
theorem inner_cross_entries_always :
    ∀ t ∈ [Generated.C01.assocTable, Generated.C01.leftAsscomTable, Generated.C01.rightAsscomTable],
      ∀ a ∈ [Kind.cross, Kind.inner], ∀ b ∈ [Kind.cross, Kind.inner], allowed t a b = true := by
  decide +kernel

open Gms.JoinConflict in
/-- Guarded statement: in a plan over distinct tables that covers the edge's TES, the conjunct of
the edge is applied at EXACTLY ONE join node whenever the edge's conflict rules hold at the lowest
node covering the TES (in particular whenever the edge has no rules). The full statement (for
every edge and plan) is FALSE: `finding_inner_conjunct_lost_by_conflict_rule`. -/
theorem applied_once_partial (e : Edge) (t : PTree) (hnd : t.verts.Nodup)
    (hcov : subset e.tes t.verts = true) (h2 : ∃ a b, a ∈ e.tes ∧ b ∈ e.tes ∧ a ≠ b)
    (hok : rulesOk e (lowestCover e t).verts = true) : countApplied e t = 1 := by
  rw [applied_count e t hnd hcov h2, if_pos hok]

open Gms.JoinConflict in
/-- … and it is applied NOWHERE iff a rule is violated there: the region of the finding is exactly
"a conflict rule of the conjunct's edge fails at the node where its tables first meet". -/
theorem lost_iff_rule_violated (e : Edge) (t : PTree) (hnd : t.verts.Nodup)
    (hcov : subset e.tes t.verts = true) (h2 : ∃ a b, a ∈ e.tes ∧ b ∈ e.tes ∧ a ≠ b) :
    countApplied e t = 0 ↔ rulesOk e (lowestCover e t).verts = false := by
  rw [applied_count e t hnd hcov h2]
  cases rulesOk e (lowestCover e t).verts <;> simp

open Gms.JoinConflict in
theorem applied_once_of_no_rules (e : Edge) (t : PTree) (hnd : t.verts.Nodup)
    (hcov : subset e.tes t.verts = true) (h2 : ∃ a b, a ∈ e.tes ∧ b ∈ e.tes ∧ a ≠ b)
    (hr : e.rules = []) : countApplied e t = 1 :=
  applied_once_partial e t hnd hcov h2 (rulesOk_nil e hr _)

namespace Conflict
open Gms.JoinConflict

/-- The corpus witness: `s1 ⋈ s2 ON s2=s1 ⋈ s3 ON s2=s3 ⋈ s4 ON s3=s4 AND s4>s1`; SESs of the conjuncts. -/
def wOns : List (List VSet) := [[[0, 1]], [[1, 2]], [[2, 3], [0, 3]]]
/-- The default plan `LookupJoin(InnerJoin(s4, InnerJoin(s3, s1)), s2)`. -/
def wPlan : PTree := .node (.node (.leaf 3) (.node (.leaf 2) (.leaf 0))) (.leaf 1)
/-- The plan in syntactic order. -/
def wPlanFwd : PTree := .node (.node (.node (.leaf 0) (.leaf 1)) (.leaf 2)) (.leaf 3)

/-- The edge of `s4 > s1` carries the rule {s3} → {s2}. -/
example : (buildEdges wOns).map (·.rules) = [[], [], [], [⟨[2], [1]⟩]] := by decide +kernel
/-- The default plan applies the three equalities once and `s4 > s1` nowhere; the plan in syntactic
order applies every conjunct once. -/
example : (buildEdges wOns).map (countApplied · wPlan) = [1, 1, 1, 0] := by decide +kernel
example : (buildEdges wOns).map (countApplied · wPlanFwd) = [1, 1, 1, 1] := by decide +kernel
/-- Chains of up to three tables get no rules (samples; the mechanism needs four tables). -/
example : ∀ e ∈ buildEdges [[[0, 1], [0, 1]], [[1, 2], [0, 2], [0, 1, 2], [0, 1]]], e.rules = [] := by decide +kernel
example : ∀ e ∈ buildEdges [[], [[0, 2], [1, 2]]], e.rules = [] := by decide +kernel

/-- What the default plan computes (the conjunct `p14` is in no filter list; `m13` is the edge
derived from the equalities) … -/
def plannedLost {α : Type} (m12 m23 m34 m13 : α → α → Bool) (L1 L2 L3 L4 : List α) : List (α × α × α × α) :=
  (ij (fun (q : α × α × α) b => m12 q.2.2 b && m23 b q.2.1)
      (ij (fun d (q : α × α) => m34 q.1 d) L4 (ij (fun c a => m13 a c) L3 L1)) L2).map
    fun x => (x.1.2.2, x.2, x.1.2.1, x.1.1)

/-- … and the query as written. -/
def written {α : Type} (m12 m23 m34 p14 : α → α → Bool) (L1 L2 L3 L4 : List α) : List (α × α × α × α) :=
  (ij (fun (q : (α × α) × α) d => m34 q.2 d && p14 q.1.1 d)
      (ij (fun (q : α × α) c => m23 q.2 c) (ij m12 L1 L2) L3) L4).map
    fun x => (x.1.1.1, x.1.1.2, x.1.2, x.2)

end Conflict

open Gms.JoinConflict Conflict in
/-- The witness: the model of the conflict detection applies the conjunct `s4.c0 > s1.c0` at no node
of the default plan although the plan covers its tables (so `applied_once_partial` without its guard
is false), and on t1 = {0}, t0 = {-2, 4, -1, 0} the plan without the conjunct returns (0,0,0,0)
while the query as written returns nothing. -/
theorem finding_inner_conjunct_lost_by_conflict_rule :
    (∃ (e : Edge) (t : PTree), e ∈ buildEdges wOns ∧ t.verts.Nodup ∧ subset e.tes t.verts = true ∧
        (∃ a b, a ∈ e.tes ∧ b ∈ e.tes ∧ a ≠ b) ∧ countApplied e t = 0) ∧
    (∃ (L1 L2 L3 L4 : List Int),
        plannedLost (· == ·) (· == ·) (· == ·) (· == ·) L1 L2 L3 L4
          ≠ written (· == ·) (· == ·) (· == ·) (fun a d => decide (d > a)) L1 L2 L3 L4) := by
  refine ⟨⟨⟨3, [0, 3], [0, 3], [⟨[2], [1]⟩]⟩, wPlan, by decide +kernel, by decide +kernel, by decide +kernel,
    ⟨0, 3, by decide +kernel, by decide +kernel, by decide +kernel⟩, by decide +kernel⟩, ⟨[0], [-2, 4, -1, 0], [0], [0], by decide +kernel⟩⟩

/-! A LEFT JOIN replaced by an inner join on a derived edge.

`ensureClosure` derives from the equalities above a LEFT JOIN (`s4 = s2 AND s3 = s4`) the edge
`s2 = s3` between the LEFT JOIN's two sides, registers it as an INNER edge of the LEFT JOIN's
operator, and `addPlans` then joins the two sides as an inner join on that edge alone — the LEFT
JOIN's own ON is in no filter list (the comment in `addPlans`: "transitive closure can accidentally
replace nonInner op with inner op"). -/

/-- The query as written: `(L ⟕ON R)` filtered by the condition `up` of the operators above. -/
def writtenLeft {α β : Type} (mON : α → β → Bool) (up : α → Option β → Bool) (L : List α) (R : List β) :
    List (α × Option β) :=
  (lop .left mON L R).filter fun p => up p.1 p.2

/-- The plan: the inner join on the derived edge `m'`. -/
def plannedInner {α β : Type} (m' : α → β → Bool) (L : List α) (R : List β) : List (α × Option β) :=
  lop .inner m' L R

/-- Guarded statement: the replacement is right when the conditions above reject the NULL-padded
rows AND the derived edge also enforces the LEFT JOIN's ON. The builder checks neither; the full
statement is FALSE: `finding_left_join_replaced_by_inner_join`. -/
theorem left_replaced_by_inner_partial {α β : Type} (mON m' : α → β → Bool) (up : α → Option β → Bool)
    (hnull : ∀ a, up a none = false) (hon : ∀ a b, (mON a b && up a (some b)) = m' a b)
    (L : List α) (R : List β) : writtenLeft mON up L R = plannedInner m' L R := by
  unfold writtenLeft plannedInner lop
  rw [List.filter_flatMap]
  refine Basics.flatMap_congr_mem fun a _ => ?_
  have hm : R.filter (m' a) = (R.filter (mON a)).filter fun b => up a (some b) := by
    rw [List.filter_filter]
    exact List.filter_congr fun b _ => by rw [← hon, Bool.and_comm]
  rw [hm]
  -- no partner: the NULL-padded row is rejected above; else the conditions above filter the partners
  cases R.filter (mON a) with
  | nil => simp [Shape.ext, hnull]
  | cons b F =>
    simp only [Shape.ext, List.isEmpty_cons, Bool.false_eq_true, if_false, List.map_map, List.filter_map]
    rfl

/-- Non-vacuity of the guard, and the witness: `t0 s2 LEFT JOIN t1 s3 ON s2.c0 <=> s3.c0 AND
s3.c0 > s3.c0 … INNER JOIN t0 s4 ON s4.c0 = s2.c0 AND s3.c0 = s4.c0` on s2 = {-1}, s3 = {-1}: the
ON is never true, every s2 row is NULL-padded and rejected above; the inner join on the derived
`s2.c0 = s3.c0` returns (-1,-1). -/
example : ∀ a b : Int, ((a == b) && (match some b with | some y => a == y | none => false)) = (a == b) := by
  intro a b; simp

theorem finding_left_join_replaced_by_inner_join :
    ∃ (L R : List Int) (mON m' : Int → Int → Bool) (up : Int → Option Int → Bool),
      (∀ a, up a none = false) ∧ writtenLeft mON up L R ≠ plannedInner m' L R :=
  ⟨[-1], [-1], fun a b => a == b && decide (b > b), fun a b => a == b,
    fun a y => match y with | some b => a == b | none => false, fun _ => rfl, by decide +kernel⟩

/-- The `lookupTableEntry` constants the model uses are the ones of the source. -/
theorem entryBits_match :
    Generated.C01.entryBits = [eNever, eAlways, eFilterA, eFilterB, eRejectsOnLeftA, eRejectsOnRightA, eRejectsOnRightB] := by
  decide +kernel

/-- Flag positions in `Generated.C01.joinTypes`. -/
def flag (e : String × Nat × List Bool) (i : Nat) : Bool := e.2.2.getD i false
def fCommute := 0
def fExcl := 1
def fLeftOuter := 2
def fSemi := 3
def fAnti := 4
def fPartial := 5
def fHash := 6
def fMerge := 7
def fLookup := 8
def fCross := 9
def fRange := 10
def fLateral := 11
def fFull := 12
def fPlaceholder := 13

def predFlag : String → Option Nat
  | "IsFullOuter" => some fFull | "IsPartial" => some fPartial | "IsCross" => some fCross
  | "IsPlaceholder" => some fPlaceholder | "IsMerge" => some fMerge | "IsLateral" => some fLateral
  | "IsRange" => some fRange | _ => none

/-- The iterator `buildJoinNode` picks for a join type, computed from the regenerated dispatch
order and the regenerated predicate table. -/
def iterOf (e : String × Nat × List Bool) : List (String × String) → String
  | [] => "none"
  | (p, target) :: rest =>
    if p == "default" then target
    else match predFlag p with
      | some i => if flag e i then target else iterOf e rest
      | none => "unknown-predicate"

def iterTable : List (String × String) :=
  Generated.C01.joinTypes.map fun e => (e.1, iterOf e Generated.C01.iterDispatch)

/-- The iterator models of `Gms/Model/Phys.lean` are the ones the engine runs for each physical
join type: `joinIter` (`nlScanRow`) for inner/left/lookup/hash joins, `existsIter`
(`existsScanRow`) for every semi/anti variant that `IsPartial` knows, `mergeJoinIter` for merge
joins. -/
theorem iter_dispatch_match :
    iterTable.filter (fun p => p.1 ∈ ["InnerJoin", "LeftOuterJoin", "LeftOuterJoinExcludingNulls", "LookupJoin",
        "LeftOuterLookupJoin", "HashJoin", "LeftOuterHashJoin", "LeftOuterHashJoinExcludingNulls", "SemiJoin", "AntiJoin",
        "AntiJoinIncludingNulls", "SemiHashJoin", "AntiHashJoin", "AntiHashJoinIncludingNulls", "SemiLookupJoin",
        "AntiLookupJoin", "AntiLookupIncludingNulls", "MergeJoin", "LeftOuterMergeJoin", "CrossJoin", "FullOuterJoin"])
      = [("CrossJoin", "newCrossJoinIter"), ("InnerJoin", "newJoinIter"), ("SemiJoin", "newExistsIter"),
         ("AntiJoin", "newExistsIter"), ("AntiJoinIncludingNulls", "newExistsIter"), ("LeftOuterJoin", "newJoinIter"),
         ("LeftOuterJoinExcludingNulls", "newJoinIter"), ("FullOuterJoin", "newFullJoinIter"), ("LookupJoin", "newJoinIter"),
         ("LeftOuterLookupJoin", "newJoinIter"), ("HashJoin", "newJoinIter"), ("LeftOuterHashJoin", "newJoinIter"),
         ("LeftOuterHashJoinExcludingNulls", "newJoinIter"), ("MergeJoin", "newMergeJoinIter"),
         ("LeftOuterMergeJoin", "newMergeJoinIter"), ("SemiHashJoin", "newExistsIter"), ("AntiHashJoin", "newExistsIter"),
         ("AntiHashJoinIncludingNulls", "newExistsIter"), ("SemiLookupJoin", "newExistsIter"),
         ("AntiLookupJoin", "newExistsIter"), ("AntiLookupIncludingNulls", "newExistsIter")] := by
  decide +kernel

/-- Which join types exclude NULLs, which are left outer, semi, anti (the mode flags the iterator
models are instantiated with). -/
theorem mode_flags_match :
    (Generated.C01.joinTypes.filter fun e => flag e fExcl).map (·.1)
        = ["AntiJoin", "LeftOuterJoinExcludingNulls", "LeftOuterHashJoinExcludingNulls", "AntiHashJoin", "AntiLookupJoin", "AntiMergeJoin"]
    ∧ (Generated.C01.joinTypes.filter fun e => flag e fLeftOuter).map (·.1)
        = ["LeftOuterJoin", "LeftOuterJoinExcludingNulls", "LeftOuterLookupJoin", "LeftOuterHashJoin",
           "LeftOuterHashJoinExcludingNulls", "LeftOuterMergeJoin", "LeftOuterRangeHeapJoin"]
    ∧ (Generated.C01.joinTypes.filter fun e => flag e fSemi).map (·.1)
        = ["SemiJoin", "SemiHashJoin", "SemiLookupJoin", "SemiMergeJoin"]
    ∧ (Generated.C01.joinTypes.filter fun e => flag e fAnti).map (·.1)
        = ["AntiJoin", "AntiJoinIncludingNulls", "AntiHashJoin", "AntiHashJoinIncludingNulls", "AntiLookupJoin",
           "AntiLookupIncludingNulls", "AntiMergeJoin", "AntiMergeIncludingNulls"] := by
  decide +kernel

/-- `getOpIdx` maps the logical join types to the table rows the model's `Kind.idx` uses, and only
inner and cross joins commute. -/
theorem opIdx_match :
    (Generated.C01.joinTypes.filter fun e => e.2.1 < 8).map (fun e => (e.1, e.2.1))
        = [("CrossJoin", Kind.cross.idx), ("InnerJoin", Kind.inner.idx), ("SemiJoin", Kind.semi.idx),
           ("AntiJoin", Kind.anti.idx), ("AntiJoinIncludingNulls", Kind.anti.idx), ("LeftOuterJoin", Kind.left.idx),
           ("FullOuterJoin", Kind.full.idx), ("GroupByJoin", Kind.group.idx), ("LateralCrossJoin", Kind.lateral.idx),
           ("LateralInnerJoin", Kind.lateral.idx), ("LateralLeftJoin", Kind.lateral.idx), ("LateralLeftJoin", Kind.lateral.idx)]
    ∧ (Generated.C01.joinTypes.filter fun e => flag e fCommute).map (·.1) = ["CrossJoin", "InnerJoin"] := by
  decide +kernel

/-- The remaining scalar facts: the null-rejection sets are never written, the group-by join kind
is only declared and indexed, and every hint the harness uses exists. -/
theorem facts_match :
    Generated.C01.nullRejectedRelsWrites = 0 ∧ Generated.C01.groupByJoinMentions = 3 ∧
    (∀ h ∈ ["join_order", "merge_join", "lookup_join", "hash_join", "inner_join", "semi_join", "anti_join",
            "left_outer_lookup_join", "left_deep", "no_merge_join"], h ∈ Generated.C01.hintNames) := by
  decide +kernel

end Gms.C01
