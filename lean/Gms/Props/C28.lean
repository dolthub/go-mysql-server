/-
C28 — Values round-trip through their wire representation: the text `Type.SQL` produces fits the announced
`MaxTextResponseByteLength` and denotes the stored value, outside the regions the `finding_*` witnesses name. The
inverse for integers and BIT is the Impl model of `Type.Convert` of Gms/Model/NumConv.lean (C26/C27). For ENUM, SET,
CHAR/VARCHAR, TEXT the length is fixed at type construction while the bytes are transcoded into
`character_set_results` at encode time (section `CharacterSets`).
-/
import Gms.Lemmas.Wire
import Gms.Lemmas.WireCs
import Gms.Generated.C28

namespace Gms.Wire
open Gms.Num Gms.Conv

theorem natText_length_pos (n : Nat) : 1 ≤ (natText n).length :=
  List.length_pos_iff.2 (natText_ne_nil n)

theorem two_length (x : Nat) : (two x).length = 2 := rfl

end Gms.Wire

namespace Gms.C28
open Gms.Wire Gms.Num Gms.Conv

theorem int_bounds_fit (t : ITy) :
    (intText t.lo).length ≤ maxTextLen (.int t) ∧ (intText t.hi).length ≤ maxTextLen (.int t) := by
  cases t <;> decide +kernel

/-- **Announced length, integers**: the text of every storable value of every integer type fits
`MaxTextResponseByteLength`. -/
theorem int_text_len_le_announced (t : ITy) (v : Int) (h : t.InRange v) :
    (sqlInt t v).length ≤ maxTextLen (.int t) := by
  rw [sqlInt_of_inRange t v h]
  exact Nat.le_trans (intText_length_le_max h.1 h.2) (Nat.max_le.2 (int_bounds_fit t))

/-- **Round trip, integers** — through the Impl model of `NumberTypeImpl_.Convert` (NumConv, C26/C27):
converting the text of a storable value back with the column type yields the value, in range,
without error or truncation warning. All ten integer types. -/
theorem int_text_roundtrip (t : ITy) (v : Int) (h : t.InRange v) :
    convertInt t (.s (sqlInt t v)) = ⟨.int v, .inRange, .none⟩ := by
  rw [sqlInt_of_inRange t v h]
  obtain ⟨hlo, hhi⟩ := h
  have hconv (hne : t ≠ .u64) : convertToInt64 (.s (intText v)) = ⟨v, .inRange, .none⟩ :=
    convertToInt64_intText (Int.le_trans (range_in_i64 t hne).1 hlo) (Int.le_trans hhi (range_in_i64 t hne).2)
  unfold convertInt
  split
  · contradiction
  split
  · rw [hconv (by decide)]
  · rw [convertToUint64_intText hlo hhi]
  · next hi64 hu64 =>
    rw [hconv (fun h => hu64 (h ▸ rfl))]
    simp only []  -- reduces the `let` of the narrow branch
    rw [if_neg (by decide), if_neg (Int.not_lt.2 hhi), if_neg (Int.not_lt.2 hlo)]

example : convertInt .i8 (.s (sqlInt .i8 (-128))) = ⟨.int (-128), .inRange, .none⟩ ∧
    sqlInt .i8 (-128) = [45, 49, 50, 56] := by decide +kernel

example : (sqlInt .i64 (-9223372036854775808)).length = 20 ∧ maxTextLen (.int .i64) = 20 ∧
    (sqlInt .i24 (-8388608)).length = 8 := by decide +kernel

/-! DECIMAL. Full statement (FALSE on the unchanged tree — `finding_decimal_full_scale_negative`):
`Valid (.dec p s) (.dec c) → (decText s c).length ≤ maxTextLen (.dec p s)`. -/

theorem sign_le_one (c : Int) : (if c < 0 then 1 else 0) ≤ 1 := by
  split
  · exact Nat.le_refl 1
  · exact Nat.zero_le 1

/-- **Announced length, DECIMAL**: the text exceeds what the code announces by at most one byte, and
only for a negative value of a DECIMAL(p,p) column (the leading `0` is not counted). -/
theorem dec_text_len_le (p s : Nat) (c : Int) (h : Valid (.dec p s) (.dec c)) :
    (decText s c).length ≤ maxTextLen (.dec p s) + (if DecimalFullScaleNegative (.dec p s) (.dec c) then 1 else 0) := by
  obtain ⟨hs, hp, hc⟩ := h
  have := decText_length_le p s c hs hc
  clear hc  -- keeps `10 ^ p` from `omega`
  have hsign := sign_le_one c
  simp only [maxTextLen, DecimalFullScaleNegative]
  by_cases h0 : s = 0
  · simp only [h0, if_true, Nat.sub_zero, Nat.add_zero, Nat.max_eq_right hp] at this ⊢
    omega
  · simp only [h0, if_false] at this ⊢
    by_cases hps : p = s
    · simp only [hps, true_and, Nat.sub_self, Nat.max_eq_left (Nat.zero_le 1)] at this ⊢
      omega
    · simp only [hps, false_and, if_false, Nat.add_zero]
      rw [Nat.max_eq_right (Nat.sub_pos_of_lt (Nat.lt_of_le_of_ne hs (Ne.symm hps)))] at this
      omega

/-- **Announced length, DECIMAL (partial)**: outside the region the text fits what the code announces. -/
theorem dec_text_len_le_announced_partial (p s : Nat) (c : Int) (h : Valid (.dec p s) (.dec c))
    (hr : ¬ DecimalFullScaleNegative (.dec p s) (.dec c)) :
    (decText s c).length ≤ maxTextLen (.dec p s) := by
  have := dec_text_len_le p s c h
  rwa [if_neg hr] at this

/-- **Announced length the property needs** (`specLen`: DECIMAL(p,p) must count the leading `0`). -/
theorem dec_text_len_le_spec (p s : Nat) (c : Int) (h : Valid (.dec p s) (.dec c)) :
    (decText s c).length ≤ specLen (.dec p s) := by
  have := dec_text_len_le p s c h
  simp only [specLen, maxTextLen, DecimalFullScaleNegative] at this ⊢
  by_cases hps : p = s
  · have h0 : s ≠ 0 := Nat.pos_iff_ne_zero.1 (hps ▸ h.2.1)
    simp only [hps, h0, true_and, if_true, if_false] at this ⊢
    exact Nat.le_trans this (Nat.add_le_add_left (sign_le_one c) _)
  · simpa only [hps, false_and, if_false, Nat.add_zero] using this

/-- Witness: DECIMAL(3,3) holding -0.123 — 6 bytes, 5 announced. Replayed on the real code
(`types.MustCreateColumnDecimalType(3,3)`, and over the wire: corpus case `(wire (dec 3 3) (dec -123))`). -/
theorem finding_decimal_full_scale_negative : ∃ (p s : Nat) (c : Int), Valid (.dec p s) (.dec c) ∧
    DecimalFullScaleNegative (.dec p s) (.dec c) ∧ (decText s c).length > maxTextLen (.dec p s) :=
  ⟨3, 3, -123, by decide +kernel⟩

example : Valid (.dec 65 30) (.dec (-(10 ^ 65 - 1))) ∧ (decText 30 (-(10 ^ 65 - 1))).length = 67 ∧
    maxTextLen (.dec 65 30) = 67 := by decide +kernel

theorem year_text_len_le_announced (y : Nat) (h : Valid .year (.year y)) : (yearText y).length ≤ maxTextLen .year := by
  have hy : y < 10 ^ 4 := by
    rcases h with rfl | ⟨_, h⟩
    · decide
    · exact Nat.lt_of_le_of_lt h (by decide)
  exact natText_length_le y 4 (by decide) hy

theorem date_text_len_le_announced (y m d : Nat) (h : Valid .date (.date y m d)) :
    (dateText y m d).length ≤ maxTextLen .date :=
  dateText_length_le y m d (validDate_year_le h)

theorem datetime_text_len_le_announced (p y m d h mi s us : Nat) (hv : Valid (.datetime p) (.datetime y m d h mi s us)) :
    (datetimeText p y m d h mi s us).length ≤ maxTextLen (.datetime p) := by
  obtain ⟨hp, hd, hh, _, _, hus, _, hz⟩ := hv
  have h1 := dateText_length_le y m d (validDate_year_le hd)
  have h2 := timeOfDayText_length_le h mi s us p 2 (Nat.le_refl 2) (Nat.lt_trans hh (by decide)) hp hus
  rw [datetimeText_eq hz, List.length_append, List.length_cons]
  exact Nat.add_le_add h1 (Nat.succ_le_succ (Nat.le_trans h2 (Nat.add_le_add_left (Nat.add_le_add_left hp 1) _)))

theorem time_text_len_le_announced (neg : Bool) (h mi s us : Nat) (hv : Valid .time (.time neg h mi s us)) :
    (timeText neg h mi s us).length ≤ maxTextLen .time := by
  obtain ⟨hh, _, _, hus, _⟩ := hv
  have h2 := timeOfDayText_length_le h mi s us 6 3 (by decide) (Nat.lt_of_le_of_lt hh (by decide)) (Nat.le_refl 6) hus
  rw [timeText, List.length_append]
  exact Nat.add_le_add (by cases neg <;> decide) h2

example : (timeText true 838 59 59 0).length = 17 ∧ (datetimeText 6 9999 12 31 23 59 59 999999).length = 26 := by decide +kernel

theorem bit_text_len_le_announced (n v : Nat) (h : Valid (.bit n) (.bit v)) :
    (bitText n v).length ≤ maxTextLen (.bit n) := by
  obtain ⟨h1, _, _⟩ := h
  simp only [bitText, List.length_reverse, leBytes_length, maxTextLen]
  omega

/-- **Round trip, BIT(n)** — through the Impl model of `BitType_.Convert` on the received bytes. -/
theorem bit_text_roundtrip (n v : Nat) (h : Valid (.bit n) (.bit v)) :
    convertBit n (.s (bitText n v)) = ⟨.int v, .inRange, .none⟩ := by
  obtain ⟨h1, h64, hv⟩ := h
  have hpow : v < 256 ^ ((n + 7) / 8) := by
    rw [show (256 : Nat) = 2 ^ 8 from rfl, ← Nat.pow_mul]
    exact Nat.lt_of_lt_of_le hv (Nat.pow_le_pow_right (by decide) (by omega))
  have hlen : ¬ (bitText n v).length > 8 := by
    rw [bitText, List.length_reverse, leBytes_length]
    omega
  have hnot : ¬ ((v : Int) > 2 ^ n - 1) := by
    have : (v : Int) < 2 ^ n := by exact_mod_cast hv
    exact Int.not_lt.2 (Int.le_sub_one_of_lt this)
  simp only [convertBit]
  rw [if_neg hlen, bitText, foldl_leBytes_reverse, Nat.mod_eq_of_lt hpow, if_neg hnot]

example : bitText 9 257 = [1, 1] ∧ convertBit 9 (.s [1, 1]) = ⟨.int 257, .inRange, .none⟩ := by decide +kernel

/-- **Announced length, every type**: the text exceeds `MaxTextResponseByteLength` by at most one byte, and only in
the region. -/
theorem text_len_le (t : Wire.Ty) (v : Wire.Val) (hv : Valid t v) :
    ∃ text, sqlText t v = some text ∧
      text.length ≤ maxTextLen t + (if DecimalFullScaleNegative t v then 1 else 0) := by
  cases t <;> cases v <;> first | exact False.elim hv | skip
  case int.int t v => exact ⟨_, rfl, Nat.le_add_right_of_le (int_text_len_le_announced t v hv)⟩
  case dec.dec p s c => exact ⟨_, rfl, dec_text_len_le p s c hv⟩
  case bit.bit n v => exact ⟨_, rfl, Nat.le_add_right_of_le (bit_text_len_le_announced n v hv)⟩
  case year.year y => exact ⟨_, rfl, Nat.le_add_right_of_le (year_text_len_le_announced y hv)⟩
  case date.date y m d => exact ⟨_, rfl, Nat.le_add_right_of_le (date_text_len_le_announced y m d hv)⟩
  case datetime.datetime p y m d h mi s us =>
    exact ⟨_, rfl, Nat.le_add_right_of_le (datetime_text_len_le_announced p y m d h mi s us hv)⟩
  case time.time neg h mi s us => exact ⟨_, rfl, Nat.le_add_right_of_le (time_text_len_le_announced neg h mi s us hv)⟩

/-- **`text_len_le_announced` (partial)**: for every modelled column type and storable value
outside `DecimalFullScaleNegative`, the text form is no longer than `MaxTextResponseByteLength`.
Full statement (without the guard) is FALSE: `finding_decimal_full_scale_negative`. -/
theorem text_len_le_announced_partial (t : Wire.Ty) (v : Wire.Val) (hv : Valid t v)
    (hr : ¬ DecimalFullScaleNegative t v) :
    ∃ text, sqlText t v = some text ∧ text.length ≤ maxTextLen t := by
  have := text_len_le t v hv
  rwa [if_neg hr] at this

/-- Witness: YEAR 0000 is sent as `0`, which denotes 2000. -/
theorem finding_year_zero_text : ∃ y, Valid .year (.year y) ∧ YearZero .year (.year y) ∧
    denotes .year (yearText y) ≠ some (.year y) := ⟨0, by decide +kernel⟩

/-- Witness: DATE 0099-01-02 is sent as `99-01-02`, which no layout of the type reads back. -/
theorem finding_date_year_below_1000 : ∃ y m d, Valid .date (.date y m d) ∧ DateYearBelow1000 .date (.date y m d) ∧
    denotes .date (dateText y m d) = none ∧ binDenoted (.plain .date) (.date y m d) = none :=
  ⟨99, 1, 2, by decide +kernel⟩

/-- Witness: TIMESTAMP(3) and TIME(6) lose their fraction in the binary protocol (0 decimals announced). -/
theorem finding_fraction_decimals_not_announced :
    (∃ v, Valid (.datetime 3) v ∧ FractionNotAnnounced (.timestamp 3) v ∧ binDenoted (.timestamp 3) v ≠ some v) ∧
    (∃ v, Valid .time v ∧ FractionNotAnnounced (.plain .time) v ∧ binDenoted (.plain .time) v ≠ some v) :=
  ⟨⟨.datetime 2037 10 4 3 31 36 198000, by decide +kernel⟩, ⟨.time false 0 0 0 1, by decide +kernel⟩⟩

/-- **Binary protocol (partial)**: outside the two regions the binary-protocol client ends up
with the stored value. -/
theorem binDenoted_partial (wt : WTy) (v : Wire.Val) (h1 : ¬ DateYearBelow1000 wt.ty v)
    (h2 : ¬ FractionNotAnnounced wt v) (hz : normTime v = v) : binDenoted wt v = some v := by
  unfold binDenoted
  simp only [h1, if_false]
  cases v with
  | datetime y m d h mi s us =>
    have : truncUs (fieldDecimals wt) us = us := Decidable.of_not_not h2
    simp [this]
  | time neg h mi s us =>
    have : truncUs (fieldDecimals wt) us = us := Decidable.of_not_not h2
    simp [this, hz]
  | _ => rfl

/-- What the field packet needs: DATETIME(p) announces its fraction digits (the only temporal type that does). -/
theorem fieldDecimals_datetime (p : Nat) : fieldDecimals (.plain (.datetime p)) = fieldDecimalsSpec (.plain (.datetime p)) := rfl

/-- **Round trip, YEAR (partial)**: every year 1901 … 2155 is sent as four digits that denote it.
Full statement FALSE for the year 0000: `finding_year_zero_text`. -/
theorem year_text_roundtrip_partial (y : Nat) (h : Valid .year (.year y)) (hr : ¬ YearZero .year (.year y)) :
    denotes .year (yearText y) = some (.year y) := by
  have hy : 1901 ≤ y ∧ y ≤ 2155 := h.resolve_left hr
  obtain ⟨a, b, c, d, hnt, hparse⟩ := year4 y (Nat.le_trans (by decide) hy.1) (Nat.le_trans hy.2 (by decide))
  simp [denotes, yearText, hnt, parseYear, hparse, hy]

/-- **Round trip, DATE (partial)**: outside the region (years 1 … 999) the text denotes the date.
Full statement FALSE: `finding_date_year_below_1000`. -/
theorem date_text_roundtrip_partial (y m d : Nat) (h : Valid .date (.date y m d))
    (hr : ¬ DateYearBelow1000 .date (.date y m d)) :
    denotes .date (dateText y m d) = some (.date y m d) := by
  rw [denotes, (parseDate_of_valid h hr).2]
  rfl

example : denotes .date (dateText 2024 2 29) = some (.date 2024 2 29) := by decide +kernel

/-- **Round trip, DATETIME(p)/TIMESTAMP(p) (partial)**: outside the region (years 1 … 999) the text
denotes the stored value, fraction digits included. -/
theorem datetime_text_roundtrip_partial (p y m d h mi s us : Nat)
    (hv : Valid (.datetime p) (.datetime y m d h mi s us))
    (hr : ¬ DateYearBelow1000 (.datetime p) (.datetime y m d h mi s us)) :
    denotes (.datetime p) (datetimeText p y m d h mi s us) = some (.datetime y m d h mi s us) := by
  obtain ⟨hp, hd, hh, hmi, hs, hus, hmod, hz⟩ := hv
  obtain ⟨hlen, hdate⟩ := parseDate_of_valid hd hr
  have hclock := parseClock_timeOfDayText h mi s us p (Nat.lt_trans hh (by decide)) (Nat.lt_trans hmi (by decide))
    (Nat.lt_trans hs (by decide)) (parseFrac_fracText p us hp hus hmod)
  rw [denotes, datetimeText_eq hz, parseDatetime, List.take_left' hlen, List.drop_left' hlen, hdate]
  simp only [hclock, Option.map_some]

example : denotes (.datetime 3) (datetimeText 3 2024 2 29 23 59 59 100000) = some (.datetime 2024 2 29 23 59 59 100000) := by
  decide +kernel

/-- **`text_roundtrip` (partial)**: for the integer types, BIT, YEAR, DATE, DATETIME/TIMESTAMP and every
storable value outside the listed regions, the text `Type.SQL` produces denotes the stored value
(`denotes`: `Type.Convert` for integers and BIT, the Spec readers otherwise) **and** fits the announced
length. (DECIMAL and TIME: the length half is `text_len_le_announced_partial`; their round trip is
checked on every run by the correspondence stream and the real-code oracle, not proved.) -/
theorem text_roundtrip_partial (t : Wire.Ty) (v : Wire.Val) (hv : Valid t v)
    (hkind : match t with | .dec _ _ => False | .time => False | _ => True)
    (h1 : ¬ DateYearBelow1000 t v) (h2 : ¬ YearZero t v) :
    ∃ text, sqlText t v = some text ∧ denotes t text = some v ∧ text.length ≤ maxTextLen t := by
  cases t <;> cases v <;> first | exact False.elim hv | skip
  case int.int t v =>
    refine ⟨_, rfl, ?_, int_text_len_le_announced t v hv⟩
    rw [denotes, int_text_roundtrip t v hv]
  case dec.dec => exact hkind.elim
  case bit.bit n v =>
    refine ⟨_, rfl, ?_, bit_text_len_le_announced n v hv⟩
    rw [denotes, bit_text_roundtrip n v hv]
    rfl
  case year.year y => exact ⟨_, rfl, year_text_roundtrip_partial y hv h2, year_text_len_le_announced y hv⟩
  case date.date y m d => exact ⟨_, rfl, date_text_roundtrip_partial y m d hv h1, date_text_len_le_announced y m d hv⟩
  case datetime.datetime p y m d h mi s us =>
    exact ⟨_, rfl, datetime_text_roundtrip_partial p y m d h mi s us hv h1,
      datetime_text_len_le_announced p y m d h mi s us hv⟩
  case time.time => exact hkind.elim

/-! ## Character sets: the length announced at type construction bounds the text transcoded at
encode time (ENUM, SET, CHAR/VARCHAR, TEXT under every `character_set_results`)

Full statement (FALSE on the unchanged tree — `finding_result_charset_wider_than_announced`):
`WireCs.Valid t v → sentText res t v = some bs → bs.length ≤ announced res t`. -/

section CharacterSets
open Gms.WireCs

/-- **`cs_text_len_le_announced` (partial)**: for ENUM, SET, CHAR/VARCHAR and TEXT columns of every
column character set, every `character_set_results` (NULL and binary included) and every storable
value: outside `ResultCharsetWider` the transcoded text is no longer than the announced length.
The two sides are computed at different sites of the code (type construction vs. `Type.SQL`). -/
theorem cs_text_len_le_announced_partial (res : WireCs.Res) (t : WireCs.Ty) (v : WireCs.Val) (hv : WireCs.Valid t v)
    (hr : ¬ ResultCharsetWider res t) (bs : Utf8.Bytes) (h : sentText res t v = some bs) :
    bs.length ≤ announced res t := by
  obtain ⟨s, hp, he⟩ := sentText_eq_some h
  have h1 := (encode_length he).2 (effective_ne_binary res _ (valid_col_ne_binary hv))
  exact Nat.le_trans h1 (Nat.le_trans (Nat.mul_le_mul_left _ (Nat.le_of_not_lt hr)) (plain_length_le res hv hp))

/-- **ENUM**: every member, transcoded, fits the maximum over the members. -/
theorem enum_text_len_le_announced (res : WireCs.Res) (col : Cs) (ms : List Str) (i : Nat)
    (hv : WireCs.Valid (.enum col ms) (.idx i)) (hr : ¬ ResultCharsetWider res (.enum col ms))
    (bs : Utf8.Bytes) (h : sentText res (.enum col ms) (.idx i) = some bs) :
    bs.length ≤ announced res (.enum col ms) :=
  cs_text_len_le_announced_partial res _ _ hv hr bs h

/-- **SET**: every comma-joined selection of members, transcoded, fits the sum over the members plus
one separator *of a full character width* per member after the first. -/
theorem set_text_len_le_announced (res : WireCs.Res) (col : Cs) (ms : List Str) (b : Nat)
    (hv : WireCs.Valid (.set col ms) (.bits b)) (hr : ¬ ResultCharsetWider res (.set col ms))
    (bs : Utf8.Bytes) (h : sentText res (.set col ms) (.bits b) = some bs) :
    bs.length ≤ announced res (.set col ms) :=
  cs_text_len_le_announced_partial res _ _ hv hr bs h

/-- **CHAR(n) / VARCHAR(n)**: a storable string has at most `n` characters. -/
theorem char_text_len_le_announced (res : WireCs.Res) (col : Cs) (n : Nat) (s : Str)
    (hv : WireCs.Valid (.char col n) (.str s)) (hr : ¬ ResultCharsetWider res (.char col n))
    (bs : Utf8.Bytes) (h : sentText res (.char col n) (.str s) = some bs) :
    bs.length ≤ announced res (.char col n) :=
  cs_text_len_le_announced_partial res _ _ hv hr bs h

/-- **TEXT**: a storable string has at most `maxByteLength` characters; the announced length is
computed per session with the width of `character_set_results`. -/
theorem text_text_len_le_announced (res : WireCs.Res) (col : Cs) (mb : Nat) (s : Str)
    (hv : WireCs.Valid (.text col mb) (.str s)) (hr : ¬ ResultCharsetWider res (.text col mb))
    (bs : Utf8.Bytes) (h : sentText res (.text col mb) (.str s) = some bs) :
    bs.length ≤ announced res (.text col mb) :=
  cs_text_len_le_announced_partial res _ _ hv hr bs h

/-- non-vacuity: the hypotheses hold on a value that fills the announced length exactly —
`SET('r','w','x')` (utf8mb4) read with `character_set_results = utf32`: 20 bytes, 20 announced. -/
example : WireCs.Valid (.set .utf8mb4 [[114], [119], [120]]) (.bits 7) ∧
    ¬ ResultCharsetWider (.cs .utf32) (.set .utf8mb4 [[114], [119], [120]]) ∧
    (sentText (.cs .utf32) (.set .utf8mb4 [[114], [119], [120]]) (.bits 7)).map List.length = some 20 ∧
    announced (.cs .utf32) (.set .utf8mb4 [[114], [119], [120]]) = 20 := by decide +kernel

/-- Witnesses: a latin1 `ENUM('é')` read with `character_set_results = utf8mb4` is sent as 2 bytes,
1 announced; a latin1 `SET('r','w','x')` holding `r,w,x` read with utf32 is sent as 20 bytes, 5
announced; a utf16 TINYTEXT holding `ab` … read with `character_set_results = binary` announces 255
for up to 510 bytes. Replayed on the real code (corpus cases of the `cs` stream). -/
theorem finding_result_charset_wider_than_announced :
    (∃ res t v bs, WireCs.Valid t v ∧ ResultCharsetWider res t ∧ sentText res t v = some bs ∧
      bs.length > announced res t) ∧
    (∃ bs, sentText (.cs .utf32) (.set .latin1 [[114], [119], [120]]) (.bits 7) = some bs ∧
      bs.length = 20 ∧ announced (.cs .utf32) (.set .latin1 [[114], [119], [120]]) = 5) :=
  ⟨⟨.cs .utf8mb4, .enum .latin1 [[0xE9]], .idx 1, [0xC3, 0xA9], by decide +kernel⟩, ⟨_, rfl, by decide +kernel⟩⟩

/-- **The announced SET length is attained**: for a column character set of width 4 read with
`character_set_results = utf32`, the value holding *all* members is sent in exactly
`MaxTextResponseByteLength` bytes. Consequently no term of the `CreateSetType` loop — in particular
the separator's `maxCharLength` — can be made smaller without under-announcing. -/
theorem set_announced_attained (col : Cs) (hw : col.maxLen = 4) (ms : List Str)
    (hs : ∀ m ∈ ms, ∀ r ∈ m, Utf8.isScalar r = true) :
    ∃ bs, sentText (.cs .utf32) (.set col ms) (.bits (2 ^ ms.length - 1)) = some bs ∧
      bs.length = announced (.cs .utf32) (.set col ms) := by
  have hsel : setText ms (2 ^ ms.length - 1) = joinComma ms := by rw [setText, selected_all]
  obtain ⟨bs, hb, hl⟩ := encode_utf32_length (joinComma ms) (joinComma_scalar ms hs)
  refine ⟨bs, ?_, ?_⟩
  · simp only [sentText, plainText, hsel, Res.effective]
    exact hb
  · rw [hl, joinComma_length]
    simp only [announced, setLen_eq, hw, Nat.add_mul]

example : ∃ bs, sentText (.cs .utf32) (.set .utf8mb4 [[109, 111, 110], [116, 117, 101]]) (.bits 3) = some bs ∧
    bs.length = 28 ∧ announced (.cs .utf32) (.set .utf8mb4 [[109, 111, 110], [116, 117, 101]]) = 28 := ⟨_, rfl, by decide⟩

/-- **`cs_text_roundtrip`**: whenever a value of an ENUM / SET / CHAR / VARCHAR / TEXT column can be sent
at all under `character_set_results = res`, decoding the bytes in the effective result character set
(utf8mb4, utf8mb3, latin1/cp1252, ascii, utf16 with surrogate pairs, utf32, or the column's own
character set for NULL/binary) yields exactly the characters of the stored value. No region. -/
theorem cs_text_roundtrip (res : WireCs.Res) (t : WireCs.Ty) (v : WireCs.Val) (bs : Utf8.Bytes)
    (h : sentText res t v = some bs) :
    ∃ s, plainText t v = some s ∧ decodeCs (res.effective t.col) (bs.length + 1) bs = some s :=
  have ⟨s, hp, he⟩ := sentText_eq_some h
  ⟨s, hp, decode_encode_cs_len he⟩

example : sentText (.cs .utf16) (.char .utf8mb4 3) (.str [0xE9, 0x61, 0x1F600]) =
      some [0x00, 0xE9, 0x00, 0x61, 0xD8, 0x3D, 0xDE, 0x00] ∧
    roundTrip (.cs .utf16) (.char .utf8mb4 3) (.str [0xE9, 0x61, 0x1F600]) = true ∧
    roundTrip (.cs .latin1) (.enum .utf8mb4 [[0x20AC, 0x35]]) (.idx 1) = true := by decide +kernel

end CharacterSets

section Facts
open Gms.Generated.C28

/-- `maxTextLen` is `MaxTextResponseByteLength` of the compiled types: all ten integer types, every
DECIMAL(p,s) with p ≤ 65, s ≤ min(p,30), BIT(1..64), DATETIME/TIMESTAMP(0..6), YEAR, DATE, TIME. -/
theorem facts_lens :
    intLens.all (fun e => (ITy.ofName? e.1).any fun t => maxTextLen (.int t) == e.2) = true ∧
    intLens.length = 10 ∧
    decLens.all (fun e => maxTextLen (.dec e.1 e.2.1) == e.2.2) = true ∧
    decLens.length = 1580 ∧
    bitLens.all (fun e => maxTextLen (.bit e.1) == e.2) = true ∧ bitLens.length = 64 ∧
    datetimeLens.all (fun e => maxTextLen (.datetime e.1) == e.2.1 && maxTextLen (.datetime e.1) == e.2.2) = true ∧
    datetimeLens.length = 7 ∧
    yearLen = maxTextLen .year ∧ dateLen = maxTextLen .date ∧ timeLen = maxTextLen .time ∧
    floatLen = 12 ∧ doubleLen = 22 := by decide +kernel

/-- Shape of the code the model transliterates: the clamp tests of `SQLInt8 … SQLUint64` (note
`SQLUint24: num > (1 << 24)`), the two year tests of `appendDateFormat` (zero time, `year == 0` —
no padding otherwise), and what `schemaToFields` announces as `ColumnLength`. -/
theorem facts_match :
    intClampTests = ["SQLInt8: num > math.MaxInt8; num < math.MinInt8", "SQLInt16: num > math.MaxInt16; num < math.MinInt16",
      "SQLInt24: num > (1<<23 - 1); num < (-1 << 23)", "SQLInt32: num > math.MaxInt32; num < math.MinInt32", "SQLInt64: ",
      "SQLUint8: num > math.MaxUint8", "SQLUint16: num > math.MaxUint16", "SQLUint24: num > (1 << 24)",
      "SQLUint32: num > math.MaxUint32", "SQLUint64: num > math.MaxUint64"] ∧
    dateFormatTests = ["t.Equal(ZeroTime)", "year == 0"] ∧
    columnLengthExpr = "c.Type.MaxTextResponseByteLength(ctx)" := ⟨rfl, rfl, rfl⟩

/-- Character sets: `Cs.maxLen` is `MaxLength()` of the compiled table (Unspecified carries utf8mb4's 4), the
model's cp1252 table is `encodings.Latin1` on all 256 bytes, `encodeCp` is `Encoder().Encode` at the
boundaries of every encoding form of the seven encoders, `announced` is `MaxTextResponseByteLength` of
132 compiled ENUM / SET / CHAR / VARCHAR types over the six column character sets (the SET lengths
include the separators at full character width) and of TINYTEXT / TEXT under all eight settings of
`character_set_results`; the six encode functions choose the column's character set exactly when
`character_set_results` is unspecified or binary. -/
theorem facts_cs :
    csMaxLens = ("", WireCs.Res.null.rawMaxLen) :: WireCs.Cs.all.map (fun c => (c.name, c.maxLen)) ∧
    latin1Table = (List.range 256).map WireCs.latin1Cp ∧
    encSamples.all (fun e => (WireCs.Cs.ofName? e.1).any fun c =>
      (match WireCs.encodeCp c e.2.1 with | some bs => bs | none => [256]) == e.2.2) = true ∧
    encSamples.length = 154 ∧
    csTypeLens.all (fun e => (WireCs.Cs.ofName? e.2.1).any fun c =>
      WireCs.announced .null (if e.1 == "enum" then .enum c e.2.2.1 else if e.1 == "set" then .set c e.2.2.1
        else .char c e.2.2.2.1) == e.2.2.2.2) = true ∧
    csTypeLens.length = 132 ∧
    csTextLens.all (fun e => match WireCs.Res.ofName? e.1, WireCs.Cs.ofName? e.2.1 with
      | some r, some c => WireCs.announced r (.text c e.2.2.1) == e.2.2.2
      | _, _ => false) = true ∧
    csTextLens.length = 96 ∧
    resultCharsetTests = [
      "EnumType.SQL: cs == sql.CharacterSet_Unspecified || cs == sql.CharacterSet_binary",
      "EnumType.SQLValue: cs == sql.CharacterSet_Unspecified || cs == sql.CharacterSet_binary",
      "SetType.SQL: cs == sql.CharacterSet_Unspecified || cs == sql.CharacterSet_binary",
      "SetType.SQLValue: cs == sql.CharacterSet_Unspecified || cs == sql.CharacterSet_binary",
      "StringType.SQL: cs == sql.CharacterSet_Unspecified || cs == sql.CharacterSet_binary",
      "StringType.SQLValue: cs == sql.CharacterSet_Unspecified || cs == sql.CharacterSet_binary"] := by
  refine ⟨rfl, ?_, ?_, ?_, ?_, ?_, ?_, ?_, rfl⟩ <;> decide +kernel

end Facts

end Gms.C28
