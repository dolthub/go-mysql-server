import Gms.Model.ShowCreate
import Gms.Generated.C22

/-!
C22 — SHOW CREATE output recreates an identical object.

The model (`Gms/Model/ShowCreate.lean`) transliterates the schema formatter. This file proves the
*lexical* half of "the printed statement reads back as the same object", for all strings. Back-quoted
identifiers (`ident_round_trip`) and quoted literals are bodies printed character by character; a body
lexer reads such a body back as soon as it reads each character's text back in front of anything
(`Reads`, `lex_flatMap`), and what it reads back is given by its own equations. The three literal
printers — comment escaping, `Literal.String()`, and the pre-fix index comment put between quotes as it
was — are instances (`ReadsBack`, `lexStr_flatMap`). The `CHARACTER SET` / `COLLATE` clauses resolve back
to the column's collation in every collation universe in which names identify collations
(`coll_round_trip`, `lexCollClause_specText`).

The facts about concrete tables and texts are checked by kernel evaluation; where a literal is long the
evaluation compares bytes instead of going through `String.toList` on it (`eq_toList_of_bytes`, `map_toList_eq`).
-/

namespace Gms.ShowCreate

def Reads (lex : Str → Str → Option (Str × Str)) (c : Char) (out : Str) : Prop :=
  ∀ r acc, lex (out ++ r) acc = lex r (c :: acc)

theorem lex_flatMap {lex : Str → Str → Option (Str × Str)} (f : Char → Str) (s r acc : Str)
    (hf : ∀ c ∈ s, Reads lex c (f c)) : lex (s.flatMap f ++ r) acc = lex r (s.reverse ++ acc) := by
  induction s generalizing acc with
  | nil => rfl
  | cons c s ih =>
    rw [List.flatMap_cons, List.append_assoc, hf c List.mem_cons_self, ih _ fun d hd => hf d (List.mem_cons_of_mem _ hd)]
    simp

theorem reads_backquote : Reads lexIdentBody '`' ['`', '`'] := fun r acc => lexIdentBody.eq_1 acc r

-- the side conditions of `lexIdentBody.eq_3` exclude the two patterns before it
theorem reads_identChar {c : Char} (h : c ≠ '`') : Reads lexIdentBody c [c] :=
  fun r acc => lexIdentBody.eq_3 acc c r (fun _ e _ => h e) h

/-- The side condition of each lexer's equation for the closing quote (`lexIdentBody.eq_2`, `lexStrBody.eq_2`). -/
theorem ne_cons_of_head_ne {c : Char} {rest : Str} (h : rest.head? ≠ some c) : ∀ r1 : List Char, rest = c :: r1 → False := by
  intro r1 e; subst e; simp at h

end Gms.ShowCreate

namespace Gms.C22
open Gms.ShowCreate

/-- **Identifiers read back** (`QuoteIdentifier`), for all strings. -/
theorem ident_round_trip (s rest : Str) (h : rest.head? ≠ some '`') :
    lexIdent (quoteIdent s ++ rest) = some (s, rest) := by
  have := lex_flatMap (lex := lexIdentBody) (fun c => if c = '`' then ['`', '`'] else [c]) s ('`' :: rest) []
    fun c _ => by
      by_cases hc : c = '`'
      · subst hc; exact reads_backquote
      · simpa [hc] using reads_identChar hc
  simp [quoteIdent, lexIdent, this, lexIdentBody.eq_2 _ rest (ne_cons_of_head_ne h)]

end Gms.C22

namespace Gms.ShowCreate

theorem quoteIdent_injective {s t : Str} (h : quoteIdent s = quoteIdent t) : s = t := by
  have h1 := C22.ident_round_trip s [] (by simp)
  have h2 := C22.ident_round_trip t [] (by simp)
  rw [List.append_nil] at h1 h2
  rw [h, h2] at h1
  simpa using h1.symm

theorem replaceChar_nil (c : Char) (b : Str) : replaceChar c b [] = [] := rfl

theorem replaceChar_cons (c : Char) (b : Str) (x : Char) (s : Str) :
    replaceChar c b (x :: s) = (if x = c then b else [x]) ++ replaceChar c b s := by
  simp [replaceChar, List.flatMap_cons]

theorem replaceChar_append (c : Char) (b : Str) (s t : Str) :
    replaceChar c b (s ++ t) = replaceChar c b s ++ replaceChar c b t := by
  simp [replaceChar, List.flatMap_append]

theorem escapeSeq_append (s t : Str) : escapeSeq (s ++ t) = escapeSeq s ++ escapeSeq t := by
  simp only [escapeSeq, replaceChar_append]

theorem escapeSeq_singleton (c : Char) : escapeSeq [c] = escapeChar c := by
  by_cases h1 : c = '\''
  · subst h1; decide +kernel
  by_cases h2 : c = '\\'
  · subst h2; decide +kernel
  by_cases h3 : c = '"'
  · subst h3; decide +kernel
  by_cases h4 : c = '\n'
  · subst h4; decide +kernel
  by_cases h5 : c = '\r'
  · subst h5; decide +kernel
  by_cases h6 : c = Char.ofNat 0
  · subst h6; decide +kernel
  simp [escapeSeq, escapeChar, replaceChar_cons, replaceChar_nil, h1, h2, h3, h4, h5, h6]

/-- **`EscapeSpecialCharactersInComment`** is one character map: none of the six replacements
touches a character an earlier one produced. -/
theorem escapeSeq_eq (s : Str) : escapeSeq s = escape s := by
  induction s with
  | nil => rfl
  | cons c s ih => exact (escapeSeq_append [c] s).trans (by rw [escapeSeq_singleton, ih]; rfl)

abbrev ReadsBack := Reads lexStrBody

theorem readsBack_quote : ReadsBack '\'' ['\'', '\''] := fun r acc => lexStrBody.eq_1 acc r

theorem readsBack_escape (e : Char) : ReadsBack (unescapeChar e) ['\\', e] := fun r acc => lexStrBody.eq_3 acc e r

-- each side condition of `lexStrBody.eq_5` excludes one of the four patterns before it (`''`, `'`, `\c`, `\` at the end)
theorem readsBack_plain {c : Char} (h1 : c ≠ '\'') (h2 : c ≠ '\\') : ReadsBack c [c] :=
  fun r acc => lexStrBody.eq_5 acc c r (fun _ e _ => h1 e) h1 (fun _ _ e _ => h2 e) (fun e _ => h2 e)

theorem lexStr_flatMap (f : Char → Str) (s rest : Str) (hf : ∀ c ∈ s, ReadsBack c (f c))
    (h : rest.head? ≠ some '\'') : lexStr ('\'' :: (s.flatMap f ++ '\'' :: rest)) = some (s, rest) := by
  simp [lexStr, lex_flatMap f s ('\'' :: rest) [] hf, lexStrBody.eq_2 _ rest (ne_cons_of_head_ne h)]

theorem escapeChar_readsBack (c : Char) : ReadsBack c (escapeChar c) := by
  by_cases h1 : c = '\''
  · subst h1; exact readsBack_quote
  by_cases h2 : c = '\\'
  · subst h2; exact readsBack_escape '\\'
  by_cases h3 : c = '"'
  · subst h3; exact readsBack_escape '"'
  by_cases h4 : c = '\n'
  · subst h4; exact readsBack_escape 'n'
  by_cases h5 : c = '\r'
  · subst h5; exact readsBack_escape 'r'
  by_cases h6 : c = Char.ofNat 0
  · subst h6; exact readsBack_escape '0'
  simpa [escapeChar, h1, h2, h3, h4, h5, h6] using readsBack_plain h1 h2

theorem strLitChar_readsBack (c : Char) :
    ReadsBack c (if c = '\'' then ['\'', '\''] else if c = '\\' then ['\\', '\\'] else [c]) := by
  by_cases h1 : c = '\''
  · subst h1; exact readsBack_quote
  by_cases h2 : c = '\\'
  · subst h2; exact readsBack_escape '\\'
  simpa [h1, h2] using readsBack_plain h1 h2

theorem readsBack_of_rawSafe {s : Str} (hs : rawSafe s = true) : ∀ c ∈ s, ReadsBack c [c] := by
  intro c hc
  have := List.all_eq_true.mp hs c hc
  simp only [Bool.and_eq_true, bne_iff_ne, ne_eq] at this
  exact readsBack_plain this.1 this.2

theorem findColl_name {env : List Coll} {n : Str} {c : Coll} (h : findColl env n = some c) : c.name = n := by
  unfold findColl at h
  have := List.find?_some h
  simpa using this

theorem coll_eq_of_name_eq {env : List Coll} {t c : Coll} (hc : findColl env c.name = some c)
    (ht : findColl env t.name = some t) (hn : c.name = t.name) : c = t := by
  rw [hn, ht] at hc
  exact (Option.some.inj hc).symm

theorem dropPrefix_append (p s : Str) : dropPrefix p (p ++ s) = some s := by
  induction p with
  | nil => cases s <;> rfl
  | cons c p ih => simp [dropPrefix, ih]

theorem spanWord_append (w rest : Str) (hw : w.all isWordChar = true)
    (hr : ∀ c r, rest = c :: r → isWordChar c = false) : spanWord (w ++ rest) = (w, rest) := by
  induction w with
  | nil =>
    cases rest with
    | nil => rfl
    | cons c r => simp [spanWord, hr c r rfl]
  | cons c w ih =>
    simp only [List.all_cons, Bool.and_eq_true] at hw
    simp [spanWord, hw.1, ih hw.2]

/-- What may follow the clauses in a column definition: not a word character (the name must end) and
not one of the two clause keywords. -/
def ClauseEnd (rest : Str) : Prop :=
  (∀ c r, rest = c :: r → isWordChar c = false) ∧
  dropPrefix " CHARACTER SET ".toList rest = none ∧ dropPrefix " COLLATE ".toList rest = none

theorem lexKw_hit (kw w rest : Str) (hw : w.all isWordChar = true)
    (hr : ∀ c r, rest = c :: r → isWordChar c = false) : lexKw kw (kw ++ (w ++ rest)) = (some w, rest) := by
  simp [lexKw, dropPrefix_append, spanWord_append w rest hw hr]

theorem lexKw_miss {kw s : Str} (h : dropPrefix kw s = none) : lexKw kw s = (none, s) := by
  simp [lexKw, h]

theorem dropPrefix_cs_collate (x : Str) : dropPrefix " CHARACTER SET ".toList (" COLLATE ".toList ++ x) = none := by
  simp [dropPrefix]

theorem space_not_word (x : Str) : ∀ c r, ' ' :: x = c :: r → isWordChar c = false := by
  rintro _ _ ⟨⟩
  decide

/-- The four cases. After a first clause comes the second, which begins with a space (`space_not_word`), or `rest`;
without a first clause the text begins with the second, which is not the first keyword (`dropPrefix_cs_collate`),
or is `rest`. -/
theorem lexCollClause_specText' {s : CollSpec} {rest : Str} (hr : ClauseEnd rest)
    (hcs : ∀ n, s.cs = some n → n.all isWordChar = true)
    (hco : ∀ n, s.coll = some n → n.all isWordChar = true) :
    lexCollClause (specText s ++ rest) = (s, rest) := by
  obtain ⟨cs, co⟩ := s
  obtain ⟨hr1, hr2, hr3⟩ := hr
  cases cs with
  | none =>
    cases co with
    | none => simp only [lexCollClause, specText, List.append_nil, List.nil_append, lexKw_miss hr2, lexKw_miss hr3]
    | some n =>
      simp only [lexCollClause, specText, List.nil_append, List.append_assoc, lexKw_miss (dropPrefix_cs_collate _),
        lexKw_hit _ n rest (hco n rfl) hr1]
  | some m =>
    cases co with
    | none =>
      simp only [lexCollClause, specText, List.append_nil, List.append_assoc, lexKw_hit _ m rest (hcs m rfl) hr1,
        lexKw_miss hr3]
    | some n =>
      simp only [lexCollClause, specText, List.append_assoc,
        lexKw_hit _ m (" COLLATE ".toList ++ (n ++ rest)) (hcs m rfl) (space_not_word _), lexKw_hit _ n rest (hco n rfl) hr1]

end Gms.ShowCreate

namespace Gms.C22
open Gms.ShowCreate

/-- **Column and table comments read back** (`EscapeSpecialCharactersInComment`), for all strings. -/
theorem comment_round_trip (s rest : Str) (h : rest.head? ≠ some '\'') :
    lexStr ('\'' :: escapeSeq s ++ '\'' :: rest) = some (s, rest) := by
  rw [escapeSeq_eq]
  exact lexStr_flatMap escapeChar s rest (fun c _ => escapeChar_readsBack c) h

/-- **String defaults read back** (`Literal.String()`), for all strings. -/
theorem default_round_trip (s rest : Str) (h : rest.head? ≠ some '\'') :
    lexStr (strLit s ++ rest) = some (s, rest) := by
  simpa [strLit] using lexStr_flatMap _ s rest (fun c _ => strLitChar_readsBack c) h

/-- **Index comments read back** — the full statement, which was false before the `fix:` commit
(`fixed_index_comment_unescaped`): `GenerateCreateTableIndexDefinition` prints the comment through
`EscapeSpecialCharactersInComment`, so its printed form reads back as the comment, for all strings. -/
theorem index_comment_round_trip (s rest : Str) (h : rest.head? ≠ some '\'') :
    lexStr ('\'' :: escapeSeq s ++ '\'' :: rest) = some (s, rest) := comment_round_trip s rest h

/-- The same on the printer model: the text of a key with a comment ends in a literal that reads
back as that comment and hands over exactly what follows the key definition. -/
theorem showKey_reads_back (k : Key) (hk : k.comment ≠ []) (rest : Str) (h : rest.head? ≠ some '\'') :
    showKey k ++ rest = showKeyHead k ++ " COMMENT ".toList ++ ('\'' :: escapeSeq k.comment ++ '\'' :: rest) ∧
    lexStr ('\'' :: escapeSeq k.comment ++ '\'' :: rest) = some (k.comment, rest) := by
  refine ⟨?_, comment_round_trip k.comment rest h⟩
  simp [showKey, escapeSeq_eq, hk]

/-- A key without a comment prints no COMMENT clause (nothing to read back). -/
theorem showKey_no_comment (k : Key) (hk : k.comment = []) : showKey k = showKeyHead k := by
  simp [showKey, hk]

/-- The pre-fix printer, guarded: printed without escaping, a comment read back when it held no quote
and no backslash. -/
theorem index_comment_round_trip_prefix (s rest : Str) (hs : rawSafe s = true) (h : rest.head? ≠ some '\'') :
    lexStr ('\'' :: s ++ '\'' :: rest) = some (s, rest) := by
  simpa using lexStr_flatMap (fun c => [c]) s rest (readsBack_of_rawSafe hs) h

/-- `KEY k1 (b) COMMENT 'it''s'` was printed as `COMMENT 'it's'`. -/
def wComment : Str := ['i', 't', '\'', 's']

def exCol : Col := { name := ['a'], ty := Ty.int, notNull := true, autoInc := false, dflt := none, comment := [] }
def exKey : Key := { unique := false, name := ['k'], cols := [['a']], comment := wComment }
def exKeyBs : Key := { unique := false, name := ['k'], cols := [['a']], comment := ['a', '\\', 'b'] }
def exTable : Table := { name := ['t'], cols := [exCol], pk := [['a']], keys := [exKey], comment := [] }

/-- **Repaired defect `index_comment_unescaped`.** Before the `fix:` commit the comment of a secondary
index was put between quotes as it was: with a quote in it the printed literal read back as a
different string and left a dangling tail (the statement was a syntax error), with a backslash it
read back as a different string. The repaired printer escapes it, and both read back. -/
theorem fixed_index_comment_unescaped :
    -- the pre-fix printer on the witness
    showKeyPreFix exKey = "  KEY `k` (`a`) COMMENT 'it's'".toList ∧
    lexStr ('\'' :: wComment ++ ['\'', ')']) = some (['i', 't'], ['s', '\'', ')']) ∧
    showKeyPreFix exKeyBs = "  KEY `k` (`a`) COMMENT 'a\\b'".toList ∧
    lexStr ('\'' :: ['a', '\\', 'b'] ++ ['\'', ')']) = some (['a', Char.ofNat 8], [')']) ∧
    -- the repaired printer on the same inputs
    showKey exKey = "  KEY `k` (`a`) COMMENT 'it''s'".toList ∧
    lexStr ('\'' :: escapeSeq wComment ++ ['\'', ')']) = some (wComment, [')']) ∧
    showKey exKeyBs = "  KEY `k` (`a`) COMMENT 'a\\\\b'".toList ∧
    lexStr ('\'' :: escapeSeq ['a', '\\', 'b'] ++ ['\'', ')']) = some (['a', '\\', 'b'], [')']) ∧
    showTablePreFix exTable ≠ showTable exTable := by
  decide +kernel

/-- Where the escaping touches nothing the repair changes nothing: the pre-fix and the repaired text
of a key whose comment has none of the six special characters are the same text. -/
theorem showKey_eq_prefix_of_plain (k : Key) (h : escape k.comment = k.comment) : showKeyPreFix k = showKey k := by
  unfold showKey showKeyPreFix
  rw [h]

/-- **Column collations read back.** For a column of collation `c` in a table of collation `t`, the
reader applied — with the table default `t` — to the `CHARACTER SET` / `COLLATE` clauses that
`StringWithTableCollation` prints yields `c` again: the recreated column has the collation (hence the
character set) of the original. For every collation universe `env` in which a name identifies its
collation; nothing is assumed about which collation is whose default. -/
theorem coll_round_trip (env : List Coll) (t c : Coll)
    (hc : findColl env c.name = some c) (ht : findColl env t.name = some t) :
    resolveColl env t (collSpecOf t c) = some c := by
  by_cases hn : c.name = t.name
  · cases coll_eq_of_name_eq hc ht hn
    simp [resolveColl, collSpecOf]
  · by_cases hcs : c.cs = t.cs <;> simp [resolveColl, collSpecOf, hn, hcs, hc]

/-- **Table collations read back**: `DEFAULT CHARSET=<cs> COLLATE=<name>` always names both. -/
theorem table_coll_round_trip (env : List Coll) (d t : Coll) (ht : findColl env t.name = some t) :
    resolveColl env d { cs := some t.cs, coll := some t.name } = some t := by
  simp [resolveColl, ht]

/-- The clause text reads back as the optional names (lexical half). -/
theorem lexCollClause_specText (t c : Coll) (rest : Str)
    (hcs : c.cs.all isWordChar = true) (hn : c.name.all isWordChar = true) (hr : ClauseEnd rest) :
    lexCollClause (collClause t c ++ rest) = (collSpecOf t c, rest) := by
  unfold collClause
  apply lexCollClause_specText' hr
  · intro n h
    simp only [collSpecOf, Option.ite_none_right_eq_some, Option.some.injEq] at h
    exact h.2 ▸ hcs
  · intro n h
    simp only [collSpecOf, Option.ite_none_right_eq_some, Option.some.injEq] at h
    exact h.2 ▸ hn

/-- The envelope is a universe the theorems apply to: names identify collations, every collation flagged
default is the one `CHARACTER SET <cs>` alone resolves to, every character set has its default, and
names are words. -/
theorem envelope_closed :
    (∀ c ∈ collTable, findColl collTable c.name = some c ∧ (c.isDflt = true → dfltColl collTable c.cs = some c) ∧
      (dfltColl collTable c.cs).isSome = true ∧ c.name.all isWordChar = true ∧ c.cs.all isWordChar = true) ∧
    findColl collTable engineColl.name = some engineColl := by
  decide +kernel

/-- On the envelope, for every pair (table collation, column collation). -/
theorem coll_round_trip_envelope : ∀ t ∈ collTable, ∀ c ∈ collTable, resolveColl collTable t (collSpecOf t c) = some c :=
  fun t ht c hc => coll_round_trip collTable t c (envelope_closed.1 c hc).1 (envelope_closed.1 t ht).1

/-- **Why the `COLLATE` clause may not be dropped for a character set's default collation** (the class of
change this guards against): a printer that omits `COLLATE` when the collation is its character set's
default, and prints `CHARACTER SET` only when the character set differs from the table's, prints
*nothing* for a `utf8mb4_0900_ai_ci` column of a `utf8mb4_0900_bin` table — the reader gives the
recreated column the table's collation. -/
theorem collate_clause_needed :
    let t : Coll := ⟨"utf8mb4_0900_bin".toList, "utf8mb4".toList, false⟩
    let c : Coll := ⟨"utf8mb4_0900_ai_ci".toList, "utf8mb4".toList, true⟩
    t ∈ collTable ∧ c ∈ collTable ∧ collSpecElideDflt t c = { cs := none, coll := none } ∧
    resolveColl collTable t (collSpecElideDflt t c) = some t ∧ t ≠ c ∧
    resolveColl collTable t (collSpecOf t c) = some c := by
  decide +kernel

/-- MySQL's own elision is sound: it drops `COLLATE` for the default collation only while printing
`CHARACTER SET`, and `CHARACTER SET <cs>` alone resolves to that default. -/
theorem mysql_clause_round_trip (env : List Coll) (t c : Coll)
    (hc : findColl env c.name = some c) (ht : findColl env t.name = some t)
    (hd : c.isDflt = true → dfltColl env c.cs = some c) :
    resolveColl env t (collSpecMysql t c) = some c := by
  by_cases hn : c.name = t.name
  · cases coll_eq_of_name_eq hc ht hn
    simp [resolveColl, collSpecMysql]
  · by_cases hdf : c.isDflt = true
    · simp [resolveColl, collSpecMysql, hn, hdf, hd hdf]
    · simp [resolveColl, collSpecMysql, hn, hdf, hc]

/-- A mismatching pair is rejected by the reader (and by the engine: corpus tables x1–x3). -/
example : resolveColl collTable engineColl { cs := some "latin1".toList, coll := some "utf8mb4_bin".toList } = none := by decide +kernel

-- the first clause of `ClauseEnd` quantifies over the tail as well; it says the same as this one about `rest.head?`
instance (rest : Str) : Decidable (ClauseEnd rest) :=
  decidable_of_iff ((∀ c ∈ rest.head?, isWordChar c = false) ∧ _) <| and_congr_left' <| by
    cases rest <;> simp

-- non-vacuity of `lexCollClause_specText`: what follows a type in a column definition is a `ClauseEnd`
example : ClauseEnd " NOT NULL".toList ∧ ClauseEnd ",\n".toList ∧ ClauseEnd " DEFAULT 'x'".toList ∧ ClauseEnd " COMMENT 'x'".toList ∧ ClauseEnd [] := by
  decide +kernel

/-- Against a literal `s` the kernel checks the hypothesis much faster than `l = s.toList`, which has it
decode the bytes it has just encoded the literal to. -/
theorem eq_toList_of_bytes {l : Str} {s : String}
    (h : l.flatMap String.utf8EncodeChar = s.toByteArray.data.toList) : l = s.toList := by
  rw [← String.utf8Encode_toList, List.utf8Encode, List.toList_data_toByteArray] at h
  apply String.ofList_injective
  rw [← String.toByteArray_inj, String.toByteArray_ofList, String.toByteArray_ofList, List.utf8Encode, h, List.utf8Encode]

example : collClause engineColl ⟨"latin1_swedish_ci".toList, "latin1".toList, true⟩ = " CHARACTER SET latin1 COLLATE latin1_swedish_ci".toList :=
  eq_toList_of_bytes (by decide +kernel)
example : collClause ⟨"latin1_bin".toList, "latin1".toList, false⟩ ⟨"latin1_swedish_ci".toList, "latin1".toList, true⟩ = " COLLATE latin1_swedish_ci".toList :=
  eq_toList_of_bytes (by decide +kernel)
example : showCol ⟨"latin1_bin".toList, "latin1".toList, false⟩
    { name := ['a'], ty := .varchar 3, notNull := true, autoInc := false, dflt := none, comment := [],
      coll := some ⟨"latin1_swedish_ci".toList, "latin1".toList, true⟩ } = "  `a` varchar(3) COLLATE latin1_swedish_ci NOT NULL".toList :=
  eq_toList_of_bytes (by decide +kernel)

example : quoteIdent ['a', '`', 'b'] = ['`', 'a', '`', '`', 'b', '`'] := by decide +kernel
example : lexIdent (quoteIdent ['a', '`', 'b'] ++ [' ', 'i', 'n', 't']) = some (['a', '`', 'b'], [' ', 'i', 'n', 't']) := by decide +kernel
example : escapeSeq ['\'', '\\', '"', '\n'] = ['\'', '\'', '\\', '\\', '\\', '"', '\\', 'n'] := by decide +kernel

example : showCol engineColl
    { name := ['a', '`'], ty := .int, notNull := true, autoInc := false, dflt := some (.num ['5']),
      comment := ['x', '\''] } = "  `a``` int NOT NULL DEFAULT '5' COMMENT 'x'''".toList :=
  eq_toList_of_bytes (by decide +kernel)

set_option maxRecDepth 20000 in
example : showTable exTable
  = "CREATE TABLE `t` (\n  `a` int NOT NULL,\n  PRIMARY KEY (`a`),\n  KEY `k` (`a`) COMMENT 'it''s'\n) ENGINE=InnoDB DEFAULT CHARSET=utf8mb4 COLLATE=utf8mb4_0900_bin".toList :=
  eq_toList_of_bytes (by decide +kernel)

-- the hypotheses of `showKey_reads_back` / `index_comment_round_trip_prefix` are satisfiable
example : exKey.comment ≠ [] ∧ ([')'] : Str).head? ≠ some '\'' := by decide +kernel
example : rawSafe ['o', 'k', ' ', '"'] = true ∧ rawSafe wComment = false := by decide +kernel

open Gms.Generated.C22 in
/-- The format strings of the formatter, the replacement pairs of the comment escaping (in source
order) and which comments go through it, re-read from the source on every run. The index comment
must be passed through `EscapeSpecialCharactersInComment` (the repair of `index_comment_unescaped`):
if that call disappears again this obligation breaks and `fixed_index_comment_unescaped` is the replay. -/
theorem facts_match :
    litsGenerateCreateTableStatement = ["", " COMMENT='%s'", "", " AUTO_INCREMENT=%s",
      "CREATE%s TABLE %s (\n%s\n) ENGINE=InnoDB%s DEFAULT CHARSET=%s COLLATE=%s%s", ",\n"] ∧
    litsGenerateCreateTableColumnDefinition = ["  %s %s", "%s NOT NULL", "%s AUTO_INCREMENT", "%s /*!80003 SRID %v */", "",
      " STORED", "%s GENERATED ALWAYS AS %s%s", "%s DEFAULT %s", "%s ON UPDATE %s", "", "%s COMMENT '%s'"] ∧
    litsGenerateCreateTablePrimaryKeyDefinition = ["  PRIMARY KEY (%s)", ","] ∧
    litsGenerateCreateTableIndexDefinition = ["", "UNIQUE ", "", "SPATIAL ", "", "FULLTEXT ", "", "VECTOR ",
      "  %s%s%s%sKEY %s (%s)", ",", "", "%s COMMENT '%s'"] ∧
    litsQuoteIdentifier = ["`%s`", "`", "``"] ∧
    litsEscape = ["'", "''", "\\", "\\\\", "\"", "\\\"", "\n", "\\n", "\r", "\\r", "\x00", "\\0"] ∧
    indexCommentEscaped = true ∧ columnCommentEscaped = true :=
  ⟨rfl, rfl, rfl, rfl, rfl, rfl, rfl, rfl⟩

open Gms.Generated.C22 in
/-- The type texts the compiled code prints are the model's. -/
theorem type_texts_match :
    typeTexts = [(".int", tyText .int), (".bigint", tyText .bigint), (".tinyint", tyText .tinyint), (".double", tyText .double),
      (".text", tyText .text), (".date", tyText .date), ("(.varchar 1)", tyText (.varchar 1)), ("(.varchar 40)", tyText (.varchar 40)),
      ("(.char 9)", tyText (.char 9)), ("(.decimal 10 2)", tyText (.decimal 10 2)), ("(.decimal 3 0)", tyText (.decimal 3 0))] := by
  decide +kernel

open Gms.Generated.C22 in
/-- What the compiled code says about every collation of the envelope (character set, whether it is that
character set's default) and the engine's default table collation are the model's. -/
theorem coll_table_match :
    collFacts.map (fun (n, cs, d) => (n.toList, cs.toList, d)) = collTable.map (fun c => (c.name, c.cs, c.isDflt)) ∧
    engineDefaultCollation.toList = engineColl.name ∧
    -- `EnumType` / `SetType.StringWithTableCollation` print the same clauses as `StringType` (`clause_table_match`)
    enumSetClausesAgree = true := by
  decide +kernel

/-- The hypothesis is the form to evaluate: `String.toList` on a literal has the kernel encode it and
decode the bytes again. -/
theorem map_toList_eq {α β : Type} {fs : List (α × β × String)} {l : List (α × β × Str)}
    (h : fs = l.map fun (i, j, cs) => (i, j, String.ofList cs)) :
    fs.map (fun (i, j, s) => (i, j, s.toList)) = l := by
  subst h
  simp [Function.comp_def]

/-- Every (table collation, column collation) pair of the envelope, by index. -/
def collPairs : List (Nat × Nat) := (List.range collTable.length).flatMap fun i => (List.range collTable.length).map fun j => (i, j)

open Gms.Generated.C22 in
/-- The text the compiled `StringWithTableCollation` appends to `varchar(n)` / `char(n)` / `text` is the
model's `collClause`, for EVERY pair (table collation, column collation) of the envelope — a condition
of that function that is weakened or strengthened breaks this obligation (and `collate_clause_needed` /
the object comparison of the oracle give the failing input). -/
theorem clause_table_match :
    clauseFacts.map (fun (i, j, s) => (i, j, s.toList)) =
      collPairs.map (fun (i, j) => (i, j, collClause (collTable.getD i default) (collTable.getD j default))) :=
  map_toList_eq (by decide +kernel)

end Gms.C22
