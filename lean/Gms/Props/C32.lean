/-
C32 — JSON values round-trip and path functions obey their laws.
-/
import Gms.Model.JsonQuote
import Gms.Model.JsonPath
import Gms.Model.JsonNum
import Gms.Generated.C32
import Gms.Lemmas.C32Expected
import Gms.Lemmas.JsonNum
import Gms.Lemmas.JsonQuote

namespace Gms.JsonQuote

/-- `isCont`, `second3`, `second4` unfold, by definition, to range tests of this spelling whose lower end is at
least 0x80; the three lemmas below apply it to `h : isCont b = true` etc. as it stands. -/
theorem ge_of_range {lo hi b : UInt8} (hlo : 0x80 ≤ lo) (h : (decide (lo ≤ b) && decide (b ≤ hi)) = true) :
    0x80 ≤ b :=
  UInt8.le_trans hlo (of_decide_eq_true (Bool.and_eq_true_iff.mp h).1)

theorem isCont_ge {b : UInt8} (h : isCont b = true) : 0x80 ≤ b :=
  ge_of_range (by decide) h

theorem second3_ge {b0 b1 : UInt8} (h : second3 b0 b1 = true) : 0x80 ≤ b1 :=
  ge_of_range (by split <;> decide) h

theorem second4_ge {b0 b1 : UInt8} (h : second4 b0 b1 = true) : 0x80 ≤ b1 :=
  ge_of_range (by split <;> decide) h

/-- What `quoteAux k` asks of the `k` bytes it copies unseen: they are ≥ 0x80, so `unescape` copies them as well.
Used by unfolding: `Skip 0 s` is `True` (proved by `trivial`), `Skip (k + 1) (b :: rest)` is the pair
`0x80 ≤ b ∧ Skip k rest` (taken apart by `.1`, `.2`). -/
def Skip : Nat → Bytes → Prop
  | 0, _ => True
  | _ + 1, [] => False
  | k + 1, b :: rest => (0x80 : UInt8) ≤ b ∧ Skip k rest

theorem decodeSize_skip (s : Bytes) (n : Nat) (h : decodeSize s = some n) : Skip (n - 1) s.tail := by
  -- along the branches of `decodeSize`: the three that return a size have tested the bytes they skip
  revert h
  fun_cases decodeSize s with
  | case1 b0 b1 rest h_lead2 h_cont => rintro ⟨rfl⟩; exact ⟨isCont_ge h_cont, trivial⟩
  | case3 b0 b1 h_not2 h_lead3 b2 rest h_tail =>
    simp only [Bool.and_eq_true] at h_tail
    rintro ⟨rfl⟩
    exact ⟨second3_ge h_tail.1, isCont_ge h_tail.2, trivial⟩
  | case6 b0 b1 h_not2 h_not3 h_lead4 b2 b3 rest h_tail =>
    simp only [Bool.and_eq_true] at h_tail
    rintro ⟨rfl⟩
    exact ⟨second4_ge h_tail.1.1, isCont_ge h_tail.1.2, isCont_ge h_tail.2, trivial⟩
  | case2 | case4 | case5 | case7 | case8 | case9 | case10 => exact nofun

theorem Res.app_nil (r : Res) : r.app [] = r := by
  cases r <;> rfl

theorem Res.cons_app (b : UInt8) (p : Bytes) (r : Res) : (r.app p).cons b = r.app (b :: p) := by
  cases r <;> rfl

theorem Res.app_app (p q : Bytes) (r : Res) : (r.app q).app p = r.app (p ++ q) := by
  cases r <;> simp [Res.app]

theorem unescape_high (st : Bool) {b : UInt8} {rest : Bytes} (h : (0x80 : UInt8) ≤ b) :
    unescape st (b :: rest) = (unescape st rest).cons b := by
  apply unescape_plain
  intro e; subst e; exact absurd h (by decide)

theorem decode_control : ∀ n, n < 32 →
    decodeEscaped 48 48 (hexDigitLower (n / 16)) (hexDigitLower (n % 16)) = .bytes [UInt8.ofNat n] := by
  decide +kernel

theorem decode_replacement : decodeEscaped 102 102 102 100 = .bytes [0xEF, 0xBF, 0xBD] := by decide

/-- The piece `Quote` writes for one byte outside a multi-byte rune is undone (for `b ≥ 0x80` the piece is `[b]`). -/
theorem unescape_ascii (st : Bool) (b : UInt8) (X : Bytes) :
    unescape st ((if quoteEscape b = [] then [b] else quoteEscape b) ++ X) = (unescape st X).cons b := by
  fun_cases quoteEscape b with
  | case9 h_quote h_backslash => exact unescape_plain st h_backslash
  | case8 _ _ _ _ _ _ _ h_control =>
    -- `\u00XY`
    have hn : b.toNat < 32 := by simpa using UInt8.lt_iff_toNat_lt.mp h_control
    rw [if_neg (List.cons_ne_nil _ _)]
    simp only [List.cons_append, List.nil_append]
    rw [unescape_u st X (decode_control b.toNat hn), ← Res.cons_app, Res.app_nil, UInt8.ofNat_toNat]
  | _ => simp [unescape_simple, *]   -- the seven two-byte escapes

theorem unescape_replacement (st : Bool) (X : Bytes) :
    unescape st (replacement ++ X) = (unescape st X).app [0xEF, 0xBF, 0xBD] := by
  simp only [replacement, List.cons_append, List.nil_append]
  exact unescape_u st X decode_replacement

theorem unescape_quoteAux (st : Bool) (s : Bytes) (k : Nat) (T : Bytes) (hk : Skip k s) :
    unescape st (quoteAux k s ++ T) = (unescape st T).app (sanitizeAux k s) := by
  fun_induction quoteAux k s with
  | case1 => simp only [sanitizeAux, List.nil_append, Res.app_nil]
  | case2 k b rest ih =>
    simp only [sanitizeAux, List.cons_append]
    rw [unescape_high st hk.1, ih hk.2, Res.cons_app]
  | case3 b rest hlt ih =>
    simp only [sanitizeAux, hlt, if_true, List.append_assoc]
    rw [unescape_ascii, ih trivial, Res.cons_app]
  | case4 b rest hlt hd ih =>
    simp only [sanitizeAux, hlt, if_false, hd, List.append_assoc]
    rw [unescape_replacement, ih trivial, Res.app_app]
  | case5 b rest hlt n hd ih =>
    simp only [sanitizeAux, hlt, if_false, hd, List.cons_append]
    rw [unescape_high st (UInt8.not_lt.mp hlt), ih (decodeSize_skip (b :: rest) n hd), Res.cons_app]

theorem sanitizeAux_valid (s : Bytes) (k : Nat) (h : validAux k s = true) : sanitizeAux k s = s := by
  fun_induction validAux k s with
  | case1 => simp [sanitizeAux]
  | case2 k b rest ih => simp [sanitizeAux, ih h]
  | case3 b rest hlt ih => simp [sanitizeAux, hlt, ih h]
  | case4 b rest hlt hd => cases h
  | case5 b rest hlt n hd ih => simp [sanitizeAux, hlt, hd, ih h]

theorem stripQuotes_wrap (s : Bytes) : stripQuotes (34 :: (s ++ [34])) = s := by
  simp [stripQuotes, List.getLast?_cons]

end Gms.JsonQuote

namespace Gms.JsonPath

theorem oget_oset_same (kvs : List (Bytes × Json)) (k : Bytes) (v : Json) :
    oget (oset kvs k v) k = some v := by
  fun_induction oset kvs k v with
  | case1 => simp [oget]
  | case2 k v w rest => simp [oget]
  | case3 k v k' w rest h_miss ih => simp [oget, h_miss, ih]

theorem oget_odel_same (kvs : List (Bytes × Json)) (k : Bytes) : oget (odel kvs k) k = none := by
  fun_induction odel kvs k with
  | case1 => rfl
  | case2 k w rest ih => exact ih
  | case3 k k' w rest h_miss ih => simp [oget, h_miss, ih]

theorem setAt_get {l : List Json} {i : Nat} {c : Json} (hc : l[i]? = some c) (v : Json) :
    (setAt l i v)[i]? = some v := by
  simp [setAt, (List.getElem?_eq_some_iff.mp hc).1]

theorem parseIndex_n (i len : Nat) :
    parseIndex (.n i) len = if i < len then ⟨false, false, i⟩ else ⟨false, true, len - 1⟩ := by
  cases len with
  | zero => rfl
  | succ n =>
    -- the model tests `i > n`, the statement `i < n + 1`: rewrite the latter to `¬ n < i` and let `ite_not` swap the branches
    simp only [parseIndex, Nat.succ_ne_zero, false_or, if_false, Nat.add_sub_cancel, gt_iff_lt,
      Nat.lt_succ_iff.trans Nat.not_lt.symm, ite_not]

/-- The MySQL-valid domain of the law `JSON_EXTRACT(JSON_SET(d,p,v),p) = v`: every leg but the last
names an existing member / cell, indices are plain numbers, and the last leg names an existing or
new member, an existing cell, or the cell just past the end. -/
def lands : List Leg → Json → Bool
  | [], _ => true
  | .key k :: rest, .obj kvs =>
    match oget kvs k with
    | some c => lands rest c
    | none => rest.isEmpty
  | .idx (.n i) :: rest, .arr l =>
    match l[i]? with
    | some c => lands rest c
    | none => i == l.length && rest.isEmpty
  | _, _ => false

/-- For plain number indices MySQL's array step is the library's: the cell, or nothing. -/
theorem specWalk_idx_arr (i : Nat) (rest : List Leg) (l : List Json) :
    specWalk (.idx (.n i) :: rest) (.arr l) =
      match l[i]? with
      | some v => specWalk rest v
      | none => .missing := by
  simp only [specWalk, parseIndex_n]
  split
  · cases l[i]? <;> rfl
  · next hi => simp [List.getElem?_eq_none (Nat.le_of_not_lt hi)]

/-- JSON_SET and JSON_ARRAY_APPEND descend through an existing member in the same way, also when the
path ends there: `update mode v [] c` is then the new member. -/
theorem update_key_some {mode : Mode} (hm : mode = .set ∨ mode = .arrayAppend) {v : Json} {k : Bytes}
    {rest : List Leg} {kvs : List (Bytes × Json)} {c : Json} (hc : oget kvs k = some c) :
    update mode v (.key k :: rest) (.obj kvs) =
      (update mode v rest c).map fun r => (.obj (if r.2 then oset kvs k r.1 else kvs), r.2) := by
  cases rest with
  | nil => rcases hm with rfl | rfl <;> simp [update, hc]
  | cons =>
    simp only [update, hc, Option.getD_some]
    rcases update mode v (_ :: _) c with _ | ⟨n, ch⟩ <;> rfl

theorem update_idx_some {mode : Mode} (hm : mode = .set ∨ mode = .arrayAppend) {v : Json} {i : Nat}
    {rest : List Leg} {l : List Json} {c : Json} (hc : l[i]? = some c) :
    update mode v (.idx (.n i) :: rest) (.arr l) =
      (update mode v rest c).map fun r => (.arr (if r.2 then setAt l i r.1 else l), r.2) := by
  obtain ⟨hi, hgi⟩ := List.getElem?_eq_some_iff.mp hc
  cases rest with
  | nil => rcases hm with rfl | rfl <;> simp [update, parseIndex_n, hi, hgi]
  | cons =>
    simp only [update, parseIndex_n, hi, ↓reduceIte, Bool.false_eq_true, ne_eq, false_and, Bool.not_false,
      and_self, reduceCtorEq, List.getD_eq_getElem?_getD, getElem?_pos, hgi, Option.getD_some]
    rcases update mode v (_ :: _) c with _ | ⟨n, ch⟩ <;> rfl

theorem set_then_walk (v : Json) (p : List Leg) (d : Json) (h : lands p d = true) :
    ∃ d', update .set v p d = some (d', true) ∧ walk p d' = .found v := by
  fun_induction lands p d with
  | case1 => exact ⟨v, rfl, rfl⟩
  | case2 k rest kvs c hc ih =>
    obtain ⟨n, hu, hw⟩ := ih h
    exact ⟨.obj (oset kvs k n), by rw [update_key_some (.inl rfl) hc, hu]; rfl,
      by simp only [walk, oget_oset_same, hw]⟩
  | case3 k rest kvs hc =>
    obtain rfl := List.isEmpty_iff.mp h
    exact ⟨.obj (oset kvs k v), by simp [update], by simp only [walk, oget_oset_same]⟩
  | case4 i rest l c hc ih =>
    obtain ⟨n, hu, hw⟩ := ih h
    exact ⟨.arr (setAt l i n), by rw [update_idx_some (.inl rfl) hc, hu]; rfl,
      by simp only [walk, setAt_get hc n, hw]⟩
  | case5 i rest l hc =>
    simp only [Bool.and_eq_true, beq_iff_eq, List.isEmpty_iff] at h
    obtain ⟨rfl, rfl⟩ := h
    exact ⟨.arr (l ++ [v]), by simp [update, parseIndex_n], by simp [walk]⟩
  | case6 => cases h

theorem append_then_walk (v : Json) (p : List Leg) (d x : Json) (hw : walk p d = .found x) :
    ∃ d', update .arrayAppend v p d = some (d', true) ∧ walk p d' = .found (appendEnd v x) := by
  fun_induction walk p d with
  | case1 d => cases hw; exact ⟨_, rfl, rfl⟩
  | case2 k rest kvs c hc ih =>
    obtain ⟨n, hu, hn⟩ := ih hw
    exact ⟨.obj (oset kvs k n), by rw [update_key_some (.inr rfl) hc, hu]; rfl,
      by simp only [walk, oget_oset_same, hn]⟩
  | case5 i rest l c hc ih =>
    obtain ⟨n, hu, hn⟩ := ih hw
    exact ⟨.arr (setAt l i n), by rw [update_idx_some (.inr rfl) hc, hu]; rfl,
      by simp only [walk, setAt_get hc n, hn]⟩
  | case3 | case4 | case6 | case7 | case8 => cases hw

/-- Every index leg the walk reaches is a plain number applied to an array. -/
def plain : List Leg → Json → Bool
  | [], _ => true
  | .key k :: rest, .obj kvs =>
    match oget kvs k with
    | some v => plain rest v
    | none => true
  | .key _ :: _, _ => true
  | .idx (.n i) :: rest, .arr l =>
    match l[i]? with
    | some v => plain rest v
    | none => true
  | .idx _ :: _, _ => false

theorem walk_found {p : List Leg} {d v : Json} (h : walk p d = .found v) :
    plain p d = true ∧ hasLast p = false := by
  fun_induction walk p d with
  | case1 => exact ⟨rfl, rfl⟩
  | case2 k rest kvs c hc ih => simpa only [plain, hasLast, hc] using ih h
  | case5 i rest l c hc ih => simpa only [plain, hasLast, hc] using ih h
  | case3 | case4 | case6 | case7 | case8 => cases h

/-- The two facts `lookup` needs of a plain path, together because one induction along `plain` gives both:
the library walk is MySQL's, and `memberAccessOnNonObject` answers true only where that is NULL. -/
theorem plain_spec {p : List Leg} {d : Json} (h : plain p d = true) :
    walk p d = specWalk p d ∧ (maon p d = true → specWalk p d = .missing) := by
  fun_induction plain p d with
  | case1 => exact ⟨rfl, fun hm => nomatch hm⟩
  | case2 k rest kvs c hc ih => simpa only [maon, walk, specWalk, hc] using ih h
  | case3 k rest kvs hc => simp [maon, walk, specWalk, hc]
  | case4 k tail x hx =>
    cases x with
    | obj kvs => exact absurd rfl (hx kvs)
    | _ => exact ⟨rfl, fun _ => rfl⟩
  | case5 i rest l c hc ih => simpa only [specWalk_idx_arr, maon, walk, hc] using ih h
  | case6 i rest l hc => simp [specWalk_idx_arr, maon, walk, hc]
  | case7 => cases h

theorem walk_eq_spec {p : List Leg} {d : Json} (h : plain p d = true) :
    walk p d = specWalk p d :=
  (plain_spec h).1

/-- What `lookup` does on a container (the `memberAccessOnNonObject` test, then the library walk)
is MySQL's walk on plain paths. -/
theorem maon_walk_eq_spec {p : List Leg} {d : Json} (h : plain p d = true) :
    (if maon p d then .missing else walk p d) = specWalk p d := by
  obtain ⟨hw, hm⟩ := plain_spec h
  split
  · next hm' => exact (hm hm').symm
  · exact hw

def isCrash : LRes → Bool
  | .crash => true
  | _ => false

def isFound : LRes → Option Json
  | .found j => some j
  | _ => none

end Gms.JsonPath

namespace Gms.C32
open Gms.JsonQuote

/-- The escape table of `Quote` is the model's `quoteEscape`, entry by entry (256 entries dumped from
the compiled package on this run). -/
theorem facts_quoteEscape :
    Gms.Generated.C32.quoteEscape =
      (List.range 256).map (fun b => (quoteEscape (UInt8.ofNat b)).map (·.toNat)) := by
  decide +kernel

/-- The escape switch and guards of `Unquote`, the loop conditions of `Quote`, the decision
structure of walkPathAndUpdate / updateObject / updateArray / updateObjectTreatAsArray / parseIndex
and the key order of `sortKeys` are the ones the models transliterate. -/
theorem facts_match :
    Gms.Generated.C32.unquoteSwitch = Expected.unquoteSwitch
    ∧ Gms.Generated.C32.unquoteConds = Expected.unquoteConds
    ∧ Gms.Generated.C32.quoteConds = Expected.quoteConds
    ∧ Gms.Generated.C32.shape_walkPathAndUpdate = Expected.shape_walkPathAndUpdate
    ∧ Gms.Generated.C32.shape_updateObject = Expected.shape_updateObject
    ∧ Gms.Generated.C32.shape_updateArray = Expected.shape_updateArray
    ∧ Gms.Generated.C32.shape_updateObjectTreatAsArray = Expected.shape_updateObjectTreatAsArray
    ∧ Gms.Generated.C32.shape_parseIndex = Expected.shape_parseIndex
    ∧ Gms.Generated.C32.sortKeysLess = Expected.sortKeysLess
    ∧ Gms.Generated.C32.shape_printNumber = Expected.shape_printNumber
    ∧ Gms.Generated.C32.shape_convertNumber = Expected.shape_convertNumber :=
  ⟨rfl, rfl, rfl, rfl, rfl, rfl, rfl, rfl, rfl, rfl, rfl⟩

/-- **Quote/Unquote round trip, for every byte string**: `Unquote(Quote(s))` succeeds and returns
`s` with every ill-formed UTF-8 byte replaced by U+FFFD (Impl model and Spec alike). -/
theorem unquote_quote_general (st : Bool) (s : Bytes) :
    unquoteWith st (quote s) = .ok (sanitize s) := by
  unfold unquoteWith quote
  have h34 : (34 : UInt8) ≠ 92 := by decide
  simp only [List.cons_append, List.nil_append]
  rw [unescape_plain st h34, unescape_quoteAux st s 0 [34] trivial]
  rw [unescape_plain st h34]
  simp only [unescape, Res.cons, Res.app]
  rw [stripQuotes_wrap]
  rfl

/-- **JSON_UNQUOTE(JSON_QUOTE(s)) = s** for every well-formed UTF-8 string. -/
theorem unquote_quote (s : Bytes) (h : validUtf8 s = true) : unquote (quote s) = .ok s := by
  unfold unquote
  rw [unquote_quote_general, sanitize, sanitizeAux_valid s 0 h]

/-- The guard is necessary: an ill-formed byte does not survive (excluded point; the real code
returns EF BF BD for the single byte FF). -/
theorem unquote_quote_illformed : unquote (quote [0xFF]) = .ok [0xEF, 0xBF, 0xBD] := by decide +kernel

example : validUtf8 [0x61, 0xC3, 0xA9, 0x22, 0x5C, 0x0A, 0xE2, 0x82, 0xAC, 0xF0, 0x9F, 0x98, 0x80] = true := by decide
example : quote [0x61, 0x22, 0x0A, 0x01] = [34, 0x61, 92, 34, 92, 110, 92, 117, 48, 48, 48, 49, 34] := by decide

/-- The Spec of `Unquote` is total: it never crashes. -/
theorem unquoteSpec_no_crash (s : Bytes) : unquoteSpec s ≠ .crash :=
  unquoteWith_strict_never_crashes s

/-- Full statement `∀ s, unquote s = unquoteSpec s` is FALSE for the code as it stands (see the
findings below); it holds away from the crashing inputs. -/
theorem unquote_eq_spec_partial (s : Bytes) (h : crashes s = false) : unquote s = unquoteSpec s := by
  unfold unquote unquoteSpec unquoteWith
  unfold crashes at h
  simp only [decide_eq_false_iff_not] at h
  rw [unescape_strict, if_neg h]

/-- Findings: the real `Unquote` panics on a `\u` escape followed by exactly three more bytes
(`\u123`: the guard `i+4 > len(s)` is off by one) and on a surrogate code unit (`\ud800`:
`utf8.RuneLen` is -1 and `char[0:size]` panics). Both are reachable as `SELECT JSON_UNQUOTE('…')`. -/
theorem finding_unquote_bad_unicode_escape_panics :
    (∃ s, crashes s = true ∧ unquote s ≠ unquoteSpec s) ∧
    unquote [92, 117, 49, 50, 51] = .crash ∧ unquote [92, 117, 100, 56, 48, 48] = .crash :=
  ⟨⟨[92, 117, 49, 50, 51], by decide, by decide⟩, by decide, by decide⟩

open Gms.JsonPath

/-- Full statement `∀ p d, lookup p d = specWalk p d` (the implemented JSON_EXTRACT agrees with
MySQL's path semantics) is FALSE for the code as it stands; it holds on paths without `last` whose
index legs are plain numbers applied to arrays. -/
theorem lookup_eq_spec_partial (p : List Leg) (d : Json) (hl : hasLast p = false)
    (h : plain p d = true) : lookup p d = specWalk p d := by
  cases p with
  | nil => cases d <;> rfl
  | cons leg rest =>
    cases d with
    | arr _ | obj _ => simp only [lookup, hl, Bool.false_eq_true, if_false]; exact maon_walk_eq_spec h
    | null | bool _ | num _ | str _ =>
      -- a scalar document: both sides are NULL for a member leg, and an index leg is not `plain`
      cases leg with
      | key k => simp [lookup, hl, specWalk]
      | idx i => cases i <;> simp [plain] at h

theorem lookup_of_walk_found {p : List Leg} {d v : Json} (hw : walk p d = .found v) :
    lookup p d = .found v ∧ specWalk p d = .found v := by
  obtain ⟨hp, hl⟩ := walk_found hw
  have hs : specWalk p d = .found v := by rw [← walk_eq_spec hp, hw]
  exact ⟨by rw [lookup_eq_spec_partial p d hl hp, hs], hs⟩

/-- **JSON_EXTRACT(JSON_SET(d, p, v), p) = v** wherever the path lands (existing or new member,
existing cell or the cell just past the end, plain indices): JSON_SET succeeds and reports a change,
and the path then resolves to `v` — under the implemented lookup and under MySQL's semantics. -/
theorem extract_set (v : Json) (p : List Leg) (d : Json) (h : lands p d = true) :
    ∃ d', update .set v p d = some (d', true) ∧
      isFound (lookup p d') = some v ∧ isFound (specWalk p d') = some v := by
  obtain ⟨d', hu, hw⟩ := set_then_walk v p d h
  obtain ⟨hl, hs⟩ := lookup_of_walk_found hw
  exact ⟨d', hu, congrArg isFound hl, congrArg isFound hs⟩

/-- Non-vacuity: `JSON_SET('{"a": [1, 2]}', '$.a[2]', 9)` and `$.b` on the same document land. -/
example : lands [.key [97], .idx (.n 2)] (.obj [([97], .arr [.num 1, .num 2])]) = true ∧
    lands [.key [98]] (.obj [([97], .arr [.num 1, .num 2])]) = true := by decide

/-- **JSON_ARRAY_APPEND adds exactly one element**: when it reports a change and the path resolved
to `x` before, it resolves afterwards to `x` with the value appended (`x` wrapped into a
two-element array when it is not an array). -/
theorem arrayAppend_adds_one (v : Json) (p : List Leg) (d d' x : Json)
    (hu : update .arrayAppend v p d = some (d', true)) (hw : walk p d = .found x) :
    walk p d' = .found (appendEnd v x) ∧
      (∀ l, x = .arr l → appendEnd v x = .arr (l ++ [v])) := by
  obtain ⟨d'', hu', hw'⟩ := append_then_walk v p d x hw
  cases hu'.symm.trans hu
  exact ⟨hw', by intro l hl; subst hl; rfl⟩

/-- **JSON_REMOVE of a member makes the path unresolvable** (one level; deeper paths are validated
on the real code by the oracle, not proved). -/
theorem remove_member_then_missing (v : Json) (kvs : List (JsonPath.Bytes × Json)) (k : JsonPath.Bytes) :
    ∃ d' c, update .remove v [.key k] (.obj kvs) = some (d', c) ∧
      isFound (walk [.key k] d') = none ∧ isFound (specWalk [.key k] d') = none := by
  cases hc : oget kvs k with
  | none => exact ⟨.obj kvs, false, by simp [update, hc], by simp [walk, hc, isFound], by simp [specWalk, hc, isFound]⟩
  | some c =>
    exact ⟨.obj (odel kvs k), true, by simp [update, hc], by simp [walk, oget_odel_same, isFound],
      by simp [specWalk, oget_odel_same, isFound]⟩

/-- Finding: `JSON_EXTRACT('{"c": null}', '$.c[1]')` panics (nil pointer dereference in the
jsonpath library: an index applied to a JSON null inside the document). -/
theorem finding_extract_index_into_null_panics :
    isCrash (lookup [.key [99], .idx (.n 1)] (.obj [([99], .null)])) = true ∧
    isCrash (specWalk [.key [99], .idx (.n 1)] (.obj [([99], .null)])) = false := by decide

/-- Finding: `JSON_EXTRACT(JSON_SET('5', '$[0]', 7), '$[0]')` is NULL — an index applied to a
non-array is never resolved by the implemented lookup (MySQL: `[0]` / `[last]` denote the value). -/
theorem finding_extract_index_on_non_array :
    (∃ d', update .set (.num 7) [.idx (.n 0)] (.num 5) = some (d', true) ∧
      isFound (lookup [.idx (.n 0)] d') = none ∧ isFound (specWalk [.idx (.n 0)] d') = some (.num 7)) :=
  ⟨.num 7, rfl, rfl, rfl⟩

/-- Finding: `JSON_EXTRACT('[1, 2]', '$[last]')` is an error (`last` is understood by the mutation
functions but not by the lookup). -/
theorem finding_extract_last_index_unsupported :
    (match lookup [.idx .last] (.arr [.num 1, .num 2]) with | .err => true | _ => false) = true ∧
    isFound (specWalk [.idx .last] (.arr [.num 1, .num 2])) = some (.num 2) := ⟨rfl, rfl⟩

open Gms.JsonNum in
/-- **Number round trip.** For every number literal with an integral value (any magnitude, plain digits
or with `.`/`e`/`E`): the number the document holds (`convertJsonNumbers`) is printed
(`writeMarshalledValue`: `FormatInt` when the double fits int64, else the shortest digits) as a text
that is held, when parsed again, as a number of exactly the same value — away from the listed
class `big_float_reparsed_as_integer`.

The full statement `∀ l, (reparse (convert l)).val = (convert l).val` is FALSE on the unchanged code:
`finding_big_float_reparsed_as_integer`. -/
theorem number_roundtrip_partial (l : Lit) (h : bigFloatReparsedAsInteger (convert l) = false) :
    (reparse (convert l)).val = (convert l).val :=
  reparse_val_partial (convert l) (convert_wf l) h

open Gms.JsonNum in
/-- Integer-typed numbers (int64 / uint64) always round trip exactly, and so does every double inside
the int64 range (`FormatInt` prints its exact value): the defect class needs a double beyond it. -/
theorem number_roundtrip_in_range (n : Num) (hw : n.wf)
    (h : ∀ neg mag, n = .f64 neg mag → fitsI64 (signed neg mag) = true) :
    (reparse n).val = n.val := by
  apply reparse_val_partial n hw
  cases n with
  | i64 v => rfl
  | u64 v => rfl
  | f64 neg mag =>
    exact Bool.eq_false_iff.mpr fun hb => ((bigFloat_iff neg mag).mp hb).1 (h neg mag rfl)

open Gms.JsonNum in
/-- A double beyond the int64 range is printed by the `FormatFloat` branch, with digits that parse
back to the same double (never through `FormatInt(int64(val))`, whose operand is -2^63 there). -/
theorem big_float_printed_shortest (neg : Bool) (mag : Nat) (hw : roundF64 mag = mag)
    (h : fitsI64 (signed neg mag) = false) :
    printNum (.f64 neg mag) = (neg, shortest mag) ∧ roundF64 (shortest mag) = mag :=
  ⟨by rw [printNum_f64, h]; rfl, shortest_rt hw⟩

open Gms.JsonNum in
/-- Finding (unchanged code): the double 2^63 (`9223372036854775808.0`) prints as `9223372036854776000`,
which is held as the uint64 9223372036854776000 — a different number. -/
theorem finding_big_float_reparsed_as_integer :
    ∃ l : Lit, (reparse (convert l)).val ≠ (convert l).val :=
  ⟨⟨false, 9223372036854775808, 0, true⟩, by decide +kernel⟩

open Gms.JsonNum in
example : convert ⟨false, 1, 19, true⟩ = .f64 false (10 ^ 19)
    ∧ bigFloatReparsedAsInteger (convert ⟨false, 1, 19, true⟩) = false
    ∧ printNum (.f64 false (10 ^ 19)) = (false, 10 ^ 19)
    ∧ reparse (.f64 false (10 ^ 19)) = .u64 (10 ^ 19) := by decide
open Gms.JsonNum in
example : bigFloatReparsedAsInteger (convert ⟨true, 602214076, 15, true⟩) = false
    ∧ fitsI64 (signed true (roundF64 (602214076 * 10 ^ 15))) = false
    ∧ convert ⟨false, 18446744073709551616, 0, false⟩ = .f64 false (2 ^ 64)
    ∧ convert ⟨false, 18446744073709551615, 0, false⟩ = .u64 (2 ^ 64 - 1)
    ∧ printNum (.f64 true 0) = (false, 0) := by decide +kernel

end Gms.C32
