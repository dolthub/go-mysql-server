/-
C46 — Index range operations preserve the set of keys they denote.

Model: Gms/Model/Range.lean (cuts, column ranges, n-column ranges, the worklist of
RemoveOverlappingRanges over an abstract tree), Gms/Model/RangeTree.lean (heap model of the
interval tree: tied to the code by correspondence, evaluated in `finding_ror_heap_witness`).
-/
import Gms.Lemmas.RangeROR
import Gms.Lemmas.RangeSimplify
import Gms.Lemmas.Basics
import Gms.Model.RangeTree
import Gms.Generated.C46

namespace Gms.C46
open Gms.Range

def mkCut (kind : Nat) (k : Int) : Cut :=
  match kind with
  | 0 => .belowNull
  | 1 => .aboveNull
  | 2 => .below k
  | 3 => .above k
  | _ => .aboveAll

/-- The real `Compare` of every pair of cut kinds (table dumped from the freshly compiled code on
this run) is the model's `Cut.compare`. -/
theorem facts_match_compare :
    Gms.Generated.C46.compareTable.length = 125 ∧
    ∀ e ∈ Gms.Generated.C46.compareTable,
      (mkCut e.1 e.2.1).compare (mkCut e.2.2.1 e.2.2.2.1) = e.2.2.2.2 := by
  decide +kernel

def selName : ColRange.Sel → String
  | .rLo => "r.LowerBound" | .rHi => "r.UpperBound" | .oLo => "other.LowerBound" | .oHi => "other.UpperBound"

def renderCase (n : Nat) : Int × List (String × String) :=
  ((n : Int), ((ColRange.subtractCase n).getD []).map (fun p => (selName p.1, selName p.2)))

/-- The nine-case switch of `Subtract` in the source is the model's `subtractCase` table, with the
same trit encoding of (lComp, uComp) and a panicking default. -/
theorem facts_match_subtract :
    Gms.Generated.C46.subtractSwitch = (List.range 9).map renderCase
    ∧ (∀ n : Nat, n < 9 → (ColRange.subtractCase n).isSome = true)
    ∧ Gms.Generated.C46.subtractSwitchTag = "(3 * (lComp + 1)) + (uComp + 1)"
    ∧ Gms.Generated.C46.subtractLComp = "r.LowerBound.Compare other.LowerBound"
    ∧ Gms.Generated.C46.subtractUComp = "r.UpperBound.Compare other.UpperBound"
    ∧ Gms.Generated.C46.subtractDefaultPanics = true :=
  ⟨rfl, by decide, rfl, rfl, rfl, rfl⟩

/-- `IntersectRanges` in the source assigns the running intersection back (`rang = newRange` in its
second loop) — the repair of finding F-C46-a. If the assignment disappears again this obligation
breaks and `fixed_intersectRanges_result_discarded` below is the replay. -/
theorem facts_match_intersectRanges : Gms.Generated.C46.intersectRangesAssignsResult = true :=
  rfl

def showCut : Cut → String
  | .belowNull => "bn" | .aboveNull => "an" | .aboveAll => "aa"
  | .below k => "b" ++ toString k | .above k => "a" ++ toString k

def consRow (name : String) (c : ColRange) : String × String × String := (name, showCut c.lo, showCut c.hi)

/-- The exported constructors produce the cuts the model's constructors produce (nil keys give
the empty range). -/
theorem facts_match_constructors :
    Gms.Generated.C46.constructors =
      [consRow "open" (ColRange.opened 1 2), consRow "closed" (ColRange.closed 1 2),
       consRow "lessThan" (ColRange.lessThan 2), consRow "lessOrEqual" (ColRange.lessOrEqual 2),
       consRow "greaterThan" (ColRange.greaterThan 1), consRow "greaterOrEqual" (ColRange.greaterOrEqual 1),
       consRow "all" ColRange.all, consRow "empty" ColRange.empty, consRow "null" ColRange.null,
       consRow "notNull" ColRange.notNull, consRow "open-nil" ColRange.empty, consRow "closed-nil" ColRange.empty,
       consRow "lessThan-nil" ColRange.empty, consRow "greaterOrEqual-nil" ColRange.empty] :=
  rfl

/-- `Compare` on cuts is a total order with values in {-1, 0, 1}: antisymmetric, transitive,
total, and `0` exactly on identical cuts. -/
theorem cut_total_order :
    (∀ a b : Cut, a.compare b = -1 ∨ a.compare b = 0 ∨ a.compare b = 1)
    ∧ (∀ a b : Cut, a.compare b = -(b.compare a))
    ∧ (∀ a b : Cut, a.compare b = 0 ↔ a = b)
    ∧ (∀ a b c : Cut, a.compare b ≤ 0 → b.compare c ≤ 0 → a.compare c ≤ 0)
    ∧ (∀ a b : Cut, a.compare b ≤ 0 ∨ b.compare a ≤ 0) :=
  ⟨Cut.compare_range, Cut.compare_antisymm, Cut.compare_eq_zero_iff,
   fun _ _ _ h1 h2 => Cut.le_trans h1 h2, Cut.le_total⟩

/-- The order of cuts is the order of the positions they denote: `a ≤ b` iff every point above
`b` is above `a`; `a < b` iff some point lies above `a` and not above `b`. -/
theorem cut_order_is_upset_inclusion (a b : Cut) :
    (a.compare b ≤ 0 ↔ ∀ v, b.isBelow v = true → a.isBelow v = true)
    ∧ (a.compare b < 0 ↔ ∃ v, a.isBelow v = true ∧ b.isBelow v = false) :=
  ⟨Cut.le_iff a b, Cut.lt_iff a b⟩

/-- NULL is its own lowest point: `BelowNull` is the least cut, the only cut below NULL, and a
column range contains NULL iff its lower bound is `BelowNull` and its upper bound is not. -/
theorem null_lowest_point (c : Cut) (r : ColRange) :
    Cut.belowNull.compare c ≤ 0 ∧ (c.isBelow none = true ↔ c = .belowNull)
    ∧ (r.mem none = true ↔ r.lo = .belowNull ∧ r.hi ≠ .belowNull) := by
  refine ⟨Cut.belowNull_le c, Cut.isBelow_none c, ?_⟩
  rw [ColRange.mem_eq, Bool.and_eq_true, Bool.not_eq_true', Bool.eq_false_iff, Cut.isBelow_none, ne_eq, Cut.isBelow_none]

/-- Real keys: the key `x` is above `Below k` iff `k ≤ x`, above `Above k` iff `k < x`. -/
theorem key_points (k x : Int) :
    (Cut.below k).isBelow (keyPt x) = decide (k ≤ x) ∧ (Cut.above k).isBelow (keyPt x) = decide (k < x) :=
  ⟨Cut.isBelow_keyPt_below k x, Cut.isBelow_keyPt_above k x⟩

example : (ColRange.closed 1 5).mem (keyPt 5) = true ∧ (ColRange.opened 1 5).mem (keyPt 5) = false
    ∧ (ColRange.opened 1 2).isEmpty = false ∧ ColRange.all.mem none = true ∧ ColRange.notNull.mem none = false := by
  decide +kernel

/-- `IsEmpty` says exactly that the range has no point. -/
theorem isEmpty_iff (r : ColRange) : r.isEmpty = true ↔ ∀ v, r.mem v = false := ColRange.isEmpty_iff r

/-- `TryIntersect` always returns the intersection, and its flag says whether it is inhabited. -/
theorem mem_tryIntersect (r o : ColRange) :
    (∀ v, (r.tryIntersect o).1.mem v = (r.mem v && o.mem v))
    ∧ ((r.tryIntersect o).2 = true ↔ ∃ v, r.mem v = true ∧ o.mem v = true) :=
  ⟨ColRange.mem_tryIntersect r o, ColRange.tryIntersect_flag r o⟩

/-- `Overlaps`: with flag `true` the returned range is the intersection; with flag `false` the
ranges share no point; for non-empty operands the flag is exact. -/
theorem mem_overlaps (r o : ColRange) :
    ((r.overlaps o).2 = true → ∀ v, (r.overlaps o).1.mem v = (r.mem v && o.mem v))
    ∧ ((r.overlaps o).2 = false → ∀ v, (r.mem v && o.mem v) = false)
    ∧ (r.isEmpty = false → o.isEmpty = false →
        ((r.overlaps o).2 = true ↔ ∃ v, r.mem v = true ∧ o.mem v = true)) :=
  ⟨fun h => ColRange.overlaps_true h, fun h => ColRange.overlaps_false h, ColRange.overlaps_true_iff⟩

/-- `TryUnion` returns the union when it succeeds; it refuses only two non-empty ranges that are
not connected. -/
theorem mem_tryUnion (r o : ColRange) :
    ((r.tryUnion o).2 = true → ∀ v, (r.tryUnion o).1.mem v = (r.mem v || o.mem v))
    ∧ ((r.tryUnion o).2 = false → r.isEmpty = false ∧ o.isEmpty = false ∧ r.isConnected o = false) :=
  ⟨fun h => ColRange.tryUnion_true h, ColRange.tryUnion_false⟩

/-- `Subtract` never reaches its panicking default, and for a non-inverted subtrahend its pieces
cover exactly the difference. -/
theorem mem_subtract (r o : ColRange) :
    (r.subtract o).isSome = true
    ∧ (o.NonInv → ∀ ps, r.subtract o = some ps → ∀ v, ps.any (fun p => p.mem v) = (r.mem v && !o.mem v)) :=
  ⟨ColRange.subtract_isSome r o, fun ho _ h v => ColRange.mem_subtract ho h v⟩

/- For an inverted subtrahend the two pieces of case 2 overlap (their union is still the difference:
`ColRange.any_mem_subtract`). -/
example : ∃ (r o : ColRange) (ps : List ColRange) (v : Option Int),
    r.subtract o = some ps ∧ (ps.map (fun p => p.mem v)).count true = 2 :=
  ⟨⟨.belowNull, .aboveAll⟩, ⟨.below 2, .below 0⟩, [⟨.belowNull, .below 2⟩, ⟨.below 0, .aboveAll⟩], some 2,
    by decide +kernel, by decide +kernel⟩

example : (ColRange.closed 0 9).subtract (ColRange.closed 3 5) = some [⟨.below 0, .below 3⟩, ⟨.above 5, .above 9⟩] := by
  decide +kernel

/-- `IsSubsetOf` is sound for membership. -/
theorem isSubsetOf_sound (r o : ColRange) (h : r.isSubsetOf o = true) : ∀ v, r.mem v = true → o.mem v = true :=
  ColRange.isSubsetOf_sound h

/-- `MySQLRange.Intersect` denotes the intersection of key-tuple sets. -/
theorem mem_range_intersect (a b : Range) (hl : a.length = b.length) (hne : a ≠ []) (v : Tuple) :
    Range.mem (a.intersect b) v = (Range.mem a v && Range.mem b v) :=
  Range.mem_intersect hl v

/-- `TryMerge`, when it merges, returns exactly the union, and never fails with "invalid index". -/
theorem tryMerge_sound (a b : Range) :
    (∀ m, a.tryMerge b = .yes m → ∀ v, Range.mem m v = (Range.mem a v || Range.mem b v))
    ∧ a.tryMerge b ≠ .err :=
  ⟨fun _ h v => Range.tryMerge_sound h v, Range.tryMerge_ne_err a b⟩

/-- `RemoveOverlap` (any number of columns): the returned pieces cover exactly `a ∪ b`. -/
theorem removeOverlap_union (fuel : Nat) (a b : Range) (rs : List Range) (ok : Bool)
    (ha : Range.NonInv a) (hb : Range.NonInv b) (h : removeOverlap fuel a b = .res rs ok) (v : Tuple) :
    memAny rs v = (Range.mem a v || Range.mem b v) :=
  memAny_removeOverlap fuel a b rs ok h v

/-- `RemoveOverlap` terminates within `len + 1` recursive calls and never panics or errors (the
measure is the number of differing columns; a change that broke it would surface here). -/
theorem removeOverlap_terminates (a b : Range) :
    ∃ rs ok, removeOverlap (removeOverlapFuel a) a b = .res rs ok :=
  removeOverlap_total _ a b (by have := Range.diffIdx_length_le a b; unfold removeOverlapFuel; omega)

example : removeOverlap 3 [ColRange.closed 0 5, ColRange.closed 0 5] [ColRange.closed 3 9, ColRange.closed 3 9]
    = .res [[⟨.below 0, .below 3⟩, ColRange.closed 0 5], [⟨.above 5, .above 9⟩, ColRange.closed 3 9],
            [ColRange.closed 3 5, ColRange.closed 0 9]] true := by
  decide +kernel

/-- Ranges that pass `validateRangeCollection` are pairwise disjoint as sets of key tuples. -/
theorem validate_ok_disjoint (coll : List Range) (h : validate coll = true) :
    List.Pairwise (fun r s => ∀ v, (Range.mem r v && Range.mem s v) = false) coll := by
  fun_induction validate coll with
  | case1 => exact .nil
  | case2 r rs ih =>
    obtain ⟨hr, hrs⟩ := Bool.and_eq_true_iff.mp h
    exact .cons (fun s hs v => Range.overlaps_false (by simpa using List.all_eq_true.mp hr s hs) v) (ih hrs)

/-- What `RemoveOverlappingRanges` needs from `MySQLRangeColumnExprTree`: it stores a set of
ranges (`content`), `FindConnections` only returns stored ranges — *any* of them, in any order,
possibly missing some —, `Insert` adds, `Remove` removes exactly the given range, iteration
enumerates the content. (The real tree is tied to these hypotheses by the set oracle of
harness/cmd/c46 and by exact correspondence with the heap model.) -/
structure TreeSet {T : Type} (ops : TreeOps T) (content : T → List Range) : Prop where
  new : ∀ r x, x ∈ content (ops.new r) ↔ x = r
  find : ∀ t r conns, ops.find t r = some conns → ∀ c ∈ conns, c ∈ content t
  insert : ∀ t r t', ops.insert t r = some t' → ∀ x, x ∈ content t' ↔ (x = r ∨ x ∈ content t)
  remove : ∀ t r t', ops.remove t r = some t' → ∀ x, x ∈ content t' ↔ (x ∈ content t ∧ x ≠ r)
  toList : ∀ t l, ops.toList t = some l → ∀ x, x ∈ l ↔ x ∈ content t

/-- Over a set-like tree the worklist rewrites the set `tree ∪ pending` by one rule, whatever
`FindConnections` returns: a stored range `c` and the pending range `rang` are replaced by the pieces
of `RemoveOverlap c rang`. So a property `J` of the set of ranges that this rule preserves holds of
what `GetRangeCollection` is given at the end. -/
theorem removeOverlapping_set_induction {T : Type} {ops : TreeOps T} {content : T → List Range}
    (hts : TreeSet ops content) (J : List Range → Prop) (hJ : ∀ {xs ys}, (∀ x, x ∈ xs ↔ x ∈ ys) → J xs → J ys)
    (step : ∀ c rang rest newRanges, removeOverlap (removeOverlapFuel c) c rang = .res newRanges true →
      J (c :: rang :: rest) → J (newRanges ++ rest))
    {fuel : Nat} {r0 : Range} {rest coll : List Range} (h0 : J (r0 :: rest))
    (h : removeOverlappingRanges ops fuel (r0 :: rest) = .ok coll) :
    ∃ stored, J stored ∧ getRangeCollection stored = some coll := by
  have loop : ∀ fuel t pending t', J (content t ++ pending) → rorLoop ops fuel t pending = .ok t' → J (content t') := by
    intro fuel t pending t' h0 h
    fun_induction rorLoop ops fuel t pending with
    | case1 fuel t => rw [List.append_nil] at h0; exact Res.ok.inj h ▸ h0
    | case8 fuel t rang rest conns hfind c newRanges hfirst t₂ hremove ih =>
      obtain ⟨hcin, hro⟩ := firstOverlap_hit hfirst
      have hmem : ∀ x, x ∈ content t ↔ x = c ∨ x ∈ content t₂ := fun x =>
        ⟨fun h => (Classical.em (x = c)).imp_right fun ne => (hts.remove t c t₂ hremove x).mpr ⟨h, ne⟩,
          fun h => h.elim (· ▸ hts.find t rang conns hfind c hcin) fun h => ((hts.remove t c t₂ hremove x).mp h).1⟩
      refine ih (hJ (fun x => ?_) (step c rang (content t₂ ++ rest) newRanges hro (hJ (fun x => ?_) h0))) h
      · simp only [List.mem_append, or_assoc, or_comm, or_left_comm]
      · simp only [List.mem_append, List.mem_cons, hmem x, or_assoc, or_left_comm]
    | case10 fuel t rang rest conns hfind hfirst t₂ hinsert ih =>
      exact ih (hJ (fun x => by
        simp only [List.mem_append, List.mem_cons, hts.insert t rang t₂ hinsert x, or_assoc, or_left_comm]) h0) h
    | _ => cases h
  obtain ⟨t, stored, hl, htl, hg, _⟩ := removeOverlappingRanges_ok h
  exact ⟨stored, hJ (fun x => (hts.toList t stored htl x).symm)
    (loop fuel _ rest t (hJ (fun x => by rw [List.mem_append, hts.new r0 x, List.mem_cons]) h0) hl), hg⟩

theorem removeOverlapping_mem {T : Type} {ops : TreeOps T} {content : T → List Range} (hts : TreeSet ops content)
    {fuel : Nat} {ranges coll : List Range} (h : removeOverlappingRanges ops fuel ranges = .ok coll)
    {v : Tuple} (hv : v ≠ []) : memAny coll v = memAny ranges v := by
  cases ranges with
  | nil => cases h; rfl
  | cons r0 rest =>
    obtain ⟨stored, hst, hg⟩ := removeOverlapping_set_induction hts
      (fun xs => memAny xs v = memAny (r0 :: rest) v)
      (fun hm hx => (Basics.any_congr_of_mem_iff hm _).symm.trans hx)
      (fun c rang rest' newRanges hro hj => by
        rw [← hj, memAny_append, memAny_removeOverlap _ c rang newRanges true hro v, memAny_cons, memAny_cons,
          Bool.or_assoc])
      rfl h
    exact (getRangeCollection_sound hg v hv).trans hst

/-- Whatever the tree does: a result has passed `validateRangeCollection`. -/
theorem removeOverlapping_disjoint {T : Type} {ops : TreeOps T} {fuel : Nat} {ranges coll : List Range}
    (h : removeOverlappingRanges ops fuel ranges = .ok coll) :
    List.Pairwise (fun r s => ∀ v, (Range.mem r v && Range.mem s v) = false) coll := by
  cases ranges with
  | nil => cases h; exact .nil
  | cons r0 rest =>
    obtain ⟨_, _, _, _, _, hv⟩ := removeOverlappingRanges_ok h
    exact validate_ok_disjoint _ hv

/-- **Main theorem.** For every tree that behaves like a set — whatever its `FindConnections`
returns among the stored ranges — and every list of non-inverted ranges: if
`RemoveOverlappingRanges` returns a collection (no error), then a key tuple (of at least one
column) is in some output range iff it is in some input range, and the output ranges are pairwise
disjoint. No bound on the number of ranges, columns or iterations (the fuel only decides whether
the model returns at all). -/
theorem removeOverlapping_preserves {T : Type} (ops : TreeOps T) (content : T → List Range)
    (hts : TreeSet ops content) (fuel : Nat) (ranges coll : List Range)
    (hni : ∀ r ∈ ranges, Range.NonInv r)
    (h : removeOverlappingRanges ops fuel ranges = .ok coll) :
    (∀ v, v ≠ [] → memAny coll v = memAny ranges v)
    ∧ List.Pairwise (fun r s => ∀ v, (Range.mem r v && Range.mem s v) = false) coll :=
  ⟨fun _ hv => removeOverlapping_mem hts h hv, removeOverlapping_disjoint h⟩

theorem mem_listInsert (t : List Range) (r x : Range) : x ∈ listInsert t r ↔ x = r ∨ x ∈ t := by
  fun_cases listInsert t r with
  | case1 hstored =>
    obtain ⟨y, hy, e⟩ := List.any_eq_true.mp hstored
    rw [Range.equals_iff.mp e] at hy
    exact ⟨.inr, fun h => h.elim (· ▸ hy) id⟩
  | case2 hnew => exact (insertSorted_inserts _).mem

/-- The plain-set tree (Spec of range_tree.go) satisfies `TreeSet`. -/
theorem listTree_treeSet : TreeSet listTree (fun t => t) :=
  { new := fun _ _ => List.mem_singleton
    find := fun t r conns h c hc => by cases h; exact (List.mem_filter.mp hc).1
    insert := fun t r t' h x => by cases h; exact mem_listInsert t r x
    remove := fun t r t' h x => by
      cases h
      simp only [List.mem_filter, Bool.not_eq_true', Bool.eq_false_iff, ne_eq, Range.equals_iff]
    toList := fun t l h x => by cases h; rfl }

/-- Non-vacuity: a 2-column input with overlaps; the result is a collection (no error). -/
example : removeOverlappingRanges listTree 100
    [[ColRange.closed 0 5, ColRange.closed 0 5], [ColRange.closed 3 9, ColRange.closed 3 9],
     [ColRange.closed 7 8, ColRange.all]] =
    .ok [[⟨.below 0, .below 3⟩, ColRange.closed 0 5], [ColRange.closed 3 5, ColRange.closed 0 9],
         [⟨.above 5, .below 7⟩, ColRange.closed 3 9], [ColRange.closed 7 8, ColRange.all],
         [⟨.above 8, .above 9⟩, ColRange.closed 3 9]] := by
  decide +kernel

/-- A tree that stores a set but never reports a connection. -/
def blindTree : TreeOps (List Range) := { listTree with find := fun _ _ => some [] }

theorem blindTree_treeSet : TreeSet blindTree (fun t => t) :=
  { listTree_treeSet with find := fun _ _ _ hf c hc => by cases hf; cases hc }

/-- **Finding `ror_tree_missed_connection`.** Set-likeness of the tree does not exclude the
"overlapping ranges" failure: if `FindConnections` misses a connected stored range, two
overlapping ranges end up side by side in the tree and `validateRangeCollection` rejects a
well-formed input. The real tree does miss connections (`MaxUpperbound` is not maintained by
`rotateLeft` / `remove`); the concrete 3-column witness on the real code is corpus case 2 of
harness/cmd/c46 (`witnessRorMissed`), reproduced by the heap model in every run. The guarded
statement is `removeOverlapping_preserves` (every non-error result is correct). Not proved: that a
*complete* `FindConnections` excludes the error. -/
theorem finding_ror_tree_missed_connection :
    ∃ (ops : TreeOps (List Range)) (content : List Range → List Range) (ranges : List Range),
      TreeSet ops content ∧ (∀ r ∈ ranges, Range.NonInv r) ∧
      removeOverlappingRanges ops 10 ranges = .err "overlapping ranges"
      ∧ removeOverlappingRanges listTree 10 ranges ≠ .err "overlapping ranges" :=
  ⟨blindTree, fun t => t,
   [[ColRange.closed 0 5, ColRange.closed 0 5], [ColRange.closed 3 9, ColRange.closed 3 9]],
   blindTree_treeSet, by decide +kernel, by decide +kernel, by decide +kernel⟩

/-- The well-formed 3-column input on which the real `RemoveOverlappingRanges` fails (corpus case 2
of harness/cmd/c46). -/
def rorWitness : List Range :=
  [[⟨.below 0, .below 2⟩, ⟨.below 1, .above 2⟩, ⟨.aboveNull, .above 1⟩],
   [⟨.aboveNull, .above 0⟩, ⟨.below 0, .above 2⟩, ⟨.above 0, .aboveAll⟩],
   [⟨.below 1, .below 2⟩, ⟨.belowNull, .above 1⟩, ⟨.belowNull, .above 2⟩],
   [⟨.below 1, .above 2⟩, ⟨.below 1, .above 1⟩, ⟨.below 3, .above 3⟩],
   [⟨.below 1, .aboveAll⟩, ⟨.below 0, .above 3⟩, ⟨.below 2, .below 3⟩],
   [⟨.belowNull, .above 1⟩, ⟨.above 2, .below 3⟩, ⟨.below 0, .above 3⟩]]

/-- The witness on the Impl model: over the heap model of the real tree the worklist ends with
"overlapping ranges"; over the plain-set tree (complete `FindConnections`) the same input gives a
collection. (Kernel evaluation of the transliterated red-black tree.) -/
theorem finding_ror_heap_witness :
    (∀ r ∈ rorWitness, Range.NonInv r)
    ∧ removeOverlappingRanges Gms.RangeTree.heapTree 5000 rorWitness = .err "overlapping ranges"
    ∧ (∃ coll, removeOverlappingRanges listTree 5000 rorWitness = .ok coll) := by
  refine ⟨by decide +kernel, by decide +kernel, ?_⟩
  -- `∃ coll` cannot be decided and the 3-column result is not worth writing out: decide that the result is an `.ok`
  have : (match removeOverlappingRanges listTree 5000 rorWitness with | .ok _ => true | _ => false) = true := by
    decide +kernel
  generalize removeOverlappingRanges listTree 5000 rorWitness = r at this ⊢
  match r, this with
  | .ok coll, _ => exact ⟨coll, rfl⟩

theorem dropWhile_cons_of_length_pos {rang : Range} (rest : List Range) (h : 0 < rang.length) :
    (rang :: rest).dropWhile (fun rc => decide (rc.length = 0)) = rang :: rest := by
  rw [List.dropWhile_cons, if_neg (by simpa using Nat.ne_of_gt h)]

theorem intersectRangesLoopPreFix_returns_first (n : Nat) (hn : 0 < n) : ∀ (rest : List Range) (rang : Range),
    rang.length = n → (∀ r ∈ rest, r.length = n) → intersectRangesLoopPreFix rang rest = rang
  | [], _, _, _ => rfl
  | rc :: rest, rang, h1, h2 => by
    have hrc : rc.length = n := h2 rc List.mem_cons_self
    unfold intersectRangesLoopPreFix
    rw [if_neg (hrc ▸ Nat.ne_of_gt hn), if_neg]
    · exact intersectRangesLoopPreFix_returns_first n hn rest rang h1 (fun r hr => h2 r (List.mem_cons_of_mem _ hr))
    · rw [Range.intersect_length h1 hrc]; exact Nat.ne_of_gt hn

/-- **Repaired defect `intersectRanges_result_discarded` (F-C46-a).** Before the `fix:` commit, on
ranges of one length `IntersectRanges` returned its first argument, whatever the others were. -/
theorem intersectRangesPreFix_returns_first (n : Nat) (hn : 0 < n) (rang : Range) (rest : List Range)
    (h1 : rang.length = n) (h2 : ∀ r ∈ rest, r.length = n) :
    intersectRangesPreFix (rang :: rest) = rang := by
  unfold intersectRangesPreFix
  rw [dropWhile_cons_of_length_pos rest (h1 ▸ hn)]
  exact intersectRangesLoopPreFix_returns_first n hn rest rang h1 h2

/-- Witness of the repaired defect: the pre-fix `IntersectRanges([1,5], [3,9])` contained the key 1,
which is not in `[3,9]`; the repaired function does not. -/
theorem fixed_intersectRanges_result_discarded :
    ∃ (rs : List Range) (v : Tuple),
      Range.mem (intersectRangesPreFix rs) v = true ∧ rs.all (fun r => Range.mem r v) = false
      ∧ Range.mem (intersectRanges rs) v = false :=
  ⟨[[ColRange.closed 1 5], [ColRange.closed 3 9]], [keyPt 1], by decide +kernel, by decide +kernel, by decide +kernel⟩

theorem intersectRangesSpecLoop_sound (n : Nat) (hn : 0 < n) : ∀ (rest : List Range) (rang : Range),
    rang.length = n → (∀ r ∈ rest, r.length = n) → ∀ v,
    Range.mem (intersectRangesSpecLoop rang rest) v = (Range.mem rang v && rest.all (fun r => Range.mem r v))
  | [], _, _, _, v => (Bool.and_true _).symm
  | rc :: rest, rang, h1, h2, v => by
    have hrc : rc.length = n := h2 rc List.mem_cons_self
    have hl : (rang.intersect rc).length = n := Range.intersect_length h1 hrc
    unfold intersectRangesSpecLoop
    rw [if_neg (hrc ▸ Nat.ne_of_gt hn), if_neg (hl ▸ Nat.ne_of_gt hn),
      intersectRangesSpecLoop_sound n hn rest _ hl (fun r hr => h2 r (List.mem_cons_of_mem _ hr)) v,
      Range.mem_intersect (h1.trans hrc.symm) v,
      List.all_cons, Bool.and_assoc]

/-- Spec: with the running intersection carried along (`rang = newRange`), `IntersectRanges`
denotes the intersection of all its arguments. -/
theorem intersectRangesSpec_sound (n : Nat) (hn : 0 < n) (rs : List Range) (hne : rs ≠ [])
    (h : ∀ r ∈ rs, r.length = n) (v : Tuple) :
    Range.mem (intersectRangesSpec rs) v = rs.all (fun r => Range.mem r v) := by
  cases rs with
  | nil => exact absurd rfl hne
  | cons rang rest =>
    unfold intersectRangesSpec
    obtain ⟨h1, h2⟩ := List.forall_mem_cons.mp h
    rw [dropWhile_cons_of_length_pos rest (h1 ▸ hn)]
    rw [List.all_cons]
    exact intersectRangesSpecLoop_sound n hn rest rang h1 h2 v

theorem intersectRangesLoop_eq_spec : ∀ (rest : List Range) (rang : Range),
    intersectRangesLoop rang rest = intersectRangesSpecLoop rang rest
  | [], _ => rfl
  | rc :: rest, rang => by
    unfold intersectRangesLoop intersectRangesSpecLoop
    simp only [intersectRangesLoop_eq_spec rest]

/-- The Impl model of the repaired `IntersectRanges` is the Spec. -/
theorem intersectRanges_eq_spec (rs : List Range) : intersectRanges rs = intersectRangesSpec rs := by
  unfold intersectRanges intersectRangesSpec
  split <;> simp [intersectRangesLoop_eq_spec]

/-- **Full statement (holds since the `fix:` commit):** `IntersectRanges` denotes the intersection of
all its (same-length, non-nil) arguments. -/
theorem intersectRanges_sound (n : Nat) (hn : 0 < n) (rs : List Range) (hne : rs ≠ [])
    (h : ∀ r ∈ rs, r.length = n) (v : Tuple) :
    Range.mem (intersectRanges rs) v = rs.all (fun r => Range.mem r v) := by
  rw [intersectRanges_eq_spec]
  exact intersectRangesSpec_sound n hn rs hne h v

example : Range.mem (intersectRanges [[ColRange.closed 1 5], [ColRange.closed 3 9]]) [keyPt 4] = true
    ∧ Range.mem (intersectRanges [[ColRange.closed 1 5], [ColRange.closed 3 9]]) [keyPt 1] = false := by
  decide +kernel

end Gms.C46
