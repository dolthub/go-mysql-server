/-
C13 — DML statements match a reference table model.

Model: Gms/Model/MemTable.lean (Impl = rowexec iterators → tableEditor → edit accumulators →
ApplyEdits; Spec = keyed map / multiset with MySQL's row counts). The keyed tables are in
Gms/Lemmas/MemTable.lean (map), MemTableEd.lean (editor), MemTableStmt.lean (statements); the keyless
accumulator comes first here, then the property theorems in `namespace Gms.C13`.
-/
import Gms.Model.MemTable
import Gms.Lemmas.MemTable
import Gms.Lemmas.MemTableStmt
import Gms.Generated.C13

namespace Gms.MemTable

def klStep (sch : Schema) (e : Ed) : AccCall → Ed
  | .ins r => klInsert sch e r
  | .del r => klDelete sch e r

/-- Spec: a keyless table is a multiset of rows (a list up to permutation). -/
def msStep (m : List Row) : AccCall → List Row
  | .ins r => m ++ [r]
  | .del r => m.erase r

/-- every DELETE call names a row that is in the table at that point (DML deletes rows it has read). -/
def ValidCalls : List Row → List AccCall → Prop
  | _, [] => True
  | m, .ins r :: cs => ValidCalls (m ++ [r]) cs
  | m, .del r :: cs => r ∈ m ∧ ValidCalls (m.erase r) cs

/-- Only the length of the row (what `Row.Equals` needs); the kinds of the values are `KeyTyped`. -/
def WellTyped (sch : Schema) (r : Row) : Prop := r.length = sch.cols.length

theorem rowEquals_eq (sch : Schema) (hci : NoCi sch) (a b : Row) (ha : WellTyped sch a) :
    rowEquals sch.cols a b = (a == b) :=
  Bool.eq_iff_iff.mpr ⟨fun h => beq_iff_eq.mpr (rowEquals_noCi sch.cols hci a b h),
    fun h => eq_of_beq h ▸ rowEquals_self sch.cols a ha⟩

theorem rowEquals_search (sch : Schema) (hci : NoCi sch) (r : Row) (hr : WellTyped sch r) (l : List Row) :
    l.any (fun d => rowEquals sch.cols r d) = decide (r ∈ l)
      ∧ eraseFirst (fun d => rowEquals sch.cols r d) l = l.erase r := by
  simp only [rowEquals_eq sch hci r _ hr]
  exact ⟨List.any_beq.trans (List.contains_eq_mem r l), eraseFirst_eq_erase _ r l fun _ _ => Bool.beq_comm⟩

theorem count_snoc (x r : Row) (l : List Row) :
    List.count x (l ++ [r]) = List.count x l + if r == x then 1 else 0 := by
  rw [List.count_append, List.count_singleton]

theorem count_erase_add {r : Row} {l : List Row} (h : r ∈ l) (x : Row) :
    List.count x (l.erase r) + (if r == x then 1 else 0) = List.count x l := by
  rw [List.count_erase]
  split
  · next e => exact Nat.sub_add_cancel (eq_of_beq e ▸ List.count_pos_iff.mpr h)
  · rfl

theorem delta_or_count_zero {r : Row} {l : List Row} (h : r ∉ l) (x : Row) :
    (if r == x then 1 else 0) = 0 ∨ List.count x l = 0 := by
  split
  · next e => exact Or.inr (eq_of_beq e ▸ List.count_eq_zero.mpr h)
  · exact Or.inl rfl

theorem count_foldl_erase (x : Row) (ds t : List Row) :
    List.count x (ds.foldl List.erase t) = List.count x t - List.count x ds := by
  induction ds generalizing t with
  | nil => rfl
  | cons d ds ih => rw [List.foldl_cons, ih, List.count_erase, List.count_cons, Nat.sub_sub, Nat.add_comm]

/-- The second conjunct (every pending delete is still stored) is what makes the truncated subtraction of
`count_foldl_erase` exact in `klApply_perm`. -/
def KlInv (e : Ed) (m : List Row) : Prop :=
  ∀ x, List.count x m + List.count x e.kdels = List.count x e.rows + List.count x e.kadds
    ∧ List.count x e.kdels ≤ List.count x e.rows

def AllTyped (sch : Schema) (e : Ed) : Prop :=
  (∀ r ∈ e.kadds, WellTyped sch r) ∧ (∀ r ∈ e.kdels, WellTyped sch r)

theorem klInsert_eq (sch : Schema) (hci : NoCi sch) (e : Ed) (r : Row) (hr : WellTyped sch r) :
    klInsert sch e r = if r ∈ e.kdels then { e with kdels := e.kdels.erase r }
      else { e with kadds := e.kadds ++ [r] } := by
  obtain ⟨h1, h2⟩ := rowEquals_search sch hci r hr e.kdels
  rw [klInsert, h1, h2]
  simp only [decide_eq_true_eq]

theorem klDelete_eq (sch : Schema) (hci : NoCi sch) (e : Ed) (r : Row) (hr : WellTyped sch r) :
    klDelete sch e r = if r ∈ e.kadds then { e with kadds := e.kadds.erase r }
      else { e with kdels := e.kdels ++ [r] } := by
  obtain ⟨h1, h2⟩ := rowEquals_search sch hci r hr e.kadds
  rw [klDelete, h1, h2]
  simp only [decide_eq_true_eq]

/-- In each of the four cases two of the lists gain or lose one `r`: their count of `x` changes by
`δ = if r == x then 1 else 0` (`count_snoc`, `count_erase_add`); the rest is cancellation in `ℕ`. -/
theorem klStep_inv (sch : Schema) (hci : NoCi sch) (e : Ed) (m : List Row) (c : AccCall) (cs : List AccCall)
    (hr : WellTyped sch c.row) (hinv : KlInv e m) (hv : ValidCalls m (c :: cs)) :
    KlInv (klStep sch e c) (msStep m c) ∧ (klStep sch e c).rows = e.rows ∧ ValidCalls (msStep m c) cs := by
  cases c with
  | ins r =>
    show KlInv (klInsert sch e r) (m ++ [r]) ∧ (klInsert sch e r).rows = e.rows ∧ _
    rw [klInsert_eq sch hci e r hr]
    split
    · next h =>
      refine ⟨fun x => ?_, rfl, hv⟩
      obtain ⟨h0, h0'⟩ := hinv x
      have h1 := count_erase_add h x
      refine ⟨?_, Nat.le_trans (h1 ▸ Nat.le_add_right _ _) h0'⟩
      rw [count_snoc, Nat.add_assoc, Nat.add_comm (ite _ _ _), h1, h0]
    · refine ⟨fun x => ?_, rfl, hv⟩
      obtain ⟨h0, h0'⟩ := hinv x
      refine ⟨?_, h0'⟩
      rw [count_snoc, count_snoc, Nat.add_right_comm, h0, Nat.add_assoc]
  | del r =>
    show KlInv (klDelete sch e r) (m.erase r) ∧ (klDelete sch e r).rows = e.rows ∧ _
    rw [klDelete_eq sch hci e r hr]
    split
    · next h =>
      refine ⟨fun x => ?_, rfl, hv.2⟩
      obtain ⟨h0, h0'⟩ := hinv x
      refine ⟨?_, h0'⟩
      rw [← count_erase_add h x, ← count_erase_add hv.1 x, Nat.add_right_comm] at h0
      exact Nat.add_right_cancel (h0.trans (Nat.add_assoc _ _ _).symm)
    · next h =>
      refine ⟨fun x => ?_, rfl, hv.2⟩
      obtain ⟨h0, h0'⟩ := hinv x
      have h2 := count_erase_add hv.1 x
      have e1 : List.count x (m.erase r) + List.count x (e.kdels ++ [r]) = List.count x e.rows + List.count x e.kadds := by
        rw [count_snoc, Nat.add_left_comm, h2, Nat.add_comm, h0]
      refine ⟨e1, ?_⟩
      rcases delta_or_count_zero h x with hd | hd
      · rw [count_snoc, hd]; exact h0'
      · rw [hd] at e1
        exact Nat.le_trans (Nat.le_add_left _ _) (Nat.le_of_eq e1)

theorem klFold_inv (sch : Schema) (hci : NoCi sch) (calls : List AccCall) (e : Ed) (m : List Row)
    (hty : ∀ c ∈ calls, WellTyped sch c.row) (hinv : KlInv e m) (hv : ValidCalls m calls) :
    KlInv (calls.foldl (klStep sch) e) (calls.foldl msStep m)
      ∧ (calls.foldl (klStep sch) e).rows = e.rows := by
  induction calls generalizing e m with
  | nil => exact ⟨hinv, rfl⟩
  | cons c cs ih =>
    obtain ⟨s1, s2, s3⟩ := klStep_inv sch hci e m c cs (hty c List.mem_cons_self) hinv hv
    obtain ⟨i1, i2⟩ := ih _ _ (fun c h => hty c (List.mem_cons_of_mem _ h)) s1 s3
    exact ⟨i1, i2.trans s2⟩

theorem klDeleteHelper_eq (sch : Schema) (hci : NoCi sch) (t : List Row) (d : Row)
    (hty : ∀ r ∈ t, WellTyped sch r) : klDeleteHelper sch t d = t.erase d :=
  eraseFirst_eq_erase _ d t (fun r hr => rowEquals_eq sch hci r d (hty r hr))

theorem klFoldDelete_eq (sch : Schema) (hci : NoCi sch) (ds t : List Row)
    (hty : ∀ r ∈ t, WellTyped sch r) : ds.foldl (klDeleteHelper sch) t = ds.foldl List.erase t := by
  induction ds generalizing t with
  | nil => rfl
  | cons d ds ih =>
    rw [List.foldl_cons, List.foldl_cons, klDeleteHelper_eq sch hci t d hty]
    exact ih (t.erase d) (fun r hr => hty r (List.mem_of_mem_erase hr))

theorem klApply_perm (sch : Schema) (hci : NoCi sch) (e : Ed) (m : List Row) (hty : ∀ r ∈ e.rows, WellTyped sch r)
    (hinv : KlInv e m) : (klApply sch e).Perm m := by
  rw [List.perm_iff_count]
  intro x
  obtain ⟨i1, i2⟩ := hinv x
  rw [klApply, List.count_append, klFoldDelete_eq sch hci _ _ hty, count_foldl_erase]
  exact (Nat.sub_add_comm i2).symm.trans (Nat.eq_sub_of_add_eq i1).symm

end Gms.MemTable

namespace Gms.C13
open Gms.MemTable

/-- The call orders, increments and format verbs the model was written against are the ones the
extractor read from the source on this run. `getRowKey` prints every key value with `%v` and writes
it length-prefixed (`"%d:%s,"` with `len(s), s`, no other write) — the repair of finding
`pk_print_collision`: if the prefix disappears again this obligation breaks and
`fixed_pk_print_collision` below is the replay. -/
theorem facts_match :
    Gms.Generated.C13.getRowKeyFormats = ["%v", "%d:%s,"] ∧ Gms.Generated.C13.getRowKeyWrites = 0
    ∧ Gms.Generated.C13.getRowKeyLenArgs = ["len(s)", "s"]
    ∧ Gms.Generated.C13.pkApplyEdits = ["deletes.Foreach", "deleteHelper", "adds.Foreach", "insertHelper", "tableData.sortRows"]
    ∧ Gms.Generated.C13.pkInsert = ["getRowKey", "adds.Set"]
    ∧ Gms.Generated.C13.pkDelete = ["getRowKey", "adds.Del", "deletes.Set"]
    ∧ Gms.Generated.C13.pkGet = ["getRowKey", "adds.Get", "deletes.Get", "columnsMatch"]
    ∧ Gms.Generated.C13.klApplyEdits = ["deleteHelper", "insertHelper"]
    ∧ Gms.Generated.C13.edInsert = ["ea.Get", "checkUniqueConstraints", "ea.Insert"]
    ∧ Gms.Generated.C13.edUpdate = ["ea.Delete", "pkColsDiffer", "ea.Get", "checkUniqueConstraints", "ea.Insert"]
    ∧ Gms.Generated.C13.edComplete = ["ea.ApplyEdits", "ea.Clear"]
    ∧ Gms.Generated.C13.edDiscard = ["ea.Clear", "editedTable.replaceData"]
    ∧ Gms.Generated.C13.iterClose = ["openerCloser.DiscardChanges", "openerCloser.StatementComplete"]
    ∧ Gms.Generated.C13.checkpointNext = ["editIter.StatementBegin", "inner.Next", "editIter.DiscardChanges", "editIter.StatementComplete"]
    ∧ Gms.Generated.C13.insertNext = ["replacer.Insert", "replacer.Delete", "inserter.Insert", "handleOnDuplicateKeyUpdate"]
    ∧ Gms.Generated.C13.odkuCalls = ["applyUpdates", "applyUpdates", "updater.Update"]
    ∧ Gms.Generated.C13.updateNext = ["oldRow.Equals", "updater.Update"] :=
  ⟨rfl, rfl, rfl, rfl, rfl, rfl, rfl, rfl, rfl, rfl, rfl, rfl, rfl, rfl, rfl, rfl, rfl⟩

/-- The row-count handlers add what the model adds: INSERT 1; REPLACE 1 and one more inside a loop
that breaks at the first hit (so at most 2 per row); ODKU 1 / (found-rows) 1 / 2 / (error) 1;
UPDATE matched 1, affected 1; DELETE 1. -/
theorem facts_counts :
    Gms.Generated.C13.insertIncs = [1] ∧ Gms.Generated.C13.replaceIncs = [1, 1]
    ∧ Gms.Generated.C13.replaceBreaks = 1 ∧ Gms.Generated.C13.odkuIncs = [1, 1, 2, 1]
    ∧ Gms.Generated.C13.updateAffectedIncs = [1] ∧ Gms.Generated.C13.updateMatchedIncs = [1]
    ∧ Gms.Generated.C13.deleteIncs = [1] :=
  ⟨rfl, rfl, rfl, rfl, rfl, rfl, rfl⟩

/-- **Keyed accumulator refines the keyed map** (`acc_refines_map`) — the full statement: with the
repair of `pk_print_collision` no guard on the printed keys is needed. For every stored table with
distinct keys, every sequence of accumulator `Insert`/`Delete` calls on typed rows (key columns
hold values of the declared kinds, `KeyTyped`), and no case-insensitive column: the table produced
by `ApplyEdits` denotes exactly the map obtained by applying the same calls, in order, to the map
the stored table denoted; and its keys are still distinct. -/
theorem pk_acc_refines_map (sch : Schema) (t : List Row) (calls : List AccCall)
    (hci : NoCi sch) (hnd : NoDupPk sch.pk t) (hty : ∀ c ∈ calls, KeyTyped sch c.row) :
    absT sch.pk (pkApply sch (calls.foldl (accStepPk sch) (mkEd t)))
        = calls.foldl (specStepK sch.pk) (absT sch.pk t)
      ∧ NoDupPk sch.pk (pkApply sch (calls.foldl (accStepPk sch) (mkEd t))) := by
  have h := pkApply_foldl sch hci (calls.map AccCall.row)
    (keyInjOn_typed sch _ (List.forall_mem_map.mpr hty))
    calls (fun _ => List.mem_map_of_mem) (mkEd t) (accWF_nil rfl rfl) hnd
  rw [LMap_of_no_edits sch rfl rfl] at h
  exact h

/-- non-vacuity of `pk_acc_refines_map`: an insert, an update-like delete+insert and a delete on
a two-row table with a composite key — including the rows (1,23) / (12,3) of the old witness. -/
example : ∀ c ∈ [AccCall.ins [.int 1, .int 23, .int 0], .del [.int 1, .int 2, .int 9],
    .ins [.int 12, .int 3, .int 7], .del [.int 5, .int 6, .int 0]],
    KeyTyped { cols := [{}, {}, {}], pk := [0, 1], uniques := [] } c.row := by
  unfold KeyTyped
  decide +kernel

/-- **`getRowKey` is injective on key values** (`keyInj`; the full statement, FALSE before the repair
of `pk_print_collision`): for every schema — any number of key columns — and every set of typed
rows, different key values get different map keys. -/
theorem keyInj_typed (sch : Schema) (S : List Row) (h : ∀ r ∈ S, KeyTyped sch r) : KeyInjOn sch.pk S :=
  keyInjOn_typed sch S h

/-- … and for rows that merely agree on the kind of value in every key column (all integers or all
strings in a column), whatever the schema says. -/
theorem keyInj_same_kinds (pk : List Nat) (S : List Row)
    (h : ∀ r1 ∈ S, ∀ r2 ∈ S, ∀ c ∈ pk, (r1.at c).kind = (r2.at c).kind) : KeyInjOn pk S := by
  intro r1 h1 r2 h2 hk
  exact getRowKey_inj pk r1 r2 (h r1 h1 r2 h2) hk

/-- The pre-fix key (no separator) was injective only for a single column: witness (1,23) / (12,3)
under a composite key collided; under the repaired `getRowKey` the same rows are kept apart. -/
theorem fixed_keyInj_composite :
    getRowKeyPreFix [0, 1] [.int 1, .int 23, .int 0] = getRowKeyPreFix [0, 1] [.int 12, .int 3, .int 1]
    ∧ proj [0, 1] [.int 1, .int 23, .int 0] ≠ proj [0, 1] [.int 12, .int 3, .int 1]
    ∧ KeyInjOn [0, 1] [[.int 1, .int 23, .int 0], [.int 12, .int 3, .int 1]] :=
  ⟨by decide +kernel, by decide +kernel, keyInj_same_kinds _ _ (by decide)⟩

/-- **Keyless accumulator refines the multiset** (`keyless_acc_refines_multiset`). For every
keyless table, every sequence of accumulator calls in which each `Delete` names a row present at
that point: `ApplyEdits` yields, up to permutation, the rows obtained by appending / removing one
occurrence per call. (Adds and deletes cancel pairwise; `deleteHelper` removes exactly one equal row.) -/
theorem keyless_acc_refines_multiset (sch : Schema) (t : List Row) (calls : List AccCall)
    (hci : NoCi sch) (htt : ∀ r ∈ t, WellTyped sch r) (htc : ∀ c ∈ calls, WellTyped sch c.row)
    (hv : ValidCalls t calls) :
    (klApply sch (calls.foldl (klStep sch) (mkEd t))).Perm (calls.foldl msStep t) := by
  obtain ⟨inv, hrows⟩ := klFold_inv sch hci calls (mkEd t) t htc (fun _ => ⟨rfl, Nat.zero_le _⟩) hv
  exact klApply_perm sch hci _ _ (hrows ▸ htt) inv

/-- non-vacuity: the call sequence of `UPDATE` on one of two equal rows is valid. -/
example : ValidCalls [[Val.int 1], [Val.int 1], [Val.int 2]]
    [.del [.int 1], .ins [.int 5], .del [.int 1], .ins [.int 1]] :=
  ⟨by decide, by decide, trivial⟩

/-- Full statement (`stmt_sequence_refines`): `∀ sch t s, implStmt sch t s ≈ specStmt sch t s` (same
outcome, same rows up to order) — FALSE on the unchanged code, see the findings below.
Proved for the statement kinds whose unique checks never meet a pending delete:

**Plain multi-row INSERT** on a keyed table: same outcome (all rows inserted, or ERROR 1062 and
nothing changed) and same table contents as the Spec, for every table satisfying the key
invariant and every list of typed rows — guards: no case-insensitive column (¬`ci_collation_key`),
no prefix index (¬`prefix_bytes_vs_chars`), key columns not NULL. (That the printed keys of the new
rows are distinguishable is not a guard: it follows from typing, `keyInj_typed`.) -/
theorem insert_stmt_refines_partial (sch : Schema) (hk : sch.keyless = false) (hci : NoCi sch) (hnp : NoPrefix sch)
    (t rows : List Row) (ht : NoDupPk sch.pk t ∧ ListOK sch t) (hty : ∀ r ∈ rows, KeyTyped sch r)
    (hnn : ∀ r ∈ rows, hasNullForAnyCols r sch.pk = false) :
    (implStmt sch t (.insert false rows)).1 = (specStmt sch t (.insert false rows)).1
      ∧ ((implStmt sch t (.insert false rows)).2).Perm ((specStmt sch t (.insert false rows)).2) :=
  insert_stmt_refines sch hk hci hnp t rows ht.1 (keyInjOn_typed sch rows hty) hnn

/-- **DELETE** (WHERE / ORDER BY / LIMIT, and the TRUNCATE rewrite) on a keyed table: the Impl model
removes exactly the selected rows and reports their number, for every table of typed rows — guard:
no case-insensitive column. (That the printed keys of the stored rows are distinguishable is not a
guard: it follows from typing, `keyInj_typed`.) -/
theorem delete_stmt_refines_partial (sch : Schema) (hk : sch.keyless = false) (hci : NoCi sch)
    (t : List Row) (ht : NoDupPk sch.pk t) (hty : ∀ r ∈ t, KeyTyped sch r)
    (wh : List Cond) (ord : List (Nat × Bool)) (lim : Option Nat) :
    (implStmt sch t (.delete wh ord lim)).1 = (specStmt sch t (.delete wh ord lim)).1
      ∧ ((implStmt sch t (.delete wh ord lim)).2).Perm ((specStmt sch t (.delete wh ord lim)).2) :=
  delete_stmt_refines sch hk hci t ht (keyInjOn_typed sch t hty) wh ord lim

/-- non-vacuity of the two statement theorems' hypotheses on a concrete table with a unique index. -/
example : (implStmt ⟨[{}, {}], [0], [([1], [0])]⟩ [[.int 1, .int 5], [.int 2, .int 6]]
      (.insert false [[.int 3, .int 7], [.int 4, .int 5]])).1 = .dup
    ∧ (implStmt ⟨[{}, {}], [0], [([1], [0])]⟩ [[.int 1, .int 5], [.int 2, .int 6]]
      (.delete [.cmp .ge 1 (.int 6)] [] none)) = (.ok 1 0, [[.int 1, .int 5]]) := by decide +kernel

def schComposite : Schema := { cols := [{}, {}, {}], pk := [0, 1], uniques := [] }
def schUnique : Schema := { cols := [{}, {}], pk := [0], uniques := [([1], [0])] }
def schUnique3 : Schema := { cols := [{}, {}, {}], pk := [0], uniques := [([1], [0])] }

/-- **Repaired defect `pk_print_collision`.** The statements of the old witness lie in the value
class on which the pre-fix code failed (two rows of one statement with different key values and
the same pre-fix printed key `123`: INSERT was rejected with a false duplicate, REPLACE lost the
row (1,23)); the Impl model of the repaired code gives them the outcome and the table of the Spec. -/
theorem fixed_pk_print_collision :
    regionPrintCollisionPreFix schComposite [] (.insert false [[.int 1, .int 23, .int 0], [.int 12, .int 3, .int 1]]) = true
    ∧ getRowKey schComposite.pk [.int 1, .int 23, .int 0] ≠ getRowKey schComposite.pk [.int 12, .int 3, .int 1]
    ∧ implStmt schComposite [] (.insert false [[.int 1, .int 23, .int 0], [.int 12, .int 3, .int 1]])
        = specStmt schComposite [] (.insert false [[.int 1, .int 23, .int 0], [.int 12, .int 3, .int 1]])
    ∧ implStmt schComposite [] (.replace [[.int 1, .int 23, .int 0], [.int 12, .int 3, .int 1]])
        = specStmt schComposite [] (.replace [[.int 1, .int 23, .int 0], [.int 12, .int 3, .int 1]])
    ∧ (implStmt schComposite [] (.replace [[.int 1, .int 23, .int 0], [.int 12, .int 3, .int 1]])).2
        = [[.int 1, .int 23, .int 0], [.int 12, .int 3, .int 1]] := by
  decide +kernel

theorem finding_unique_check_ignores_pending_edits :
    ∃ sch t s, (implStmtE sch t s).2.inexact = true ∧ implStmt sch t s ≠ specStmt sch t s
      ∧ specNoDup sch (implStmt sch t s).2 = false :=
  ⟨schUnique, [[.int 1, .int 5]], .replace [[.int 1, .int 6], [.int 2, .int 5], [.int 3, .int 5]],
    by decide +kernel⟩

theorem finding_replace_multi_delete_count :
    ∃ sch t s, regionReplaceMulti sch t s = true ∧ (implStmt sch t s).1 = .ok 2 0 ∧ (specStmt sch t s).1 = .ok 3 0 :=
  ⟨schUnique3, [[.int 1, .int 5, .int 0], [.int 2, .int 6, .int 0]], .replace [[.int 1, .int 6, .int 9]],
    by decide +kernel⟩

end Gms.C13
