/-
C09 — Result values conform to the result schema.

Model: Gms/Model/ResultType.lean (over the shared query syntax Gms/Model/Sql.lean and the
reference semantics Gms/Model/Rel.lean). Facts regenerated from /repo: Gms/Generated/C09.lean.

In order: the integer types accept exactly the modelled ranges; the engine's expression-level
`IsNullable` is sound on the integer fragment (`nullE_sound`), hence so are the flags of one-block
statements (`project_filter_table_sound`); on every statement without outer joins and SUM/MIN/MAX the
engine's flags are those of the repaired inference (`nullQ_engine_eq_sound_partial`; with them they are
not: `finding_*`), whose soundness against `eval` is not proved here; the declared type of CASE / IF / IFNULL / set-operation columns over two text operands
(Gms/Model/ConvType.lean) holds every operand value unless CHAR meets TEXT; `Convert.IsNullable` is
sound outside two listed classes.
-/
import Gms.Model.ResultType
import Gms.Model.ConvType
import Gms.Lemmas.Rel
import Gms.Generated.C09

namespace Gms.C09
open Gms.Sql Gms.Rel Gms.ResultType Gms.ConvType

theorem valid_int_iff (b : Nat) (u : Bool) (i : Int) :
    valid (.int b u) (.int i) = true ↔ intLo b u ≤ i ∧ i ≤ intHi b u := by
  simp [valid, inIntRange]

theorem valid_null (t : RTy) : valid t .null = true := by cases t <;> rfl

/-- A wider integer type of the same signedness accepts everything the narrower one accepts. -/
theorem valid_widen (b b' : Nat) (u : Bool) (i : Int) (hb : 1 ≤ b) (h : b ≤ b')
    (hv : valid (.int b u) (.int i) = true) : valid (.int b' u) (.int i) = true := by
  rw [valid_int_iff] at hv ⊢
  -- both bounds are monotone in the width
  cases u <;> simp only [intLo, intHi, Bool.false_eq_true, if_false, if_true] at hv ⊢
  · have := Basics.two_pow_le_two_pow (Nat.sub_le_sub_right h 1)
    exact ⟨Int.le_trans (Int.neg_le_neg this) hv.1, Int.le_trans hv.2 (Int.sub_le_sub_right this 1)⟩
  · exact ⟨hv.1, Int.le_trans hv.2 (Int.sub_le_sub_right (Basics.two_pow_le_two_pow h) 1)⟩

example : valid (.int 8 false) (.int 127) = true ∧ valid (.int 8 false) (.int 128) = false ∧
    valid (.int 8 true) (.int (-1)) = false ∧ valid (.int 64 true) (.int 18446744073709551615) = true ∧
    valid (.decimal 3 1) (.dec 999 1) = true ∧ valid (.decimal 3 1) (.dec 1000 1) = false ∧
    valid (.decimal 3 1) (.dec 999 2) = false ∧ valid (.char 3) (.str 3 6) = true ∧
    valid (.char 3) (.str 4 4) = false := by decide +kernel

open Gms.Generated.C09 in
/-- The ranges the compiled integer types accept (probed at run time) are the modelled ones; the
text types' byte limits and the DECIMAL limits are the documented ones; BOOLEAN is TINYINT(1). -/
theorem facts_int_ranges :
    intRanges.length = 10 ∧
    (∀ r ∈ intRanges, r.2.2.1 = intLo r.1 (r.2.1 == 1) ∧ r.2.2.2 = intHi r.1 (r.2.1 == 1)) ∧
    textMaxBytes = [("tinytext", 255), ("text", 65535), ("mediumtext", 16777215), ("longtext", 4294967295)] ∧
    decimalMaxPrecision = 65 ∧ decimalMaxScale = 30 ∧ booleanType = "tinyint(1)" :=
  ⟨rfl, by decide +kernel, rfl, rfl, rfl, rfl⟩

/-- The fragment: integer / NULL literals, columns, the operators of M1 except DIV, % (NULL on a
zero divisor although both operands are NOT NULL — they are reported nullable by `Div/Mod`
themselves, not by the operand rule modelled here) and scalar subqueries (flag always set). -/
def frag : Expr → Bool
  | .lit (.str _) => false
  | .lit _ => true
  | .col _ _ => true
  | .neg e => frag e
  | .arith op a b => (op == .add || op == .sub || op == .mul) && frag a && frag b
  | .cmp _ a b => frag a && frag b
  | .and a b => frag a && frag b
  | .or a b => frag a && frag b
  | .xor a b => frag a && frag b
  | .not e => frag e
  | .isNull _ => true
  | .isTruth _ _ => true
  | .inList _ _ => true
  | .between e lo hi => frag e && frag lo && frag hi
  | .ite _ a b => frag a && frag b
  | .coalesce a b => frag a && frag b
  | .exists _ => true
  | .inSub _ _ => true
  | .scalar _ => false

def IntVal (v : Value) : Prop := v = .null ∨ ∃ i, v = .int i

/-- The rows in scope hold integers or NULL, and NULL only where the schema flags allow it. -/
def EnvOk (sch : List Flags) (env : Env) : Prop :=
  ∀ d i, IntVal (lookup env d i) ∧ (lookup env d i = .null → colFlag sch d i = true)

theorem toValue_intVal (x : Tri) : IntVal x.toValue := by
  cases x <;> simp [Tri.toValue, IntVal]

/-- The conclusion of `nullE_sound` (at `evalE db env e`, `nullE sch e`) and the bodies of `EnvOk` and `TableOk` are this
conjunction written out (`Iff.rfl`); the arms of `nullE_sound` build and take it apart as a pair. -/
def NullOk (v : Value) (flag : Bool) : Prop := IntVal v ∧ (v = .null → flag = true)

theorem NullOk.ofTri {x : Tri} {flag : Bool} (h : x = .u → flag = true) : NullOk x.toValue flag :=
  ⟨toValue_intVal x, fun hn => h ((toValue_eq_null x).1 hn)⟩

theorem NullOk.truth {v : Value} {flag : Bool} (h : NullOk v flag) (hu : v.truth = .u) : flag = true :=
  h.2 ((truth_eq_u v).mp hu)

theorem NullOk.logic {f : Tri → Tri → Tri} (hf : ∀ a b, f a b = .u → a = .u ∨ b = .u) {a b : Value}
    {fa fb : Bool} (ha : NullOk a fa) (hb : NullOk b fb) : NullOk (f a.truth b.truth).toValue (fa || fb) :=
  .ofTri fun h => Bool.or_eq_true .. ▸ (hf _ _ h).imp ha.truth hb.truth

theorem NullOk.cmp (op : CmpOp) {a b : Value} {fa fb : Bool} (ha : NullOk a fa) (hb : NullOk b fb) :
    NullOk (cmpTri op a b).toValue (if op = .nseq then false else fa || fb) :=
  .ofTri fun h => by
    have ⟨hop, hor⟩ := (cmpTri_eq_u op a b).mp h
    rw [if_neg hop, Bool.or_eq_true]
    exact hor.imp ha.2 hb.2

theorem arith_int (op : ArithOp) (hop : (op == .add || op == .sub || op == .mul) = true) (i j : Int) :
    ∃ k, arith op (.int i) (.int j) = .int k := by
  cases op <;> first | exact ⟨_, rfl⟩ | simp at hop

/-- **Soundness of the engine's expression nullability** (as modelled): for every expression of
the fragment, every database and every stack of rows that respects the schema flags, the value
is an integer or NULL, and it is NULL only if `nullE` says the expression is nullable. -/
theorem nullE_sound (db : Db) (sch : List Flags) (env : Env) (henv : EnvOk sch env) :
    ∀ (e : Expr), frag e = true →
      IntVal (evalE db env e) ∧ (evalE db env e = .null → nullE sch e = true) := fun e hf =>
  match e, hf with
  | .lit .null, _ => ⟨.inl rfl, fun _ => rfl⟩
  | .lit (.int i), _ => ⟨.inr ⟨i, rfl⟩, fun h => by simp [evalE] at h⟩
  | .lit (.str _), hf => by simp [frag] at hf
  | .col d i, _ => by simpa [evalE, nullE] using henv d i
  | .neg e, hf => by
    have ⟨hi, hn⟩ := nullE_sound db sch env henv e hf
    simp only [evalE, nullE]
    rcases hi with h | ⟨i, h⟩ <;> rw [h]
    · exact ⟨.inl rfl, fun _ => hn h⟩
    · exact ⟨.inr ⟨-i, rfl⟩, by simp [negate]⟩
  | .arith op a b, hf => by
    simp only [frag, Bool.and_eq_true] at hf
    have ⟨hia, hna⟩ := nullE_sound db sch env henv a hf.1.2
    have ⟨hib, hnb⟩ := nullE_sound db sch env henv b hf.2
    simp only [evalE, nullE, Bool.or_eq_true]
    rcases hia with ha | ⟨i, ha⟩
    · rw [ha]; exact ⟨.inl (by cases evalE db env b <;> rfl), fun _ => .inl (hna ha)⟩
    · rcases hib with hb | ⟨j, hb⟩
      · rw [ha, hb]; exact ⟨.inl rfl, fun _ => .inr (hnb hb)⟩
      · obtain ⟨k, hk⟩ := arith_int op hf.1.1 i j
        rw [ha, hb, hk]
        exact ⟨.inr ⟨k, rfl⟩, fun h => by cases h⟩
  | .cmp op a b, hf => by
    simp only [frag, Bool.and_eq_true] at hf
    simp only [evalE, nullE]
    exact NullOk.cmp op (nullE_sound db sch env henv a hf.1) (nullE_sound db sch env henv b hf.2)
  | .and a b, hf => by
    simp only [frag, Bool.and_eq_true] at hf
    simp only [evalE, nullE]
    exact NullOk.logic Tri.and_eq_u (nullE_sound db sch env henv a hf.1) (nullE_sound db sch env henv b hf.2)
  | .or a b, hf => by
    simp only [frag, Bool.and_eq_true] at hf
    simp only [evalE, nullE]
    exact NullOk.logic Tri.or_eq_u (nullE_sound db sch env henv a hf.1) (nullE_sound db sch env henv b hf.2)
  | .xor a b, hf => by
    simp only [frag, Bool.and_eq_true] at hf
    simp only [evalE, nullE]
    exact NullOk.logic Tri.xor_eq_u (nullE_sound db sch env henv a hf.1) (nullE_sound db sch env henv b hf.2)
  | .not e, hf => by
    have h := nullE_sound db sch env henv e hf
    simp only [evalE, nullE]
    exact NullOk.ofTri fun hu => NullOk.truth h (Tri.not_eq_u _ hu)
  | .isNull _, _ | .isTruth _ _, _ | .exists _, _ => by
    simp only [evalE, nullE]
    exact NullOk.ofTri fun h => absurd h (Tri.ofBool_ne_u _)
  | .inList _ _, _ | .inSub _ _, _ => by
    simp only [evalE]
    exact NullOk.ofTri fun _ => rfl
  | .between e lo hi, hf => by
    simp only [frag, Bool.and_eq_true] at hf
    have he := nullE_sound db sch env henv e hf.1.1
    have hl := nullE_sound db sch env henv lo hf.1.2
    have hh := nullE_sound db sch env henv hi hf.2
    simp only [evalE, nullE]
    refine NullOk.ofTri fun h => ?_
    simp only [Bool.or_eq_true]
    rcases Tri.and_eq_u _ _ h with h | h
    · exact ((cmpTri_eq_u _ _ _).mp h).2.elim (fun h => .inl (.inl (he.2 h))) (fun h => .inl (.inr (hl.2 h)))
    · exact ((cmpTri_eq_u _ _ _).mp h).2.elim (fun h => .inl (.inl (he.2 h))) (fun h => .inr (hh.2 h))
  | .ite c a b, hf => by
    simp only [frag, Bool.and_eq_true] at hf
    have ⟨hia, hna⟩ := nullE_sound db sch env henv a hf.1
    have ⟨hib, hnb⟩ := nullE_sound db sch env henv b hf.2
    simp only [evalE, nullE, Bool.or_eq_true]
    split
    · exact ⟨hia, fun h => .inl (hna h)⟩
    · exact ⟨hib, fun h => .inr (hnb h)⟩
  | .coalesce a b, hf => by
    simp only [frag, Bool.and_eq_true] at hf
    have ⟨hia, hna⟩ := nullE_sound db sch env henv a hf.1
    have ⟨hib, hnb⟩ := nullE_sound db sch env henv b hf.2
    simp only [evalE, nullE, Bool.and_eq_true]
    split
    · next hnull => exact ⟨hib, fun h => ⟨hna ((isNull_iff _).mp hnull), hnb h⟩⟩
    · next hnull => exact ⟨hia, fun h => absurd ((isNull_iff _).mpr h) hnull⟩
  | .scalar _, hf => by simp [frag] at hf

/-- Non-vacuity: `c0 + c1` over a row (1, NULL) with flags (NOT NULL, NULL) is NULL and flagged. -/
example : evalE [] [[.int 1, .null]] (.arith .add (.col 0 0) (.col 0 1)) = .null ∧
    nullE [[false, true]] (.arith .add (.col 0 0) (.col 0 1)) = true ∧
    nullE [[false, true]] (.coalesce (.col 0 1) (.col 0 0)) = false ∧
    evalE [] [[.int 1, .null]] (.coalesce (.col 0 1) (.col 0 0)) = .int 1 := by decide +kernel

/-- No outer join and no SUM/MIN/MAX anywhere in the relational tree. -/
def Plain : Query → Bool
  | .table _ => true
  | .filter _ q => Plain q
  | .project _ q => Plain q
  | .join k _ l r => k == .inner && Plain l && Plain r
  | .group _ fns _ q => fns.all (fun f => f == .countStar || f == .count || f == .countDistinct) && Plain q
  | .distinct q => Plain q
  | .setop _ _ l r => Plain l && Plain r
  | .orderBy _ _ q => Plain q
  | .limit _ _ q => Plain q

theorem aggNull_count (fa nk : Bool) (sch : List Flags) (f : AggFn) (a : Expr)
    (h : (f == .countStar || f == .count || f == .countDistinct) = true) : aggNull fa nk sch f a = false := by
  cases f <;> first | rfl | simp at h

theorem zipAggs_plain (fa fa' nk : Bool) (sch : List Flags) : ∀ (fns : List AggFn) (args : List Expr),
    fns.all (fun f => f == .countStar || f == .count || f == .countDistinct) = true →
    zipAggs fa nk sch fns args = zipAggs fa' nk sch fns args
  | [], _, _ => by simp [zipAggs]
  | _ :: _, [], _ => by simp [zipAggs]
  | f :: fs, a :: as, h => by
    simp only [List.all_cons, Bool.and_eq_true] at h
    simp only [zipAggs, aggNull_count _ nk sch f a h.1, zipAggs_plain fa fa' nk sch fs as h.2]

theorem nullQ_plain (fj fa fj' fa' : Bool) (tabs : List Flags) : ∀ (q : Query) (outer : List Flags),
    Plain q = true → nullQ fj fa tabs outer q = nullQ fj' fa' tabs outer q := fun q outer h =>
  match q, h with
  | .table _, _ => rfl
  | .filter _ q, h | .distinct q, h | .orderBy _ _ q, h | .limit _ _ q, h => by
    simpa only [nullQ] using nullQ_plain fj fa fj' fa' tabs q outer h
  | .project es q, h => by
    simp only [nullQ, nullQ_plain fj fa fj' fa' tabs q outer h]
  | .join k on l r, h => by
    simp only [Plain, Bool.and_eq_true, beq_iff_eq] at h
    simp only [nullQ, h.1.1, nullQ_plain fj fa fj' fa' tabs l outer h.1.2,
      nullQ_plain fj fa fj' fa' tabs r outer h.2]
  | .group ks fns args q, h => by
    simp only [Plain, Bool.and_eq_true] at h
    simp only [nullQ, nullQ_plain fj fa fj' fa' tabs q outer h.2, zipAggs_plain fa fa' _ _ fns args h.1]
  | .setop op all l r, h => by
    simp only [Plain, Bool.and_eq_true] at h
    simp only [nullQ, nullQ_plain fj fa fj' fa' tabs l outer h.1, nullQ_plain fj fa fj' fa' tabs r outer h.2]

/- Full statement (FALSE on the unchanged tree): the engine's flags are sound for every query —
   `finding_outer_join_notnull`, `finding_aggregate_notnull` are counterexamples. -/

/-- **Guarded**: without outer joins and SUM/MIN/MAX the flags the engine reports (`nullQ false
false`) are exactly those of the sound inference (`nullQ true true`). -/
theorem nullQ_engine_eq_sound_partial (tabs : List Flags) : ∀ (q : Query) (outer : List Flags),
    Plain q = true → nullQ false false tabs outer q = nullQ true true tabs outer q :=
  nullQ_plain false false true true tabs

/-- A table whose rows hold integers/NULLs and respect its NOT NULL flags. -/
def TableOk (flags : Flags) (rows : List Row) : Prop :=
  ∀ r ∈ rows, ∀ i, IntVal (r.getD i .null) ∧ (r.getD i .null = .null → flags.getD i true = true)

/-- **One-block statements are sound**: for `SELECT es FROM t WHERE p` over a table that respects
its flags, with every select item in the fragment, no result row holds NULL in a column the
engine flags NOT NULL — for all data, predicates and select lists. -/
theorem project_filter_table_sound (db : Db) (tabs : List Flags) (n : Nat) (p : Expr) (es : List Expr)
    (t : Table) (ht : db[n]? = some t) (hok : TableOk (tabs.getD n []) t.rows)
    (hes : ∀ e ∈ es, frag e = true) :
    ∀ row ∈ eval db (.project es (.filter p (.table n))), ∀ j,
      row.getD j .null = .null → j < es.length →
      (nullQ false false tabs [] (.project es (.filter p (.table n)))).getD j true = true := by
  intro row hrow j hnull hj
  simp only [eval, evalQ, ht, List.mem_map, List.mem_filter] at hrow
  obtain ⟨r, ⟨hr, _⟩, rfl⟩ := hrow
  have henv : EnvOk [tabs.getD n []] [r] := by
    intro d i
    cases d with
    | zero => simpa [lookup, colFlag] using hok r hr i
    | succ d => simp [lookup, colFlag, IntVal]
  have hlt : es[j]? = some es[j] := List.getElem?_eq_getElem hj
  simp only [nullQ, evalEs_eq_map, List.getD_eq_getElem?_getD, List.getElem?_map, hlt, Option.map_some,
    Option.getD_some] at hnull ⊢
  exact (nullE_sound db [tabs.getD n []] [r] henv es[j] (hes _ (List.getElem_mem hj))).2 hnull

def dbW : Db := [⟨1, [[.int 1]]⟩, ⟨1, [[.int 2]]⟩, ⟨1, []⟩]
def tabsW : List Flags := [[false], [false], [false]]

/-- `SELECT a.c0, b.c0 FROM t0 a LEFT JOIN t1 b ON a.c0 = b.c0`: the padded column is reported
NOT NULL (the projection copies the base column's flag). -/
theorem finding_outer_join_notnull :
    ∃ q, badCols (nullQ false false tabsW [] q) (eval dbW q) ≠ [] ∧ causeOf tabsW q 1 = .outerJoin ∧
      badCols (nullQ true true tabsW [] q) (eval dbW q) = [] :=
  ⟨.join .left (.cmp .eq (.col 0 0) (.col 0 1)) (.table 0) (.table 1), by decide +kernel⟩

/-- `SELECT MAX(c0) FROM t2` over an empty table: NULL in a column reported NOT NULL
(`Max.IsNullable` is `false`; likewise `Min`, `Sum`). -/
theorem finding_aggregate_notnull :
    ∃ q, badCols (nullQ false false tabsW [] q) (eval dbW q) ≠ [] ∧ causeOf tabsW q 0 = .aggregate ∧
      badCols (nullQ true true tabsW [] q) (eval dbW q) = [] :=
  ⟨.group [] [.max] [.col 0 0] (.table 2), by decide +kernel⟩

/-- The value classes of the declared-type findings (each produced by the engine, see
known_findings/C09.jsonl): a negative value under an unsigned type, a decimal with more integer
digits than the precision leaves, a string under DOUBLE. -/
theorem finding_value_classes :
    valid (.int 16 true) (.int (-5)) = false ∧ valueClass (.int 16 true) (.int (-5)) = "u16_negative" ∧
    valid (.decimal 10 2) (.dec 10000000099 2) = false ∧ valueClass (.decimal 10 2) (.dec 10000000099 2) = "decimal_precision" ∧
    valid .double (.str 1 1) = false ∧ valueClass .double (.str 1 1) = "kind_mismatch" := by decide +kernel

theorem accepts_antitone {r : TextTy} {s s' : Str} (hle : s'.chars ≤ s.chars ∧ s'.bytes ≤ s.bytes)
    (h : accepts r s = true) : accepts r s' = true := by
  unfold accepts at *
  split at h
  · next ht => rw [if_pos ht]; exact decide_eq_true (Nat.le_trans hle.2 (of_decide_eq_true h))
  · next ht => rw [if_neg ht]; exact decide_eq_true (Nat.le_trans hle.1 (of_decide_eq_true h))

theorem top_fits (t : TextTy) (w : Nat) (hw : 1 ≤ w) : Fits t w (top t w) := by
  unfold Fits top accepts
  cases ht : t.text <;> simp <;> exact Nat.le_mul_of_pos_right _ hw

theorem top_dominates {t : TextTy} {w : Nat} {s : Str} (h : Fits t w s) :
    s.chars ≤ (top t w).chars ∧ s.bytes ≤ (top t w).bytes := by
  obtain ⟨ha, hcb, hbw⟩ := h
  unfold top accepts at *
  cases ht : t.text <;> simp [ht] at ha ⊢
  · exact ⟨ha, Nat.le_trans hbw (Nat.mul_le_mul_right _ ha)⟩
  · exact ⟨Nat.le_trans hcb ha, ha⟩

/-- **The longest values decide**: `r` accepts the longest value of each operand iff it accepts
every value either operand can hold (characters of at most `wa` / `wb` bytes). -/
theorem covers_iff (r a b : TextTy) (wa wb : Nat) (ha : 1 ≤ wa) (hb : 1 ≤ wb) :
    covers r a b wa wb = true ↔ ∀ s, (Fits a wa s ∨ Fits b wb s) → accepts r s = true := by
  simp only [covers, Bool.and_eq_true]
  constructor
  · rintro ⟨h1, h2⟩ s (hs | hs)
    · exact accepts_antitone (top_dominates hs) h1
    · exact accepts_antitone (top_dominates hs) h2
  · exact fun h => ⟨h _ (.inl (top_fits a wa ha)), h _ (.inr (top_fits b wb hb))⟩

/-- Two CHAR / VARCHAR operands — any lengths, any character sets: the chosen type holds both. -/
theorem generalize_char_char_covers (a b : TextTy) (wa wb : Nat) (ha : a.text = false) (hb : b.text = false) :
    covers (generalizeText a b) a b wa wb = true := by
  unfold covers generalizeText accepts top
  split <;> simp_all <;> omega

theorem tiers_spaced : ∀ ta ∈ tiers, ∀ tb ∈ tiers, ta < tb → 4 * (ta + 1) ≤ tb := by decide

/-- A character takes at most 4 bytes and each tier is more than 4 times the one below. -/
theorem tier_le_of_div_le {ta tb ma mb : Nat} (hta : ta ∈ tiers) (htb : tb ∈ tiers) (hma1 : 1 ≤ ma) (hma : ma ≤ 4)
    (h : ta / ma ≤ tb / mb) : ta ≤ tb := by
  refine Nat.le_of_not_lt fun hlt => ?_
  have h4 := tiers_spaced tb htb ta hta hlt
  have h1 : tb / mb ≤ tb := Nat.div_le_self _ _
  have h2 : ta / 4 ≤ ta / ma := Nat.div_le_div_left hma hma1
  omega

/-- Two TEXT-family operands of any character sets: the chosen type holds both. -/
theorem generalize_text_text_covers (a b : TextTy) (wa wb : Nat) (ha : a.text = true) (hb : b.text = true)
    (wfa : a.wf = true) (wfb : b.wf = true) : covers (generalizeText a b) a b wa wb = true := by
  simp only [TextTy.wf, ha, hb, if_true, Bool.and_eq_true, decide_eq_true_eq, List.contains_iff_mem,
    beq_iff_eq] at wfa wfb
  obtain ⟨⟨a1, a4⟩, at', ac⟩ := wfa
  obtain ⟨⟨b1, b4⟩, bt, bc⟩ := wfb
  unfold covers generalizeText accepts top
  rw [ac, bc]
  by_cases hc : a.bytes / a.mb > b.bytes / b.mb
  · have := tier_le_of_div_le bt at' b1 b4 (Nat.le_of_lt hc)
    simp [hc, ha, hb, this]
  · have := tier_le_of_div_le at' bt a1 a4 (Nat.le_of_not_lt hc)
    simp [hc, ha, hb, this]

/- Full statement (FALSE on the unchanged tree): `covers (generalizeText a b) a b wa wb` for all
   well-formed text types — `finding_generalize_char_vs_text` is a counterexample. -/

/-- **Guarded**: unless a character-limited and a byte-limited type meet, the declared type of
CASE / IF / IFNULL / a set-operation column over two text operands holds every value of both. -/
theorem generalize_covers_partial (a b : TextTy) (wa wb : Nat) (hreg : MixedFamily a b = false)
    (wfa : a.wf = true) (wfb : b.wf = true) : covers (generalizeText a b) a b wa wb = true := by
  cases ha : a.text <;> cases hb : b.text <;> simp [MixedFamily, ha, hb] at hreg
  · exact generalize_char_char_covers a b wa wb ha hb
  · exact generalize_text_text_covers a b wa wb ha hb wfa wfb

/-- Non-vacuity / the shape of the seeded class: VARCHAR(10) utf8mb4 and VARCHAR(30) latin1 → the
latin1 type (30 characters), which holds both. -/
example : generalizeText ⟨false, 10, 40, 4⟩ ⟨false, 30, 30, 1⟩ = ⟨false, 30, 30, 1⟩ ∧
    covers (generalizeText ⟨false, 10, 40, 4⟩ ⟨false, 30, 30, 1⟩) ⟨false, 10, 40, 4⟩ ⟨false, 30, 30, 1⟩ 1 1 = true ∧
    TextTy.wf ⟨false, 10, 40, 4⟩ = true ∧ TextTy.wf ⟨true, 63, 255, 4⟩ = true := by decide +kernel

/-- TINYTEXT (63 characters, 255 bytes in utf8mb4) against VARCHAR(100): `Length()` picks the
VARCHAR, a 200-byte TINYTEXT value does not fit. -/
theorem finding_generalize_char_vs_text :
    ∃ a b s, a.wf = true ∧ b.wf = true ∧ MixedFamily a b = true ∧ Fits a 1 s ∧
      accepts (generalizeText a b) s = false :=
  ⟨⟨true, 63, 255, 4⟩, ⟨false, 100, 400, 4⟩, ⟨200, 200⟩, by decide, by decide, by decide,
    ⟨by decide, by decide, by decide⟩, by decide⟩

/-- Comparing storage widths instead of lengths is unsound *within* the CHAR family as soon as the
character sets differ: VARCHAR(10) utf8mb4 (40 bytes) beats VARCHAR(30) latin1 (30 bytes) and cannot
hold a 30-character value. -/
theorem byte_width_generalisation_unsound :
    ∃ a b s, a.wf = true ∧ b.wf = true ∧ MixedFamily a b = false ∧ Fits b 1 s ∧
      accepts (generalizeBytes a b) s = false ∧ accepts (generalizeText a b) s = true :=
  ⟨⟨false, 10, 40, 4⟩, ⟨false, 30, 30, 1⟩, ⟨30, 30⟩, by decide, by decide, by decide,
    ⟨by decide, by decide, by decide⟩, by decide, by decide⟩

/-- JSON is the one target whose failure is an error, not NULL. -/
theorem convOut_json (s : Src) (h : convOut .json s = .null) : s = .null := by
  cases s <;> simp only [convOut] at h ⊢ <;> (try split at h) <;> simp_all

/- Full statement (FALSE on the unchanged tree): `convOut c s = .null → nullConv c child = true` for
   every target and every input whose NULL-ness the child flag covers —
   `finding_convert_time_notnull`, `finding_convert_blob_numeric_notnull` are counterexamples. -/

/-- **Guarded soundness of `Convert.IsNullable`**: for every target and every class of input value
(whose NULL-ness is covered by the child's flag) outside the two listed classes, the conversion
yields NULL only if it is reported nullable. -/
theorem nullConv_sound_partial (c : Conv) (s : Src) (child : Bool) (hchild : s = .null → child = true)
    (hreg : convRegion c s = .none) (h : convOut c s = .null) : nullConv c child = true := by
  by_cases hs : s = .null
  · simp [nullConv, hchild hs]
  · -- outside the regions only the always-nullable targets and JSON are left
    simp only [convRegion, hs, false_or, h, ne_eq, not_true_eq_false, if_false] at hreg
    cases c
    case json => exact absurd (convOut_json s h) hs
    all_goals first | rfl | simp [Conv.numeric] at hreg

/-- Non-vacuity: a NOT NULL VARBINARY holding `ff 41` converts to CHAR as NULL — and CHAR is reported
nullable; a valid one does not. -/
example : convOut .char (.bytes [0xff, 0x41] false .junk) = .null ∧ nullConv .char false = true ∧
    convRegion .char (.bytes [0xff, 0x41] false .junk) = .none ∧
    convOut .char (.bytes [0x41, 0xc3, 0xa9] false .junk) = .val := by decide +kernel

/-- **No target can be dropped from the always-nullable list** (the class of the seeded change):
each of them turns some non-NULL input into NULL. -/
theorem convAlways_needed : ∀ c, convAlways c = true → ∃ s, s ≠ .null ∧ convOut c s = .null := by
  intro c hc
  cases c <;> simp [convAlways] at hc
  · exact ⟨.text .unenc, by decide, by decide⟩
  · exact ⟨.bytes [0xff] false .junk, by decide, by decide⟩
  · exact ⟨.bytes [0xff] false .junk, by decide, by decide⟩
  · exact ⟨.num false, by decide, by decide⟩
  · exact ⟨.num false, by decide, by decide⟩

/-- Invalid UTF-8 is exactly what makes a conversion to CHAR / NCHAR fail. -/
theorem char_null_iff (s : Src) : convOut .char s = .null ↔
    s = .null ∨ ∃ b blob sh, s = .bytes b blob sh ∧ Utf8.validUtf8 b = false := by
  cases s <;> simp [convOut]

theorem finding_convert_time_notnull :
    ∃ s, s ≠ .null ∧ convOut .time s = .null ∧ nullConv .time false = false ∧ convRegion .time s = .time :=
  ⟨.text .junk, by decide +kernel⟩

theorem finding_convert_blob_numeric_notnull :
    ∃ c s, s ≠ .null ∧ convOut c s = .null ∧ nullConv c false = false ∧ convRegion c s = .blobNumeric :=
  ⟨.signed, .bytes [] true .empty, by decide +kernel⟩

/-- The class of a value of the integer fragment as `Convert.Eval` sees it (`big` says which
integers are no valid hhmmss). -/
def srcOfValue (big : Int → Bool) : Value → Src
  | .null => .null
  | .int i => .num (big i)
  | .str _ => .text .junk

/-- **CAST over the fragment is sound**: for every expression of the
fragment, every target but TIME, all databases and rows respecting the schema flags, `CAST(e AS c)`
is NULL only if `Convert.IsNullable` over the engine's flag of `e` says so. -/
theorem cast_frag_sound (db : Db) (sch : List Flags) (env : Env) (henv : EnvOk sch env) (big : Int → Bool)
    (c : Conv) (hc : c ≠ .time) (e : Expr) (hf : frag e = true)
    (h : convOut c (srcOfValue big (evalE db env e)) = .null) : nullConv c (nullE sch e) = true := by
  have ⟨hi, hn⟩ := nullE_sound db sch env henv e hf
  rcases hi with h0 | ⟨i, hi⟩
  · simp [nullConv, hn h0]
  · -- an integer is in neither region unless the target is TIME
    rw [hi] at h
    refine nullConv_sound_partial c (.num (big i)) _ (fun h => by cases h) ?_ h
    cases c <;> first | rfl | exact absurd rfl hc

example : convOut .date (srcOfValue (fun _ => false) (evalE [] [[.int 1]] (.col 0 0))) = .null ∧
    nullConv .date (nullE [[false]] (.col 0 0)) = true ∧
    convOut .signed (srcOfValue (fun _ => false) (evalE [] [[.int 1]] (.col 0 0))) = .val := by decide +kernel

/-- The flag of a set-operation column is sound for the rows of either side (outside the classes). -/
theorem setopFlag_sound_partial (l r : Fam) (nl nr : Bool) (s : Src) (left : Bool)
    (hflag : s = .null → (if left then nl else nr) = true)
    (hreg : convRegion (setopTarget l r) s = .none) (h : convOut (setopTarget l r) s = .null) :
    setopFlag false l r nl nr = true := by
  have := nullConv_sound_partial (setopTarget l r) s (if left then nl else nr) hflag hreg h
  cases left <;> simp_all [setopFlag]

/-- `SELECT x FROM (SELECT b AS x … UNION SELECT n …) dt` with `b VARBINARY NOT NULL` = `ff 41`,
`n INT NOT NULL`: the set operation converts both sides to CHAR (reported nullable), the enclosing
scope keeps `left.nullable || right.nullable` = NOT NULL, the row holds NULL. -/
theorem finding_setop_conversion_scope_notnull :
    ∃ l r s, s ≠ .null ∧ convOut (setopTarget l r) s = .null ∧ setopScopeFlag false false = false ∧
      setopFlag false l r false false = true :=
  ⟨.other, .sint, .bytes [0xff, 0x41] false .junk, by decide +kernel⟩

open Gms.Generated.C09 in
/-- `IsNullable` of every modelled expression kind is the modelled rule; `JoinNode.Schema` does
make the null-supplying side nullable, but `Project.Schema` derives each column from the
projection expression alone (which is why the flag is lost above an outer join). -/
theorem facts_match :
    isNullableBodies = [
      ("Literal", "{ return lit.Val == nil }"),
      ("GetField", "{ return p.nullable }"),
      ("UnaryExpressionStub", "{ return p.Child.IsNullable(ctx) }"),
      ("BinaryExpressionStub", "{ return p.LeftChild.IsNullable(ctx) || p.RightChild.IsNullable(ctx) }"),
      ("NullSafeEquals", "{ return false }"),
      ("IsNull", "{ return false }"),
      ("IsTrue", "{ return false }"),
      ("InTuple", "{ return true }"),
      ("Between", "{ return b.Val.IsNullable(ctx) || b.Lower.IsNullable(ctx) || b.Upper.IsNullable(ctx) }"),
      ("Case", "{ for _, b := range c.Branches { if b.Value.IsNullable(ctx) { return true } } return c.Else == nil || c.Else.IsNullable(ctx) }"),
      ("Coalesce", "{ for _, arg := range c.args { if arg == nil { continue } if !arg.IsNullable(ctx) { return false } } return true }"),
      ("IfNull", "{ if !f.LeftChild.IsNullable(ctx) { return false } return f.RightChild.IsNullable(ctx) }"),
      ("If", "{ return f.ifTrue.IsNullable(ctx) || f.ifFalse.IsNullable(ctx) }"),
      ("Subquery", "{ return true }"),
      ("Sum", "{ return false }"),
      ("Min", "{ return false }"),
      ("Max", "{ return false }"),
      ("Count", "{ return false }"),
      ("CountDistinct", "{ return false }")] ∧
    joinSchemaCases.take 2 = [
      "j.Op.IsLeftOuter() => return append(j.left.Schema(ctx), makeNullable(j.right.Schema(ctx))...)",
      "j.Op.IsRightOuter() => return append(makeNullable(j.left.Schema(ctx)), j.right.Schema(ctx)...)"] ∧
    projectSchemaFromExpression = true := ⟨rfl, rfl, rfl⟩

open Gms.Generated.C09 in
/-- `Convert.IsNullable` is the modelled rule: exactly the five modelled targets return `true`, every
other one inherits the child's flag; the 14 `castToType` constants are the modelled ones;
`Convert.Eval` passes NULL through and turns a conversion error into NULL unless the target is JSON. -/
theorem facts_convert :
    (∀ c ∈ Conv.all, convAlways c = convertAlwaysNullable.contains c.goConst) ∧
    (∀ n ∈ convertAlwaysNullable, Conv.all.any (fun c => c.goConst == n) = true) ∧
    convertNullableDefault = "return c.Child.IsNullable(ctx)" ∧ convertNullableCases = 1 ∧
    (∀ c ∈ Conv.all, convertConsts.contains (c.goConst, c.name) = true) ∧ convertConsts.length = 14 ∧
    convertEvalIfs = [
      "err != nil => { return nil, err }",
      "val == nil => { return nil, nil }",
      "err != nil => { if c.castToType == ConvertToJSON { return nil, ErrConvertExpression.Wrap(err, c.String(), c.castToType) } ctx.Warn(1292, \"Incorrect %s value: %v\", c.castToType, val) return nil, nil }"] :=
  ⟨by decide +kernel, by decide +kernel, rfl, rfl, consts, rfl, rfl⟩
where
  consts : ∀ c ∈ Conv.all, convertConsts.contains (c.goConst, c.name) = true := by
    -- the extracted table is the model's, constant by constant; read off as one equation because looking each pair of
    -- strings up by evaluation is slow. `h` follows the order of the constants in convert.go and has to follow a
    -- reordering there (the conjunct itself does not depend on the order)
    have h : convertConsts = ([.binary, .char, .nchar, .date, .datetime, .decimal, .float, .double, .json, .real,
        .signed, .time, .year, .unsigned] : List Conv).map (fun c => (c.goConst, c.name)) := rfl
    intro c _
    rw [h, List.contains_iff_mem]
    exact List.mem_map_of_mem (by cases c <;> decide)

open Gms.Generated.C09 in
/-- The text branch of `GeneralizeTypes` compares `Length()` (= `maxCharLength`), and the compiled
function returns what `generalizeText` returns on every pair of the regenerated table (CHAR / VARCHAR /
TINYTEXT / TEXT … × 5 character sets). -/
theorem facts_generalize :
    generalizeTextBranch = ["sta := a.(sql.StringType)", "stb := b.(sql.StringType)",
      "if sta.Length() > stb.Length() { return a }", "return b"] ∧
    stringTypeLength = "{ return t.maxCharLength }" ∧
    generalizeRuns.length ≥ 500 ∧
    (∀ r ∈ generalizeRuns,
      generalizeText (TextTy.ofTuple r.1) (TextTy.ofTuple r.2.1) = TextTy.ofTuple r.2.2) :=
  ⟨rfl, rfl, by decide +kernel, by decide +kernel⟩

open Gms.Generated.C09 in
/-- The compiled `GetConvertToType` answers as `setopTarget` on representatives of every pair of
families; the flag of a set-operation column is the OR of the sides' flags — of the converted sides in
`SetOp.Schema`, of the unconverted scope columns in `mergeSetOpScopeColumns`. -/
theorem facts_setop_conversion :
    convertToTypeRuns.length ≥ 80 ∧
    (∀ r ∈ convertToTypeRuns,
      (match Fam.ofName r.1, Fam.ofName r.2.1 with
        | some l, some r' => (setopTarget l r').name == r.2.2
        | _, _ => false) = true) ∧
    setopSchemaNullable = "ls[i].Nullable || rs[i].Nullable" ∧
    setopScopeNullable = "left[i].nullable || right[i].nullable" :=
  ⟨by decide +kernel, by decide +kernel, rfl, rfl⟩

end Gms.C09
