/-
C24 — Stored procedures follow structured-program semantics.

Model: `Gms/Model/ProcLang.lean` (compiler `compile` = `ConvertStmt`/`resolveGoToIndexes`, op machine
`step`/`run` = `Call`/`execOp`, Spec `exec` = big-step structured semantics, `callImpl`/`callSpec`).

Full statement (false on the unchanged tree, see the `finding_…` theorems):
  ∀ p args s fuel, callSpec Sem.mysql fuel p args s = some r → ∃ n, callImpl n p args s = r
What is proved instead:
  * `compile_correct` / `compile_correct_error` — for every statement without LEAVE/ITERATE whose
    IF/CASE final branches do not end in a BEGIN…END block, every store and every fuel: if the
    structured semantics (`Sem.gms` reading) finishes, the op machine run on the compiled code
    finishes with exactly the same store (resp. the same error, trace and parameters);
  * `sem_agree_partial` — the `Sem.gms` and `Sem.mysql` readings coincide on statements without
    REPEAT and without DEFAULT-less DECLARE, so under those guards the theorem is about MySQL's
    definition (`structured_correct_partial`);
  * `call_correct` / `call_correct_partial` — the same at CALL level (parameter set-up, write-back of INOUT user
    variables) for procedures without OUT parameters in a fresh session, under the `Sem.gms` reading resp. MySQL's;
  * `goto_resolved` — for every well-labelled statement (LEAVE/ITERATE included) no placeholder
    index (-1 / -2) survives compilation;
  * `scan_neutral` — the scope scans of OpCode_Goto are stack-neutral over the code of jump-free statements;
  * `goto_fwd_skips_scopeEnd` — for all code: a forward Goto whose target is preceded by a ScopeEnd
    arrives with that scope still on the stack (the mechanism of the regions `leave_block_scope_leak`,
    `else_block_scope_leak`, `iterate_repeat_block_scope_leak`); `jumpFree_not_iterateRepeatEndBlock`
    — the guarded fragment lies outside the last of them.

DECLARE … HANDLER (model `Gms/Model/ProcHandler.lean`, lemmas `Gms/Lemmas/ProcHandler.lean`, witnesses
at the end of this file):
  * `exit_scan_finds_block_end` / `exit_scan_compiled_block` / `compileH_balanced` — for ALL code: the
    EXIT scan of `handleError`, started at the handler's DECLARE op, stops at the `ScopeEnd` of the block
    that declared the handler, however deeply the code behind the DECLARE nests further blocks;
    `handleError_exit_independent_of_failing_op` — the resume counter does not depend on the failing op;
  * `spec_exit_skips_rest_of_declaring_block`, `spec_continue_resumes_in_nested_block` — what the
    structured semantics demands on the shape "error in a nested block of the handler's block";
  * `handler_exit_nested_agree` … — on the concrete witnesses the op machine and the Spec agree;
    `finding_nested_handler_outermost_wins`, `finding_exit_handler_scope_leak`,
    `finding_handler_body_dynamic_scope` — they do not (three defects of the unchanged tree).
  Full statement, NOT proved (no simulation proof for the handler fragment yet; tied by the line-protocol
  correspondence on every generated case instead):
    ∀ p args s fuel r, ¬nestedHandlers ∧ ¬exitHandlerNested ∧ ¬handlerDynScope ∧ ¬hasElseBlockH →
      callSpecH fuel p args s = some r → ∃ n, callImplH n p args s = r
-/
import Gms.Lemmas.ProcLang
import Gms.Lemmas.ProcHandler
import Gms.Generated.C24

namespace Gms.ProcLang

theorem exec_sem_agree (sem1 sem2 : Sem) : ∀ n s σ, hasBareDeclare s = false → hasRepeat s = false →
    exec sem1 n s σ = exec sem2 n s σ := by
  intro n
  induction n with
  | zero => intros; rfl
  | succ n ih =>
    intro s σ hd hr
    cases s with
    | seq a b =>
      simp only [hasBareDeclare, hasRepeat, Bool.or_eq_false_iff] at hd hr
      simp only [exec, ih a σ hd.1 hr.1, fun σ1 => ih b σ1 hd.2 hr.2]
    | block l b => simp only [exec, ih b _ hd hr]
    | declare x d =>
      cases d with
      | none => cases hd
      | some v => rfl
    | ite c t e =>
      simp only [hasBareDeclare, hasRepeat, Bool.or_eq_false_iff] at hd hr
      simp only [exec, ih t σ hd.1 hr.1, ih e σ hd.2 hr.2]
    | «while» l c b => simp only [exec, ih b σ hd hr, fun σ1 => ih (.while l c b) σ1 hd hr]
    | «repeat» l b c => cases hr
    | loop l b => simp only [exec, ih b σ hd hr, fun σ1 => ih (.loop l b) σ1 hd hr]
    | _ => rfl

/-- A forward `Goto` whose target is preceded by a `ScopeEnd`: the machine arrives at the target
with the stack produced by the ops *before* that `ScopeEnd` — the scope it closes is still there
(sequential execution would have popped it). For every code `A`, `E`, `P`, label and store. -/
theorem goto_fwd_skips_scopeEnd (A E P : List Op) (t l : Option Name) (i : Int) (σ : Store) (st : List Scope)
    (h : scanList true E σ.stack = some st) :
    gotoStep (A ++ Op.goto t ((A.length + 1 + (E ++ [Op.scopeEnd l i]).length : Nat) : Int) ::
          ((E ++ [Op.scopeEnd l i]) ++ P)) A.length
        ((A.length + 1 + (E ++ [Op.scopeEnd l i]).length : Nat) : Int) σ
      = .running ⟨((A.length + 1 + (E ++ [Op.scopeEnd l i]).length : Nat) : Int) - 1, { σ with stack := st }⟩ :=
  goto_fwd_scan (CodeAt.mid A (Op.goto t _ :: (E ++ [Op.scopeEnd l i])) P) rfl (List.dropLast_concat ▸ h)

/-- The jump-free fragment (the guard of `compile_correct`) lies outside the region
`iterate_repeat_block_scope_leak`. -/
theorem jumpFree_not_iterateRepeatEndBlock : ∀ (s : Stmt) (env : List (Name × Bool)), jumpFree s = true →
    hasIterateRepeatEndBlock env s = false := by
  intro s env h
  fun_induction hasIterateRepeatEndBlock env s with
  | case1 env a b iha ihb =>
    simp only [jumpFree, Bool.and_eq_true] at h
    rw [iha h.1, ihb h.2, Bool.or_self]
  | case2 env l b ih => exact ih h
  | case3 env c t e iht ihe =>
    simp only [jumpFree, Bool.and_eq_true] at h
    rw [iht h.1, ihe h.2, Bool.or_self]
  | case4 env l c b ih => exact ih h
  | case5 env l b c ih => exact ih h
  | case6 env l b ih => exact ih h
  | case7 env l => cases h
  | case8 => rfl

theorem lookupSess_append_none {x y : Name} {p : Spp} (hxy : x ≠ y) {acc : List (Name × Spp)}
    (h : lookupSess x acc = none) : lookupSess x (acc ++ [(y, p)]) = none := by
  fun_induction lookupSess x acc with
  | case1 => simp [lookupSess, Ne.symm hxy]
  | case2 q acc => cases h
  | case3 k q acc hk ih => simp only [List.cons_append, lookupSess, hk, if_false]; exact ih h

theorem assignSpp_append_new {x : Name} {v : Val} {p : Spp} {acc : List (Name × Spp)}
    (h : lookupSess x acc = none) : assignSpp x v (acc ++ [(x, p)]) = acc ++ [(x, { p with val := v })] := by
  fun_induction lookupSess x acc with
  | case1 => simp [assignSpp]
  | case2 q acc => cases h
  | case3 k q acc hk ih => simp only [List.cons_append, assignSpp, hk, if_false, ih h]
def paramNames (ps : List Param) : List Name := ps.map (·.name)

/-- With no OUT parameter, distinct names and a session that holds none of them, the engine's
parameter set-up (NewStoredProcParam + value assignment) builds exactly the Spec's parameter list
behind what the session already held. -/
theorem initParams_agree (uv : List (Name × Val)) : ∀ (ps : List Param) (as : List Arg) (acc : List (Name × Spp)),
    (∀ q ∈ ps, q.mode ≠ .out) → (paramNames ps).Nodup → (∀ q ∈ ps, lookupSess q.name acc = none) →
    initParamsImpl uv ps as acc = acc ++ initParamsSpec uv ps as
  | [], _, _, _, _, _ | _ :: _, [], _, _, _, _ => (List.append_nil _).symm
  | p :: ps, a :: as, acc, hm, hnd, hfree => by
    have hp := hfree p List.mem_cons_self
    simp only [paramNames, List.map_cons, List.nodup_cons] at hnd
    simp only [initParamsImpl, initParamsSpec, newSpp, hp, assignSpp_append_new hp, hm p List.mem_cons_self, if_false]
    rw [initParams_agree uv ps as _ (fun q hq => hm q (List.mem_cons_of_mem _ hq)) hnd.2, List.append_assoc]
    · rfl
    · exact fun q hq => lookupSess_append_none (fun heq => hnd.1 (List.mem_map.mpr ⟨q, hq, heq⟩))
        (hfree q (List.mem_cons_of_mem _ hq))

theorem writeBack_agree (ss : List (Name × Spp)) : ∀ (ps : List Param) (as : List Arg) (uv : List (Name × Val)),
    (∀ q ∈ ps, q.mode ≠ .out) → writeBackImpl ss ps as uv = writeBackSpec ss ps as uv
  | [], _, _, _ | _ :: _, [], _, _ => rfl
  | p :: ps, a :: as, uv, hm => by
    have ih := fun uv' => writeBack_agree ss ps as uv' fun q hq => hm q (List.mem_cons_of_mem _ hq)
    -- the two differ only in what an OUT parameter writes back
    cases hpm : p.mode with
    | out => exact absurd hpm (hm p List.mem_cons_self)
    | in_ => simp only [writeBackImpl, writeBackSpec, hpm, ih]
    | inout =>
      cases a with
      | lit v => simp only [writeBackImpl, writeBackSpec, hpm, ih]
      | uvar u =>
        simp only [writeBackImpl, writeBackSpec, hpm, ih]
        cases lookupSess p.name ss <;> rfl

end Gms.ProcLang

namespace Gms.C24
open Gms.ProcLang

/-- The tables the model transliterates are the ones the extractor read from the source on this
run: op-code enumeration, per-statement op shapes of `ConvertStmt`, the LEAVE/ITERATE placeholders
and their resolution, the direction test / scan bounds / push-pop table of `OpCode_Goto`, the
`OpCode_If` jump, the error numbers, the `Call` loop and DECLARE's zero value. -/
theorem facts_match :
    Gms.Generated.C24.opCodes = ["Select", "Declare", "Signal", "Open", "Fetch", "Close", "Set", "Call", "If",
      "Goto", "Execute", "Exception", "Return", "ScopeBegin", "ScopeEnd"]
    ∧ Gms.Generated.C24.stmtOps = [
      ("*ast.BeginEndBlock", ["ScopeBegin", "ScopeEnd"]), ("*ast.Select", ["Select"]), ("*ast.Declare", ["Declare"]),
      ("*ast.OpenCursor", ["Open"]), ("*ast.FetchCursor", ["Fetch"]), ("*ast.CloseCursor", ["Close"]),
      ("*ast.Signal", ["Signal"]), ("*ast.Set", ["Execute", "Set"]), ("*ast.Call", ["Call"]),
      ("*ast.IfStatement", ["If", "Goto"]), ("*ast.CaseStatement", ["If", "Goto", "Exception"]),
      ("*ast.While", ["If", "Goto"]), ("*ast.Repeat", ["If", "Goto"]), ("*ast.Loop", ["Goto"]),
      ("*ast.Iterate", ["Goto"]), ("*ast.Leave", ["Goto"]), ("default", ["Execute"])]
    ∧ Gms.Generated.C24.leaveIndex = "-2"
    ∧ Gms.Generated.C24.iterateIndexExpr = "stack.GetLabel(s.Label)"
    ∧ Gms.Generated.C24.getLabelMissing = "-1"
    ∧ Gms.Generated.C24.resolveTable = [("-1", "loopStart"), ("-2", "loopEnd")]
    ∧ Gms.Generated.C24.resolveChecksTarget = true
    ∧ Gms.Generated.C24.gotoDirectionTest = "counter<=operation.Index"
    ∧ Gms.Generated.C24.gotoFwd = "counter<operation.Index-1;counter++;OpCode_ScopeBegin→PushScope;OpCode_ScopeEnd→PopScope"
    ∧ Gms.Generated.C24.gotoBwd = "counter>operation.Index-1;counter--;OpCode_ScopeBegin→PopScope;OpCode_ScopeEnd→PushScope"
    ∧ Gms.Generated.C24.ifJump = "cond==nil||cond.(int8)==0⇒counter=operation.Index-1"
    ∧ Gms.Generated.C24.scopeOps = ["OpCode_ScopeBegin→stack.PushScope()", "OpCode_ScopeEnd→stack.PopScope(ctx)"]
    ∧ Gms.Generated.C24.errnos = ["case:1339", "signal:\"01\":1642", "signal:\"02\":1643", "signal:default:1644"]
    ∧ Gms.Generated.C24.callLoop = ["init:-1", "step:counter++", "break:counter>=len(statements)"]
    ∧ Gms.Generated.C24.newVariableBody = "{is.NewVariableWithValue(name,typ,typ.Zero())}" :=
  ⟨rfl, rfl, rfl, rfl, rfl, rfl, rfl, rfl, rfl, rfl, rfl, rfl, rfl, rfl, rfl⟩

/-- Guards of the compiler-correctness theorem: no LEAVE/ITERATE, no IF/CASE whose final branch
ends with a BEGIN…END block (region `else_block_scope_leak`), no LOOP with an empty body (not
expressible in SQL). -/
def Structured (s : Stmt) : Prop :=
  jumpFree s = true ∧ hasElseBlock s = false ∧ loopsNonempty s = true

instance (s : Stmt) : Decidable (Structured s) := by unfold Structured; infer_instance

/-- **Compiler correctness, normal termination.** For every structured statement, every store with
a non-empty scope stack and every fuel: if the structured semantics finishes normally with store
`σ'`, the op machine started on `Parse`'s op list finishes with outcome `ok` and exactly `σ'`
(for every sufficiently large step budget). -/
theorem compile_correct (s : Stmt) (hs : Structured s) (σ σ' : Store) (hne : σ.stack ≠ []) (fuel : Nat)
    (h : exec Sem.gms fuel s σ = some (.normal, σ')) :
    ∃ n, ∀ k, n ≤ k → run k (compileProgram s) ⟨-1, σ⟩ = (.ok, σ') := by
  have hsim : Reaches (compileProgram s) ⟨((0 : Nat) : Int) - 1, σ⟩ (.running ⟨(codeLen s : Int) - 1, σ'⟩) :=
    sim_program hs hne h
  exact (hsim.trans (Reaches.halt (step_end (Nat.le_of_eq (compile_length s 0 [])) σ'))).run

/-- **Compiler correctness, errors.** If the structured semantics stops with error `e` (SIGNAL,
CASE not found, unresolved name), the machine stops with the same error number, the same trace and
the same parameter values. -/
theorem compile_correct_error (s : Stmt) (hs : Structured s) (σ σ' : Store) (hne : σ.stack ≠ []) (fuel e : Nat)
    (h : exec Sem.gms fuel s σ = some (.error e, σ')) :
    ∃ n σm, σm.sess = σ'.sess ∧ σm.log = σ'.log ∧
      ∀ k, n ≤ k → run k (compileProgram s) ⟨-1, σ⟩ = (.err e, σm) := by
  obtain ⟨σm, hr, hse, hlo⟩ := sim_program hs hne h
  obtain ⟨n, hn⟩ := hr.run
  exact ⟨n, σm, hse, hlo, hn⟩

/-- A structured statement never escapes with a LEAVE/ITERATE signal (so the two theorems above
cover every finishing run). -/
theorem structured_no_escape (s : Stmt) (hs : Structured s) (σ σ' : Store) (hne : σ.stack ≠ []) (fuel : Nat) (l : Name) :
    exec Sem.gms fuel s σ ≠ some (.leave l, σ') ∧ exec Sem.gms fuel s σ ≠ some (.iterate l, σ') :=
  -- `SimGoal` at a LEAVE / ITERATE signal is `False`
  ⟨fun h => sim_program hs hne h, fun h => sim_program hs hne h⟩

/-- `Sem.mysql` (DECLARE without DEFAULT is NULL, REPEAT runs until the condition is TRUE, ITERATE
restarts a REPEAT body) and `Sem.gms` (what the op code implements) give the same result on every
statement without REPEAT and without DEFAULT-less DECLARE. -/
theorem sem_agree_partial (s : Stmt) (hd : hasBareDeclare s = false) (hr : hasRepeat s = false) (n : Nat) (σ : Store) :
    exec Sem.mysql n s σ = exec Sem.gms n s σ :=
  exec_sem_agree Sem.mysql Sem.gms n s σ hd hr

/-- The property on the region-free structured fragment, against MySQL's definition. -/
theorem structured_correct_partial (s : Stmt) (hs : Structured s) (hd : hasBareDeclare s = false)
    (hr : hasRepeat s = false) (σ σ' : Store) (hne : σ.stack ≠ []) (fuel : Nat)
    (h : exec Sem.mysql fuel s σ = some (.normal, σ')) :
    ∃ n, ∀ k, n ≤ k → run k (compileProgram s) ⟨-1, σ⟩ = (.ok, σ') :=
  compile_correct s hs σ σ' hne fuel (by rw [← sem_agree_partial s hd hr]; exact h)

/-- **CALL level, the engine's reading.** For a procedure whose body is structured, with IN/INOUT parameters of
distinct names only, called in a fresh session: whatever the Spec under `Sem.gms` yields — outcome, user variables,
trace — the Impl model of the CALL (parameter set-up, `Parse`, the op machine, write-back) yields too. -/
theorem call_correct (p : Proc) (args : List Arg) (s : Session) (fuel : Nat) (hs : Structured p.body)
    (hm : ∀ q ∈ p.params, q.mode ≠ .out) (hnd : (paramNames p.params).Nodup) (hfresh : s.sess = [])
    {o : Outcome} {s' : Session} (hspec : callSpec Sem.gms fuel p args s = some (o, s')) :
    ∃ n, ∀ k, n ≤ k → (callImpl k p args s).1 = o ∧ (callImpl k p args s).2.uvars = s'.uvars ∧
      (callImpl k p args s).2.log = s'.log := by
  have hinit : initParamsImpl s.uvars p.params args s.sess = initParamsSpec s.uvars p.params args := by
    rw [hfresh, initParams_agree s.uvars p.params args [] hm hnd (fun _ _ => rfl)]
    rfl
  have hne : ({ stack := [[]], sess := initParamsSpec s.uvars p.params args, log := s.log } : Store).stack ≠ [] :=
    List.cons_ne_nil _ _
  revert hspec
  fun_cases callSpec Sem.gms fuel p args s with
  | case1 => intro hspec; cases hspec
  | case2 ss σ hex =>
    intro hspec
    cases hspec
    obtain ⟨n, hn⟩ := compile_correct p.body hs _ σ hne fuel hex
    refine ⟨n, fun k hk => ?_⟩
    have hrun := hn k hk
    simp [callImpl, hinit, hrun, writeBack_agree σ.sess p.params args s.uvars hm]
  | case3 ss e σ hex =>
    intro hspec
    cases hspec
    obtain ⟨n, σm, hse, hlo, hn⟩ := compile_correct_error p.body hs _ σ hne fuel e hex
    refine ⟨n, fun k hk => ?_⟩
    have hrun := hn k hk
    simp [callImpl, hinit, hrun, hlo]
  | case4 ss sg σ hnn hne' hex =>
    cases sg with
    | normal => exact (hnn rfl).elim
    | error e => exact (hne' e rfl).elim
    | leave l => exact ((structured_no_escape p.body hs _ σ hne fuel l).1 hex).elim
    | iterate l => exact ((structured_no_escape p.body hs _ σ hne fuel l).2 hex).elim

/-- **CALL level, region-free fragment.** For a procedure whose body is structured, has no REPEAT
and no DEFAULT-less DECLARE, with IN/INOUT parameters of distinct names only, called in a fresh
session: whatever the Spec (MySQL reading) yields — outcome, user variables, trace — the Impl model
of the CALL (parameter set-up, `Parse`, the op machine, write-back) yields too. -/
theorem call_correct_partial (p : Proc) (args : List Arg) (s : Session) (fuel : Nat)
    (hs : Structured p.body) (hd : hasBareDeclare p.body = false) (hr : hasRepeat p.body = false)
    (hm : ∀ q ∈ p.params, q.mode ≠ .out) (hnd : (paramNames p.params).Nodup) (hfresh : s.sess = [])
    (o : Outcome) (s' : Session) (hspec : callSpec Sem.mysql fuel p args s = some (o, s')) :
    ∃ n, ∀ k, n ≤ k → (callImpl k p args s).1 = o ∧ (callImpl k p args s).2.uvars = s'.uvars ∧
      (callImpl k p args s).2.log = s'.log :=
  call_correct p args s fuel hs hm hnd hfresh (by rw [callSpec, ← sem_agree_partial p.body hd hr]; exact hspec)

/-- For every well-labelled statement (LEAVE and ITERATE included) every `Goto` of the compiled
program carries a resolved, non-negative index. -/
theorem goto_resolved (s : Stmt) (hw : wellLabelled [] s = true) :
    ∀ t idx, Op.goto t idx ∈ compileProgram s → 0 ≤ idx :=
  fun _ _ hmem => negOk_nil_goto (compile_negOk hw _ hmem)

/-- The scope scans of `OpCode_Goto` are stack-neutral over the code of any jump-free statement, in
both directions (this is what makes loop back-edges and IF exits keep the scope stack). -/
theorem scan_neutral (s : Stmt) (hj : jumpFree s = true) (base : Nat) (lb : Labels) (st : List Scope) :
    scanList true (compile base lb s).1 st = some st ∧ scanList false (compile base lb s).1.reverse st = some st := by
  rw [compile_eq_cjf s base lb hj]
  exact cjf_scanNeutral s base st

/-- A structured program with a nested block, a WHILE with a shadowing DECLARE inside and an IF with
ELSE: the guards hold and the semantics finishes. -/
def demo : Stmt :=
  .block none (.seq (.declare 3 (some 0)) (.seq (.declare 4 (some 10))
    (.seq (.while (some 0) (.lt (.var 3) (.lit 3))
        (.seq (.block none (.seq (.declare 4 (some 1)) (.set 3 (.add (.var 3) (.var 4)))))
          (.ite (.eq (.var 3) (.lit 2)) (.emit (.var 4)) (.emit (.var 3)))))
      (.set 0 (.add (.var 3) (.var 4))))))

def demoStore : Store := { stack := [[]], sess := [(0, ⟨none, false⟩)], log := [] }

example : Structured demo ∧ hasBareDeclare demo = false ∧ hasRepeat demo = false ∧
    (exec Sem.mysql 30 demo demoStore).map (fun r => (r.1, r.2.log, lookupSess 0 r.2.sess)) =
      some (.normal, [some 3, some 10, some 1], some ⟨some 13, true⟩) := by decide +kernel

/-- The hypotheses of `call_correct_partial` are satisfiable: `demo` as the body of `p(INOUT v0)`,
called with `@u0 = 4` in a fresh session, finishes with `@u0 = 13` under the Spec. -/
example : let p : Proc := { params := [⟨0, .inout⟩], body := demo }
    let s : Session := { uvars := [(0, some 4)], sess := [], log := [] }
    Structured p.body ∧ (∀ q ∈ p.params, q.mode ≠ .out) ∧ (paramNames p.params).Nodup ∧
    (callSpec Sem.mysql 30 p [.uvar 0] s).map (fun r => (r.1, getU 0 r.2.uvars)) = some (.ok, some 13) := by
  decide +kernel

example : wellLabelled [] (.loop (some 1) (.seq (.ite (.var 0) (.leave 1) .skip) (.iterate 1))) = true := by decide +kernel

/-! Each `finding_…` below is replayed against the real engine by the harness corpus. -/

def sess0 (u0 : Val) : Session := { uvars := [(0, u0)], sess := [], log := [] }
def outR : List Param := [⟨0, .out⟩]

/-- F-C24-a. `b1: BEGIN DECLARE x DEFAULT 2; LEAVE b1; END; SET r = x` reads the inner `x`. -/
def wLeaveBlock : Proc := { params := outR, body :=
  (.block none (.seq (.declare 3 (some 1)) (.seq (.block (some 1) (.seq (.declare 3 (some 2)) (.leave 1))) (.set 0 (.var 3))))) }

theorem finding_leave_block_scope_leak :
    hasLeaveBlock [] wLeaveBlock.body = true ∧
    (callImpl 40 wLeaveBlock [.uvar 0] (sess0 none)).1 = .ok ∧
    getU 0 (callImpl 40 wLeaveBlock [.uvar 0] (sess0 none)).2.uvars = some 2 ∧
    (callSpec Sem.mysql 40 wLeaveBlock [.uvar 0] (sess0 none)).map (fun r => (r.1, getU 0 r.2.uvars)) = some (.ok, some 1) := by
  decide +kernel

/-- IF whose ELSE branch ends with a block: taking the THEN branch leaks a scope. -/
def wElseBlock : Proc := { params := outR, body :=
  (.block none (.seq (.declare 3 (some 1)) (.seq
    (.block (some 1) (.seq (.declare 3 (some 2)) (.ite (.lit 1) (.set 0 (.lit 0)) (.block none (.set 0 (.lit 5))))))
    (.set 0 (.var 3))))) }

theorem finding_else_block_scope_leak :
    hasElseBlock wElseBlock.body = true ∧ jumpFree wElseBlock.body = true ∧
    getU 0 (callImpl 40 wElseBlock [.uvar 0] (sess0 none)).2.uvars = some 2 ∧
    (callSpec Sem.mysql 40 wElseBlock [.uvar 0] (sess0 none)).map (fun r => (r.1, getU 0 r.2.uvars)) = some (.ok, some 1) := by
  decide +kernel

/-- The compiler-correctness theorem is false without the `hasElseBlock` guard. -/
theorem compile_correct_needs_guard :
    ∃ s σ σ', jumpFree s = true ∧ σ.stack ≠ [] ∧ exec Sem.gms 40 s σ = some (.normal, σ') ∧
      (run 100 (compileProgram s) ⟨-1, σ⟩).2 ≠ σ' :=
  ⟨wElseBlock.body, { stack := [[]], sess := [(0, ⟨none, false⟩)], log := [] }, _, by decide, by decide, rfl, by decide +kernel⟩

/-- ITERATE in a WHILE labelled like an earlier LOOP jumps back into the old loop. -/
def wStale : Proc := { params := outR, body :=
  (.block none (.seq (.declare 3 (some 0)) (.seq
    (.loop (some 0) (.seq (.set 3 (.add (.var 3) (.lit 1))) (.seq (.ite (.lt (.lit 3) (.var 3)) (.leave 0) .skip) (.emit (.var 3)))))
    (.seq (.while (some 0) (.lt (.var 3) (.lit 8))
      (.seq (.set 3 (.add (.var 3) (.lit 1))) (.seq (.ite (.eq (.var 3) (.lit 6)) (.iterate 0) .skip) (.emit (.mul (.var 3) (.lit 10))))))
      (.set 0 (.var 3)))))) }

theorem finding_stale_label_iterate :
    staleIterate wStale.body = true ∧
    (callImpl 200 wStale [.uvar 0] (sess0 none)).2.log.reverse = [some 1, some 2, some 3, some 50, some 80] ∧
    (callSpec Sem.mysql 60 wStale [.uvar 0] (sess0 none)).map (fun r => r.2.log.reverse)
      = some [some 1, some 2, some 3, some 50, some 70, some 80] := by
  decide +kernel

/-- Limit of the Impl model inside `stale_label_iterate` (`staleIntoClosedBlock`): the REPEAT `l0`
sits in a block that declares `v4`; the ITERATE of the later WHILE `l0` jumps back to its UNTIL test
after that block has been closed. The model stops with errno 1105 (`v4` does not resolve). The real
engine finishes the CALL with trace 11,200,400: the unresolved name evaluates to the value cached in
the AST node by the previous evaluation (replayed by the harness corpus; such cases carry the
`(norun)` flag and are compared at compile level only). The plain stale-label witness `wStale` is
not in this sub-class. -/
def wStaleClosed : Stmt :=
  .block none (.seq (.declare 3 (some 0)) (.seq
    (.block none (.seq (.declare 4 (some 10))
      (.repeat (some 0) (.seq (.set 3 (.add (.var 3) (.lit 1))) (.emit (.add (.var 4) (.var 3))))
        (.or (.le (.lit 1) (.var 3)) (.lt (.var 4) (.lit 0))))))
    (.while (some 0) (.lt (.var 3) (.lit 4))
      (.seq (.set 3 (.add (.var 3) (.lit 1))) (.seq (.ite (.eq (.var 3) (.lit 3)) (.iterate 0) .skip)
        (.emit (.mul (.var 3) (.lit 100))))))))

theorem model_limit_stale_into_closed_block :
    staleIterate wStaleClosed = true ∧ staleIntoClosedBlock wStaleClosed = true ∧
    staleIntoClosedBlock wStale.body = false ∧
    (callImpl 200 ⟨[], wStaleClosed⟩ [] (sess0 none)).1 = .err 1105 ∧
    (callImpl 200 ⟨[], wStaleClosed⟩ [] (sess0 none)).2.log.reverse = [some 11, some 200] ∧
    (callSpec Sem.mysql 60 ⟨[], wStaleClosed⟩ [] (sess0 none)).map (fun r => (r.1, r.2.log.reverse))
      = some (.ok, [some 11, some 200, some 400]) := by
  decide +kernel

/-- OUT parameter not reset: the body sees the caller's value. -/
def wOutParam : Proc := { params := outR, body := (.block none (.emit (.var 0))) }

theorem finding_out_param_not_reset :
    (callImpl 20 wOutParam [.uvar 0] (sess0 (some 5))).2.log = [some 5] ∧
    (callSpec Sem.mysql 20 wOutParam [.uvar 0] (sess0 (some 5))).map (fun r => r.2.log) = some [none] := by
  decide +kernel

/-- … and a stale `HasBeenSet` from an earlier CALL in the session makes an unassigned OUT
parameter write the caller's old value back instead of NULL. -/
def wOutStale : Proc := { params := [⟨0, .out⟩, ⟨1, .in_⟩], body :=
  (.block none (.ite (.eq (.var 1) (.lit 1)) (.set 0 (.lit 7)) .skip)) }

theorem finding_out_param_stale_has_been_set :
    let s1 := (callImpl 20 wOutStale [.uvar 0, .lit (some 1)] (sess0 (some 5))).2
    let t1 := ((callSpec Sem.mysql 20 wOutStale [.uvar 0, .lit (some 1)] (sess0 (some 5))).map (·.2)).getD default
    getU 0 s1.uvars = some 7 ∧ getU 0 t1.uvars = some 7 ∧
    getU 0 (callImpl 20 wOutStale [.uvar 0, .lit (some 0)] s1).2.uvars = some 7 ∧
    (callSpec Sem.mysql 20 wOutStale [.uvar 0, .lit (some 0)] t1).map (fun r => getU 0 r.2.uvars) = some none := by
  decide +kernel

/-- ITERATE of a REPEAT label evaluates UNTIL instead of restarting the body. -/
def wIterRepeat : Stmt :=
  .block none (.seq (.declare 3 (some 0)) (.seq
    (.repeat (some 0) (.seq (.set 3 (.add (.var 3) (.lit 1))) (.seq (.ite (.eq (.var 3) (.lit 3)) (.iterate 0) .skip) (.emit (.var 3))))
      (.le (.lit 3) (.var 3)))
    (.set 0 (.var 3))))

theorem finding_iterate_repeat_checks_until :
    hasIterateRepeat [] wIterRepeat = true ∧
    (callImpl 200 ⟨outR, wIterRepeat⟩ [.uvar 0] (sess0 none)).2.log.reverse = [some 1, some 2] ∧
    (callSpec Sem.mysql 60 ⟨outR, wIterRepeat⟩ [.uvar 0] (sess0 none)).map (fun r => r.2.log.reverse) = some [some 1, some 2, some 4] ∧
    (callSpec Sem.gms 60 ⟨outR, wIterRepeat⟩ [.uvar 0] (sess0 none)).map (fun r => r.2.log.reverse) = some [some 1, some 2] := by
  decide +kernel

/-- ITERATE of a REPEAT label from inside the BEGIN…END block that ends the REPEAT body. On the
first pass the ITERATE is a forward Goto to the UNTIL test; the block's ScopeEnd sits right in
front of that test and is skipped (`goto_fwd_skips_scopeEnd`), so the inner `x = 2` keeps
shadowing the outer `x = 1` after the loop. Both readings of ITERATE (restart / check UNTIL) give 1. -/
def wIterRepBlock : Proc := { params := outR, body :=
  (.block none (.seq (.declare 3 (some 1)) (.seq (.declare 4 (some 0)) (.seq
    (.repeat (some 0)
      (.seq (.set 4 (.add (.var 4) (.lit 1)))
        (.block none (.seq (.declare 3 (some 2)) (.ite (.eq (.var 4) (.lit 1)) (.iterate 0) .skip))))
      (.le (.lit 1) (.var 4)))
    (.set 0 (.var 3)))))) }

theorem finding_iterate_repeat_block_scope_leak :
    hasIterateRepeatEndBlock [] wIterRepBlock.body = true ∧
    hasLeaveBlock [] wIterRepBlock.body = false ∧ hasElseBlock wIterRepBlock.body = false ∧
    staleIterate wIterRepBlock.body = false ∧
    -- the ITERATE of the first body copy is a forward Goto to op 10 (the UNTIL test), op 9 is a ScopeEnd
    (compileProgram wIterRepBlock.body)[7]? = some (.goto (some 0) 10) ∧
    (compileProgram wIterRepBlock.body)[9]? = some (.scopeEnd none 10) ∧
    (callImpl 100 wIterRepBlock [.uvar 0] (sess0 none)).1 = .ok ∧
    getU 0 (callImpl 100 wIterRepBlock [.uvar 0] (sess0 none)).2.uvars = some 2 ∧
    (callSpec Sem.mysql 60 wIterRepBlock [.uvar 0] (sess0 none)).map (fun r => (r.1, getU 0 r.2.uvars)) = some (.ok, some 1) ∧
    (callSpec Sem.gms 60 wIterRepBlock [.uvar 0] (sess0 none)).map (fun r => (r.1, getU 0 r.2.uvars)) = some (.ok, some 1) := by
  decide +kernel

/-- The same region with the ITERATE *in front of* the final block: the forward Goto pushes a scope
for the block's ScopeBegin and never pops it, so the enclosing block's ScopeEnd pops that empty
scope instead of its own and the enclosing block's `x = 3` survives the block. -/
def wIterRepBlockOutside : Proc := { params := outR, body :=
  (.block none (.seq (.declare 3 (some 1)) (.seq
    (.block none (.seq (.declare 3 (some 3)) (.seq (.declare 4 (some 0))
      (.repeat (some 0)
        (.seq (.set 4 (.add (.var 4) (.lit 1))) (.seq (.ite (.eq (.var 4) (.lit 1)) (.iterate 0) .skip)
          (.block none (.set 4 (.var 4)))))
        (.le (.lit 1) (.var 4))))))
    (.set 0 (.var 3))))) }

theorem finding_iterate_repeat_block_scope_leak_outside :
    hasIterateRepeatEndBlock [] wIterRepBlockOutside.body = true ∧
    hasLeaveBlock [] wIterRepBlockOutside.body = false ∧ hasElseBlock wIterRepBlockOutside.body = false ∧
    staleIterate wIterRepBlockOutside.body = false ∧
    getU 0 (callImpl 100 wIterRepBlockOutside [.uvar 0] (sess0 none)).2.uvars = some 3 ∧
    (callSpec Sem.mysql 60 wIterRepBlockOutside [.uvar 0] (sess0 none)).map (fun r => (r.1, getU 0 r.2.uvars)) = some (.ok, some 1) ∧
    (callSpec Sem.gms 60 wIterRepBlockOutside [.uvar 0] (sess0 none)).map (fun r => (r.1, getU 0 r.2.uvars)) = some (.ok, some 1) := by
  decide +kernel

/-- Control for the region predicate: with one more statement behind the block the body does not end
with a ScopeEnd, and the op machine agrees with the structured semantics. -/
def wIterRepBlockControl : Proc := { params := outR, body :=
  (.block none (.seq (.declare 3 (some 1)) (.seq (.declare 4 (some 0)) (.seq
    (.repeat (some 0)
      (.seq (.set 4 (.add (.var 4) (.lit 1))) (.seq
        (.block none (.seq (.declare 3 (some 2)) (.ite (.eq (.var 4) (.lit 1)) (.iterate 0) .skip)))
        (.set 4 (.var 4))))
      (.le (.lit 1) (.var 4)))
    (.set 0 (.var 3)))))) }

example : hasIterateRepeatEndBlock [] wIterRepBlockControl.body = false ∧
    hasIterateRepeat [] wIterRepBlockControl.body = true ∧
    getU 0 (callImpl 100 wIterRepBlockControl [.uvar 0] (sess0 none)).2.uvars = some 1 ∧
    (callSpec Sem.gms 60 wIterRepBlockControl [.uvar 0] (sess0 none)).map (fun r => (r.1, getU 0 r.2.uvars)) = some (.ok, some 1) := by
  decide +kernel

/-- REPEAT … UNTIL NULL leaves the loop. -/
def wUntilNull : Stmt :=
  .block none (.seq (.declare 3 (some 0))
    (.repeat (some 0) (.seq (.set 3 (.add (.var 3) (.lit 1))) (.emit (.var 3))) (.or (.le (.lit 3) (.var 3)) .null)))

theorem finding_repeat_until_null_exits :
    hasRepeat wUntilNull = true ∧ jumpFree wUntilNull = true ∧
    (callImpl 200 ⟨[], wUntilNull⟩ [] (sess0 none)).2.log.reverse = [some 1] ∧
    (callSpec Sem.mysql 60 ⟨[], wUntilNull⟩ [] (sess0 none)).map (fun r => r.2.log.reverse) = some [some 1, some 2, some 3] := by
  decide +kernel

/-- DECLARE without DEFAULT is 0, not NULL. -/
def wBareDeclare : Stmt := .block none (.seq (.declare 3 none) (.emit (.var 3)))

theorem finding_declare_without_default_zero :
    hasBareDeclare wBareDeclare = true ∧
    (callImpl 20 ⟨[], wBareDeclare⟩ [] (sess0 none)).2.log = [some 0] ∧
    (callSpec Sem.mysql 20 ⟨[], wBareDeclare⟩ [] (sess0 none)).map (fun r => r.2.log) = some [none] := by
  decide +kernel

/-- Regenerated tie of `handleError` / `ListHandlers` / the error branch of `Call` to the model:
`matchingHandler` (only SQLEXCEPTION assigns, the `break` leaves the switch ⇒ last match),
`handleError` (first op of the handler code, run with counter -1), CONTINUE ⇒ `counter`, EXIT ⇒ the
scan of `exitScanAux` started at **`matchingHandler.Counter`**, result `newCounter-1`, and
`listHandlers` (depth 0 = top scope first). -/
theorem facts_match_handlers :
    Gms.Generated.C24.handlerSelect = ["DeclareHandlerCondition_MysqlErrorCode:", "DeclareHandlerCondition_SqlState:",
      "DeclareHandlerCondition_ConditionName:", "DeclareHandlerCondition_SqlWarning:", "DeclareHandlerCondition_NotFound:",
      "DeclareHandlerCondition_SqlException:matchingHandler=handler;break"]
    ∧ Gms.Generated.C24.handlerRun = "op=handlerOps[0];code=handlerOps;counter=-1"
    ∧ Gms.Generated.C24.handlerActions = ["DeclareHandlerAction_Continue:returncounter,nil",
      "DeclareHandlerAction_Exit:remainingEndScopes:=1",
      "DeclareHandlerAction_Exit:for:init:newCounter=matchingHandler.Counter;cond:newCounter<len(statements);post:newCounter++;if:remainingEndScopes==0⇒break;OpCode_ScopeBegin→remainingEndScopes++;OpCode_ScopeEnd→remainingEndScopes--",
      "DeclareHandlerAction_Exit:returnnewCounter-1,io.EOF",
      "DeclareHandlerAction_Undo:return-1,fmt.Errorf(\"DECLAREUNDOHANDLERisnotsupported\")"]
    ∧ Gms.Generated.C24.handlerCallBranch = "{newCounter=hCounter}else{newCounter=counter}"
    ∧ Gms.Generated.C24.listHandlersLoop = "i:=0;i<is.stack.Len();i++;range:is.stack.PeekDepth(i).handlers" :=
  ⟨rfl, rfl, rfl, rfl, rfl⟩

section Handlers
open Gms.ProcH

/-- The shape `/verif/seeded/C24-2/README.md` gives for its class: EXIT handler of the outer block, error in a nested block, observable
statements behind the failing statement, behind the nested block. -/
def hExitNested : HProc := { params := outR, body :=
  (.block (.seq (.handler true false 0 (.lit (-1))) (.seq (.set 0 (.lit 1))
    (.seq (.block (.seq (.emit (.lit 1)) (.seq .signal (.set 0 (.lit 2))))) (.seq (.set 0 (.lit 3)) (.emit (.lit 9))))))) }

/-- On it the op machine and the structured semantics agree: r = -1, trace 1 — the statements behind
the nested block do not run (non-vacuity of `exit_scan_finds_block_end`: the scan from the DECLARE at
op 1 passes the nested block's ScopeBegin/ScopeEnd and stops at op 10). -/
theorem handler_exit_nested_agree :
    nestedHandlers false hExitNested.body = false ∧ exitHandlerNested true hExitNested.body = false ∧
    handlerDynScope hExitNested.body = false ∧
    exitScan (compileProgramH hExitNested.body) 1 = 10 ∧
    (callImplH 60 hExitNested [.uvar 0] (sess0 none)) = (.ok, { uvars := [(0, some (-1))], sess := [(0, ⟨some (-1), true⟩)], log := [some 1] }) ∧
    (callSpecH 40 hExitNested [.uvar 0] (sess0 none)).map (fun r => (r.1, getU 0 r.2.uvars, r.2.log)) = some (.ok, some (-1), [some 1]) := by
  decide +kernel

/-- CONTINUE through a nested block: both give r = 112. -/
def hContinueNested : HProc := { params := outR, body :=
  (.block (.seq (.handler false false 0 (.add (.var 0) (.lit 100))) (.seq (.set 0 (.lit 1))
    (.seq (.block (.seq .signal (.set 0 (.add (.var 0) (.lit 1))))) (.set 0 (.add (.var 0) (.lit 10))))))) }

theorem handler_continue_nested_agree :
    getU 0 (callImplH 60 hContinueNested [.uvar 0] (sess0 none)).2.uvars = some 112 ∧
    (callSpecH 40 hContinueNested [.uvar 0] (sess0 none)).map (fun r => (r.1, getU 0 r.2.uvars)) = some (.ok, some 112) := by
  decide +kernel

/-- A NOT FOUND handler does not catch SQLSTATE 45000 (both: errno 1644). -/
theorem handler_notfound_does_not_match :
    (callImplH 60 ⟨outR, .block (.seq (.handler true true 0 (.lit (-1))) (.seq (.set 0 (.lit 1)) (.seq .signal (.set 0 (.lit 2)))))⟩
      [.uvar 0] (sess0 none)).1 = .err 1644 ∧
    (callSpecH 40 ⟨outR, .block (.seq (.handler true true 0 (.lit (-1))) (.seq (.set 0 (.lit 1)) (.seq .signal (.set 0 (.lit 2)))))⟩
      [.uvar 0] (sess0 none)).map (·.1) = some (.err 1644) := by
  decide +kernel

/-- The inner block has its own handler; the engine gives the condition to the outer block's. -/
def wNestedHandlers : HProc := { params := outR, body :=
  (.block (.seq (.handler true false 0 (.lit (-1))) (.seq (.set 0 (.lit 1))
    (.seq (.block (.seq (.handler true false 0 (.lit (-2))) (.seq .signal (.set 0 (.lit 2))))) (.seq (.emit (.var 0)) (.set 0 (.lit 3))))))) }

theorem finding_nested_handler_outermost_wins :
    nestedHandlers false wNestedHandlers.body = true ∧
    (callImplH 60 wNestedHandlers [.uvar 0] (sess0 none)).1 = .ok ∧
    getU 0 (callImplH 60 wNestedHandlers [.uvar 0] (sess0 none)).2.uvars = some (-1) ∧
    (callImplH 60 wNestedHandlers [.uvar 0] (sess0 none)).2.log = [] ∧
    (callSpecH 40 wNestedHandlers [.uvar 0] (sess0 none)).map (fun r => (r.1, getU 0 r.2.uvars, r.2.log)) = some (.ok, some 3, [some (-2)]) := by
  decide +kernel

/-- EXIT handler in a block that is not the outermost one: its scope stays on the stack. -/
def wExitLeak : HProc := { params := outR, body :=
  (.block (.seq (.declare 3 1) (.seq
    (.block (.seq (.declare 3 2) (.seq (.handler true false 0 (.lit (-1))) (.seq .signal (.set 0 (.lit 2))))))
    (.seq (.emit (.var 3)) (.set 0 (.var 3)))))) }

theorem finding_exit_handler_scope_leak :
    exitHandlerNested true wExitLeak.body = true ∧ nestedHandlers false wExitLeak.body = false ∧
    getU 0 (callImplH 60 wExitLeak [.uvar 0] (sess0 none)).2.uvars = some 2 ∧
    (callImplH 60 wExitLeak [.uvar 0] (sess0 none)).2.log = [some 2] ∧
    (callSpecH 40 wExitLeak [.uvar 0] (sess0 none)).map (fun r => (r.1, getU 0 r.2.uvars, r.2.log)) = some (.ok, some 1, [some 1]) := by
  decide +kernel

/-- … and the dead handler keeps catching: a later error jumps back to the dead block's end and the
failing statement runs again — the op machine does not stop (the engine: CALL never returns), the
structured semantics ends with errno 1644. -/
theorem finding_exit_handler_dead_handler_loops :
    let p : HProc := ⟨outR, .block (.seq (.block (.seq (.handler true false 0 (.lit (-1))) (.seq .signal (.set 0 (.lit 2)))))
      (.seq .signal (.set 0 (.lit 5))))⟩
    exitHandlerNested true p.body = true ∧
    (callImplH 300 p [.uvar 0] (sess0 none)).1 = .timeout ∧
    (callSpecH 40 p [.uvar 0] (sess0 none)).map (·.1) = some (.err 1644) := by
  decide +kernel

/-- The handler statement's names are resolved where the error happened. -/
def wDynScope : HProc := { params := outR, body :=
  (.block (.seq (.declare 3 1) (.seq (.handler false false 3 (.lit 7)) (.seq
    (.block (.seq (.declare 3 2) (.seq .signal (.emit (.var 3)))))
    (.seq (.emit (.var 3)) (.set 0 (.var 3))))))) }

theorem finding_handler_body_dynamic_scope :
    handlerDynScope wDynScope.body = true ∧ nestedHandlers false wDynScope.body = false ∧
    exitHandlerNested true wDynScope.body = false ∧
    getU 0 (callImplH 60 wDynScope [.uvar 0] (sess0 none)).2.uvars = some 1 ∧
    (callImplH 60 wDynScope [.uvar 0] (sess0 none)).2.log.reverse = [some 7, some 1] ∧
    (callSpecH 40 wDynScope [.uvar 0] (sess0 none)).map (fun r => (r.1, getU 0 r.2.uvars, r.2.log.reverse)) = some (.ok, some 7, [some 2, some 7]) := by
  decide +kernel

/-- Non-vacuity of `spec_exit_skips_rest_of_declaring_block` and
`spec_continue_resumes_in_nested_block`: their hypotheses hold on a concrete store. -/
example : execH 9 (.block (.seq (.handler true false 0 (.lit 5)) (.seq (.block (.seq .signal (.emit (.lit 1)))) (.emit (.lit 2)))))
    { stack := [HScope.empty], sess := [(0, ⟨none, false⟩)], log := [] }
    = some (.normal, { stack := [HScope.empty], sess := [(0, ⟨some 5, true⟩)], log := [] }) := by
  decide +kernel

example : execH 9 (.block (.seq (.handler false false 0 (.lit 5)) (.block (.seq .signal (.emit (.var 0))))))
    { stack := [HScope.empty], sess := [(0, ⟨none, false⟩)], log := [] }
    = some (.normal, { stack := [HScope.empty], sess := [(0, ⟨some 5, true⟩)], log := [some 5] }) := by
  decide +kernel

end Handlers

end Gms.C24
