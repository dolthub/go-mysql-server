/-
C17 — Transactions commit or roll back exactly their own changes.

Model: Gms/Model/Txn.lean (Impl model of memory.Session's working copies, beginTransaction,
START TRANSACTION / COMMIT / ROLLBACK, TransactionCommittingIter.Close; Spec = the same machine
with "publish exactly the written tables", "DDL ends the explicit transaction", "READ ONLY
rejects writes"). A write attempted in a READ ONLY transaction registers the table's snapshot in
the session before the analyzer rule panics (`readonly_write_registers_like_read`); together with
a later commit this is the listed write-back of a table that was only read
(`finding_readonly_panic_then_commit_overwrites`).

Proofs go through `stepWith_eq` (a step is a decision inside its session, `sessStep`, carried out
on the state by `SessStep.lift`); serial equivalence is the simulation `InTxn`.
`other_sessions_untouched` stands among the helpers because `run_other` is its induction over a run.
-/
import Gms.Model.Txn
import Gms.Generated.C17

namespace Gms.Txn

/-- What the session reads. The model writes this function out in `publish` and in `readVal`
(`publish_eq_viewOf`, `readVal_eq_viewOf`). -/
def viewOf (base : Nat → TV) (se : Sess) : Nat → TV :=
  fun t => match lookup se.tables t with
    | some v => v
    | none => base t

def upd (f : Nat → TV) (t : Nat) (v : TV) : Nat → TV := fun x => if x = t then v else f x

/-- A body statement of a transaction block: a read (`none`) or a write of table `t`. -/
abbrev BodyOp := Nat × Option W

def BodyOp.kind (b : BodyOp) : Kind :=
  match b.2 with
  | none => .read b.1
  | some w => .write b.1 w

/-- Sequential meaning of a body statement on a database value. -/
def applyBodyOp (f : Nat → TV) (b : BodyOp) : Nat → TV :=
  match b.2 with
  | none => f
  | some w => match w.app (f b.1) with
    | some v' => upd f b.1 v'
    | none => f

structure Block where
  s : Nat
  body : List BodyOp
  commit : Bool

def Block.ops (b : Block) : List Op :=
  ⟨b.s, .begin false⟩ :: b.body.map (fun x => ⟨b.s, x.kind⟩) ++ [⟨b.s, if b.commit then .commit else .rollback⟩]

/-- Running the transaction alone on the committed database. -/
def Block.effect (base : Nat → TV) (b : Block) : Nat → TV :=
  if b.commit then b.body.foldl applyBodyOp base else base

/-- All sessions are between transactions. -/
def Idle (st : St) : Prop := ∀ s, (st.sess s).tx = false

theorem publish_eq_viewOf (base : Nat → TV) (se : Sess) : publish base se.tables = viewOf base se := rfl

theorem publishWritten_eq_viewOf (base : Nat → TV) (se : Sess) (t : Nat) :
    publishWritten base se.tables se.written t = if se.written.contains t then viewOf base se t else base t := rfl

theorem readVal_eq_viewOf (st : St) (s : Nat) : readVal st s = viewOf st.base (beginTx (st.sess s)) := rfl

theorem lookup_store (l : List (Nat × TV)) (t t' : Nat) (v : TV) :
    lookup (store l t v) t' = if t' = t then some v else lookup l t' := by
  induction l with
  | nil => simp [store, lookup, @eq_comm _ t t']
  | cons p r ih =>
    obtain ⟨k, w⟩ := p
    by_cases ht : t' = t
    · subst ht; by_cases hk : k = t' <;> simp [store, lookup, hk, ih]
    · by_cases hk : k = t <;> simp [store, lookup, hk, ih, ht, @eq_comm _ t t']

theorem lookup_mem (l : List (Nat × TV)) (t : Nat) (v : TV) (h : lookup l t = some v) : (t, v) ∈ l := by
  fun_induction lookup l t with
  | case1 => cases h
  | case2 w r => cases h; exact List.mem_cons_self
  | case3 k w r hk ih => exact List.mem_cons_of_mem _ (ih h)

/-- The session after `touch`. -/
def Sess.touched (se : Sess) (base : Nat → TV) (t : Nat) : Sess :=
  { se with tables := match lookup se.tables t with
      | some _ => se.tables
      | none => store se.tables t (base t) }

theorem touch_eq (base : Nat → TV) (se : Sess) (t : Nat) : touch base se t = (se.touched base t, viewOf base se t) := by
  unfold touch Sess.touched viewOf
  cases lookup se.tables t <;> rfl

theorem viewOf_touched (base : Nat → TV) (se : Sess) (t : Nat) : viewOf base (se.touched base t) = viewOf base se := by
  funext x
  unfold viewOf Sess.touched
  cases h : lookup se.tables t with
  | some v => rfl
  | none =>
    by_cases hx : x = t
    · subst hx; simp [lookup_store, h]
    · simp [lookup_store, hx]

/-- The session after a successful write (`se1'` in `stepWith`). -/
def Sess.wrote (se : Sess) (t : Nat) (v : TV) : Sess :=
  { se with tables := store se.tables t v, written := if se.written.contains t then se.written else t :: se.written }

theorem viewOf_wrote (base : Nat → TV) (se : Sess) (t : Nat) (v : TV) :
    viewOf base (se.wrote t v) = upd (viewOf base se) t v := by
  funext x
  unfold viewOf upd Sess.wrote
  by_cases hx : x = t
  · subst hx; simp [lookup_store]
  · simp [lookup_store, hx]

theorem beginTx_of_tx {se : Sess} (h : se.tx = true) : beginTx se = se := by
  unfold beginTx; rw [if_pos h]

theorem beginTx_idle {se : Sess} (h : se.tx = false) :
    beginTx se = { se with tables := [], written := [], tx := true, readOnly := false } := by
  unfold beginTx; simp [h]

theorem beginTx_tx (se : Sess) : (beginTx se).tx = true := by
  unfold beginTx; cases h : se.tx <;> simp [h]

theorem closeTx_eq (pub : (Nat → TV) → Sess → (Nat → TV)) (implicit : Bool) (base : Nat → TV) (se : Sess) :
    closeTx pub implicit base se =
      (if se.tx && (implicit || (!se.explicit && se.autocommit)) then pub base se else base,
       if se.tx && (implicit || (!se.explicit && se.autocommit)) then { se with tx := false } else se) := by
  unfold closeTx; split <;> rfl

theorem setSess_same (f : Nat → Sess) (s : Nat) (v : Sess) : setSess f s v s = v := if_pos rfl

theorem setSess_other (f : Nat → Sess) {s b : Nat} (v : Sess) (h : b ≠ s) : setSess f s v b = f b := if_neg h

theorem publish_eq_of_not_stale (base : Nat → TV) (se : Sess) (h : staleRead base se = false) :
    publish base se.tables = publishWritten base se.tables se.written := by
  funext t
  unfold publish publishWritten
  cases hw : se.written.contains t with
  | true => simp
  | false =>
    simp only [Bool.false_eq_true, if_false]
    cases hl : lookup se.tables t with
    | none => rfl
    | some v =>
      have := (List.any_eq_false.mp h) (t, v) (lookup_mem se.tables t v hl)
      simpa only [hw, Bool.not_false, Bool.true_and, bne_iff_ne, ne_eq, Decidable.not_not] using this

/-- The publish function `stepWith` uses. -/
def pubOf (spec : Bool) : (Nat → TV) → Sess → (Nat → TV) :=
  if spec then (fun b se => publishWritten b se.tables se.written) else (fun b se => publish b se.tables)

theorem pubOf_false (base : Nat → TV) (se : Sess) : pubOf false base se = publish base se.tables := rfl

theorem pubOf_true (base : Nat → TV) (se : Sess) : pubOf true base se = publishWritten base se.tables se.written := rfl

/-- What a statement decides inside its own session: whether it commits (`commit`) and the session
that commit publishes (`work`: for a read, a write or SET the session once the statement's own work
is done; BEGIN, COMMIT and DDL publish the session as they find it), `out` the session it leaves,
`extra` the flags that do not come from publishing. -/
structure SessStep where
  work : Sess
  commit : Bool
  out : Sess
  obs : Obs
  extra : List Region

/-- `TransactionCommittingIter.Close` of a statement that is not DDL. -/
def SessStep.auto (se : Sess) (o : Obs) : SessStep :=
  ⟨se, se.tx && (!se.explicit && se.autocommit),
   if se.tx && (!se.explicit && se.autocommit) then { se with tx := false } else se, o, []⟩

/-- `se` is the session after `beginTx`. -/
def sessStep (spec : Bool) (base : Nat → TV) (se : Sess) : Kind → SessStep
  | .read t => .auto (se.touched base t) (.rows (viewOf base se t))
  | .write t w =>
    if se.readOnly then
      ⟨se.touched base t, false, se.touched base t, if spec then .err else .crash, [.readonly_txn_write_panics]⟩
    else match w.app (viewOf base se t) with
      | some v' => .auto ((se.touched base t).wrote t v') (.ok (w.affected (viewOf base se t)))
      | none => .auto (se.touched base t) .err
  | .begin ro =>
    ⟨se, true, { se with tables := [], written := [], tx := true, explicit := true, readOnly := ro }, .done, []⟩
  | .commit => ⟨se, true, { se with tx := false, explicit := false }, .done, []⟩
  | .rollback => ⟨se, false, { se with tables := [], written := [], tx := false, explicit := false }, .done, []⟩
  | .setAC b => .auto { se with autocommit := b } (.ok 0)
  | .ddl => ⟨se, true, { se with tx := false, explicit := !spec && se.explicit }, .ok 0,
      if se.explicit then [.ddl_keeps_explicit_mode] else []⟩

def SessStep.lift (p : SessStep) (spec : Bool) (st : St) (s : Nat) : St × Obs × List Region :=
  (⟨if p.commit then pubOf spec st.base p.work else st.base, setSess st.sess s p.out⟩, p.obs,
   (if p.commit && staleRead st.base p.work then [Region.commit_overwrites_read_table] else []) ++ p.extra)

theorem SessStep.lift_sess (p : SessStep) (spec : Bool) (st : St) (s : Nat) : (p.lift spec st s).1.sess s = p.out :=
  setSess_same ..

/-- The left side is how `stepWith` ends a read, a write and SET autocommit. -/
theorem SessStep.lift_auto (spec : Bool) (st : St) (s : Nat) (se : Sess) (o : Obs) :
    (⟨(closeTx (pubOf spec) false st.base se).1, setSess st.sess s (closeTx (pubOf spec) false st.base se).2⟩, o,
     if se.tx && (!se.explicit && se.autocommit) && staleRead st.base se then [Region.commit_overwrites_read_table] else []) =
    (SessStep.auto se o).lift spec st s := by
  unfold SessStep.lift SessStep.auto
  rw [closeTx_eq, Bool.false_or, List.append_nil]

theorem SessStep.lift_auto_open {spec : Bool} {st : St} {s : Nat} {se : Sess} {o : Obs}
    (hopen : se.explicit = true ∨ se.autocommit = false) :
    (SessStep.auto se o).lift spec st s = (⟨st.base, setSess st.sess s se⟩, o, []) := by
  unfold SessStep.lift SessStep.auto
  rcases hopen with h | h <;> simp [h]

theorem stepWith_eq (spec : Bool) (st : St) (o : Op) :
    stepWith spec st o = (sessStep spec st.base (beginTx (st.sess o.s)) o.k).lift spec st o.s := by
  obtain ⟨s, k⟩ := o
  cases k with
  | read t =>
    unfold stepWith
    simp only [touch_eq]
    exact SessStep.lift_auto ..
  | write t w =>
    rw [sessStep, apply_ite (SessStep.lift · spec st s)]
    unfold stepWith
    simp only [touch_eq]
    refine ite_congr rfl (fun _ => rfl) fun _ => ?_
    cases w.app (viewOf st.base (beginTx (st.sess s)) t) <;> exact SessStep.lift_auto ..
  -- BEGIN and COMMIT: the two sides differ by `++ []` in the flags
  | begin ro => exact (congrArg _ (congrArg _ (List.append_nil _))).symm
  | commit => exact (congrArg _ (congrArg _ (List.append_nil _))).symm
  | rollback => rfl
  | setAC b => exact SessStep.lift_auto ..
  | ddl =>
    -- `beginTx` leaves a transaction, so the implicit commit always happens
    unfold stepWith sessStep SessStep.lift
    simp only [closeTx_eq, beginTx_tx, Bool.true_or, Bool.and_true, Bool.true_and, if_true]
    cases spec <;> rfl

theorem SessStep.lift_eq_spec (p : SessStep) (st : St) (s : Nat) (h : (p.lift false st s).2.2 = []) :
    p.lift false st s = p.lift true st s := by
  unfold SessStep.lift at *
  cases hc : p.commit
  · rfl
  · cases hs : staleRead st.base p.work
    · rw [pubOf_false, pubOf_true, publish_eq_of_not_stale st.base p.work hs]
    · rw [hc, hs] at h; cases h

theorem sessStep_eq_spec (base : Nat → TV) (se : Sess) (k : Kind) (h : (sessStep false base se k).extra = []) :
    sessStep false base se k = sessStep true base se k := by
  obtain ⟨_, _, _, ex, ro, _⟩ := se
  cases k with
  | write t w =>
    cases ro
    · rfl
    · cases h
  | ddl =>
    cases ex
    · rfl
    · cases h
  | _ => rfl

end Gms.Txn

namespace Gms.C17
open Gms.Txn

/-- A statement of one session never changes another session's working copies or flags
(whatever the statement). -/
theorem other_sessions_untouched (st : St) (o : Op) (b : Nat) (hb : b ≠ o.s) :
    (step st o).1.sess b = st.sess b := by
  rw [step, stepWith_eq]
  exact setSess_other _ _ hb

end Gms.C17

namespace Gms.Txn

/-- The first part of `C17.uncommitted_invisible`, transaction open or not (`hk` as there). -/
theorem step_base_of_open {st : St} {a : Nat} {k : Kind} (hk : (∃ t, k = .read t) ∨ (∃ t w, k = .write t w))
    (hopen : (beginTx (st.sess a)).explicit = true ∨ (beginTx (st.sess a)).autocommit = false) :
    (step st ⟨a, k⟩).1.base = st.base := by
  rw [step, stepWith_eq]
  rcases hk with ⟨t, rfl⟩ | ⟨t, w, rfl⟩
  · rw [sessStep, SessStep.lift_auto_open]
    exact hopen
  · simp only [sessStep]
    split
    · rfl
    · split <;> rw [SessStep.lift_auto_open] <;> exact hopen

theorem run_append_fst (st : St) (a b : List Op) : (run st (a ++ b)).1 = (run (run st a).1 b).1 := by
  induction a generalizing st with
  | nil => rfl
  | cons o os ih => simp only [List.cons_append, run]; exact ih _

theorem run_other (st : St) (ops : List Op) {b : Nat} (hb : ∀ o ∈ ops, b ≠ o.s) : (run st ops).1.sess b = st.sess b := by
  induction ops generalizing st with
  | nil => rfl
  | cons o os ih =>
    simp only [run]
    rw [ih _ fun o' ho' => hb o' (List.mem_cons_of_mem _ ho'), C17.other_sessions_untouched st o b (hb o List.mem_cons_self)]

/-- A session inside a read-write START TRANSACTION block that reads `view` while `base` is committed. -/
structure Sess.InBlock (se : Sess) (base view : Nat → TV) : Prop where
  tx : se.tx = true
  explicit : se.explicit = true
  readOnly : se.readOnly = false
  view : viewOf base se = view

theorem Sess.InBlock.touch {se : Sess} {base view : Nat → TV} (h : se.InBlock base view) (t : Nat) :
    (se.touched base t).InBlock base view :=
  ⟨h.tx, h.explicit, h.readOnly, (viewOf_touched base se t).trans h.view⟩

theorem Sess.InBlock.wrote {se : Sess} {base view : Nat → TV} (h : se.InBlock base view) (t : Nat) (v' : TV) :
    (se.wrote t v').InBlock base (upd view t v') :=
  ⟨h.tx, h.explicit, h.readOnly, by rw [viewOf_wrote, h.view]⟩

/-- Session `s` is inside such a block begun on `base`; nothing was committed since. -/
def InTxn (st : St) (s : Nat) (base view : Nat → TV) : Prop := st.base = base ∧ (st.sess s).InBlock base view

theorem InTxn.stmt {st : St} {s : Nat} {base view : Nat → TV} (h : InTxn st s base view) (b : BodyOp) :
    InTxn (step st ⟨s, b.kind⟩).1 s base (applyBodyOp view b) := by
  obtain ⟨t, ow⟩ := b
  obtain ⟨rfl, h⟩ := h
  have post : ∀ {se : Sess} {o : Obs} {f : Nat → TV}, se.InBlock st.base f →
      InTxn ((SessStep.auto se o).lift false st s).1 s st.base f := fun hse => by
    rw [SessStep.lift_auto_open (.inl hse.explicit)]
    exact ⟨rfl, by simpa only [setSess_same] using hse⟩
  rw [step, stepWith_eq, beginTx_of_tx h.tx]
  cases ow with
  | none => exact post (h.touch t)
  | some w =>
    simp only [BodyOp.kind, applyBodyOp, sessStep, h.readOnly, Bool.false_eq_true, if_false, h.view]
    cases w.app (view t) with
    | some v' => exact post ((h.touch t).wrote t v')
    | none => exact post (h.touch t)

theorem InTxn.body {st : St} {s : Nat} {base view : Nat → TV} (h : InTxn st s base view) (body : List BodyOp) :
    InTxn (run st (body.map fun x => ⟨s, x.kind⟩)).1 s base (body.foldl applyBodyOp view) := by
  induction body generalizing st view with
  | nil => exact h
  | cons b bs ih => exact ih (h.stmt b)

theorem InTxn.start (st : St) (s : Nat) (hidle : (st.sess s).tx = false) :
    InTxn (step st ⟨s, .begin false⟩).1 s st.base st.base := by
  rw [step, stepWith_eq, beginTx_idle hidle]
  -- BEGIN commits the pending work, which is none: `beginTx_idle` has emptied `tables`, and `publish base [] = base`
  refine ⟨rfl, ?_⟩
  rw [SessStep.lift_sess]
  exact ⟨rfl, rfl, rfl, rfl⟩

theorem InTxn.finish {st : St} {s : Nat} {base view : Nat → TV} (h : InTxn st s base view) (commit : Bool) :
    (step st ⟨s, if commit then .commit else .rollback⟩).1.base = (if commit then view else base) ∧
    ((step st ⟨s, if commit then .commit else .rollback⟩).1.sess s).tx = false := by
  obtain ⟨rfl, h⟩ := h
  rw [step, stepWith_eq, beginTx_of_tx h.tx]
  cases commit
  · refine ⟨rfl, ?_⟩
    rw [SessStep.lift_sess]
    rfl
  · refine ⟨(publish_eq_viewOf _ _).trans h.view, ?_⟩
    rw [SessStep.lift_sess]
    rfl

theorem Block.ops_s {b : Block} {o : Op} (h : o ∈ b.ops) : o.s = b.s := by
  simp only [Block.ops, List.cons_append, List.mem_cons, List.mem_append, List.mem_map, List.not_mem_nil,
    or_false] at h
  rcases h with rfl | ⟨_, _, rfl⟩ | rfl <;> rfl

theorem block_run (st : St) (b : Block) (hidle : (st.sess b.s).tx = false) :
    (run st b.ops).1.base = b.effect st.base ∧ ((run st b.ops).1.sess b.s).tx = false := by
  unfold Block.ops Block.effect
  rw [List.cons_append, run, run_append_fst, run, run]
  exact ((InTxn.start st b.s hidle).body b.body).finish b.commit

theorem serial_equiv (blocks : List Block) (st : St) (hidle : ∀ b ∈ blocks, (st.sess b.s).tx = false) :
    (run st (blocks.flatMap Block.ops)).1.base = blocks.foldl Block.effect st.base := by
  induction blocks generalizing st with
  | nil => rfl
  | cons b bs ih =>
    obtain ⟨h1, h2⟩ := block_run st b (hidle b List.mem_cons_self)
    rw [List.flatMap_cons, List.foldl_cons, run_append_fst, ← h1]
    refine ih _ fun b' hb' => ?_
    by_cases hs : b'.s = b.s
    · rw [hs]; exact h2
    · rw [run_other st b.ops fun o ho => Block.ops_s ho ▸ hs]; exact hidle b' (List.mem_cons_of_mem _ hb')

end Gms.Txn

namespace Gms.C17
open Gms.Txn

/-- The transaction code has the shape the model transliterates (regenerated from the source). -/
theorem facts_match :
    Gms.Generated.C17.sessionStartTransaction =
      ["s.tables = make(map[tableKey]*TableData)", "s.editAccumulators = make(map[tableKey]tableEditAccumulator)",
       "return &Transaction{tCharacteristic == sql.ReadOnly}, nil"] ∧
    Gms.Generated.C17.sessionRollback =
      ["s.tables = make(map[tableKey]*TableData)", "s.editAccumulators = make(map[tableKey]tableEditAccumulator)", "return nil"] ∧
    Gms.Generated.C17.commitTransactionShape = ["for range s.tables", "baseDb.putTable(s.tables[key].Table(baseDb))"] ∧
    Gms.Generated.C17.sessionTableData = ["td, ok := s.tables[key(t.data)]", "if !ok", "return td"] ∧
    Gms.Generated.C17.beginTransactionGuards = ["ctx.GetTransaction() != nil", "ok"] ∧
    Gms.Generated.C17.committingIterCloseConds =
      ["t.childIter != nil", "err != nil", "tx == nil", "!t.implicitCommit && ctx.GetIgnoreAutoCommit()",
       "!t.implicitCommit && !t.autoCommit", "!ok", "err := ts.CommitTransaction(ctx, tx); err != nil"] ∧
    Gms.Generated.C17.implicitCommitCond =
      "qFlags != nil && (qFlags.IsSet(sql.QFlagDDL) || qFlags.IsSet(sql.QFlagAlterTable) || qFlags.IsSet(sql.QFlagDBDDL))" ∧
    Gms.Generated.C17.buildStartTransactionCalls =
      ["CommitTransaction(ctx, currentTx)", "StartTransaction(ctx, n.TransChar)", "SetTransaction(transaction)", "SetIgnoreAutoCommit(true)"] ∧
    Gms.Generated.C17.buildCommitCalls = ["CommitTransaction(ctx, transaction)", "SetIgnoreAutoCommit(false)", "SetTransaction(nil)"] ∧
    Gms.Generated.C17.buildRollbackCalls = ["Rollback(ctx, transaction)", "SetIgnoreAutoCommit(false)", "SetTransaction(nil)"] :=
  ⟨rfl, rfl, rfl, rfl, rfl, rfl, rfl, rfl, rfl, rfl⟩

/-- **Refinement, one statement.** Outside the three listed regions the Impl model and the Spec
take exactly the same step: same new state, same client-visible result. -/
theorem step_eq_spec_partial (st : St) (o : Op) (h : (step st o).2.2 = []) : step st o = specStep st o := by
  unfold step specStep at *
  rw [stepWith_eq] at h ⊢
  -- the flags of a lift are the stale-commit flag ++ `extra`
  rw [stepWith_eq, ← sessStep_eq_spec _ _ _ (List.append_eq_nil_iff.mp h).2]
  exact SessStep.lift_eq_spec _ _ _ h

/-- **Refinement, whole histories.** If no statement of the run falls into a listed region, the
Impl run and the Spec run produce the same observations and the same final state. -/
theorem run_eq_spec_partial (st : St) (h : List Op) (hfl : (run st h).2.2 = []) :
    (run st h).1 = (specRun st h).1 ∧ (run st h).2.1 = (specRun st h).2 := by
  induction h generalizing st with
  | nil => exact ⟨rfl, rfl⟩
  | cons o os ih =>
    simp only [run, specRun] at hfl ⊢
    have h1 : (step st o).2.2 = [] := List.append_eq_nil_iff.mp hfl |>.1
    have h2 := List.append_eq_nil_iff.mp hfl |>.2
    have he := step_eq_spec_partial st o h1
    rw [← he]
    obtain ⟨ha, hb⟩ := ih (step st o).1 h2
    exact ⟨ha, by rw [hb]⟩

/-
Full statement (FALSE on the unchanged code; kept visible):
  theorem run_eq_spec (st h) : (run st h).2.1 = (specRun st h).2
Witnesses: finding_commit_overwrites_read_table, finding_ddl_keeps_explicit_mode,
finding_readonly_txn_write_panics.
-/

def obsOf (h : List Op) : List Obs := (run St.init h).2.1
def specObsOf (h : List Op) : List Obs := (specRun St.init h).2

/-- Session 0 only *reads* t0 inside its transaction; session 1 commits row 2 to t0 meanwhile;
session 0's COMMIT erases it: session 1 then reads [1] instead of [1,2]. -/
theorem finding_commit_overwrites_read_table :
    let h := [⟨0, .write 0 (.ins 1)⟩, ⟨0, .begin false⟩, ⟨0, .read 0⟩, ⟨1, .write 0 (.ins 2)⟩,
              ⟨0, .write 1 (.ins 5)⟩, ⟨0, .commit⟩, ⟨1, .read 0⟩]
    obsOf h ≠ specObsOf h ∧ (obsOf h).getLast? = some (.rows [1]) ∧ (specObsOf h).getLast? = some (.rows [1, 2]) ∧
    (run St.init h).2.2 = [Region.commit_overwrites_read_table] := by
  decide +kernel

/-- BEGIN; INSERT 7; CREATE TABLE …; INSERT 8 — the second insert is not committed (another
session does not see it) although the DDL ended the transaction. -/
theorem finding_ddl_keeps_explicit_mode :
    let h := [⟨1, .begin false⟩, ⟨1, .write 0 (.ins 7)⟩, ⟨1, .ddl⟩, ⟨1, .write 0 (.ins 8)⟩, ⟨2, .read 0⟩]
    (obsOf h).getLast? = some (.rows [7]) ∧ (specObsOf h).getLast? = some (.rows [7, 8]) ∧
    (run St.init h).2.2 = [Region.ddl_keeps_explicit_mode] := by
  decide +kernel

/-- START TRANSACTION READ ONLY; INSERT → the engine panics (nil TemporaryTable in
validateReadOnlyTransaction) where an error is demanded. -/
theorem finding_readonly_txn_write_panics :
    let h := [⟨2, .begin true⟩, ⟨2, .write 0 (.ins 9)⟩]
    (obsOf h).getLast? = some .crash ∧ (specObsOf h).getLast? = some .err ∧
    (run St.init h).2.2 = [Region.readonly_txn_write_panics] := by
  decide

/-- The write that panics in a READ ONLY transaction has already resolved its table: on the session
state it acts exactly like a read of that table (the working copy is registered in
`Session.tables`), the committed state is untouched. (A READ ONLY transaction is explicit.) -/
theorem readonly_write_registers_like_read (st : St) (s t : Nat) (w : W)
    (hro : (beginTx (st.sess s)).readOnly = true) (hex : (beginTx (st.sess s)).explicit = true) :
    (step st ⟨s, .write t w⟩).1.base = st.base ∧
    (step st ⟨s, .write t w⟩).1.sess = (step st ⟨s, .read t⟩).1.sess ∧
    (step st ⟨s, .read t⟩).1.base = st.base ∧
    (step st ⟨s, .write t w⟩).2.1 = .crash ∧ (specStep st ⟨s, .write t w⟩).2.1 = .err ∧
    (specStep st ⟨s, .write t w⟩).1.sess = (step st ⟨s, .write t w⟩).1.sess := by
  rw [step, step, specStep, stepWith_eq, stepWith_eq, stepWith_eq]
  simp only [sessStep, if_pos hro]
  rw [SessStep.lift_auto_open (se := (beginTx (st.sess s)).touched st.base t) (.inl hex)]
  exact ⟨rfl, rfl, rfl, rfl, rfl, rfl⟩

/-- Non-vacuity of `readonly_write_registers_like_read`. -/
example :
    let st := (run St.init [⟨2, .begin true⟩]).1
    (beginTx (st.sess 2)).readOnly = true ∧ (beginTx (st.sess 2)).explicit = true ∧
    ((step st ⟨2, .write 1 (.ins 2)⟩).1.sess 2).tables = [(1, [])] := by
  decide

/-- The two listed findings combined (sweep alarm of seed 1): the INSERT that panics in session 2's
READ ONLY transaction registered t1's snapshot; session 0 then commits row 101 to t1; session 2
reads the snapshot and its COMMIT writes it back, erasing row 101. Both regions are flagged, in
this order; the Spec keeps row 101. -/
theorem finding_readonly_panic_then_commit_overwrites :
    let h := [⟨2, .begin true⟩, ⟨2, .write 1 (.ins 2)⟩, ⟨0, .write 1 (.ins 101)⟩, ⟨2, .read 1⟩, ⟨2, .commit⟩, ⟨0, .read 1⟩]
    (obsOf h).getLast? = some (.rows []) ∧ (specObsOf h).getLast? = some (.rows [101]) ∧
    (run St.init h).2.2 = [Region.readonly_txn_write_panics, Region.commit_overwrites_read_table] := by
  decide +kernel

/-- **ROLLBACK discards exactly the session's changes**: the committed state is untouched, the
session's working copies are gone (its next read of any table returns the committed version),
every other session is untouched. No guard. -/
theorem rollback_discards_exactly (st : St) (s : Nat) :
    (step st ⟨s, .rollback⟩).1.base = st.base ∧
    (∀ t, readVal (step st ⟨s, .rollback⟩).1 s t = st.base t) ∧
    (∀ s', s' ≠ s → (step st ⟨s, .rollback⟩).1.sess s' = st.sess s') := by
  refine ⟨rfl, ?_, ?_⟩
  · intro t
    rw [readVal_eq_viewOf, step, stepWith_eq]
    rw [SessStep.lift_sess]
    simp only [sessStep, beginTx, Bool.false_eq_true, if_false]
    rfl
  · exact other_sessions_untouched st ⟨s, .rollback⟩

/-- **COMMIT makes the session's view the committed state** (Impl, no guard): after COMMIT the
committed version of every table is what the session would have read. -/
theorem commit_publishes_view (st : St) (s t : Nat) :
    (step st ⟨s, .commit⟩).1.base t = readVal st s t := by
  rw [step, stepWith_eq, readVal_eq_viewOf]
  exact congrFun (publish_eq_viewOf _ _) t

/-- **COMMIT publishes exactly the written tables** (Spec): a written table gets the session's
copy, every other table keeps its committed version. -/
theorem spec_commit_publishes_exactly (st : St) (s t : Nat) :
    (specStep st ⟨s, .commit⟩).1.base t =
      if (beginTx (st.sess s)).written.contains t then readVal st s t else st.base t := by
  rw [specStep, stepWith_eq, readVal_eq_viewOf]
  exact publishWritten_eq_viewOf _ _ t

/-- **Autocommit.** In an idle autocommit session a successful write is committed on its own:
the committed version of the table is the write applied to the previous committed version,
every other table is unchanged, and the session is idle again. -/
theorem autocommit_each_stmt (st : St) (s t : Nat) (w : W) (v' : TV)
    (hidle : (st.sess s).tx = false) (hex : (st.sess s).explicit = false) (hac : (st.sess s).autocommit = true)
    (hw : w.app (st.base t) = some v') :
    (step st ⟨s, .write t w⟩).1.base t = v' ∧
    (∀ t', t' ≠ t → (step st ⟨s, .write t w⟩).1.base t' = st.base t') ∧
    ((step st ⟨s, .write t w⟩).1.sess s).tx = false ∧
    (step st ⟨s, .write t w⟩).2.2 = [] := by
  rw [step, stepWith_eq, beginTx_idle hidle]
  -- the new transaction copies `t` from the committed state, writes it, and Close commits
  simp only [sessStep, Sess.touched, viewOf, lookup, store, hw, SessStep.auto, SessStep.lift, Sess.wrote, hex, hac, Bool.false_eq_true,
    if_false, if_true, Bool.not_false, Bool.and_self, Bool.true_and, setSess_same, List.contains_nil]
  refine ⟨?_, fun t' ht => ?_, trivial, ?_⟩
  · simp [pubOf_false, publish, lookup]
  · simp [pubOf_false, publish, lookup, Ne.symm ht]
  · simp [staleRead]

/-- **No dirty reads.** A read or write of session `a` inside an open transaction (explicit, or
autocommit off) changes neither the committed state nor any other session, so what any other
session would read is unchanged. -/
theorem uncommitted_invisible (st : St) (a : Nat) (k : Kind)
    (hk : (∃ t, k = .read t) ∨ (∃ t w, k = .write t w))
    (hopen : (st.sess a).tx = true ∧ ((st.sess a).explicit = true ∨ (st.sess a).autocommit = false)) :
    (step st ⟨a, k⟩).1.base = st.base ∧
    (∀ b, b ≠ a → (step st ⟨a, k⟩).1.sess b = st.sess b) ∧
    (∀ b t, b ≠ a → readVal (step st ⟨a, k⟩).1 b t = readVal st b t) := by
  have hbase := step_base_of_open hk ((beginTx_of_tx hopen.1).symm ▸ hopen.2)
  exact ⟨hbase, other_sessions_untouched st ⟨a, k⟩,
    fun b t hba => by simp only [readVal, hbase, other_sessions_untouched st ⟨a, k⟩ b hba]⟩

/-- **Serial equivalence.** For every history that is a concatenation of transaction blocks
(BEGIN; reads and writes of one session; COMMIT or ROLLBACK) — i.e. transactions of different
sessions do not overlap in time — started when every session is between transactions, the final
committed state is the result of running the committed transactions one after another on the
committed database; rolled-back ones contribute nothing. No region guard: the listed defects
need overlap, DDL or READ ONLY. -/
theorem serial_equiv_nonoverlap (blocks : List Block) (st : St) (hidle : Idle st) :
    (run st (blocks.flatMap Block.ops)).1.base = blocks.foldl Block.effect st.base :=
  serial_equiv blocks st fun b _ => hidle b.s

/-- Non-vacuity of `serial_equiv_nonoverlap`: three blocks of two sessions, one rolled back. -/
example :
    let bs : List Block := [⟨0, [(0, some (.ins 1)), (1, some (.ins 5)), (0, none)], true⟩,
                            ⟨1, [(0, some (.ins 2)), (0, some (.del 1))], false⟩,
                            ⟨1, [(0, some (.ins 1)), (0, some (.ins 3))], true⟩]
    (run St.init (bs.flatMap Block.ops)).1.base 0 = [1, 3] ∧ (bs.foldl Block.effect St.init.base) 0 = [1, 3] ∧
    (run St.init (bs.flatMap Block.ops)).2.2 = [] := by
  decide +kernel

/-- A region-free history with rollback, commit, autocommit off/on, failed insert, two
sessions: Impl = Spec, no flag, and the final committed t0 is [1, 3, 4]. -/
example :
    let h := [⟨0, .write 0 (.ins 1)⟩, ⟨0, .begin false⟩, ⟨0, .write 0 (.ins 2)⟩, ⟨1, .read 0⟩, ⟨0, .rollback⟩,
              ⟨1, .setAC false⟩, ⟨1, .write 0 (.ins 3)⟩, ⟨0, .read 0⟩, ⟨1, .commit⟩, ⟨0, .write 0 (.ins 3)⟩,
              ⟨0, .write 0 (.ins 4)⟩, ⟨2, .read 0⟩]
    (run St.init h).2.2 = [] ∧ obsOf h = specObsOf h ∧ (run St.init h).1.base 0 = [1, 3, 4] ∧
    (obsOf h).getLast? = some (.rows [1, 3, 4]) := by
  decide +kernel

/-- `uncommitted_invisible` is not vacuous: session 0 holds an open transaction with a write. -/
example :
    let st := (run St.init [⟨0, .begin false⟩, ⟨0, .write 0 (.ins 5)⟩]).1
    (st.sess 0).tx = true ∧ (st.sess 0).explicit = true ∧ readVal st 0 0 = [5] ∧ readVal st 1 0 = [] := by
  decide

end Gms.C17
