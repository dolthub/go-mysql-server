/-
C14 — Primary and unique keys are enforced exactly.

Model: Gms/Model/MemTable.lean (`tableEditor.Insert/Update/Delete`, `pkTableEditAccumulator.Get /
GetByCols`, `checkUniqueConstraints`, `columnsMatch`, `ApplyEdits`) and Gms/Model/MemTableDdl.lean
(schema changes between statements; `indexColsForTableEditor` resolves index columns by name).
Helper lemmas: Gms/Lemmas/MemTable.lean, Gms/Lemmas/MemTableEd.lean, Gms/Lemmas/MemTableStmt.lean,
Gms/Lemmas/MemTableDdl.lean, Gms/Lemmas/MemTableDdlWf.lean. Audited theorems: `namespace Gms.C14`.
-/
import Gms.Model.MemTable
import Gms.Lemmas.MemTable
import Gms.Lemmas.MemTableEd
import Gms.Lemmas.MemTableStmt
import Gms.Model.MemTableDdl
import Gms.Lemmas.MemTableDdl
import Gms.Lemmas.MemTableDdlWf
import Gms.Generated.C14

namespace Gms.MemTable

/-- a call on `tableEditor` -/
inductive EdCall where
  | ins (r : Row)
  | del (r : Row)
  | upd (old new : Row)
  deriving Repr

def EdCall.rows : EdCall → List Row
  | .ins r => [r]
  | .del r => [r]
  | .upd o n => [o, n]

def edCall (sch : Schema) (e : Ed) : EdCall → Except EdErr Ed
  | .ins r => edInsert sch e r
  | .del r => .ok (edDelete sch e r)
  | .upd o n => edUpdate sch e o n

/-- the unique check of this call is exact (complement of the region predicate `inexactNow`). -/
def callExact (sch : Schema) (e : Ed) : EdCall → Bool
  | .ins r => !inexactNow sch e r
  | .del _ => true
  | .upd o n => !inexactNow sch (pkDelete sch e o) n

def runCalls (sch : Schema) : Ed → List EdCall → Except EdErr Ed
  | e, [] => .ok e
  | e, c :: cs =>
    match edCall sch e c with
    | .ok e' => runCalls sch e' cs
    | .error x => .error x

def exactRun (sch : Schema) : Ed → List EdCall → Bool
  | _, [] => true
  | e, c :: cs =>
    callExact sch e c &&
      (match edCall sch e c with
       | .ok e' => exactRun sch e' cs
       | .error _ => true)

/-- Go: `TableEditorIter`: `StatementBegin`, the calls, then `StatementComplete`, or
`DiscardChanges` after the first error. -/
def runStmtCalls (sch : Schema) (t : List Row) (cs : List EdCall) : List Row :=
  match runCalls sch (stmtBegin (mkEd t)) cs with
  | .ok e => (stmtComplete sch e).rows
  | .error _ => (stmtDiscard (stmtBegin (mkEd t))).rows

def runHist (sch : Schema) (t : List Row) (stmts : List (List EdCall)) : List Row :=
  stmts.foldl (runStmtCalls sch) t

/-- the guard of `unique_invariant_partial`, statement by statement: every unique check is exact. -/
def HistGuard (sch : Schema) : List Row → List (List EdCall) → Prop
  | _, [] => True
  | t, cs :: rest =>
    exactRun sch (stmtBegin (mkEd t)) cs = true ∧ HistGuard sch (runStmtCalls sch t cs) rest

/-- well-formedness of a history: the key columns of every row handed to the editor hold values of
the declared kinds (`KeyTyped`). -/
def HistTyped (sch : Schema) (stmts : List (List EdCall)) : Prop :=
  ∀ cs ∈ stmts, ∀ c ∈ cs, ∀ r ∈ c.rows, KeyTyped sch r

/-- state invariant: distinct key values, and no two rows agree on a unique index (NULLs never agree). -/
def UniqInv (sch : Schema) (t : List Row) : Prop := NoDupPk sch.pk t ∧ ListOK sch t

theorem runCalls_inv (sch : Schema) (hk : sch.keyless = false) (hci : NoCi sch) (S : List Row)
    (hinj : KeyInjOn sch.pk S) (cs : List EdCall) (hS : ∀ c ∈ cs, ∀ r ∈ c.rows, r ∈ S) (e : Ed)
    (inv : EdInv sch S e) (hex : exactRun sch e cs = true) (e' : Ed) (h : runCalls sch e cs = .ok e') :
    EdInv sch S e' := by
  fun_induction runCalls sch e cs with
  | case1 e => cases h; exact inv
  | case3 e c cs x hc => cases h
  | case2 e c cs e1 hc ih =>
    rw [exactRun, hc, Bool.and_eq_true] at hex
    have hcS := hS c List.mem_cons_self
    refine ih (fun c hc => hS c (List.mem_cons_of_mem _ hc)) ?_ hex.2 h
    cases c with
    | ins r =>
      exact (edInsert_ok sch hk hci S hinj e inv r (hcS r List.mem_cons_self)
        ((Bool.not_eq_true' _).mp hex.1) e1 hc).1
    | del r =>
      rw [edCall, edDelete_keyed hk] at hc
      cases hc
      exact edInv_delete sch hci S hinj e inv r (hcS r List.mem_cons_self)
    | upd o n =>
      exact (edUpdate_ok sch hk hci S hinj e inv o n (hcS o List.mem_cons_self)
        (hcS n (List.mem_cons_of_mem _ List.mem_cons_self)) ((Bool.not_eq_true' _).mp hex.1) e1 hc).1

theorem runStmtCalls_inv (sch : Schema) (hk : sch.keyless = false) (hci : NoCi sch) (t : List Row)
    (h : UniqInv sch t) (cs : List EdCall) (hty : ∀ c ∈ cs, ∀ r ∈ c.rows, KeyTyped sch r)
    (hex : exactRun sch (stmtBegin (mkEd t)) cs = true) : UniqInv sch (runStmtCalls sch t cs) := by
  have hinj : KeyInjOn sch.pk (cs.flatMap EdCall.rows) :=
    keyInjOn_typed sch _ fun r hr =>
      let ⟨c, hc, hrc⟩ := List.mem_flatMap.mp hr
      hty c hc r hrc
  unfold runStmtCalls
  cases hr : runCalls sch (stmtBegin (mkEd t)) cs with
  | error x => exact h
  | ok e =>
    have inv := runCalls_inv sch hk hci _ hinj cs
      (fun c hc r hr => List.mem_flatMap.mpr ⟨c, hc, hr⟩) _ (edInv_begin sch _ t h) hex e hr
    show UniqInv sch (stmtComplete sch e).rows
    rw [stmtComplete_rows hk]
    exact ⟨noDupPk_pkApply sch hci e inv.nd, inv.ok⟩

theorem uniqInv_specNoDup (sch : Schema) (hk : sch.keyless = false) (hci : NoCi sch) (hnp : NoPrefix sch) (t : List Row)
    (h : UniqInv sch t) : specNoDup sch t = true :=
  have hnd : (t.map (proj sch.pk)).Pairwise (· ≠ ·) := h.1
  (specNoDup_iff sch t).mpr ((List.pairwise_map.mp hnd).imp_of_mem fun {a b} ha hb hne =>
    specConflict_false sch hk hci hnp t h.2 a b ha hb hne)

theorem uniqInv_remap {sch sch' : Schema} {f : Nat → Nat} {g : Row → Row} {R : Row → Prop}
    (m : Remap sch sch' f g R) (t : List Row) (ht : ∀ r ∈ t, R r) (h : UniqInv sch t) :
    UniqInv sch' (t.map g) :=
  ⟨noDupPk_remap m t ht h.1, listOK_remap m t ht h.2⟩

inductive HItem where
  | dml (cs : List EdCall)
  | ddl (d : Ddl)

/-- a mixed history on the named table definition: every statement runs in an editor created from
the definition as it is then (`NSchema.resolve` = `indexColsForTableEditor`). -/
def runMixed : NSchema → List Row → List HItem → NSchema × List Row
  | ns, t, [] => (ns, t)
  | ns, t, .dml cs :: rest => runMixed ns (runStmtCalls ns.resolve t cs) rest
  | ns, t, .ddl d :: rest => runMixed (ddlSchema ns d) (t.map (ddlRow d)) rest

/-- guards along a mixed history: for a statement those of `unique_invariant_partial` (keyed table,
no case-insensitive column, typed rows, exact unique lookups); for a schema change: applicable, and
the stored rows have the table's width. -/
def MixedGuard : NSchema → List Row → List HItem → Prop
  | _, _, [] => True
  | ns, t, .dml cs :: rest =>
    ns.resolve.keyless = false ∧ NoCi ns.resolve ∧ (∀ c ∈ cs, ∀ r ∈ c.rows, KeyTyped ns.resolve r)
      ∧ exactRun ns.resolve (stmtBegin (mkEd t)) cs = true
      ∧ MixedGuard ns (runStmtCalls ns.resolve t cs) rest
  | ns, t, .ddl d :: rest =>
    ddlOk ns d = true ∧ (∀ r ∈ t, r.length = ns.names.length)
      ∧ MixedGuard (ddlSchema ns d) (t.map (ddlRow d)) rest

/-! ## the pre-fix editor `Insert` (only to state the witness `fixed_pk_print_collision`) -/

def pkInsertPreFix (sch : Schema) (e : Ed) (row : Row) : Ed :=
  { e with adds := alSet e.adds (getRowKeyPreFix sch.pk row) row }

def pkGetPreFix (sch : Schema) (e : Ed) (row : Row) : Option (Row × Bool) :=
  let k := getRowKeyPreFix sch.pk row
  match alGet e.adds k with
  | some r => some (r, true)
  | none =>
    match alGet e.dels k with
    | some r => some (r, false)
    | none =>
      match e.rows.find? (fun pr => columnsMatch sch.pk [] pr row) with
      | some r => some (r, true)
      | none => none

/-- `tableEditor.Insert` on a keyed table as it was before the `fix:` commit (`edInsert` with the
pre-fix `getRowKey`; ghost flag omitted). -/
def edInsertPreFix (sch : Schema) (e : Ed) (row : Row) : Except EdErr Ed :=
  match pkGetPreFix sch e row with
  | some (r, true) => .error (.pk r false)
  | _ =>
    match checkUnique sch e row sch.uniques with
    | some ex => .error (.uk ex false)
    | none => .ok (pkInsertPreFix sch e row)

end Gms.MemTable

namespace Gms.C14
open Gms.MemTable

/-- The structure of the duplicate checks is the one the model was written against: `columnsMatch`
truncates `string`/`[]byte` values to `v[:prefixLength]` (bytes), compares decimals with `Cmp` and
everything else with Go `!=`; `GetByCols` looks at pending deletes (bail), pending adds, stored
rows, in this order; `Get` at adds, deletes, stored rows; `checkUniqueConstraints` skips an index
in which the row has a NULL; `Insert`/`Update` call the checks in the modelled order; `getRowKey`
finds the columns of a unique index by NAME (`indexColsForTableEditor`: `Name`, `columnIndexes` →
`Schema.IndexOf`; the field ordinals stored in the index expressions, stale after ADD COLUMN … FIRST /
AFTER and RENAME TABLE, are never read: `indexColsOrdinalReads = 0`); `getRowKey`
prints every key value with `%v` and writes it length-prefixed (`"%d:%s,"` with `len(s), s`) — the
repair of finding `pk_print_collision`: if the prefix disappears again this obligation breaks and
`fixed_pk_print_collision` below is the replay. -/
theorem facts_match :
    Gms.Generated.C14.columnsMatchSwitchCases = ["string", "[]byte", "string", "[]byte"]
    ∧ Gms.Generated.C14.columnsMatchTypeAsserts = ["*apd.Decimal", "*apd.Decimal", "[]byte", "[]byte"]
    ∧ Gms.Generated.C14.columnsMatchNeq = ["v1Decimal.Cmp(v2Decimal) != 0", "v1 != v2"]
    ∧ Gms.Generated.C14.columnsMatchSlices = ["v[:prefixLength]", "v[:prefixLength]", "v[:prefixLength]", "v[:prefixLength]"]
    ∧ Gms.Generated.C14.columnsMatchDecimalCmp = 1
    ∧ Gms.Generated.C14.pkGetByCols = ["deletes.FindForeach", "columnsMatch", "adds.FindForeach", "columnsMatch",
        "tableData.schema.HasVirtualColumns", "columnsMatch"]
    ∧ Gms.Generated.C14.pkGet = ["getRowKey", "adds.Get", "deletes.Get", "columnsMatch"]
    ∧ Gms.Generated.C14.getRowKeyFormats = ["%v", "%d:%s,"]
    ∧ Gms.Generated.C14.getRowKeyLenArgs = ["len(s)", "s"]
    ∧ Gms.Generated.C14.checkUnique = ["hasNullForAnyCols", "ea.GetByCols", "sql.NewUniqueKeyErr"]
    ∧ Gms.Generated.C14.edInsert = ["ea.Get", "sql.NewUniqueKeyErr", "checkUniqueConstraints", "ea.Insert"]
    ∧ Gms.Generated.C14.edUpdate = ["ea.Delete", "pkColsDiffer", "ea.Get", "sql.NewUniqueKeyErr", "checkUniqueConstraints", "ea.Insert"]
    ∧ Gms.Generated.C14.pkColsDiffer = ["pkColumnIndexes", "columnsMatch"]
    ∧ Gms.Generated.C14.checkUniqueNullContinue = 1
    ∧ Gms.Generated.C14.insertDupIsPK = ["true"]
    ∧ Gms.Generated.C14.hasNullConds = ["row[idx] == nil"]
    ∧ Gms.Generated.C14.hasNullReturns = ["true", "false"]
    ∧ Gms.Generated.C14.indexColsForTableEditor = ["IsUnique", "Name", "columnIndexes", "PrefixLengths"]
    ∧ Gms.Generated.C14.indexColsOrdinalReads = 0
    ∧ Gms.Generated.C14.columnIndexes = ["schema.IndexOf", "errColumnNotFound.New"] :=
  ⟨rfl, rfl, rfl, rfl, rfl, rfl, rfl, rfl, rfl, rfl, rfl, rfl, rfl, rfl, rfl, rfl, rfl, rfl, rfl, rfl⟩

/-- **The printed key is injective** (`key_injective`; FALSE before the repair of
`pk_print_collision`, see `fixed_pk_print_collision`): for every schema and every set of rows whose
key columns hold values of the declared kinds, `getRowKey` gives different rows-by-key different map
keys — whatever the number of key columns and whatever digits, separators or lengths the values
contain. -/
theorem key_injective (sch : Schema) (S : List Row) (hty : ∀ r ∈ S, KeyTyped sch r) :
    KeyInjOn sch.pk S :=
  keyInjOn_typed sch S hty

/-- non-vacuity: the old witnesses are typed rows, and their keys now differ. -/
example : KeyTyped { cols := [{}, {}, {}], pk := [0, 1], uniques := [] } [.int 1, .int 23, .int 0]
    ∧ KeyTyped { cols := [{}, {}, {}], pk := [0, 1], uniques := [] } [.int 12, .int 3, .int 1]
    ∧ getRowKey [0, 1] [.int 1, .int 23, .int 0] ≠ getRowKey [0, 1] [.int 12, .int 3, .int 1]
    ∧ getRowKey [0, 1] [.str [97], .str [98, 99]] ≠ getRowKey [0, 1] [.str [97, 98], .str [99]] := by
  unfold KeyTyped
  decide +kernel

/-- Full statement (`unique_invariant`): `∀ sch t stmts, UniqInv sch t → UniqInv sch (runHist sch t stmts)`
— FALSE on the unchanged code (see the findings below). Proved: the same for every history of
editor calls (any number of statements, any calls) over typed rows under the guards: no
case-insensitive column, and `HistGuard`: every unique-index lookup exact w.r.t. the pending edits.
(That the printed keys of the rows of one statement are distinguishable is not a guard: it holds
for all typed rows since the repair of `pk_print_collision`, `key_injective`.) -/
theorem unique_invariant_partial (sch : Schema) (hk : sch.keyless = false) (hci : NoCi sch)
    (t : List Row) (h : UniqInv sch t) (stmts : List (List EdCall)) (hty : HistTyped sch stmts)
    (hg : HistGuard sch t stmts) :
    UniqInv sch (runHist sch t stmts) := by
  unfold runHist
  induction stmts generalizing t with
  | nil => exact h
  | cons cs rest ih =>
    simp only [List.foldl_cons]
    obtain ⟨g2, g3⟩ := hg
    exact ih _ (runStmtCalls_inv sch hk hci t h cs (hty cs List.mem_cons_self) g2)
      (fun cs' hcs' => hty cs' (List.mem_cons_of_mem _ hcs')) g3

/-- … and the invariant is the executable Spec predicate the driver and the harness evaluate. -/
theorem unique_invariant_partial_spec (sch : Schema) (hk : sch.keyless = false) (hci : NoCi sch)
    (hnp : NoPrefix sch) (t : List Row) (h : UniqInv sch t) (stmts : List (List EdCall))
    (hty : HistTyped sch stmts) (hg : HistGuard sch t stmts) :
    specNoDup sch (runHist sch t stmts) = true :=
  uniqInv_specNoDup sch hk hci hnp _ (unique_invariant_partial sch hk hci t h stmts hty hg)

/-- non-vacuity: a two-statement history (insert two rows; move one to a new key and unique value,
delete the other, insert a third) satisfies every guard, and the result has two rows. -/
def exSch : Schema := { cols := [{}, {}], pk := [0], uniques := [([1], [0])] }
def exHist : List (List EdCall) :=
  [[.ins [.int 1, .int 5], .ins [.int 2, .null]],
   [.upd [.int 1, .int 5] [.int 3, .int 6], .del [.int 2, .null], .ins [.int 4, .int 5]]]

example : exactRun exSch (stmtBegin (mkEd [])) exHist[0] = true
    ∧ exactRun exSch (stmtBegin (mkEd (runStmtCalls exSch [] exHist[0]))) exHist[1] = true
    ∧ runHist exSch [] exHist = [[.int 3, .int 6], [.int 4, .int 5]] := by decide +kernel

example : HistTyped exSch exHist := by
  unfold HistTyped KeyTyped
  decide +kernel

/-- **No false duplicate** (`no_false_duplicate`, editor level): if `tableEditor.Insert` rejects a
row, the row it names is in the table-as-it-will-be and collides with the new row on the primary
key or on a unique index in which the new row has no NULL — for all typed rows (`S`: the rows the
statement has handled so far), under the two remaining guards (no case-insensitive column, exact
unique lookup). `KeyInjOn` is not a guard: it follows from typing, `key_injective`. -/
theorem no_false_duplicate_partial (sch : Schema) (hk : sch.keyless = false) (hci : NoCi sch)
    (S : List Row) (hty : ∀ r ∈ S, KeyTyped sch r) (e : Ed) (inv : EdInv sch S e) (row : Row) (hr : row ∈ S)
    (hex : inexactNow sch e row = false) (x : EdErr) (h : edInsert sch e row = .error x) :
    x.existing ∈ pkApply sch e ∧
      (proj sch.pk x.existing = proj sch.pk row ∨
        ∃ u ∈ sch.uniques, hasNullForAnyCols row u.1 = false ∧ columnsMatch u.1 u.2 x.existing row = true) :=
  edInsert_err sch hk hci S (keyInjOn_typed sch S hty) e inv.wf inv.nd row hr hex x h

/-- **No false duplicate on the primary key — full statement** (no guard besides typing; the
pre-fix `Insert` refutes it, see `fixed_pk_print_collision`): on a table without unique indexes, a
row that `tableEditor.Insert` rejects really has the key values of the row named in the error, and
that row is in the table-as-it-will-be. -/
theorem no_false_pk_duplicate (sch : Schema) (hk : sch.keyless = false) (hci : NoCi sch)
    (hu : sch.uniques = []) (S : List Row) (hty : ∀ r ∈ S, KeyTyped sch r) (e : Ed) (inv : EdInv sch S e)
    (row : Row) (hr : row ∈ S) (x : EdErr) (h : edInsert sch e row = .error x) :
    x.existing ∈ pkApply sch e ∧ proj sch.pk x.existing = proj sch.pk row := by
  have hex : inexactNow sch e row = false := by simp [inexactNow, hu]
  obtain ⟨h1, h2⟩ := no_false_duplicate_partial sch hk hci S hty e inv row hr hex x h
  refine ⟨h1, ?_⟩
  rcases h2 with h2 | ⟨u, hu', _⟩
  · exact h2
  · rw [hu] at hu'; cases hu'

/-- … and an accepted row collides with nothing: its key is free and it agrees with no row of the
table-as-it-will-be on a unique index; afterwards that table is the old one plus the row. -/
theorem insert_accepts_exactly (sch : Schema) (hk : sch.keyless = false) (hci : NoCi sch)
    (S : List Row) (hty : ∀ r ∈ S, KeyTyped sch r) (e : Ed) (inv : EdInv sch S e) (row : Row) (hr : row ∈ S)
    (hex : inexactNow sch e row = false) (e' : Ed) (h : edInsert sch e row = .ok e') :
    (∀ r, r ∈ pkApply sch e' ↔ r = row ∨ r ∈ pkApply sch e) ∧ LMap sch e (proj sch.pk row) = none
      ∧ ListOK sch (pkApply sch e') := by
  obtain ⟨i, m, f⟩ := edInsert_ok sch hk hci S (keyInjOn_typed sch S hty) e inv row hr hex e' h
  exact ⟨m, f, i.ok⟩

/-- `null_never_conflicts`: a row with a NULL in every unique index passes the unique check,
whatever the table holds. -/
theorem null_never_conflicts (sch : Schema) (e : Ed) (row : Row)
    (h : ∀ u ∈ sch.uniques, hasNullForAnyCols row u.1 = true) :
    checkUnique sch e row sch.uniques = none :=
  checkUnique_null sch e row sch.uniques h

/-- **`pkTableEditAccumulator.Get` is exact — full statement** (no guard on the printed keys,
`key_injective`): for all typed rows it answers "present" iff the table-as-it-will-be holds a
row with the key values of `row` (and returns that row). -/
theorem get_exact (sch : Schema) (S : List Row) (hty : ∀ r ∈ S, KeyTyped sch r) (e : Ed)
    (hwf : AccWF sch.pk S e) (row : Row) (hr : row ∈ S) :
    LMap sch e (proj sch.pk row)
      = match pkGet sch e row with
        | some (r, true) => some r
        | _ => none :=
  pkGet_spec sch S (keyInjOn_typed sch S hty) e hwf row hr

/-! ### schema changes between the statements (Gms/Model/MemTableDdl.lean)

Every statement gets a new `tableEditor`; the positions of the unique-index columns it works with are
recomputed from the table definition by `indexColsForTableEditor`, BY NAME. The theorems below say
that this keeps the keys enforced across ADD COLUMN at any position, DROP COLUMN of a non-key
column, RENAME COLUMN and RENAME TABLE — for every well-formed table definition, every applicable
change and all rows of the table's width. (An editor that trusted ordinals recorded earlier loses
`ddl_keeps_every_index` or `ddl_unique_check_same_values`; the correspondence runs histories that
interleave these changes with duplicate-writing DML.) -/

/-- **No unique index is lost by a schema change**: the editor created afterwards checks as many
unique indexes as the table has. -/
theorem ddl_keeps_every_index (ns : NSchema) (d : Ddl) (hwf : ns.wf = true) (hok : ddlOk ns d = true) :
    (indexColsForTableEditor (ddlSchema ns d)).length = ns.idx.length
      ∧ (ddlSchema ns d).idx.length = ns.idx.length := by
  have h : (ddlSchema ns d).idx.length = ns.idx.length := by cases d <;> simp [ddlSchema]
  exact ⟨by rw [indexCols_eq (NSchema.wf_iff.mp (ddl_wf ns d hwf hok)).2.2.1, List.length_map, h], h⟩

/-- **The editor created after a schema change compares the same values**: there is a re-numbering
`f` of the ordinals such that the new editor's primary key and unique indexes are the old ones
re-numbered, and on the transformed rows `columnsMatch` / `hasNullForAnyCols` over the re-numbered
columns answer exactly what they answered on the old rows over the old columns. -/
theorem ddl_unique_check_same_values (ns : NSchema) (d : Ddl) (hwf : ns.wf = true) (hok : ddlOk ns d = true) :
    ∃ f : Nat → Nat,
      indexColsForTableEditor (ddlSchema ns d) = (indexColsForTableEditor ns).map (fun u => (u.1.map f, u.2))
      ∧ (ddlSchema ns d).pk = ns.pk.map f
      ∧ ∀ r1 r2 : Row, r1.length = ns.names.length → r2.length = ns.names.length →
          (columnsMatch (ns.pk.map f) [] (ddlRow d r1) (ddlRow d r2) = columnsMatch ns.pk [] r1 r2)
          ∧ ∀ u ∈ indexColsForTableEditor ns,
              columnsMatch (u.1.map f) u.2 (ddlRow d r1) (ddlRow d r2) = columnsMatch u.1 u.2 r1 r2
              ∧ hasNullForAnyCols (ddlRow d r1) (u.1.map f) = hasNullForAnyCols r1 u.1 := by
  obtain ⟨f, m⟩ := ddl_remap ns d hwf hok
  refine ⟨f, m.uq, m.pk, fun r1 r2 h1 h2 => ⟨columnsMatch_remap m ns.pk [] (keyCol_pk ns.resolve) r1 r2 h1 h2, fun u hu => ?_⟩⟩
  exact ⟨columnsMatch_remap m u.1 u.2 (keyCol_uq hu) r1 r2 h1 h2, hasNull_remap m u.1 (keyCol_uq hu) r1 h1⟩

/-- … so two rows collide on a key after the change iff they collided before it (Spec equality:
collations, character prefixes, NULL never equal) … -/
theorem ddl_conflict_same (ns : NSchema) (d : Ddl) (hwf : ns.wf = true) (hok : ddlOk ns d = true)
    (r1 r2 : Row) (h1 : r1.length = ns.names.length) (h2 : r2.length = ns.names.length) :
    specConflict (ddlSchema ns d).resolve (ddlRow d r1) (ddlRow d r2) = specConflict ns.resolve r1 r2 := by
  obtain ⟨f, m⟩ := ddl_remap ns d hwf hok
  exact specConflict_remap m r1 r2 h1 h2

/-- **… and a schema change preserves the state invariant** (`specNoDup`, the predicate the driver
and the harness evaluate): a duplicate-free table stays duplicate-free, w.r.t. the editor created
after the change. -/
theorem ddl_preserves_unique (ns : NSchema) (d : Ddl) (hwf : ns.wf = true) (hok : ddlOk ns d = true)
    (t : List Row) (ht : ∀ r ∈ t, r.length = ns.names.length) :
    specNoDup (ddlSchema ns d).resolve (t.map (ddlRow d)) = specNoDup ns.resolve t := by
  obtain ⟨f, m⟩ := ddl_remap ns d hwf hok
  exact specNoDup_remap m t ht

/-- **The uniqueness invariant over histories that interleave statements with schema changes**:
for every well-formed table definition, every table satisfying the invariant and every history of
DML statements (arbitrary editor calls) and schema changes (ADD COLUMN at any position, DROP COLUMN
of a non-key column, RENAME COLUMN, RENAME TABLE), under the guards of `unique_invariant_partial` for
the statements, the stored rows keep distinct key values and never agree on a unique index — with
respect to the editor created from the definition as it is at the end (index columns resolved by
name), and the definition stays well-formed. -/
theorem unique_invariant_ddl_partial (ns : NSchema) (hwf : ns.wf = true) (t : List Row)
    (h : UniqInv ns.resolve t) (items : List HItem) (hg : MixedGuard ns t items) :
    UniqInv (runMixed ns t items).1.resolve (runMixed ns t items).2 ∧ (runMixed ns t items).1.wf = true := by
  induction items generalizing ns t with
  | nil => exact ⟨h, hwf⟩
  | cons it rest ih =>
    cases it with
    | dml cs =>
      obtain ⟨hk, hci, hty, hex, hrest⟩ := hg
      exact ih ns hwf _ (runStmtCalls_inv ns.resolve hk hci t h cs hty hex) hrest
    | ddl d =>
      obtain ⟨hok, hlen, hrest⟩ := hg
      obtain ⟨f, m⟩ := ddl_remap ns d hwf hok
      exact ih (ddlSchema ns d) (ddl_wf ns d hwf hok) _ (uniqInv_remap m t hlen h) hrest

/-- non-vacuity: `t(c0 PRIMARY KEY, c1 UNIQUE)`; ADD COLUMN c2 FIRST, DROP COLUMN (of a third
column), RENAME COLUMN c1 TO c5 are applicable to well-formed definitions, and the editor created
afterwards guards ordinal 2 / 1 / 1 — the column the index names, not the ordinal it had. -/
def exNs : NSchema := { names := [0, 1], cols := [{}, {}], pk := [0], idx := [([1], [0])] }
def exNs3 : NSchema := { names := [0, 7, 1], cols := [{}, {}, {}], pk := [0], idx := [([1], [0])] }

example : exNs.wf = true ∧ ddlOk exNs (.addCol 0 2 {}) = true ∧ ddlOk exNs (.renCol 1 5) = true
    ∧ exNs3.wf = true ∧ ddlOk exNs3 (.dropCol 1) = true
    ∧ indexColsForTableEditor exNs = [([1], [0])]
    ∧ indexColsForTableEditor (ddlSchema exNs (.addCol 0 2 {})) = [([2], [0])]
    ∧ (ddlSchema exNs (.addCol 0 2 {})).pk = [1]
    ∧ indexColsForTableEditor exNs3 = [([2], [0])]
    ∧ indexColsForTableEditor (ddlSchema exNs3 (.dropCol 1)) = [([1], [0])]
    ∧ (ddlSchema exNs (.renCol 1 5)).idx = [([5], [0])]
    ∧ indexColsForTableEditor (ddlSchema exNs (.renCol 1 5)) = [([1], [0])] := by decide +kernel

/-- … and after ADD COLUMN c2 FIRST the row (2,10) is still rejected next to (1,10): the statement
`INSERT INTO t VALUES (NULL,2,10)` on the table `[(NULL,1,10)]` is a duplicate for the Impl model
and for the Spec, while an editor working with the ordinal the index had at creation (1, now the
primary-key column) accepts it — the shape of defect this part of the check is after. -/
example :
    (implStmt (ddlSchema exNs (.addCol 0 2 {})).resolve ([[.int 1, .int 10]].map (ddlRow (.addCol 0 2 {})))
        (.insert false [[.null, .int 2, .int 10]])).1 = .dup
    ∧ (specStmt (ddlSchema exNs (.addCol 0 2 {})).resolve ([[.int 1, .int 10]].map (ddlRow (.addCol 0 2 {})))
        (.insert false [[.null, .int 2, .int 10]])).1 = .dup
    ∧ (implStmt { (ddlSchema exNs (.addCol 0 2 {})).resolve with uniques := indexColsForTableEditor exNs }
        [[.null, .int 1, .int 10]] (.insert false [[.null, .int 2, .int 10]])).1 = .ok 1 0 := by decide +kernel

/-- non-vacuity: insert (1,10),(2,11); ADD COLUMN c2 FIRST; insert (NULL,3,12); RENAME TABLE; delete
(NULL,2,11), insert (NULL,4,11) — every guard holds and three rows are stored. -/
def exMixed : List HItem :=
  [.dml [.ins [.int 1, .int 10], .ins [.int 2, .int 11]], .ddl (.addCol 0 2 {}),
   .dml [.ins [.null, .int 3, .int 12]], .ddl .renTab,
   .dml [.del [.null, .int 2, .int 11], .ins [.null, .int 4, .int 11]]]

example : (runMixed exNs [] exMixed).2
    = [[.null, .int 1, .int 10], [.null, .int 3, .int 12], [.null, .int 4, .int 11]] := by decide +kernel

def schComposite : Schema := { cols := [{}, {}, {}], pk := [0, 1], uniques := [] }
def schUnique : Schema := { cols := [{}, {}], pk := [0], uniques := [([1], [0])] }
def schCiPk : Schema := { cols := [{ str := true, ci := true }, {}], pk := [0], uniques := [] }
def schCiUq : Schema := { cols := [{}, { str := true, ci := true }], pk := [0], uniques := [([1], [0])] }

/-- **Repaired defect `pk_print_collision`.** Before the `fix:` commit `no_false_duplicate` was
FALSE without a `KeyInjOn` guard: with (1,23) pending, the pre-fix `tableEditor.Insert` rejected
(12,3) as a duplicate of it although the two rows collide on no key (their printed keys were both
`123`). The repaired `Insert` accepts the row, and the statement INSERT (1,23),(12,3) has the
outcome and the table of the Spec; likewise for the string keys ('a','bc') / ('ab','c'). -/
theorem fixed_pk_print_collision :
    (∃ r, (match edInsertPreFix schComposite (pkInsertPreFix schComposite (mkEd []) [.int 1, .int 23, .int 0])
              [.int 12, .int 3, .int 1] with | .error x => some x.existing | .ok _ => none) = some r
        ∧ specConflict schComposite r [.int 12, .int 3, .int 1] = false
        ∧ keyCollidePreFix schComposite r [.int 12, .int 3, .int 1] = true)
    ∧ (match edInsert schComposite (pkInsert schComposite (mkEd []) [.int 1, .int 23, .int 0])
          [.int 12, .int 3, .int 1] with | .error _ => false | .ok _ => true) = true
    ∧ implStmt schComposite [] (.insert false [[.int 1, .int 23, .int 0], [.int 12, .int 3, .int 1]])
        = specStmt schComposite [] (.insert false [[.int 1, .int 23, .int 0], [.int 12, .int 3, .int 1]])
    ∧ getRowKeyPreFix [0, 1] [.str [97], .str [98, 99]] = getRowKeyPreFix [0, 1] [.str [97, 98], .str [99]]
    ∧ getRowKey [0, 1] [.str [97], .str [98, 99]] ≠ getRowKey [0, 1] [.str [97, 98], .str [99]] :=
  ⟨⟨[.int 1, .int 23, .int 0], by decide +kernel⟩, by decide +kernel⟩

/-- `unique_invariant` is FALSE: one REPLACE stores the unique value 5 twice. -/
theorem finding_unique_check_ignores_pending_edits :
    ∃ sch t s, specNoDup sch t = true ∧ (implStmtE sch t s).2.inexact = true
      ∧ specNoDup sch (implStmt sch t s).2 = false :=
  ⟨schUnique, [[.int 1, .int 5]], .replace [[.int 1, .int 6], [.int 2, .int 5], [.int 3, .int 5]],
    by decide +kernel⟩

/-- … and the other direction of the same defect: a row is rejected because of a stored row that
is itself pending deletion (false duplicate; the Spec accepts the statement). -/
theorem finding_unique_check_sees_deleted_row :
    ∃ sch t s, (implStmtE sch t s).2.inexact = true ∧ (implStmt sch t s).1 = .dup
      ∧ (specStmt sch t s).1 ≠ .dup :=
  ⟨{ cols := [{}, {}, {}, {}], pk := [3], uniques := [([0, 1], [0, 0])] },
    [[.int 4, .int 31, .int 123, .int 5]],
    .odku [[.int 12, .null, .int 5, .int 5], [.int 3, .int 31, .int 0, .int 5]] [.vals 1],
    by decide +kernel⟩

/-- `unique_invariant` is FALSE under a case-insensitive collation: 'a' and 'A' are both accepted,
as primary key and as unique key (`columnsMatch` compares the stored Go strings). -/
theorem finding_ci_collation_key :
    (∃ t s, regionCiKey schCiPk t s = true ∧ (implStmt schCiPk t s).1 = .ok 2 0
        ∧ specNoDup schCiPk (implStmt schCiPk t s).2 = false ∧ (specStmt schCiPk t s).1 = .dup)
    ∧ (∃ t s, regionCiKey schCiUq t s = true ∧ (implStmt schCiUq t s).1 = .ok 2 0
        ∧ specNoDup schCiUq (implStmt schCiUq t s).2 = false ∧ (specStmt schCiUq t s).1 = .dup) :=
  ⟨⟨[], .insert false [[.str [97], .int 1], [.str [65], .int 2]], by decide +kernel⟩,
   ⟨[], .insert false [[.int 1, .str [97]], [.int 2, .str [65]]], by decide +kernel⟩⟩

/-- `no_false_duplicate` is FALSE for a prefix index over multi-byte text: 'é' and 'è' share
their first *byte*, not their first character (`columnsMatch` cuts `v[:prefixLength]`). -/
theorem finding_prefix_bytes_vs_chars :
    ∃ sch t s, regionPrefixMultibyte sch t s = true ∧ (implStmt sch t s).1 = .dup
      ∧ (specStmt sch t s).1 = .ok 1 0 :=
  ⟨{ cols := [{}, { str := true }], pk := [0], uniques := [([1], [1])] },
    [[.int 1, .str [195, 169]]], .insert false [[.int 2, .str [195, 168]]], by decide +kernel⟩

/-- … the same defect seen by a table rewrite (ALTER TABLE … DROP COLUMN re-inserts every stored row
through an editor): a table that satisfies the Spec invariant ('éa' and 'èa' under UNIQUE (c1(1)),
stored through the pending-edits defect) is rejected with a duplicate-key error (`implDup`). -/
theorem finding_prefix_bytes_vs_chars_rewrite :
    ∃ sch t, regionPrefixMultibyte sch t (.delete [] [] none) = true ∧ specNoDup sch t = true
      ∧ implDup sch t = true :=
  ⟨{ cols := [{}, { str := true }], pk := [0], uniques := [([1], [1])] },
    [[.int 1, .str [195, 169, 97]], [.int 2, .str [195, 168, 97]]], by decide +kernel⟩

end Gms.C14
