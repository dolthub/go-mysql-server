import Gms.Model.Alter
import Gms.Lemmas.Basics
import Gms.Generated.C21

/-!
C21 — Schema changes preserve existing data.

The model (`Gms/Model/Alter.lean`) transliterates ALTER TABLE on the in-memory backend. MODIFY / CHANGE
on the rewrite path is followed along one chain, for every schema and every pair of positions inside
it: the two-index loop of `modifyColumnInSchema` computes the closed-form index map "remove position c,
insert at position k" (`goMapping_eq_closedMap`, of which `goMapping_closed` is an instance); hence the schema and the projections built through it are
`moveAt`s (`goBuild_eq_move`); hence (Spec) a row that fits the old schema, and whose modified value
converts, is rewritten to itself with that value converted and moved (`rewriteRow_move`, all rows:
`modify_preserves_retained`). No statement speaks of `modify` itself: that `idxOf`, `goNewIdx` and
`memNewIdx` give positions inside the schema, and the step from `modify true t … = .ok t'` to these
theorems, are not proved here. ADD, DROP and ADD PRIMARY KEY are read off `alter`; `finding_*` show the
unchanged code breaking the property inside four regions.

Index arithmetic goes through two functions, `skip c` (old position of an element of `eraseIdx c`)
and `below c` (its inverse away from `c`); lists are compared as tables `(List.range n).map f`.
-/

namespace Gms.Alter

def toOpt : Except Err Val → Option Val
  | .ok v => some v
  | .error _ => none

/-- Closed form of `oldToNewIdxMapping`: column `c` goes to `k`; the others keep their order around it. -/
def closedMap (c k x : Nat) : Nat :=
  if x = c then k else
    if (if x < c then x else x - 1) < k then (if x < c then x else x - 1) else (if x < c then x else x - 1) + 1

/-- Its inverse: which old position the new position `j` is filled from. -/
def closedInv (c k j : Nat) : Nat :=
  if j = k then c else
    if (if j < k then j else j - 1) < c then (if j < k then j else j - 1) else (if j < k then j else j - 1) + 1

/-- Position in `l` of the element at position `y` of `l.eraseIdx c`. -/
def skip (c y : Nat) : Nat := if y < c then y else y + 1

/-- How many positions other than `c` lie below `i`; for `i ≠ c`, the position in `l.eraseIdx c` of
the element at position `i` of `l`. -/
def below (c i : Nat) : Nat := if c < i then i - 1 else i

theorem skip_ne (c y : Nat) : skip c y ≠ c := by grind [skip]

theorem below_skip (c y : Nat) : below c (skip c y) = y := by grind [skip, below]

theorem skip_below {c x : Nat} (h : x ≠ c) : skip c (below c x) = x := by grind [skip, below]

theorem below_succ_self (c : Nat) : below c (c + 1) = below c c := by grind [below]

theorem below_succ {c i : Nat} (h : i ≠ c) : below c (i + 1) = below c i + 1 := by grind [below]

theorem le_succ_of_below_eq {c k i j : Nat} (h : below c i = below k j) : j ≤ i + 1 := by grind [below]

theorem closedMap_self (c k : Nat) : closedMap c k c = k := if_pos rfl

theorem closedMap_of_ne {c k x : Nat} (h : x ≠ c) : closedMap c k x = skip k (below c x) := by
  have : (if x < c then x else x - 1) = below c x := by grind [below]
  rw [closedMap, if_neg h, this]; rfl

/-- By unfolding, so every lemma about `closedMap` also closes a goal written with `closedInv` (positions swapped). -/
theorem closedInv_eq_closedMap (c k j : Nat) : closedInv c k j = closedMap k c j := rfl

theorem closedMap_lt {n c k x : Nat} (hc : c < n) (hk : k < n) (hx : x < n) : closedMap c k x < n := by
  by_cases h : x = c
  · rw [h, closedMap_self]; exact hk
  · rw [closedMap_of_ne h]; grind [skip, below]

theorem closedMap_inv {c k j : Nat} : closedMap c k (closedMap k c j) = j := by
  by_cases h : j = k
  · rw [h, closedMap_self, closedMap_self]
  · rw [closedMap_of_ne h, closedMap_of_ne (skip_ne _ _), below_skip, skip_below h]

/-- The loop's point update `fun x => if x = i then v else m x` with the right value carries "the map is right below `i`"
one position further. -/
theorem prefix_succ {α : Type} {m g : Nat → α} {i : Nat} {v : α} (hm : ∀ x, x < i → m x = g x) (hv : v = g i) :
    ∀ x, x < i + 1 → (if x = i then v else m x) = g x := by
  intro x hx
  by_cases h : x = i
  · rw [if_pos h, h, hv]
  · rw [if_neg h, hm x (Nat.lt_of_le_of_ne (Nat.le_of_lt_succ hx) h)]

/-- One round of the loop: `s = i + j` grows, the fuel drops by one. A lemma of its own because `omega` inside the
`fun_induction` context of `goMapLoop_spec` costs more than the whole proof. -/
theorem fuel_mono {n f s s' : Nat} (h : 2 * n ≤ s + (f + 1)) (hs : s < s') : 2 * n ≤ s' + f := by omega

/-- The loop invariant: `i` and `j` have passed the same number of columns other than the moved one,
and the map is right below `i`. Each round advances `i + j`, so `2 * n` rounds suffice. -/
theorem goMapLoop_spec {n c k : Nat} (f i j : Nat) (m : Nat → Nat) (hinv : below c i = below k j)
    (hf : 2 * n ≤ i + j + f) (hm : ∀ x, x < i → m x = closedMap c k x) {x : Nat} (hx : x < n) :
    goMapLoop n c k f i j m x = closedMap c k x := by
  fun_induction goMapLoop n c k f i j m with
  | case1 i j m =>
    -- out of fuel: `2 * n ≤ i + j` and `j ≤ i + 1` give `n ≤ i`
    have := le_succ_of_below_eq hinv
    exact hm x (by omega)
  | case2 f j m hgo ih =>
    exact ih ((below_succ_self c).trans hinv) (fuel_mono hf (Nat.add_lt_add_right (Nat.lt_succ_self c) j))
      (prefix_succ hm (closedMap_self c k).symm)
  | case3 f i m hic hgo ih =>
    exact ih (hinv.trans (below_succ_self k).symm) (fuel_mono hf (Nat.add_lt_add_left (Nat.lt_succ_self k) i)) hm
  | case4 f i j m hgo hic hjk ih =>
    refine ih (by rw [below_succ hic, below_succ hjk, hinv])
      (fuel_mono hf (Nat.add_lt_add (Nat.lt_succ_self i) (Nat.lt_succ_self j))) (prefix_succ hm ?_)
    rw [closedMap_of_ne hic, hinv, skip_below hjk]
  | case5 f i j m hgo =>
    exact hm x (Nat.lt_of_lt_of_le hx (Nat.le_of_not_lt fun h => hgo (Or.inr h)))

theorem goMapping_eq_closedMap {n c k x : Nat} (hx : x < n) : goMapping n c k x = closedMap c k x :=
  goMapLoop_spec (c := c) (k := k) (2 * n + 1) 0 0 _ rfl (by omega) (fun _ h => absurd h (Nat.not_lt_zero _)) hx

/-- **The index loop.** For every schema length and every pair of positions the Go loop computes
the closed-form map. -/
theorem goMapping_closed {n c k x : Nat} (hc : c < n) (hk : k < n) (hx : x < n) :
    goMapping n c k x = closedMap c k x := goMapping_eq_closedMap hx

theorem closedInv_lt {n c k j : Nat} (hc : c < n) (hk : k < n) (hj : j < n) : closedInv c k j < n :=
  closedMap_lt hk hc hj

theorem goMapping_closedInv {n c k j : Nat} (hc : c < n) (hk : k < n) (hj : j < n) :
    goMapping n c k (closedInv c k j) = j := by
  rw [goMapping_eq_closedMap (closedInv_lt hc hk hj)]; exact closedMap_inv

theorem closedInv_goMapping {n c k i : Nat} (hi : i < n) : closedInv c k (goMapping n c k i) = i := by
  rw [goMapping_eq_closedMap hi]; exact closedMap_inv

theorem getElem?_eq_some_getD {α : Type} {l : List α} {i : Nat} (h : i < l.length) (d : α) :
    l[i]? = some (l.getD i d) := by
  rw [List.getD_eq_getElem?_getD, List.getElem?_eq_getElem h]; rfl

theorem eq_map_range {α : Type} {l : List α} {n : Nat} {f : Nat → α} (hl : l.length = n)
    (h : ∀ j, j < n → l[j]? = some (f j)) : l = (List.range n).map f := by
  apply List.ext_getElem?
  intro j
  by_cases hj : j < n
  · rw [h j hj, List.getElem?_map, List.getElem?_range hj]; rfl
  · rw [List.getElem?_eq_none (by omega), List.getElem?_eq_none (by simp; omega)]

theorem getD_map_range {α : Type} {n j : Nat} (f : Nat → α) (hj : j < n) (d : α) :
    ((List.range n).map f).getD j d = f j := by
  rw [List.getD_eq_getElem?_getD, List.getElem?_map, List.getElem?_range hj]; rfl

theorem getElem?_eraseIdx_skip {α : Type} (l : List α) (c y : Nat) : (l.eraseIdx c)[y]? = l[skip c y]? := by
  rw [List.getElem?_eraseIdx, skip]; split <;> rfl

theorem insertAt_eq_insertIdx {α : Type} :
    ∀ (l : List α) (i : Nat) (x : α), i ≤ l.length → insertAt l i x = l.insertIdx i x
  | _, 0, _, _ => rfl
  | a :: l, i + 1, x, h => congrArg (a :: ·) (insertAt_eq_insertIdx l i x (Nat.le_of_succ_le_succ h))

theorem insertAt_eraseIdx {α : Type} (l : List α) (i : Nat) (x : α) (hi : i ≤ l.length) :
    (insertAt l i x).eraseIdx i = l := by
  rw [insertAt_eq_insertIdx l i x hi, List.eraseIdx_insertIdx_self]

theorem insertAt_getElem? {α : Type} (l : List α) (k j : Nat) (x : α) (hk : k ≤ l.length) :
    (insertAt l k x)[j]? = if j = k then some x else l[below k j]? := by
  split
  · next h => rw [h, insertAt_eq_insertIdx l k x hk, List.getElem?_insertIdx_self, if_pos hk]
  · next h =>
    -- read `l` as `(insertAt l k x).eraseIdx k`: away from `k` a lookup in it skips `k`, and `skip k` undoes `below k`
    conv => rhs; rw [← insertAt_eraseIdx l k x hk]
    rw [getElem?_eraseIdx_skip, skip_below h]

theorem insertAt_length {α : Type} (l : List α) (k : Nat) (x : α) : (insertAt l k x).length = l.length + 1 := by
  rw [insertAt, List.length_append, List.length_cons, ← Nat.add_assoc, ← List.length_append,
    List.take_append_drop]

theorem insertAt_perm {α : Type} (l : List α) (k : Nat) (x : α) : (insertAt l k x).Perm (x :: l) := by
  have h := List.perm_middle (a := x) (l₁ := l.take k) (l₂ := l.drop k)
  rwa [List.take_append_drop] at h

theorem moveAt_length {α : Type} {l : List α} {c k : Nat} {x : α} (hc : c < l.length) :
    (moveAt l c k x).length = l.length := by
  rw [moveAt, insertAt_length, List.length_eraseIdx, if_pos hc]; omega

theorem moveAt_getElem? {α : Type} {l : List α} {c k j : Nat} {x : α} (hc : c < l.length)
    (hk : k < l.length) : (moveAt l c k x)[j]? = if j = k then some x else l[closedInv c k j]? := by
  rw [moveAt, insertAt_getElem? _ k j x (by rw [List.length_eraseIdx, if_pos hc]; omega)]
  split
  · rfl
  · next h => rw [getElem?_eraseIdx_skip, closedInv_eq_closedMap, closedMap_of_ne h]

theorem moveAt_eq_map {α : Type} (l : List α) (x d : α) {n c k : Nat} (hn : l.length = n) (hc : c < n) (hk : k < n) :
    moveAt l c k x = (List.range n).map fun j => if j = k then x else l.getD (closedInv c k j) d := by
  subst hn
  refine eq_map_range (moveAt_length hc) fun j hj => ?_
  rw [moveAt_getElem? hc hk]
  split
  · rfl
  · exact getElem?_eq_some_getD (closedInv_lt hc hk hj) d

theorem moveAt_range {n c k : Nat} (hc : c < n) (hk : k < n) :
    moveAt (List.range n) c k c = (List.range n).map (closedInv c k) := by
  rw [moveAt_eq_map _ c 0 List.length_range hc hk]
  refine List.map_congr_left fun j hj => ?_
  have hj : j < n := List.mem_range.1 hj
  split
  · next h => rw [h, closedInv_eq_closedMap, closedMap_self]
  · rw [List.getD_eq_getElem?_getD, List.getElem?_range (closedInv_lt hc hk hj)]; rfl

/-- Scatter = gather. Round `i` of the fold writes `g i` to slot `m i` of the component `π` of its state (`π`, so that one
lemma serves both components of `goBuild`'s pair). Whatever round writes slot `m i` writes that slot's entry `h (m i)` (`hg`),
so it is enough that every slot `j < n` is written in some round `inv j < n` (`hinv`, `hr`): `m` need not be injective. -/
theorem foldl_set_eq_map {σ α : Type} {n : Nat} {m inv : Nat → Nat} {g h : Nat → α} (π : σ → List α)
    {step : σ → Nat → σ} (hstep : ∀ s i, π (step s i) = (π s).set (m i) (g i))
    (hinv : ∀ j, j < n → inv j < n) (hr : ∀ j, j < n → m (inv j) = j)
    (hg : ∀ i, i < n → g i = h (m i)) {init : σ} (hlen : (π init).length = n) :
    π ((List.range n).foldl step init) = (List.range n).map h := by
  have key : ∀ t, t ≤ n →
      (π ((List.range t).foldl step init)).length = n ∧
      ∀ j, j < n → inv j < t → (π ((List.range t).foldl step init))[j]? = some (h j) := by
    intro t
    induction t with
    | zero => exact fun _ => ⟨hlen, fun j _ hj => absurd hj (Nat.not_lt_zero _)⟩
    | succ t ih =>
      intro ht
      obtain ⟨h1, h2⟩ := ih (Nat.le_of_succ_le ht)
      rw [List.range_succ, List.foldl_append, List.foldl_cons, List.foldl_nil, hstep]
      refine ⟨by rw [List.length_set]; exact h1, fun j hj hjt => ?_⟩
      by_cases hit : m t = j
      · subst hit
        rw [List.getElem?_set_self (h1.symm ▸ hj), hg _ ht]
      · rw [List.getElem?_set_ne hit]
        exact h2 j hj (Nat.lt_of_le_of_ne (Nat.le_of_lt_succ hjt) fun e => hit (e ▸ hr j hj))
  obtain ⟨h1, h2⟩ := key n (Nat.le_refl n)
  exact eq_map_range h1 fun j hj => h2 j hj (hinv j hj)

/-- **Schema and projections.** What `modifyColumnInSchema` builds through the index map is: the
schema with column `c` removed and the new column inserted at `k`, and the projection list
"new position ↦ old position" that is the same move applied to `0 … n-1`. -/
theorem goBuild_eq_move (sch : Schema) (c k : Nat) (col : Col) (hc : c < sch.length) (hk : k < sch.length) :
    goBuild sch c k col = (moveAt sch c k col, moveAt (List.range sch.length) c k c) := by
  have hinv := fun j (hj : j < sch.length) => closedInv_lt hc hk hj
  have hr := fun j (hj : j < sch.length) => goMapping_closedInv hc hk hj
  rw [goBuild, moveAt_range hc hk, moveAt_eq_map sch col default rfl hc hk]
  -- with `m := goMapping sch.length c k`, `inv := closedInv c k`; round `i` writes
  -- `if m i = k then col else sch.getD i default` to the schema and `i` to the projections
  refine Prod.ext ?_ ?_
  · refine foldl_set_eq_map Prod.fst (fun _ _ => rfl) hinv hr (fun i hi => ?_) List.length_replicate
    rw [closedInv_goMapping hi]
  · exact foldl_set_eq_map Prod.snd (fun _ _ => rfl) hinv hr (fun i hi => (closedInv_goMapping hi).symm)
      List.length_replicate

theorem mapM_ok_of {α β : Type} {l : List α} {f : α → Except Err β} {g : α → β}
    (h : ∀ a ∈ l, f a = .ok (g a)) : l.mapM f = .ok (l.map g) := by
  induction l with
  | nil => rfl
  | cons a l ih =>
    rw [List.mapM_cons, h a (by simp), ih (fun b hb => h b (by simp [hb]))]
    rfl

/-- A value that fits its column's type is left alone by a conversion to that same type. -/
theorem convAware_self {ty : Ty} {v : Val} (spec : Bool) (h : v.fits ty = true) :
    convAware spec ty ty v = .ok v := by
  unfold Val.fits at h
  split at h
  · cases ty <;> simp [convAware, convertTo]
  · simp at h; simp [convAware, convertTo, toStr, textOf, h]
  · simp [convAware, convertTo, toEnum, Ty.isText, h]
  · cases ty with
    | str n | enum ls => cases h
    | tiny | int | big => simp [Ty.intRange] at h; simp [convAware, convertTo, toInt, intOf, Ty.intRange, h]
  · cases h

theorem rowFits_iff {sch : Schema} {r : Row} : rowFits sch r = true ↔
    r.length = sch.length ∧ ∀ j, j < sch.length → (r.getD j .null).fits (sch.getD j default).ty = true := by
  simp only [rowFits, Bool.and_eq_true, beq_iff_eq, List.all_eq_true, List.mem_range]

/-- **The rewritten row (Spec).** With the schema and projections of `goBuild`, the row written by
the rewrite is the old row with the modified column's value converted and moved from `c` to `k`;
every other value is the value the same column held before. -/
theorem rewriteRow_move {old : Schema} {r : Row} {c k : Nat} {col : Col} {v' : Val}
    (hc : c < old.length) (hk : k < old.length) (hfit : rowFits old r = true)
    (hv : convAware true (old.getD c default).ty col.ty (r.getD c .null) = .ok v') :
    rewriteRow true old (moveAt old c k col) (moveAt (List.range old.length) c k c) r
      = .ok (moveAt r c k v') := by
  obtain ⟨hrl, hfit⟩ := rowFits_iff.1 hfit
  rw [rewriteRow, moveAt_length hc, moveAt_range hc hk, moveAt_eq_map old col default rfl hc hk,
    moveAt_eq_map r v' .null hrl hc hk]
  refine mapM_ok_of fun j hj => ?_
  have hj : j < old.length := List.mem_range.1 hj
  simp only [getD_map_range _ hj, if_true]
  -- the source position is `closedInv c k j` at every `j` (`moveAt_range`); the `if j = k` that is left chooses the new
  -- column and the result; at `j = k` the source is `closedInv c k k = c`, where `hv` speaks
  split
  · next h => rw [h, closedInv_eq_closedMap, closedMap_self]; exact hv
  · exact convAware_self true (hfit _ (closedInv_lt hc hk hj))

theorem step_fail_no_effect (spec : Bool) (t : Table) (op : Op) (e : Err)
    (h : (step spec t op).2 = some e) : (step spec t op).1 = t := by
  unfold step at h ⊢
  split
  · next h' => rw [h'] at h; cases h
  · rfl

theorem add_spec {spec : Bool} {t t' : Table} {c : Col} {p : Pos} (h : alter spec t (.add c p) = .ok t') :
    ∃ i, addIdx t.schema p = some i ∧ t'.schema = insertAt t.schema i c ∧
      t'.rows = t.rows.map (fun r => insertAt r i (addValue c)) ∧ t'.pk = t.pk ∧ t'.key = t.key := by
  rw [alter] at h
  obtain ⟨_, h⟩ := Basics.of_ite_eq h nofun
  cases h1 : addIdx t.schema p with
  | none => rw [h1] at h; cases h
  | some i =>
    rw [h1] at h; cases h
    exact ⟨i, rfl, rfl, rfl, rfl, rfl⟩

end Gms.Alter

namespace Gms.C21
open Gms.Alter

open Gms.Generated.C21 in
theorem facts_match :
    shouldRewriteIsOrderDropOrKeyChange = true ∧
    orderChangedComparesIndexes = true ∧ rewriteWhenNullableToNotNull = true ∧ rewriteSkippedOtherwise = true ∧
    rewriteValidatesNullability = true ∧ rewriteDiscardsOnError = true ∧
    mappingLoopShape = true ∧ newIdxShiftsWhenMovingLeft = true ∧ newSchemaBuiltThroughMapping = true ∧
    enumLabelOnlyForEnumOriginal = true ∧ inplaceUsesOwnOldType = true ∧ inplaceSplices = true := by
  decide

open Gms.Generated.C21 in
/-- The two facts the known findings rest on. The day one of them flips, the Impl model (and the
finding) must go: `rewriteRow` hands the *positional* original type to the conversion because
`projectRowWithTypes` does; CHANGE COLUMN to an existing name is a finding because the analyzer's
modify-column validation has no duplicate-name check. -/
theorem defect_facts : projectRowPositionalOldType = true ∧ modifyValidatesDuplicateName = false := by
  decide

open Gms.Generated.C21 in
/-- The Lean conversion functions reproduce `types.TypeAwareConversion` of the freshly compiled code
on every entry of the regenerated table (all type pairs, boundary values, positional mismatches). -/
theorem conv_table_match :
    convTable.all (fun e => toOpt (convAware false e.1 e.2.1 e.2.2.1) == e.2.2.2) = true := by
  decide +kernel

/-- Region predicates (defect classes decided on the table and the statement). -/
def Region (t : Table) (op : Op) : Prop :=
  enumTextReorder t op = true ∨ emptyStringToInt t op = true ∨ changeToExistingName t op = true ∨
    renameKeyInplace t op = true ∨ afterItself op = true

/-
The property at full strength — FALSE for the unchanged code (findings below):

  theorem alter_impl_eq_spec (t : Table) (hwf : t.wf = true) (op : Op) : alter false t op = alter true t op

Guarded form: for `t.wf = true`, `alter false t op = alter true t op` whenever `¬ Region t op`. It is
*not proved in general* here: the driver evaluates both sides on every generated case (any difference
outside the listed regions is a VIOLATION), and the parts of `alter true` that carry the property are
proved below for all inputs. What is missing for the general guarded equation are lemmas about
`modify`: that the positional and the source original type give the same conversion for every position
of a fitting row outside `enumTextReorder`; that `intOf false` and `intOf true` agree on the values of
the table outside `emptyStringToInt`; that `goKeyInplace` returns the renamed key of a well-formed table
when no key column is renamed; and that the positions `modify` computes lie inside the schema.
-/

/-- **`reorder_is_permutation` / `alter_preserves_retained` for MODIFY and CHANGE (rewrite path).**
For every schema, every pair of positions and every table of fitting rows: the schema
`modifyColumnInSchema` builds is the old schema with the column moved from `c` to `k`, and (Spec)
every rewritten row is the old row with the same move applied and the moved value converted — so
the value under every retained column is the value that column held before. -/
theorem modify_preserves_retained {old : Schema} {rows : List Row} {c k : Nat} {col : Col} (vOf : Row → Val)
    (hc : c < old.length) (hk : k < old.length) (hfit : ∀ r ∈ rows, rowFits old r = true)
    (hv : ∀ r ∈ rows, convAware true (old.getD c default).ty col.ty (r.getD c .null) = .ok (vOf r)) :
    (goBuild old c k col).1 = moveAt old c k col ∧
    rows.mapM (rewriteRow true old (goBuild old c k col).1 (goBuild old c k col).2)
      = .ok (rows.map fun r => moveAt r c k (vOf r)) ∧
    (∀ r ∈ rows, ∀ j, (moveAt r c k (vOf r))[j]? = if j = k then some (vOf r) else r[closedInv c k j]?) ∧
    (∀ j, (moveAt old c k col)[j]? = if j = k then some col else old[closedInv c k j]?) := by
  rw [goBuild_eq_move old c k col hc hk]
  refine ⟨rfl, mapM_ok_of fun r hr => rewriteRow_move hc hk (hfit r hr) (hv r hr), fun r hr j => ?_,
    fun _ => moveAt_getElem? hc hk⟩
  have hrl := (rowFits_iff.1 (hfit r hr)).1
  exact moveAt_getElem? (hrl ▸ hc) (hrl ▸ hk)

/-- The in-place path applies the same move (definitionally) with the column's own original type. -/
theorem inplace_is_move (spec : Bool) (oldTy newTy : Ty) (c k : Nat) (r : Row) (v : Val)
    (h : convAware spec oldTy newTy (r.getD c .null) = .ok v) :
    inplaceRow spec oldTy newTy c k r = .ok (moveAt r c k v) := by
  unfold inplaceRow
  rw [h]

theorem reorder_is_permutation {α : Type} (l : List α) (c k : Nat) (x : α) :
    (moveAt l c k x).Perm (x :: l.eraseIdx c) := insertAt_perm (l.eraseIdx c) k x

/-- ADD COLUMN: the new rows are the old rows with the default (or NULL / the zero value) inserted
at one position; removing that position gives the old row back. -/
theorem add_preserves {spec : Bool} {t t' : Table} {c : Col} {p : Pos} (h : alter spec t (.add c p) = .ok t')
    (hi : ∀ i, addIdx t.schema p = some i → ∀ r ∈ t.rows, i ≤ r.length) :
    ∃ i, t'.schema = insertAt t.schema i c ∧ t'.rows = t.rows.map (fun r => insertAt r i (addValue c)) ∧
      (∀ r ∈ t.rows, (insertAt r i (addValue c)).eraseIdx i = r) := by
  obtain ⟨i, h1, hs, hr, _⟩ := add_spec h
  exact ⟨i, hs, hr, fun r hr => insertAt_eraseIdx r i _ (hi i h1 r hr)⟩

theorem drop_preserves {spec : Bool} {t t' : Table} {nm : Nat} (h : alter spec t (.drop nm) = .ok t') :
    ∃ i, idxOf t.schema nm = some i ∧ t'.schema = t.schema.eraseIdx i ∧
      t'.rows = t.rows.map (fun r => r.eraseIdx i) ∧ t'.pk = t.pk := by
  rw [alter] at h
  cases h1 : idxOf t.schema nm with
  | none => rw [h1] at h; cases h
  | some i =>
    rw [h1] at h
    obtain ⟨_, h⟩ := Basics.of_ite_eq h nofun
    cases h
    exact ⟨i, rfl, rfl, rfl, rfl⟩

/-- `add_pk_rejects_dups`: ADD PRIMARY KEY succeeds only on a table without duplicate or NULL keys,
and leaves the rows alone. -/
theorem add_pk_rejects_dups {spec : Bool} {t t' : Table} {ns : List Nat} (h : alter spec t (.addPk ns) = .ok t') :
    t'.rows = t.rows ∧ t'.pk = ns ∧ hasDupKey t.schema ns t.rows = false ∧
      (∀ r ∈ t.rows, (keyOf t.schema ns r).contains .null = false) := by
  rw [alter] at h
  obtain ⟨_, h⟩ := Basics.of_ite_eq h nofun
  obtain ⟨hn, h⟩ := Basics.of_ite_eq h nofun
  obtain ⟨hd, h⟩ := Basics.of_ite_eq h nofun
  cases h
  refine ⟨rfl, rfl, Bool.not_eq_true _ ▸ hd, fun r hr => ?_⟩
  rw [List.any_eq_true] at hn
  exact Bool.not_eq_true _ ▸ fun hc => hn ⟨r, hr, hc⟩

theorem rename_only_names (spec : Bool) (t : Table) : alter spec t .renameTable = .ok t := rfl

theorem alter_fail_no_effect (spec : Bool) (t : Table) (op : Op) (e : Err)
    (h : (step spec t op).2 = some e) : (step spec t op).1 = t := step_fail_no_effect spec t op e h

def cInt (n : Nat) (nullable : Bool) : Col := { name := n, ty := .int, nullable := nullable, dflt := none }

/-- `CREATE TABLE t (c0 INT PRIMARY KEY, c1 ENUM('x','y','z'), c99 INT NOT NULL)` with rows
`(1,'y',1), (2,'z',2), (3,NULL,3)`. -/
def wT1 : Table :=
  { schema := [cInt 0 false, { name := 1, ty := .enum [['x'], ['y'], ['z']], nullable := true, dflt := none }, cInt 99 false],
    pk := [0], key := [0],
    rows := [[.int 1, .en 2, .int 1], [.int 2, .en 3, .int 2], [.int 3, .null, .int 3]] }

/-- `ALTER TABLE t MODIFY COLUMN c1 VARCHAR(10) NULL FIRST`. -/
def wOp1 : Op := .modify 1 { name := 1, ty := .str 10, nullable := true, dflt := none } .first

/-- **Finding `enum_text_reorder`**: the labels `'y'`, `'z'` are stored as `'2'`, `'3'`. -/
theorem finding_enum_text_reorder :
    wT1.wf = true ∧ enumTextReorder wT1 wOp1 = true ∧
    (alter false wT1 wOp1).toOption.map (·.rows) =
      some [[.str ['2'], .int 1, .int 1], [.str ['3'], .int 2, .int 2], [.null, .int 3, .int 3]] ∧
    (alter true wT1 wOp1).toOption.map (·.rows) =
      some [[.str ['y'], .int 1, .int 1], [.str ['z'], .int 2, .int 2], [.null, .int 3, .int 3]] := by
  decide +kernel

/-- Without the move (in-place path) the same change keeps the labels. -/
theorem inplace_variant_keeps_labels :
    (alter false wT1 (.modify 1 { name := 1, ty := .str 10, nullable := true, dflt := none } .keep)).toOption =
      (alter true wT1 (.modify 1 { name := 1, ty := .str 10, nullable := true, dflt := none } .keep)).toOption ∧
    (alter true wT1 (.modify 1 { name := 1, ty := .str 10, nullable := true, dflt := none } .keep)).toOption.map (·.rows) =
      some [[.int 1, .str ['y'], .int 1], [.int 2, .str ['z'], .int 2], [.int 3, .null, .int 3]] := by
  decide +kernel

/-- `CREATE TABLE t (c0 INT PRIMARY KEY, c1 VARCHAR(5), c99 INT NOT NULL)` with `(1,'',1), (2,'7',2)`;
`ALTER TABLE t MODIFY COLUMN c1 INT NULL`. -/
def wT3 : Table :=
  { schema := [cInt 0 false, { name := 1, ty := .str 5, nullable := true, dflt := none }, cInt 99 false],
    pk := [0], key := [0], rows := [[.int 1, .str [], .int 1], [.int 2, .str ['7'], .int 2]] }
def wOp3 : Op := .modify 1 (cInt 1 true) .keep

/-- **Finding `empty_string_becomes_zero`**: `''` silently becomes 0 (the Spec rejects the statement,
as the engine itself does for `'abc'`). -/
theorem finding_empty_string_becomes_zero :
    wT3.wf = true ∧ emptyStringToInt wT3 wOp3 = true ∧
    (alter false wT3 wOp3).toOption.map (·.rows) = some [[.int 1, .int 0, .int 1], [.int 2, .int 7, .int 2]] ∧
    (alter true wT3 wOp3).toOption = none := by
  decide +kernel

/-- `CREATE TABLE t (c10 INT, c0 INT NOT NULL, c1 INT NOT NULL, c99 INT NOT NULL, PRIMARY KEY (c1, c0))`;
`ALTER TABLE t CHANGE COLUMN c0 c11 INT NOT NULL`. -/
def wT4 : Table :=
  { schema := [cInt 10 true, cInt 0 false, cInt 1 false, cInt 99 false], pk := [1, 0], key := [1, 0],
    rows := [[.null, .int 5, .int 0, .int 1], [.null, .int 4, .int 7, .int 2]] }
def wOp4 : Op := .modify 0 (cInt 11 false) .keep

/-- **Finding `rename_key_column_in_place`**: the key ordinals end up on `(c1, c10)`. -/
theorem finding_rename_key_column_in_place :
    wT4.wf = true ∧ renameKeyInplace wT4 wOp4 = true ∧
    (alter false wT4 wOp4).toOption.map (·.key) = some [1, 10] ∧
    (alter true wT4 wOp4).toOption.map (·.key) = some [1, 11] := by
  decide +kernel

/-- **Finding `change_to_existing_name`**: CHANGE COLUMN c0 c1 … on a table that has a column c1 is
accepted by the Go code path (no duplicate-name validation, `defect_facts`) and rejected by the Spec. -/
theorem finding_change_to_existing_name :
    changeToExistingName wT4 (.modify 0 (cInt 1 false) .keep) = true ∧
    (alter false wT4 (.modify 0 (cInt 1 false) .keep)).toOption.isSome = true ∧
    (alter true wT4 (.modify 0 (cInt 1 false) .keep)).toOption = none := by
  decide +kernel

/-- The hypotheses of `modify_preserves_retained` hold on a table with data: `c = 1`, `k = 0`
(`MODIFY c1 … FIRST`), the value converts in every row. -/
example : (1 < wT1.schema.length ∧ 0 < wT1.schema.length) ∧ (∀ r ∈ wT1.rows, rowFits wT1.schema r = true) ∧
    (∀ r ∈ wT1.rows, (convAware true (wT1.schema.getD 1 default).ty (.str 10) (r.getD 1 .null)).toOption.isSome = true) := by
  decide +kernel

example : goMapping 5 3 1 0 = 0 ∧ goMapping 5 3 1 1 = 2 ∧ goMapping 5 3 1 2 = 3 ∧ goMapping 5 3 1 3 = 1 ∧ goMapping 5 3 1 4 = 4 := by
  decide +kernel

example : moveAt [10, 11, 12, 13, 14] 3 1 99 = [10, 99, 11, 12, 14] := by decide +kernel

/-- A conversion failure is an error without effect. -/
example : (step true wT1 (.modify 1 { name := 1, ty := .tiny, nullable := false, dflt := none } .keep)) = (wT1, some Err.nullNN) := by
  decide +kernel

end Gms.C21
