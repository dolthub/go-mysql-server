/-
C31 — Date and time values parse, format and compute consistently.

Model: `Gms/Model/Cal.lean` (integer calendar; Impl models of dateparse.ParseDateWithFormat,
formatDate, TimeDelta.apply, DateDiff/TimestampDiff; Specs). Helper lemmas: `Gms/Lemmas/Cal*.lean`.
The property theorems are below, in `namespace Gms.C31`; they are quantified over all instants
(`Int` nanoseconds), all civil fields, all item lists / byte strings.

Findings on the unchanged tree (each with a witness theorem and a guarded `…_partial` theorem):
  * str_to_date_invalid_shifted     STR_TO_DATE lets time.Date carry impossible fields (Feb 30 ↦ Mar 2 …)
  * str_to_date_ampm_ignored        %p / %r are parsed and then dropped: not the inverse of DATE_FORMAT
  * datediff_saturates              DATEDIFF goes through time.Duration: saturates beyond 106752 days
  * monthsdiff_minutes_ignored      sql.SecondsPerMinute = int64(time.Second/time.Minute) = 0
  * timedelta_year_month_intermediate_feb29   API level only (no SQL unit has years and months)
  * datetime_text_year_below_1000   the SQL text of a DATE/DATETIME value of year 1..999 has an unpadded year:
                                    it is not the `%Y-%m-%d …` text and does not read back (same root defect as
                                    C28 `date_year_below_1000`; here: format ↔ parse consistency of a computed value)
  * dateadd_result_before_year_zero DATE_ADD/DATE_SUB check the result against ZeroTime (= −0001-11-30 in Go): results
                                    in the 32 days before the year 0 are returned (`-1-12-29 …`) instead of NULL
-/
import Gms.Lemmas.CalDelta
import Gms.Lemmas.CalSqlText
import Gms.Lemmas.CalDiff
import Gms.Lemmas.CalParse
import Gms.Generated.C31

namespace Gms.C31
open Gms.Cal

/-- expected content of `function.dateFormatSpecifierToFunc` (what `Cal.formatSpec` transliterates) -/
def formatTable : List (Nat × String) :=
  [(97, "nil"), (98, "nil"), (99, "monthNum"), (68, "dayWithSuffix"), (100, "nil"), (101, "dayOfMonth"),
   (102, "microsecondsStr"), (72, "nil"), (104, "twelveHourPadded"), (73, "twelveHourPadded"),
   (105, "minutesStr"), (106, "nil"), (107, "twentyFourHourNoPadding"), (108, "twelveHourNoPadding"),
   (77, "fullMonthName"), (109, "nil"), (112, "nil"), (114, "ampmClockStr"), (83, "nil"), (115, "secondsStr"),
   (84, "nil"), (85, "weekMode0"), (117, "weekMode1"), (86, "weekMode2"), (118, "weekMode3"), (87, "dayName"),
   (119, "nil"), (88, "yearMode0"), (120, "yearMode1"), (89, "nil"), (121, "yearTwoDigit")]

/-- expected `switch unit` of `TimestampDiff.Eval` (what `Cal.tsDiffImpl` transliterates) -/
def unitTable : List (String × String) :=
  [("microsecond", "microsecondsDiff(time1, time2)"),
   ("second", "microsecondsDiff(time1, time2) / sql.MicrosecondsPerSecond"),
   ("minute", "microsecondsDiff(time1, time2) / sql.MicrosecondsPerMinute"),
   ("hour", "microsecondsDiff(time1, time2) / sql.MicrosecondsPerHour"),
   ("day", "microsecondsDiff(time1, time2) / sql.MicrosecondsPerDay"),
   ("week", "microsecondsDiff(time1, time2) / sql.MicrosecondsPerWeek"),
   ("month", "monthsDiff(time1, time2)"),
   ("quarter", "monthsDiff(time1, time2) / sql.MonthsPerQuarter"),
   ("year", "monthsDiff(time1, time2) / sql.MonthsPerYear")]

/-- The tables and constants of the source are the ones the model transliterates: the parser map
(`specName` is a lookup in `parseSpecTable`, so equality of the tables fixes the dispatch for every
byte), the specifier lists, the AM/PM guard, DATE_FORMAT's map, TIMESTAMPDIFF's switch, the
`sql.*Per*` constants as compiled (SecondsPerMinute = 0 included). -/
theorem facts_match :
    Generated.C31.parseSpecifiers = parseSpecTable ∧
    Generated.C31.timeSpecifiers = timeSpecifiers.map (·.toNat) ∧
    Generated.C31.dateSpecifiers = dateSpecifiers.map (·.toNat) ∧
    Generated.C31.ampmGuard = "(s == 'H' || s == 'k' || s == 'T') && hasAmPm" ∧
    Generated.C31.parseUsesAmPm = false ∧
    Generated.C31.formatSpecifiers = formatTable ∧
    Generated.C31.timestampDiffUnits = unitTable ∧
    Generated.C31.secondsPerMinute = secondsPerMinuteImpl ∧
    Generated.C31.secondsPerHour = 3600 ∧
    Generated.C31.microsecondsPerSecond = 1000000 ∧
    Generated.C31.microsecondsPerMinute = 60000000 ∧
    Generated.C31.microsecondsPerHour = 3600000000 ∧
    Generated.C31.microsecondsPerDay = 86400000000 ∧
    Generated.C31.microsecondsPerWeek = 604800000000 ∧
    Generated.C31.monthsPerQuarter = 3 ∧
    Generated.C31.monthsPerYear = 12 :=
  ⟨rfl, rfl, rfl, rfl, rfl, rfl, rfl, rfl, rfl, rfl, rfl, rfl, rfl, rfl, rfl, rfl⟩

/-- one row of the dumped table: the Impl model of `datetimeType.SQL` writes the text the compiled code wrote -/
def sampleMatches (e : String × List Int × String) : Bool :=
  match SqlKind.ofName? e.1, e.2.1 with
  | some k, [y, mo, d, h, mi, s, ns] => sqlTextImpl k (goDate ⟨y, mo, d, h, mi, s, ns⟩) == ofString e.2.2
  | _, _ => false

/-- The text `types.Date / Datetime / Datetime3 / DatetimeMaxPrecision .SQL` writes (freshly compiled code,
11 sample values covering the year classes 0, 1..999, 1000..9999 × 4 types) is the text of the Impl model
`sqlTextImpl` — unpadded years included. -/
theorem facts_match_sqltext :
    Generated.C31.sqlTextSamples.all sampleMatches = true ∧ Generated.C31.sqlTextSamples.length = 44 := by
  decide +kernel

def probeMatches (e : List Int × Bool) : Bool :=
  match e.1 with
  | [y, mo, d, h, mi, s, ns] => (validateTime (goDate ⟨y, mo, d, h, mi, s, ns⟩)).isSome == e.2
  | _ => false

/-- `types.ZeroTime` is the instant the model calls `zeroTime` (−0001-11-30 00:00:00), and the compiled
`types.ValidateTime` accepts exactly what the Impl model `validateTime` accepts on 13 probes around both ends
of the range (the last instant before ZeroTime, ZeroTime, the year −1, the year 0, 9999-12-31 23:59:59.999999,
the nanoseconds after it, the year 10000). -/
theorem facts_match_range :
    Generated.C31.zeroTimeFields = [-1, 11, 30, 0, 0, 0, 0] ∧
    fieldsOf zeroTime = ⟨-1, 11, 30, 0, 0, 0, 0⟩ ∧
    Generated.C31.validateTimeProbes.all probeMatches = true ∧ Generated.C31.validateTimeProbes.length = 13 := by
  decide +kernel

/-- every valid civil date is recovered from its day number -/
theorem civil_roundtrip (y m d : Int) (h : 1 ≤ m ∧ m ≤ 12 ∧ 1 ≤ d ∧ d ≤ dim y m) :
    cfd (dfc y m d) = (y, m, d) := Cal.civil_roundtrip y m d h

/-- every day number is the day number of its civil date, and that civil date is valid -/
theorem days_roundtrip (z : Int) :
    dfc (cfd z).1 (cfd z).2.1 (cfd z).2.2 = z ∧
    1 ≤ (cfd z).2.1 ∧ (cfd z).2.1 ≤ 12 ∧ 1 ≤ (cfd z).2.2 ∧ (cfd z).2.2 ≤ dim (cfd z).1 (cfd z).2.1 :=
  ⟨Cal.days_roundtrip z, Cal.cfd_valid z⟩

example : cfd (dfc 2024 2 29) = (2024, 2, 29) := by decide
example : dfc 1970 1 1 = 0 ∧ dfc 2000 3 1 = 11017 := by decide

/-- `time.Date` is the identity on valid fields and every instant has valid fields -/
theorem goDate_fieldsOf_inverse :
    (∀ f, validFields f → fieldsOf (goDate f) = f) ∧ (∀ t, goDate (fieldsOf t) = t ∧ validFields (fieldsOf t)) :=
  ⟨fieldsOf_goDate, fun t => ⟨goDate_fieldsOf t, fieldsOf_valid t⟩⟩

/-- Impl model and Spec of STR_TO_DATE give the same outcome on this input -/
def agrees (date fmt : Str) : Bool :=
  match parseImpl date fmt, parseSpec date fmt with
  | .ok r, .ok (some r') => r == r'
  | .error e, .error e' => e == e'
  | _, _ => false

def implIs (date fmt : Str) (t : Int) : Bool :=
  match parseImpl date fmt with
  | .ok (some t') => t' == t
  | _ => false

/-! ## DATE_FORMAT / STR_TO_DATE are mutual inverses on complete formats -/

/-- For every complete format of the item grammar (`%Y %m %d` all present, optionally `%H %i %s %f`,
harmless literals, no two numeric fields run together) and every instant of year 0..9999:
parsing the formatted text with the same format gives back the instant (restricted to the fields the
format carries: `maskFields`). -/
theorem format_parse_inverse (items : List Item) (f : Fields) (hc : completeItems items = true)
    (hv : validFields f) (hy : 0 ≤ f.y ∧ f.y ≤ 9999) :
    ∃ s, formatImpl (goDate f) (renderItems items) = .ok s ∧
         parseImpl s (renderItems items) = .ok (some (goDate (maskFields items f))) :=
  ⟨_, roundtrip_items items f hc hv hy⟩

/-- with all of `%H %i %s %f` present the instant itself comes back (microsecond precision) -/
theorem format_parse_inverse_full (items : List Item) (f : Fields) (hc : completeItems items = true)
    (hfull : items.contains .H ∧ items.contains .i ∧ items.contains .s ∧ items.contains .f)
    (hv : validFields f) (hy : 0 ≤ f.y ∧ f.y ≤ 9999) (hus : f.ns % 1000 = 0) :
    ∃ s, formatImpl (goDate f) (renderItems items) = .ok s ∧
         parseImpl s (renderItems items) = .ok (some (goDate f)) := by
  obtain ⟨s, h1, h2⟩ := format_parse_inverse items f hc hv hy
  exact ⟨s, h1, by rw [h2, maskFields_full items f hfull hus]⟩

/-- the converse direction on well-formed text: formatting what was parsed reproduces the text
(stated on the text the formatter produces — the well-formed strings of the grammar) -/
theorem parse_format_inverse (items : List Item) (f : Fields) (hc : completeItems items = true)
    (hv : validFields f) (hy : 0 ≤ f.y ∧ f.y ≤ 9999) (s : Str)
    (hs : formatImpl (goDate f) (renderItems items) = .ok s) :
    ∃ t, parseImpl s (renderItems items) = .ok (some t) ∧
      (items.contains .H ∧ items.contains .i ∧ items.contains .s ∧ items.contains .f → f.ns % 1000 = 0 →
        formatImpl t (renderItems items) = .ok s) := by
  obtain ⟨h1, h2⟩ := roundtrip_items items f hc hv hy
  rw [h1] at hs
  have hs' : s = items.flatMap (itemText f) := by injection hs with h; exact h.symm
  subst hs'
  exact ⟨_, h2, fun hfull hus => by rw [maskFields_full items f hfull hus]; exact h1⟩

-- non-vacuity: `%Y-%m-%d %H:%i:%s.%f` is a complete format
example : completeItems [.Y, .lit 45, .m, .lit 45, .d, .lit 84, .H, .lit 58, .i, .lit 58, .s, .lit 46, .f] = true := by
  decide
example : itemsOf? [37, 89, 45, 37, 109, 45, 37, 100] = some [.Y, .lit 45, .m, .lit 45, .d] := by decide

/-- FULL STATEMENT (false on the unchanged tree): the 12-hour formats `%h:%i:%s %p` / `%r` are
complete as well, but `ParseDateWithFormat` never looks at the AM/PM it parsed.
    ∀ dt, ¬ invalid → parseImpl = parseSpec -/
theorem finding_str_to_date_ampm_ignored : ∃ date fmt, agrees date fmt = false ∧ implIs date fmt (goDate ⟨0, 0, 0, 3, 0, 0, 0⟩) = true :=
  -- STR_TO_DATE('03 PM', '%h %p') = 03:00 instead of 15:00
  ⟨[48, 51, 32, 80, 77], [37, 104, 32, 37, 112], by decide +kernel, by decide +kernel⟩

/-! ## Invalid dates are rejected rather than silently shifted -/

/-- The Spec never shifts: when it yields an instant for a text with a date part, the instant's
calendar fields are exactly the numbers that were read. -/
theorem spec_never_shifts (date fmt : Str) (dt : PDT) (t : Int)
    (hp : parseFields date fmt = .ok dt) (hs : parseSpec date fmt = .ok (some (some t)))
    (hd : hasDatePart dt = true) : fieldsOf t = specFields dt := by
  rw [parseSpec_of_fields hp] at hs
  split at hs
  · simp at hs
  · split at hs
    · next hv =>
      obtain rfl : goDate (specFields dt) = t := by simpa using hs
      exact fieldsOf_goDate _ (specFields_valid dt hv hd)
    · simp at hs

/-- FULL STATEMENT (false on the unchanged tree): `∀ date fmt, parseImpl date fmt` agrees with
`parseSpec`. Guarded version: outside the two regions (and without `%j`) the implementation returns
exactly what the Spec demands — in particular a text that parses to a valid date is not changed. -/
theorem invalid_rejected_partial (date fmt : Str) (dt : PDT) (hp : parseFields date fmt = .ok dt)
    (hj : dt.dayOfYear = none)
    (h1 : str_to_date_invalid_shifted dt = false) (h2 : str_to_date_ampm_ignored dt = false) :
    ∃ r, parseImpl date fmt = .ok r ∧ parseSpec date fmt = .ok (some r) := by
  rw [parseImpl_of_fields hp, parseSpec_of_fields hp]
  refine ⟨_, rfl, ?_⟩
  split
  · rfl
  · next he =>
    have hv : specValid dt = true := by simpa [str_to_date_invalid_shifted, he] using h1
    -- outside the second region AM/PM leaves the hour as read
    have hh : (specFields dt).h = getD dt.hours := by
      simp only [str_to_date_ampm_ignored, he, hv, Bool.not_false, Bool.true_and] at h2
      simp only [specFields]
      cases ham : dt.am with
      | none => rfl
      | some v =>
        rw [ham] at h2
        cases v
        · simp only [decide_eq_false_iff_not] at h2
          simp only [if_neg h2]
        · simp only [decide_eq_false_iff_not] at h2
          simp only [if_neg h2]
    rw [if_pos hv, assemble_eq_spec dt hj hh]

/-- witness: `STR_TO_DATE('2023-02-29', '%Y-%m-%d')` is 2023-03-01 in the Impl model; the Spec rejects -/
theorem finding_str_to_date_invalid_shifted :
    ∃ date fmt, agrees date fmt = false ∧ implIs date fmt (goDate ⟨2023, 3, 1, 0, 0, 0, 0⟩) = true :=
  ⟨[50, 48, 50, 51, 45, 48, 50, 45, 50, 57], [37, 89, 45, 37, 109, 45, 37, 100], by decide +kernel, by decide +kernel⟩

/-! ## Adding then subtracting an interval -/

/-- `TimeDelta.apply` is the MySQL interval arithmetic (one month count, one clamp) outside the
API-only region. -/
theorem timedelta_eq_spec_partial (td : Delta) (sign t : Int) (hs : sign = 1 ∨ sign = -1)
    (hr : intermediateFeb29 td sign t = false) : applyDelta td sign t = specDelta td sign t :=
  applyDelta_eq_specDelta td sign t hr

/-- FULL STATEMENT (false): `∀ td sign t, applyDelta td sign t = specDelta td sign t`. -/
theorem finding_timedelta_year_month_intermediate_feb29 :
    ∃ td sign t, applyDelta td sign t ≠ specDelta td sign t :=
  ⟨⟨1, 1, 0, 0, 0, 0, 0⟩, -1, goDate ⟨2024, 2, 29, 0, 0, 0, 0⟩, by decide +kernel⟩

/-- Spec: adding then subtracting the same interval restores the instant when no end-of-month
clamp occurs. -/
theorem add_sub_interval_spec (td : Delta) (t : Int) (hc : clamps td 1 t = false) (hm : mixedDelta td = false) :
    specDelta td (-1) (specDelta td 1 t) = t := by
  simp only [mixedDelta, decide_eq_false_iff_not] at hm
  have hm' : (td.years = 0 ∧ td.months = 0) ∨ (td.days = 0 ∧ td.duration 1 = 0) := by omega
  rcases hm' with ⟨hy, hmo⟩ | ⟨hd, hu⟩
  · rw [specDelta_nocal td 1 t hy hmo, specDelta_nocal td (-1) _ hy hmo, duration_neg]
    simp only [nsDay]; omega
  · have hdur : td.duration (-1) = 0 := by rw [duration_neg, hu]; rfl
    have back : ∀ k : Int, 1 * k + -1 * k = 0 := by intros; omega
    simp only [specDelta_eq, hd, hu, hdur, Int.zero_mul, Int.add_zero]
    rw [addMonths_addMonths, back, addMonths_zero]
    -- left: the side condition of `addMonths_addMonths`. No clamp on the way out: the day is kept
    exact Or.inl ((clamps_eq_false_iff td 1 t).mp hc)

/-- Impl model: every interval one SQL unit can denote (years or months but not both, or an exact
day…microsecond amount) is undone by subtracting it, when no end-of-month clamp occurs. -/
theorem add_sub_interval (td : Delta) (t : Int) (hsql : td.years = 0 ∨ td.months = 0)
    (hm : mixedDelta td = false) (hc : clamps td 1 t = false) :
    applyDelta td (-1) (applyDelta td 1 t) = t := by
  rw [applyDelta_eq_specDelta td 1 t (intermediateFeb29_single td 1 t hsql),
    applyDelta_eq_specDelta td (-1) _ (intermediateFeb29_single td (-1) _ hsql)]
  exact add_sub_interval_spec td t hc hm

-- non-vacuity: one month from 2024-03-30 does not clamp; from 2024-01-31 it does
example : clamps ⟨0, 1, 0, 0, 0, 0, 0⟩ 1 (goDate ⟨2024, 3, 30, 12, 0, 0, 0⟩) = false := by decide
example : clamps ⟨0, 1, 0, 0, 0, 0, 0⟩ 1 (goDate ⟨2024, 1, 31, 0, 0, 0, 0⟩) = true ∧
    applyDelta ⟨0, 1, 0, 0, 0, 0, 0⟩ (-1) (applyDelta ⟨0, 1, 0, 0, 0, 0, 0⟩ 1 (goDate ⟨2024, 1, 31, 0, 0, 0, 0⟩))
      = goDate ⟨2024, 1, 29, 0, 0, 0, 0⟩ := by decide +kernel

/-- days are exact: `AddDate(0, 0, n)` moves by `n · 24h` -/
theorem add_days_exact (t n : Int) : addDays t n = t + n * nsDay := addDays_eq t n

/-! ## DATEDIFF and TIMESTAMPDIFF -/

/-- Spec of DATEDIFF in civil terms: difference of the day numbers of the two civil dates -/
theorem datediff_spec_civil (f1 f2 : Fields) (h1 : validFields f1) (h2 : validFields f2) :
    dateDiffSpec (goDate f1) (goDate f2) = dfc f1.y f1.mo f1.d - dfc f2.y f2.mo f2.d := by
  rw [dateDiffSpec, (goDate_divMod f1 h1).1, (goDate_divMod f2 h2).1]

/-- FULL STATEMENT (false): `∀ t1 t2, dateDiffImpl t1 t2 = dateDiffSpec t1 t2`. -/
theorem datediff_eq_days_partial (t1 t2 : Int) (h : datediff_saturates t1 t2 = false) :
    dateDiffImpl t1 t2 = dateDiffSpec t1 t2 := by
  simp only [datediff_saturates, decide_eq_false_iff_not] at h
  rw [dateDiffImpl_eq, dateDiffSpec]
  omega

theorem finding_datediff_saturates : ∃ t1 t2, dateDiffImpl t1 t2 ≠ dateDiffSpec t1 t2 :=
  -- DATEDIFF('2400-01-01', '2000-01-01') = 106752 instead of 146097
  ⟨goDate ⟨2400, 1, 1, 0, 0, 0, 0⟩, goDate ⟨2000, 1, 1, 0, 0, 0, 0⟩, by decide +kernel⟩

example : datediff_saturates (goDate ⟨2024, 3, 1, 1, 0, 0, 0⟩) (goDate ⟨2024, 2, 28, 23, 0, 0, 0⟩) = false ∧
    dateDiffImpl (goDate ⟨2024, 3, 1, 1, 0, 0, 0⟩) (goDate ⟨2024, 2, 28, 23, 0, 0, 0⟩) = 2 := by decide +kernel

/-- TIMESTAMPDIFF(SECOND) of instants on whole seconds is the difference of their second counts -/
theorem timestampdiff_seconds (t1 t2 : Int) (h1 : t1 % nsSec = 0) (h2 : t2 % nsSec = 0) :
    tsDiffImpl .second t1 t2 = t2 / nsSec - t1 / nsSec :=
  microsDiff_aligned 1000000 t1 t2 (by decide) h1 h2

/-- TIMESTAMPDIFF(DAY) of two midnights is DATEDIFF's Spec with the arguments swapped -/
theorem timestampdiff_days (t1 t2 : Int) (h1 : t1 % nsDay = 0) (h2 : t2 % nsDay = 0) :
    tsDiffImpl .day t1 t2 = dateDiffSpec t2 t1 :=
  microsDiff_aligned 86400000000 t1 t2 (by decide) h1 h2

/-- in general the sub-day units truncate the exact microsecond difference toward zero -/
theorem timestampdiff_truncates (t1 t2 : Int) (h : 0 ≤ microsDiff t1 t2) :
    tsDiffImpl .second t1 t2 * 1000000 ≤ microsDiff t1 t2 ∧
    microsDiff t1 t2 < (tsDiffImpl .second t1 t2 + 1) * 1000000 := by
  simp only [tsDiffImpl]
  rw [Int.tdiv_eq_ediv_of_nonneg h]
  omega

example : (goDate ⟨2024, 1, 1, 0, 0, 1, 0⟩) % nsSec = 0 ∧
    tsDiffImpl .second (goDate ⟨2024, 1, 1, 0, 0, 1, 0⟩) (goDate ⟨2024, 1, 2, 0, 0, 0, 0⟩) = 86399 := by decide +kernel

/-- with a correct seconds-per-minute constant `monthsDiff` is the number of complete months -/
theorem monthsDiff_correct_constant (t1 t2 : Int) : monthsDiffWith 60 t1 t2 = monthsDiffSpec t1 t2 :=
  monthsDiffWith_eq_spec 60 t1 t2 (Or.inl rfl)

/-- FULL STATEMENT (false): `∀ t1 t2, monthsDiff t1 t2 = monthsDiffSpec t1 t2`. -/
theorem monthsdiff_partial (t1 t2 : Int) (hr : monthsdiff_minutes_ignored t1 t2 = false) :
    monthsDiff t1 t2 = monthsDiffSpec t1 t2 := by
  simp only [monthsdiff_minutes_ignored, decide_eq_false_iff_not, not_and, Decidable.not_not] at hr
  exact monthsDiffWith_eq_spec _ t1 t2 (Or.inr hr)

theorem finding_monthsdiff_minutes_ignored : ∃ t1 t2, monthsDiff t1 t2 ≠ monthsDiffSpec t1 t2 :=
  -- TIMESTAMPDIFF(MONTH, '2024-01-15 10:30:00', '2024-02-15 10:00:00') = 1 instead of 0
  ⟨goDate ⟨2024, 1, 15, 10, 30, 0, 0⟩, goDate ⟨2024, 2, 15, 10, 0, 0, 0⟩, by decide +kernel⟩

/-- TIMESTAMPDIFF on the calendar units = Spec outside the region; on the other units always -/
theorem timestampdiff_partial (u : TsUnit) (t1 t2 : Int) (hr : monthsdiff_minutes_ignored t1 t2 = false) :
    tsDiffImpl u t1 t2 = tsDiffSpec u t1 t2 := by
  cases u <;> simp only [tsDiffImpl, tsDiffSpec, monthsdiff_partial t1 t2 hr]

/-- month counting inverts month addition: `n ≥ 0` whole months after `t` (no clamp) are counted as `n` -/
example : monthsDiffSpec (goDate ⟨2024, 1, 15, 8, 0, 0, 0⟩)
    (specDelta ⟨0, 13, 0, 0, 0, 0, 0⟩ 1 (goDate ⟨2024, 1, 15, 8, 0, 0, 0⟩)) = 13 := by decide +kernel

/-! ## The SQL text of a DATE / DATETIME value (what a client is sent for a temporal result)

Spec: the text is the canonical `%Y-%m-%d[ %H:%i:%s[.%f]]` rendering — the one DATE_FORMAT produces
(`sqltext_spec_is_date_format`) and, for the date part, STR_TO_DATE reads back to the same value
(`sqltext_spec_reads_back`; the DATETIME text joins date and clock by a blank, which is no literal of the item grammar).
Impl model: `appendDateFormat` / `appendDatetimeFormat` / `appendTimeFormat` / `appendMicroseconds`. -/

def dateItems : List Item := [.Y, .lit 45, .m, .lit 45, .d]
def clockItems : List Item := [.H, .lit 58, .i, .lit 58, .s]
def clock6Items : List Item := [.H, .lit 58, .i, .lit 58, .s, .lit 46, .f]

example : renderItems dateItems = ofString "%Y-%m-%d" ∧ renderItems clock6Items = ofString "%H:%i:%s.%f" := by decide

theorem dateItems_text (f : Fields) : dateItems.flatMap (itemText f) = sqlDateSpecF f := by
  simp [dateItems, itemText, Item.w, Item.val, sqlDateSpecF]

/-- the Spec text is DATE_FORMAT's: date part `%Y-%m-%d`, clock part `%H:%i:%s` resp. `%H:%i:%s.%f`
(the `formatDate` model is tied to the code for years 0..9999) -/
theorem sqltext_spec_is_date_format (t : Int) :
    formatImpl t (renderItems dateItems) = .ok (sqlDateSpec t) ∧
    formatImpl t (renderItems clockItems) = .ok (sqlTimeSpecF (fieldsOf t) 0) ∧
    formatImpl t (renderItems clock6Items) = .ok (sqlTimeSpecF (fieldsOf t) 6) := by
  have hv := fieldsOf_valid t
  obtain ⟨_, _, _, _, _, _, _, _, _, _, h7, h8⟩ := hv
  refine ⟨?_, ?_, ?_⟩
  · rw [format_items t dateItems (by decide), dateItems_text]; rfl
  · rw [format_items t clockItems (by decide)]
    simp [clockItems, itemText, Item.w, Item.val, sqlTimeSpecF]
  · rw [format_items t clock6Items (by decide)]
    have : ((fieldsOf t).ns / 1000).toNat < 10 ^ 6 := by omega
    simp [clock6Items, itemText, Item.w, Item.val, sqlTimeSpecF, padShow_lt 6 _ this]

/-- … and it reads back: STR_TO_DATE of the Spec text of a date, with the same format, is that date -/
theorem sqltext_spec_reads_back (f : Fields) (hv : validFields f) (hy : 0 ≤ f.y ∧ f.y ≤ 9999) :
    parseImpl (sqlDateSpecF f) (renderItems dateItems) = .ok (some (goDate { f with h := 0, mi := 0, s := 0, ns := 0 })) := by
  rw [← dateItems_text, (roundtrip_items dateItems f (by decide) hv hy).2]; rfl

/-- FULL STATEMENT (false on the unchanged tree): `∀ k t, year 0..9999 → sqlTextImpl k t = sqlTextSpec k t`.
Guarded: outside the year class 1..999 the text sent for a DATE / DATETIME(p ≤ 6) value is the Spec text. -/
theorem sqltext_eq_spec_partial (k : SqlKind) (t : Int) (hk : ∀ p, k = .datetime p → p ≤ 6)
    (hy : 0 ≤ (fieldsOf t).y ∧ (fieldsOf t).y ≤ 9999) (hr : datetime_text_year_below_1000 t = false) :
    sqlTextImpl k t = sqlTextSpec k t := by
  have hr' : ¬ (1 ≤ (fieldsOf t).y ∧ (fieldsOf t).y ≤ 999) := by
    simpa [datetime_text_year_below_1000] using hr
  exact (sqlText_eq_iff k t hk (by omega)).mpr (yearText_eq _ hy hr')

/-- the region is exact: for every value of year 1..999 the text differs from the Spec text -/
theorem sqltext_ne_spec_in_region (k : SqlKind) (t : Int) (hk : ∀ p, k = .datetime p → p ≤ 6)
    (hr : datetime_text_year_below_1000 t = true) : sqlTextImpl k t ≠ sqlTextSpec k t := by
  have hr' : 1 ≤ (fieldsOf t).y ∧ (fieldsOf t).y ≤ 999 := by
    simpa [datetime_text_year_below_1000] using hr
  exact fun h => yearText_ne _ hr' ((sqlText_eq_iff k t hk (by omega)).mp h)

/-- witness: `DATE_SUB('1000-05-07 11:28:39', INTERVAL 41 YEAR)` of type DATETIME(6) is sent as
`959-05-07 11:28:39.000000`; the Spec text is `0959-05-07 11:28:39.000000` -/
theorem finding_datetime_text_year_below_1000 :
    ∃ k t, sqlTextImpl k t ≠ sqlTextSpec k t ∧
      sqlTextImpl k t = ofString "959-05-07 11:28:39.000000" ∧ sqlTextSpec k t = ofString "0959-05-07 11:28:39.000000" :=
  ⟨.datetime 6, applyDelta ⟨41, 0, 0, 0, 0, 0, 0⟩ (-1) (goDate ⟨1000, 5, 7, 11, 28, 39, 0⟩), by decide +kernel, by decide +kernel, by decide +kernel⟩

-- non-vacuity of the guard: years 0, 1000 and 9999 are outside the region and written alike
example : datetime_text_year_below_1000 (goDate ⟨1000, 1, 1, 0, 0, 0, 0⟩) = false ∧
    datetime_text_year_below_1000 (goDate ⟨0, 5, 7, 0, 0, 0, 0⟩) = false ∧
    sqlTextImpl (.datetime 0) (goDate ⟨0, 5, 7, 11, 28, 39, 0⟩) = ofString "0000-05-07 11:28:39" ∧
    sqlTextImpl (.datetime 3) (goDate ⟨9999, 12, 31, 23, 59, 59, 7000000⟩) = ofString "9999-12-31 23:59:59.007" ∧
    sqlTextImpl .date (goDate ⟨999, 12, 31, 0, 0, 0, 0⟩) = ofString "999-12-31" := by decide +kernel

/-! ## The result range of DATE_ADD / DATE_SUB -/

/-- FULL STATEMENT (false on the unchanged tree): `∀ t, validateTime t = validateTimeSpec t` — a result
outside the years 0..9999 is NULL. Guarded: true outside the 32-day window before the year 0. -/
theorem dateadd_range_partial (t : Int) (hr : dateadd_result_before_year_zero t = false) :
    validateTime t = validateTimeSpec t := by
  have hz : zeroTime < yearZeroStart := by decide
  simp only [dateadd_result_before_year_zero, Bool.and_eq_false_iff, decide_eq_false_iff_not] at hr
  unfold validateTime validateTimeSpec
  by_cases h1 : t < zeroTime
  · have : t < yearZeroStart := by omega
    simp [h1, this]
  · have h2 : ¬ t < yearZeroStart := by omega
    simp [h1, h2]

/-- the Impl range is never narrower than the Spec range: what the Spec accepts is returned unchanged -/
theorem dateadd_range_complete (t v : Int) (h : validateTimeSpec t = some v) : validateTime t = some v := by
  have hz : zeroTime < yearZeroStart := by decide
  unfold validateTimeSpec at h
  unfold validateTime
  split at h
  · simp at h
  · rename_i hn
    have : ¬ (t < zeroTime ∨ t > maxTime) := by omega
    simp only [this, if_false]; exact h

/-- in the region a date of the year −1 (or the zero date) is returned where the Spec demands NULL -/
theorem dateadd_range_in_region (t : Int) (hr : dateadd_result_before_year_zero t = true) :
    validateTime t = some t ∧ validateTimeSpec t = none := by
  have hm : yearZeroStart < maxTime := by decide
  simp only [dateadd_result_before_year_zero, Bool.and_eq_true, decide_eq_true_eq] at hr
  unfold validateTime validateTimeSpec
  have h1 : ¬ (t < zeroTime ∨ t > maxTime) := by omega
  simp [h1, hr.2]

/-- witness: `DATE_ADD('0009-12-29 17:55:07', INTERVAL -10 YEAR)` is returned as `-1-12-29 17:55:07.000000`
(NULL expected, as for `INTERVAL -11 YEAR`); `DATE_SUB('0000-01-01', INTERVAL 32 DAY)` is the zero date -/
theorem finding_dateadd_result_before_year_zero :
    ∃ t, validateTime t ≠ validateTimeSpec t ∧ sqlTextImpl (.datetime 6) t = ofString "-1-12-29 17:55:07.000000" :=
  ⟨applyDelta ⟨-10, 0, 0, 0, 0, 0, 0⟩ 1 (goDate ⟨9, 12, 29, 17, 55, 7, 0⟩), by decide +kernel, by decide +kernel⟩

example : validateTime (applyDelta ⟨-11, 0, 0, 0, 0, 0, 0⟩ 1 (goDate ⟨9, 12, 29, 17, 55, 7, 0⟩)) = none := by decide +kernel
example : applyDelta ⟨0, 0, 32, 0, 0, 0, 0⟩ (-1) yearZeroStart = zeroTime ∧
    sqlTextImpl (.datetime 6) zeroTime = ofString "0000-00-00 00:00:00.000000" ∧
    dateadd_result_before_year_zero zeroTime = true := by decide +kernel
example : dateadd_result_before_year_zero (goDate ⟨1000, 1, 1, 0, 0, 0, 0⟩) = false ∧
    validateTime (goDate ⟨1000, 1, 1, 0, 0, 0, 0⟩) = some (goDate ⟨1000, 1, 1, 0, 0, 0, 0⟩) := by decide +kernel

end Gms.C31
