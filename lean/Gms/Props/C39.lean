/-
C39 — Privilege checks allow exactly what the grants permit.

Model: Gms/Model/Priv.lean (Impl: privilege_set.go, mysql_db.go, auth_default.go, plan/grant.go,
plan/revoke.go, rowexec/priv.go; Spec: a privilege set is a set of grants). Lemmas: Gms/Lemmas/Priv.lean.
The property theorems are in `namespace Gms.C39`.
-/
import Gms.Lemmas.Priv
import Gms.Generated.C39

namespace Gms.Priv

/-- A `switch priv.Type` table of grant.go / revoke.go, as (plan privilege, sql privilege) pairs, is
the model's level table `types` with the model's conversion `planToSql`. -/
def casesOk (cases : List (Nat × Nat)) (types : List Nat) : Bool :=
  cases.length == types.length &&
  cases.all (fun c => types.contains c.1 && planToSql c.1 == some c.2) &&
  types.all (fun t => cases.any (fun c => c.1 == t))

def simpleAuthNames : List String :=
  ["ALTER", "ALTER_ROUTINE", "CREATE", "CREATE_ROUTINE", "CREATE_TEMP", "CREATE_USER", "CREATE_VIEW", "DELETE", "DROP", "EVENT",
   "FILE", "FOREIGN_KEY", "INDEX", "INSERT", "LOCK", "PROCESS", "RELOAD", "REPLACE", "REPLICATION_CLIENT", "SELECT", "SUPER",
   "TRIGGER", "UPDATE"]

/-- The case labels of `HandleAuth`'s first switch whose body is not just `privilegeTypes = …`, in
source order; the model has a branch for each (`SHOW`'s body is empty: no privilege needed). -/
def specialAuthTypes : List String :=
  ["IGNORE", "ALTER_USER", "BINLOG", "CALL", "CREATE_ROLE", "DROP_ROLE", "GRANT_PRIVILEGE", "GRANT_PROXY", "GRANT_ROLE",
   "RENAME", "REPLICATION", "REVOKE_ALL", "REVOKE_PRIVILEGE", "REVOKE_PROXY", "REVOKE_ROLE", "SHOW",
   "SHOW_CREATE_PROCEDURE", "VISIBLE", "default"]

end Gms.Priv

namespace Gms.C39
open Gms.Priv Gms.Generated.C39

/-- `sql.PrivilegeType` and `plan.PrivilegeType` are the enumerations the model's constants number
(`P_Select = 0 … P_DropRole = 30`; `PT_All = 0 … PT_Usage = 32, PT_Dynamic = 33`). -/
theorem facts_enums :
    enumsAgreeAtRuntime = true ∧
    sqlPrivNames = ["PrivilegeType_Select", "PrivilegeType_Insert", "PrivilegeType_Update", "PrivilegeType_Delete",
      "PrivilegeType_Create", "PrivilegeType_Drop", "PrivilegeType_Reload", "PrivilegeType_Shutdown", "PrivilegeType_Process",
      "PrivilegeType_File", "PrivilegeType_GrantOption", "PrivilegeType_References", "PrivilegeType_Index", "PrivilegeType_Alter",
      "PrivilegeType_ShowDB", "PrivilegeType_Super", "PrivilegeType_CreateTempTable", "PrivilegeType_LockTables",
      "PrivilegeType_Execute", "PrivilegeType_ReplicationSlave", "PrivilegeType_ReplicationClient", "PrivilegeType_CreateView",
      "PrivilegeType_ShowView", "PrivilegeType_CreateRoutine", "PrivilegeType_AlterRoutine", "PrivilegeType_CreateUser",
      "PrivilegeType_Event", "PrivilegeType_Trigger", "PrivilegeType_CreateTablespace", "PrivilegeType_CreateRole",
      "PrivilegeType_DropRole"] ∧
    planPrivNames = ["PrivilegeType_All", "PrivilegeType_Alter", "PrivilegeType_AlterRoutine", "PrivilegeType_Create",
      "PrivilegeType_CreateRole", "PrivilegeType_CreateRoutine", "PrivilegeType_CreateTablespace",
      "PrivilegeType_CreateTemporaryTables", "PrivilegeType_CreateUser", "PrivilegeType_CreateView", "PrivilegeType_Delete",
      "PrivilegeType_Drop", "PrivilegeType_DropRole", "PrivilegeType_Event", "PrivilegeType_Execute", "PrivilegeType_File",
      "PrivilegeType_GrantOption", "PrivilegeType_Index", "PrivilegeType_Insert", "PrivilegeType_LockTables",
      "PrivilegeType_Process", "PrivilegeType_References", "PrivilegeType_Reload", "PrivilegeType_ReplicationClient",
      "PrivilegeType_ReplicationSlave", "PrivilegeType_Select", "PrivilegeType_ShowDatabases", "PrivilegeType_ShowView",
      "PrivilegeType_Shutdown", "PrivilegeType_Super", "PrivilegeType_Trigger", "PrivilegeType_Update", "PrivilegeType_Usage",
      "PrivilegeType_Dynamic"] ∧
    validDynamicConsts = ["DynamicPrivilege_ReplicationSlaveAdmin", "DynamicPrivilege_CloneAdmin"] :=
  ⟨rfl, rfl, rfl, rfl⟩

/-- `convertToSqlPrivilegeType` and the `switch` tables of `Grant.Handle*Privileges` /
`Revoke.Handle*Privileges` are the model's `planToSql` and level tables, with the expected methods. -/
theorem facts_level_tables :
    casesOk convertCases globalTypes = true ∧ convertSpecials = [PT_All, PT_Usage, PT_Dynamic] ∧
    casesOk grantHandleGlobalPrivilegesCases globalTypes = true ∧ grantHandleGlobalPrivilegesSpecials = [PT_All, PT_Usage, PT_Dynamic, 99] ∧
    casesOk grantHandleDatabasePrivilegesCases dbTypes = true ∧ grantHandleDatabasePrivilegesSpecials = [PT_All, PT_Usage, PT_Dynamic, 99] ∧
    casesOk grantHandleTablePrivilegesCases tblTypes = true ∧ grantHandleTablePrivilegesSpecials = [PT_All, PT_Usage, PT_Dynamic, 99] ∧
    casesOk grantHandleRoutinePrivilegesCases rtnTypes = true ∧ grantHandleRoutinePrivilegesSpecials = [99] ∧
    casesOk revokeHandleGlobalPrivilegesCases globalTypes = true ∧ revokeHandleGlobalPrivilegesSpecials = [PT_All, PT_Usage, PT_Dynamic, 99] ∧
    casesOk revokeHandleDatabasePrivilegesCases dbTypes = true ∧ revokeHandleDatabasePrivilegesSpecials = [PT_All, PT_Usage, PT_Dynamic, 99] ∧
    casesOk revokeHandleTablePrivilegesCases tblTypes = true ∧ revokeHandleTablePrivilegesSpecials = [PT_All, PT_Usage, PT_Dynamic, 99] ∧
    casesOk revokeHandleRoutinePrivilegesCases rtnTypes = true ∧ revokeHandleRoutinePrivilegesSpecials = [99] ∧
    [convertMethod, grantHandleGlobalPrivilegesMethod, grantHandleDatabasePrivilegesMethod, grantHandleTablePrivilegesMethod,
     grantHandleRoutinePrivilegesMethod, revokeHandleGlobalPrivilegesMethod, revokeHandleDatabasePrivilegesMethod,
     revokeHandleTablePrivilegesMethod, revokeHandleRoutinePrivilegesMethod] =
    ["append", "AddGlobalStatic", "AddDatabase", "AddTable", "AddRoutine", "RemoveGlobalStatic", "RemoveDatabase", "RemoveTable",
     "RemoveRoutine"] := by
  decide +kernel

/-- The privilege lists behind `ALL`: what GRANT ALL adds and what the `CheckAuth` methods demand. -/
theorem facts_all_lists :
    grantAllGlobal = allGlobal ∧ grantAllDb = allDb ∧ grantAllTbl = allTbl ∧
    grantCheckAllGlobal = allGlobalWithGrant ∧ grantCheckAllDb = allDbWithGrant ∧ grantCheckAllTbl = allTblWithGrant ∧
    revokeCheckAllGlobal = allGlobalWithGrant ∧ revokeCheckAllDb = allDbWithGrant ∧ revokeCheckAllTbl = allTblWithGrant :=
  ⟨rfl, rfl, rfl, rfl, rfl, rfl, rfl, rfl, rfl⟩

/-- `HandleAuth`: AuthType ↦ required privileges (first switch), its other case labels, the TargetType
cases (second switch), the parser's string constants, and the conditions tested by `UserHasPrivileges`. -/
theorem facts_handle_auth :
    handleAuthSimple.map (·.1) = simpleAuthNames ∧
    (∀ e ∈ handleAuthSimple, simpleAuth e.1 = some e.2) ∧
    handleAuthSpecial = specialAuthTypes ∧
    handleAuthTargetTypes = ["AuthTargetType_Ignore", "AuthTargetType_DatabaseIdentifiers", "AuthTargetType_Global",
      "AuthTargetType_MultipleTableIdentifiers", "AuthTargetType_SingleTableIdentifier", "AuthTargetType_TableColumn",
      "AuthTargetType_TODO", "default"] ∧
    parserAuthConsts = [("AuthType_SELECT", "SELECT", ""), ("AuthType_IGNORE", "IGNORE", ""), ("AuthType_LOCK", "LOCK", ""),
      ("AuthType_REPLACE", "REPLACE", ""), ("AuthType_FOREIGN_KEY", "FOREIGN_KEY", ""), ("AuthType_VISIBLE", "VISIBLE", ""),
      ("AuthTargetType_Ignore", "IGNORE", ""), ("AuthTargetType_DatabaseIdentifiers", "DB_IDENTS", ""),
      ("AuthTargetType_Global", "GLOBAL", ""), ("AuthTargetType_MultipleTableIdentifiers", "DB_TABLE_IDENTS", ""),
      ("AuthTargetType_SingleTableIdentifier", "DB_TABLE_IDENT", ""), ("AuthTargetType_TableColumn", "DB_TABLE_COLUMN_IDENT", ""),
      ("AuthTargetType_TODO", "TODO", "")] ∧
    userHasPrivilegesConditions = ["!db.Enabled()", "database == \"\"", "dbSet.Has(operationPriv)", "privSet.Has(operationPriv)",
      "privSet.Has(sql.PrivilegeType_Super)", "privSet.HasDynamic(operationPriv)", "routineSet.Has(operationPriv)",
      "tblSet.Has(operationPriv)"] :=
  ⟨rfl, by decide +kernel, rfl, rfl, rfl, rfl⟩

/-- Shape of the privilege lookups of `UserHasPrivileges`: every level (global, database, table, routine)
is asked about ONE static privilege of the operation at a time, inside the loop over
`operation.StaticPrivileges` (the model's `op.statics.all (fun p => … || … || … || …)`), never about the
whole list at once — that reading (`opAllowedOneLevel` below) is a different decision
(`oneLevel_differs`). -/
theorem facts_per_privilege_lookups :
    userHasPrivilegesLookups = [
      ("", "privSet.Has", "sql.PrivilegeType_Super"),
      ("operationPriv := range operation.StaticPrivileges", "privSet.Has", "operationPriv"),
      ("operationPriv := range operation.StaticPrivileges", "dbSet.Has", "operationPriv"),
      ("operationPriv := range operation.StaticPrivileges", "tblSet.Has", "operationPriv"),
      ("operationPriv := range operation.StaticPrivileges", "routineSet.Has", "operationPriv"),
      ("operationPriv := range operation.DynamicPrivileges", "privSet.HasDynamic", "operationPriv")] :=
  rfl

/-- What `UserHasPrivileges` demands of one operation, in terms of the grants held. -/
def OpGranted (holds : Grant → Bool) (cur : String) (op : Op) : Prop :=
  (∀ p ∈ op.statics,
      holds (.glob p) = true ∨ holds (.db (lower (opDb cur op)) p) = true ∨
      holds (.tbl (lower (opDb cur op)) (lower op.tbl) p) = true ∨
      holds (.rtn (lower (opDb cur op)) (lower op.rtn) op.isProc p) = true) ∧
  (∀ n ∈ op.dynamics, holds (.dyn (lower n)) = true)

theorem allow_iff_viewOf {v : View} {holds : Grant → Bool} (hv : ViewOf v holds) (cur : String) (ops : List Op) :
    userHasPrivileges v cur ops = true ↔ holds (.glob P_Super) = true ∨ ∀ op ∈ ops, OpGranted holds cur op := by
  unfold userHasPrivileges opAllowed OpGranted
  simp only [Bool.or_eq_true, List.all_eq_true, Bool.and_eq_true, hv.hasGlobal, hv.hasDyn, hv.hasDb, hv.hasTbl,
    hv.hasRtn, or_assoc]

/-- **Decision logic of the Impl model** (`MySQLDb.UserHasPrivileges`): the operations are allowed
exactly when the active set holds global SUPER, or holds, for every operation, each static privilege
at the global, database, table or routine level of the operation's subject and each dynamic privilege
globally. -/
theorem allow_iff (ps : PrivSet) (cur : String) (ops : List Op) :
    userHasPrivileges ps.view cur ops = true ↔
      ps.holds (.glob P_Super) = true ∨ ∀ op ∈ ops, OpGranted ps.holds cur op :=
  allow_iff_viewOf ps.viewOf cur ops

/-- The same decision on the Spec (a set of grants). -/
theorem allow_iff_spec (gs : GSet) (cur : String) (ops : List Op) :
    userHasPrivileges gs.view cur ops = true ↔
      Grant.glob P_Super ∈ gs ∨ ∀ op ∈ ops, OpGranted (fun g => decide (g ∈ gs)) cur op :=
  (allow_iff_viewOf gs.viewOf cur ops).trans (by rw [decide_eq_true_eq])

/-- Every answer the authorization code can get from an Impl privilege set equals the answer it gets
from the set of grants the Impl set denotes; hence every decision is the same. -/
theorem decisions_refine {ps : PrivSet} {gs : GSet} (h : Refines ps gs) (cur : String) (ops : List Op) :
    userHasPrivileges ps.view cur ops = userHasPrivileges gs.view cur ops ∧
    routineAdminCheck ps.view cur ops = routineAdminCheck gs.view cur ops ∧
    (∀ d t, authCheckNames ps.view cur d t = authCheckNames gs.view cur d t) ∧
    (∀ keys edges ui adminOnly stmt at_ tt names,
      handleAuth ps.view cur keys edges ui adminOnly stmt at_ tt names =
      handleAuth gs.view cur keys edges ui adminOnly stmt at_ tt names) := by
  rw [view_eq h]
  exact ⟨rfl, rfl, fun _ _ => rfl, fun _ _ _ _ _ _ _ _ => rfl⟩


/-- **GRANT adds exactly the named grants** at every level (Impl model, for all sets and names):
afterwards a grant is held iff it was held before or is one of those named. -/
theorem grant_exact (ps : PrivSet) (g : Grant) :
    (∀ privs, (ps.addGlobal privs).holds g = (ps.holds g || decide (g ∈ privs.map Grant.glob))) ∧
    (∀ wgo names, (ps.addDynamic wgo names).holds g = (ps.holds g || decide (g ∈ names.map (fun n => Grant.dyn (lower n))))) ∧
    (∀ d privs, (ps.addDb d privs).holds g = (ps.holds g || decide (g ∈ privs.map (Grant.db (lower d))))) ∧
    (∀ d t privs, (ps.addTbl d t privs).holds g = (ps.holds g || decide (g ∈ privs.map (Grant.tbl (lower d) (lower t))))) ∧
    (∀ d r b privs, (ps.addRtn d r b privs).holds g = (ps.holds g || decide (g ∈ privs.map (Grant.rtn (lower d) (lower r) b)))) :=
  ⟨fun _ => PrivSet.holds_addGlobal .., fun _ _ => PrivSet.holds_addDynamic .., fun _ _ => PrivSet.holds_addDb ..,
   fun _ _ _ => PrivSet.holds_addTbl .., fun _ _ _ _ => PrivSet.holds_addRtn ..⟩

/-- **REVOKE removes exactly the named grants and nothing else** at the global, table and routine
level, and `REVOKE ALL` at the global and table level removes exactly that level (Impl model). The
database level is `revoke_db_exact_partial` / `finding_db_revoke_drops_lower_grants`. -/
theorem revoke_exact (ps : PrivSet) (g : Grant) :
    (∀ privs, (ps.remGlobal privs).holds g = (ps.holds g && !decide (g ∈ privs.map Grant.glob))) ∧
    (∀ names, (ps.remDynamic names).holds g = (ps.holds g && !decide (g ∈ names.map Grant.dyn))) ∧
    (∀ d t privs, (ps.remTbl d t privs).holds g = (ps.holds g && !decide (g ∈ privs.map (Grant.tbl (lower d) (lower t))))) ∧
    (∀ d r b privs, (ps.remRtn d r b privs).holds g = (ps.holds g && !decide (g ∈ privs.map (Grant.rtn (lower d) (lower r) b)))) ∧
    (ps.clearGlobal.holds g = (ps.holds g && !g.isGlobalLevel)) ∧
    (∀ d t, (ps.clearTbl d t).holds g = (ps.holds g && !g.isTbl (lower d) (lower t))) :=
  ⟨fun _ => PrivSet.holds_remGlobal .., fun _ => PrivSet.holds_remDynamic .., fun _ _ _ => PrivSet.holds_remTbl ..,
   fun _ _ _ _ => PrivSet.holds_remRtn .., PrivSet.holds_clearGlobal .., fun _ _ => PrivSet.holds_clearTbl ..⟩

/-- What the database-level REVOKE of the Impl model really does: when the database-level set of `d`
becomes empty the *whole* entry of `d` disappears — table and routine grants included. -/
theorem revoke_db_actual (ps : PrivSet) (d : String) (privs : List Priv) (g : Grant) :
    (ps.remDb d privs).holds g =
      (if ps.dbEmptied d privs then (ps.holds g && !g.atDb (lower d))
       else (ps.holds g && !decide (g ∈ privs.map (Grant.db (lower d))))) ∧
    (ps.clearDb d).holds g = (ps.holds g && !g.atDb (lower d)) :=
  ⟨PrivSet.holds_remDb .., PrivSet.holds_clearDb ..⟩

/- Full statement (FALSE for the unchanged code, see the finding below):
   theorem revoke_db_exact (ps d privs g) :
     (ps.remDb d privs).holds g = (ps.holds g && !decide (g ∈ privs.map (Grant.db (lower d)))) -/

/-- Guarded version: a database-level REVOKE (single privileges or ALL) removes exactly the named
database-level grants provided the account holds no table- or routine-level grant in that database. -/
theorem revoke_db_exact_partial (ps : PrivSet) (d : String) (privs : List Priv) (g : Grant)
    (hreg : ¬ holdsBelow ps d) :
    (ps.remDb d privs).holds g = (ps.holds g && !decide (g ∈ privs.map (Grant.db (lower d)))) ∧
    (ps.clearDb d).holds g = (ps.holds g && !g.isDbLevel (lower d)) :=
  ⟨PrivSet.holds_remDb_of_not_below ps d privs hreg g, PrivSet.holds_clearDb_of_not_below ps d hreg g⟩

/-- **Finding F-C39-a** (region `db_revoke_drops_lower_grants`): for every database `d`, table `t` and
privileges `p`, `q`: an account holding only `p ON d.t` loses it by `REVOKE q ON d.* ` (and by
`REVOKE ALL ON d.*`) in the Impl model, whereas the Spec keeps it — so the Impl set no longer denotes
the Spec set. Replayed on the engine: `GRANT SELECT ON d.t TO u; REVOKE INSERT ON d.* FROM u`. -/
theorem finding_db_revoke_drops_lower_grants (d t : String) (p q : Priv) :
    let ps := implPS.addTbl implPS.empty d t [p]
    let gs := specPS.addTbl specPS.empty d t [p]
    let g := Grant.tbl (lower d) (lower t) p
    Refines ps gs ∧ ps.holds g = true ∧
    (implPS.remDb ps d [q]).holds g = false ∧ g ∈ specPS.remDb gs d [q] ∧
    (implPS.clearDb ps d).holds g = false ∧ g ∈ specPS.clearDb gs d ∧
    ¬ Refines (implPS.remDb ps d [q]) (specPS.remDb gs d [q]) := by
  intro ps gs g
  have he : PrivSet.dbEmptied (PrivSet.addTbl {} d t [p]) d [q] = true := by
    simp [PrivSet.dbEmptied, PrivSet.addTbl, PrivSet.setDb, PrivSet.dbOrNew, mget_mset, mget, premAll, prem]
  have h1 : (PrivSet.remDb (PrivSet.addTbl {} d t [p]) d [q]).holds g = false := by
    rw [PrivSet.holds_remDb, he]; simp [g, Grant.atDb]
  have h2 : g ∈ specPS.remDb gs d [q] := by simp [specPS, gs, g]
  refine ⟨refines_addTbl refines_empty d t [p], ?_, h1, h2, ?_, ?_, fun hcon => ?_⟩
  · exact (PrivSet.holds_addTbl {} d t [p] g).trans (by simp [g])
  · exact (PrivSet.holds_clearDb _ d g).trans (by simp [g, Grant.atDb])
  · simp [specPS, gs, g, Grant.isDbLevel]
  · exact absurd h2 (of_decide_eq_false ((hcon g).symm.trans h1))

/-- An operation that requires several static privileges is decided privilege by privilege: it is
allowed exactly when each of its static privileges alone would be allowed on the same subject (and
the dynamic ones are held). Nothing couples the levels at which two different privileges are found. -/
theorem multi_priv_decomposes (v : View) (cur : String) (op : Op) :
    opAllowed v cur op =
      (op.statics.all (fun p => opAllowed v cur { op with statics := [p], dynamics := [] })
        && op.dynamics.all v.hasDyn) := by
  simp [opAllowed, opDb]

/-- Appending requirements: `[p₁ … pₙ] ++ [q₁ … qₘ]` is allowed iff both halves are. -/
theorem opAllowed_append (v : View) (cur : String) (op : Op) (ps qs : List Priv) :
    opAllowed v cur { op with statics := ps ++ qs } =
      (opAllowed v cur { op with statics := ps } && opAllowed v cur { op with statics := qs, dynamics := [] }) := by
  simp only [opAllowed, opDb, List.all_append, List.all_nil, Bool.and_true]
  cases List.all ps _ <;> cases List.all qs _ <;> simp

/-- The coupled reading (all static privileges of the operation found together at ONE level: all
global, or all on the database, or all on the table, or all on the routine). It is NOT what the code
and the Spec demand; it is defined here to state how it differs. -/
def opAllowedOneLevel (v : View) (cur : String) (op : Op) : Bool :=
  (op.statics.all v.hasGlobal || op.statics.all (v.hasDb (opDb cur op)) ||
    op.statics.all (v.hasTbl (opDb cur op) op.tbl) || op.statics.all (v.hasRtn (opDb cur op) op.rtn op.isProc))
  && op.dynamics.all v.hasDyn

/-- The coupled reading never allows more … -/
theorem oneLevel_imp_allowed (v : View) (cur : String) (op : Op)
    (h : opAllowedOneLevel v cur op = true) : opAllowed v cur op = true := by
  simp only [opAllowedOneLevel, opAllowed, Bool.and_eq_true, Bool.or_eq_true, List.all_eq_true] at h ⊢
  refine ⟨fun p hp => ?_, h.2⟩
  rcases h.1 with ((h1 | h1) | h1) | h1
  · exact Or.inl (Or.inl (Or.inl (h1 p hp)))
  · exact Or.inl (Or.inl (Or.inr (h1 p hp)))
  · exact Or.inl (Or.inr (h1 p hp))
  · exact Or.inr (h1 p hp)

/-- … and agrees with the real decision on every operation that needs at most one static privilege
(all the single-privilege statement classes): only multi-privilege statements can tell them apart. -/
theorem oneLevel_eq_of_single (v : View) (cur : String) (op : Op) (h : op.statics.length ≤ 1) :
    opAllowedOneLevel v cur op = opAllowed v cur op := by
  match hs : op.statics, h with
  | [], _ => simp [opAllowedOneLevel, opAllowed, hs]
  | [p], _ => simp [opAllowedOneLevel, opAllowed, hs]

theorem opAllowed_view (ps : PrivSet) (cur : String) (op : Op) :
    opAllowed ps.view cur op =
      (op.statics.all (fun p =>
          ps.holds (.glob p) || ps.holds (.db (lower (opDb cur op)) p) || ps.holds (.tbl (lower (opDb cur op)) (lower op.tbl) p) ||
            ps.holds (.rtn (lower (opDb cur op)) (lower op.rtn) op.isProc p))
        && op.dynamics.all fun n => ps.holds (.dyn (lower n))) :=
  rfl

/-- **Privileges held at different levels add up** (database + table): after `GRANT p ON d.*` and
`GRANT q ON d.t` — in this order or the other, on top of any set — the operation on `d.t` that needs
both `p` and `q` (REPLACE: INSERT+DELETE, LOCK TABLES, RENAME, a non-super GRANT) is allowed. -/
theorem split_levels_allowed (ps : PrivSet) (cur d t : String) (p q : Priv) (hd : d ≠ "") :
    userHasPrivileges ((ps.addDb d [p]).addTbl d t [q]).view cur [{ db := d, tbl := t, statics := [p, q] }] = true ∧
    userHasPrivileges ((ps.addTbl d t [q]).addDb d [p]).view cur [{ db := d, tbl := t, statics := [p, q] }] = true := by
  simp [userHasPrivileges, opAllowed_view, opDb, hd, PrivSet.holds_addTbl, PrivSet.holds_addDb]

/-- The same through a role: one privilege on the account's own table-level set, the other held
globally by a role united into the active set (`UserActivePrivilegeSet`). -/
theorem split_levels_allowed_role (own role : PrivSet) (cur d t : String) (p q : Priv) (hd : d ≠ "") :
    userHasPrivileges ((own.addTbl d t [p]).union (role.addGlobal [q])).view cur
      [{ db := d, tbl := t, statics := [p, q] }] = true := by
  simp [userHasPrivileges, opAllowed_view, opDb, hd, PrivSet.holds_union, PrivSet.holds_addTbl, PrivSet.holds_addGlobal]

/-- The two readings really differ: INSERT ON d.* together with DELETE ON d.t allows REPLACE INTO d.t
(`split_levels_allowed`), while the coupled reading refuses it. A change of `UserHasPrivileges` to the
coupled reading is therefore visible on this input (and only on inputs of this kind,
`oneLevel_eq_of_single`). -/
theorem oneLevel_differs :
    opAllowed ((({} : PrivSet).addDb "d" [P_Insert]).addTbl "d" "t" [P_Delete]).view "d"
      { db := "d", tbl := "t", statics := [P_Insert, P_Delete] } = true ∧
    opAllowedOneLevel ((({} : PrivSet).addDb "d" [P_Insert]).addTbl "d" "t" [P_Delete]).view "d"
      { db := "d", tbl := "t", statics := [P_Insert, P_Delete] } = false := by
  decide +kernel

/-- Granting privileges that were not held and revoking the same ones restores the set (table level;
the other non-database levels are alike). -/
theorem grant_revoke_inverse (ps : PrivSet) (d t : String) (privs : List Priv) (g : Grant)
    (hnew : ∀ p ∈ privs, ps.holds (.tbl (lower d) (lower t) p) = false) :
    ((ps.addTbl d t privs).remTbl d t privs).holds g = ps.holds g := by
  rw [PrivSet.holds_remTbl, PrivSet.holds_addTbl, Bool.and_or_distrib_right, Bool.and_not_self, Bool.or_false]
  exact (PrivSet.holds_and_not_mem_of_not_held ps privs hnew g).symm

/-- After `GRANT p ON d.t`, every operation on `d.t` that needs only `p` is allowed, whatever else
the set contains; likewise at database level for every table of the database. -/
theorem grant_then_allowed (ps : PrivSet) (cur d t : String) (p : Priv) (hd : d ≠ "") :
    userHasPrivileges (ps.addTbl d t [p]).view cur [{ db := d, tbl := t, statics := [p] }] = true ∧
    (∀ t', userHasPrivileges (ps.addDb d [p]).view cur [{ db := d, tbl := t', statics := [p] }] = true) := by
  simp [userHasPrivileges, opAllowed_view, opDb, hd, PrivSet.holds_addTbl, PrivSet.holds_addDb]

/-- Roles: the union of two sets holds exactly what either holds (`UnionWith`), so the active set of
an account is its own grants together with the grants of the roles united into it. -/
theorem role_union (a b : PrivSet) (g : Grant) : (a.union b).holds g = (a.holds g || b.holds g) :=
  PrivSet.holds_union a b g

/-- **Every operation of the privilege-set algebra refines the Spec** (the Impl set keeps denoting
the Spec set), the two database-level REVOKE forms under the guard of the known defect. -/
theorem ops_refine {ps : PrivSet} {gs : GSet} (h : Refines ps gs) :
    Refines implPS.empty specPS.empty ∧
    (∀ privs, Refines (implPS.addGlobal ps privs) (specPS.addGlobal gs privs)) ∧
    (∀ w names, Refines (implPS.addDynamic ps w names) (specPS.addDynamic gs w names)) ∧
    (∀ d privs, Refines (implPS.addDb ps d privs) (specPS.addDb gs d privs)) ∧
    (∀ d t privs, Refines (implPS.addTbl ps d t privs) (specPS.addTbl gs d t privs)) ∧
    (∀ d r b privs, Refines (implPS.addRtn ps d r b privs) (specPS.addRtn gs d r b privs)) ∧
    (∀ privs, Refines (implPS.remGlobal ps privs) (specPS.remGlobal gs privs)) ∧
    (∀ names, Refines (implPS.remDynamic ps names) (specPS.remDynamic gs names)) ∧
    (∀ d t privs, Refines (implPS.remTbl ps d t privs) (specPS.remTbl gs d t privs)) ∧
    (∀ d r b privs, Refines (implPS.remRtn ps d r b privs) (specPS.remRtn gs d r b privs)) ∧
    Refines (implPS.clearGlobal ps) (specPS.clearGlobal gs) ∧
    (∀ d t, Refines (implPS.clearTbl ps d t) (specPS.clearTbl gs d t)) ∧
    (∀ ps' gs', Refines ps' gs' → Refines (implPS.union ps ps') (specPS.union gs gs')) ∧
    (∀ d privs, ¬ holdsBelow ps d → Refines (implPS.remDb ps d privs) (specPS.remDb gs d privs)) ∧
    (∀ d, ¬ holdsBelow ps d → Refines (implPS.clearDb ps d) (specPS.clearDb gs d)) :=
  ⟨refines_empty, refines_addGlobal h, refines_addDynamic h, refines_addDb h, refines_addTbl h, refines_addRtn h,
   refines_remGlobal h, refines_remDynamic h, refines_remTbl h, refines_remRtn h, refines_clearGlobal h, refines_clearTbl h,
   fun _ _ h' => refines_union h h', fun d privs hg => refines_remDb_partial h d privs hg,
   fun d hg => refines_clearDb_partial h d hg⟩

/-- **Finding F-C39-b** (region `failed_statement_partial_effect`): `GRANT SELECT, SUPER ON d.* TO u`
fails with "Illegal GRANT/REVOKE command" (SUPER is not a database-level privilege) — after SELECT has
already been added to the account, which is mutated in place: the failed statement has granted
SELECT ON d.*. Replayed on the engine: the account can then read d.t. -/
theorem finding_failed_statement_partial_effect (ps : PrivSet) (d : String) :
    foldE (grantDbOne implPS d 2) (enum [⟨25, "", false⟩, ⟨29, "", false⟩]) ps
      = (implPS.addDb ps d [P_Select], some ExecErr.illegal) ∧
    (implPS.addDb ps d [P_Select]).holds (.db (lower d) P_Select) = true := by
  constructor
  · rfl
  · show (ps.addDb d [P_Select]).holds _ = true
    rw [PrivSet.holds_addDb]; simp

/- Full statement (FALSE for the unchanged code): a statement whose execution returns an error leaves
   the privilege state unchanged, i.e. `step A false = step A true` for every statement. -/

/-- Guarded version: the implementation's step (`atomic = false`) is the Spec's atomic step whenever
the statement's execution does not fail. -/
theorem step_atomic_partial {σ : Type} (A : PS σ) (st : St σ) (who : String × String) (cur : String)
    (calls : List Call) (stmt : Stmt) (h : (exec A st cur stmt).2 = none) :
    step A false st who cur calls stmt = step A true st who cur calls stmt := by
  unfold step
  cases hx : exec A st cur stmt with
  | mk st' e =>
    rw [hx] at h
    simp only at h
    subst h
    rfl


/-- The hypothesis of `revoke_db_exact_partial` is satisfiable and the conclusion non-trivial. -/
example : ¬ holdsBelow (implPS.addDb implPS.empty "d" [P_Select, P_Insert]) "d" := by
  rintro ⟨g, hb, hh⟩
  change (PrivSet.addDb {} "d" [P_Select, P_Insert]).holds g = true at hh
  rw [PrivSet.holds_addDb] at hh
  cases g <;> simp [Grant.belowDb, PrivSet.holds, mget] at hb hh

/-- `Refines` relates non-trivial sets (a global, a database and a table grant). -/
example : Refines (implPS.addTbl (implPS.addDb (implPS.addGlobal implPS.empty [P_Process]) "d" [P_Select]) "D" "t" [P_Update])
    [Grant.glob P_Process, Grant.db (lower "d") P_Select, Grant.tbl (lower "D") (lower "t") P_Update] :=
  refines_addTbl (refines_addDb (refines_addGlobal refines_empty [P_Process]) "d" [P_Select]) "D" "t" [P_Update]


end Gms.C39
