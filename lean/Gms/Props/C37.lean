/-
C37 — Process list and KILL track and cancel exactly the targeted work.
-/
import Gms.Model.ProcList
import Gms.Model.ProcListSql
import Gms.Lemmas.Basics
import Gms.Generated.C37

namespace Gms.ProcList

section maps
variable {β : Type}

theorem lookup_insert (m : List (Nat × β)) (k k' : Nat) (v : β) :
    lookup (insert m k v) k' = if k = k' then some v else lookup m k' := by
  fun_induction insert m k v
  case case1 => rfl
  case case2 => simp only [lookup]; split <;> rfl
  case case3 a b m k v h ih =>
    simp only [lookup, ih]
    split
    · next e => rw [if_neg (e ▸ Ne.symm h)]
    · rfl

theorem lookup_erase (m : List (Nat × β)) (k k' : Nat) :
    lookup (erase m k) k' = if k = k' then none else lookup m k' := by
  fun_induction erase m k
  case case1 => simp only [lookup, ite_self]
  case case2 ih => simp only [lookup, ih]; split <;> rfl
  case case3 a b m k h ih =>
    simp only [lookup, ih]
    split
    · next e => rw [if_neg (e ▸ Ne.symm h)]
    · rfl

theorem lookup_none_iff {m : List (Nat × β)} {k : Nat} : lookup m k = none ↔ k ∉ keys m := by
  fun_induction lookup m k
  case case1 => simp [keys]
  case case2 => simp [keys]
  case case3 a b m k h ih => simp [keys, ih, Ne.symm h]

theorem lookup_some_mem_keys (m : List (Nat × β)) (k : Nat) (v : β) (h : lookup m k = some v) :
    k ∈ keys m :=
  Decidable.byContradiction fun hk => by rw [lookup_none_iff.2 hk] at h; cases h

theorem keys_insert (m : List (Nat × β)) (k : Nat) (v : β) :
    keys (insert m k v) = if k ∈ keys m then keys m else keys m ++ [k] := by
  fun_induction insert m k v
  case case1 => rfl
  case case2 => simp [keys]
  case case3 a b m k v h ih =>
    simp only [keys, List.map_cons, List.mem_cons, Ne.symm h, false_or] at ih ⊢
    rw [ih]; split <;> simp [*]

theorem insert_self {m : List (Nat × β)} {k : Nat} {v : β} (h : lookup m k = some v) :
    insert m k v = m := by
  fun_induction insert m k v
  case case1 => cases h
  case case2 => simp only [lookup, if_true, Option.some.injEq] at h; rw [h]
  case case3 a b m k v hne ih => simp only [lookup, hne, if_false] at h; rw [ih h]

theorem nodup_insert (m : List (Nat × β)) (k : Nat) (v : β) (h : (keys m).Nodup) :
    (keys (insert m k v)).Nodup := by
  rw [keys_insert]
  split
  · exact h
  · next hk =>
    exact Basics.nodup_concat h hk

theorem keys_erase_sublist (m : List (Nat × β)) (k : Nat) : (keys (erase m k)).Sublist (keys m) := by
  fun_induction erase m k
  case case1 => exact .slnil
  case case2 ih => exact .cons _ ih
  case case3 ih => exact .cons_cons _ ih

theorem nodup_erase (m : List (Nat × β)) (k : Nat) (h : (keys m).Nodup) : (keys (erase m k)).Nodup :=
  List.Nodup.sublist (keys_erase_sublist m k) h

theorem erase_of_not_mem {m : List (Nat × β)} {k : Nat} (h : k ∉ keys m) : erase m k = m := by
  fun_induction erase m k
  case case1 => rfl
  case case2 => exact absurd List.mem_cons_self h
  case case3 ih => rw [ih fun hk => h (List.mem_cons_of_mem _ hk)]

theorem erase_of_lookup_none {m : List (Nat × β)} {k : Nat} (h : lookup m k = none) : erase m k = m :=
  erase_of_not_mem (lookup_none_iff.1 h)

/-- What the entry found under a key, if any, counts for. -/
def cntOpt (f : β → Nat) : Option β → Nat
  | none => 0
  | some v => f v

/-- No subtraction: what the old value counted for is added on the left. -/
theorem cnt_insert (f : β → Nat) (m : List (Nat × β)) (k : Nat) (v : β) :
    cnt f (insert m k v) + cntOpt f (lookup m k) = cnt f m + f v := by
  fun_induction insert m k v
  case case1 => exact Nat.add_comm ..
  case case2 v' m k v =>
    simp only [lookup, if_true, cnt, cntOpt]
    rw [Nat.add_right_comm, Nat.add_comm (f v)]
    exact Nat.add_right_comm ..
  case case3 a b m k v h ih =>
    simp only [h, if_false, cnt, lookup]
    rw [Nat.add_assoc, ih, Nat.add_assoc]

theorem cnt_erase (f : β → Nat) (m : List (Nat × β)) (k : Nat) (hn : (keys m).Nodup) :
    cnt f (erase m k) + cntOpt f (lookup m k) = cnt f m := by
  fun_induction erase m k
  case case1 => rfl
  case case2 b m k ih =>
    have hn := List.nodup_cons.1 hn
    simp only [lookup, if_true, cnt, cntOpt, erase_of_not_mem hn.1]
    exact Nat.add_comm ..
  case case3 a b m k h ih =>
    simp only [h, if_false, cnt, lookup]
    rw [Nat.add_assoc, ih (List.nodup_cons.1 hn).2]

theorem cnt_one_eq_length (m : List (Nat × β)) : cnt (fun _ => 1) m = m.length := by
  fun_induction cnt (fun _ : β => 1) m
  case case1 => rfl
  case case2 ih => rw [ih, List.length_cons, Nat.add_comm]

end maps

/-- What connection `c` has registered in `m`, seen through `g`: `held` is `look (·.kill)`, and
`look runs` is the query a connection runs. -/
def look {γ : Type} (g : Proc → Option γ) (m : List (Nat × Proc)) (c : Nat) : Option γ := (lookup m c).bind g

theorem look_of {γ : Type} {g : Proc → Option γ} {m : List (Nat × Proc)} {c : Nat} {p : Proc}
    (h : lookup m c = some p) : look g m c = g p := by rw [look, h]; rfl

theorem look_of_none {γ : Type} {g : Proc → Option γ} {m : List (Nat × Proc)} {c : Nat}
    (h : lookup m c = none) : look g m c = none := by rw [look, h]; rfl

theorem look_insert {γ : Type} (g : Proc → Option γ) (m : List (Nat × Proc)) (k : Nat) (v : Proc) (c : Nat) :
    look g (insert m k v) c = if k = c then g v else look g m c := by
  unfold look
  rw [lookup_insert]
  split <;> rfl

theorem look_insert_ne {γ : Type} (g : Proc → Option γ) (m : List (Nat × Proc)) (c : Nat) (v : Proc) :
    ∀ c', c' ≠ c → look g (insert m c v) c' = look g m c' :=
  fun c' h => by rw [look_insert, if_neg (Ne.symm h)]

theorem look_erase {γ : Type} (g : Proc → Option γ) (m : List (Nat × Proc)) (k c : Nat) :
    look g (erase m k) c = if k = c then none else look g m c := by
  unfold look
  rw [lookup_erase]
  split <;> rfl

def runs (p : Proc) : Option Nat := if p.cmd = .query then some p.pid else none

theorem runs_eq_some {p : Proc} {pid : Nat} : runs p = some pid ↔ p.cmd = .query ∧ p.pid = pid := by
  unfold runs; split <;> simp [*]

theorem runs_of_ne {p : Proc} (h : p.cmd ≠ .query) : runs p = none := if_neg h

theorem runs_of_query {p : Proc} (h : p.cmd = .query) : runs p = some p.pid := if_pos h

theorem owner_iff {m : List (Nat × Proc)} {pid c : Nat} : Owner m pid c ↔ look runs m c = some pid := by
  unfold Owner look
  cases lookup m c <;> simp [runs_eq_some]

theorem owner_insert (m : List (Nat × Proc)) (k : Nat) (v : Proc) (pid c : Nat) :
    Owner (insert m k v) pid c ↔ (if k = c then (v.cmd = .query ∧ v.pid = pid) else Owner m pid c) := by
  rw [owner_iff, look_insert]
  split
  · exact runs_eq_some
  · exact owner_iff.symm

theorem owner_erase (m : List (Nat × Proc)) (k : Nat) (pid c : Nat) :
    Owner (erase m k) pid c ↔ (k ≠ c ∧ Owner m pid c) := by
  rw [owner_iff, look_erase, owner_iff]
  split <;> simp [*]

/-! What the connections have registered, as a partial function `f : Nat → Option Nat` of the connection, changed
at one connection `c`. Used at `look runs m` (the query a connection runs; `Idx B f`: the pid index `B` is the
inverse of `f`, and `putOpt (dropOpt B (f c)) c (f' c)` is what the methods do to it: delete the entry of the
query `c` ran, if any, enter the query it runs now, if any) and at `held m` (the cancel func of a connection). -/
section pfun
variable {f f' : Nat → Option Nat} {c : Nat}

/-- Injective where defined: no two connections have the same thing registered. -/
def InjSome (f : Nat → Option Nat) : Prop := ∀ c c' t, f c = some t → f c' = some t → c = c'

theorem InjSome.upd (hf : InjSome f) (hu : ∀ c', c' ≠ c → f' c' = f c')
    (fresh : ∀ c' t, c' ≠ c → f' c = some t → f c' ≠ some t) : InjSome f' := by
  intro c₁ c₂ t h₁ h₂
  by_cases e₁ : c₁ = c <;> by_cases e₂ : c₂ = c
  · rw [e₁, e₂]
  · subst e₁; rw [hu c₂ e₂] at h₂; exact absurd h₂ (fresh c₂ t e₂ h₁)
  · subst e₂; rw [hu c₁ e₁] at h₁; exact absurd h₁ (fresh c₁ t e₁ h₂)
  · rw [hu c₁ e₁] at h₁; rw [hu c₂ e₂] at h₂; exact hf c₁ c₂ t h₁ h₂

def Idx (B : List (Nat × Nat)) (f : Nat → Option Nat) : Prop := ∀ t c, lookup B t = some c ↔ f c = some t

def dropOpt (B : List (Nat × Nat)) : Option Nat → List (Nat × Nat)
  | none => B
  | some t => erase B t

def putOpt (B : List (Nat × Nat)) (c : Nat) : Option Nat → List (Nat × Nat)
  | none => B
  | some t => insert B t c

theorem lookup_dropOpt (B : List (Nat × Nat)) (o : Option Nat) (t : Nat) :
    lookup (dropOpt B o) t = if o = some t then none else lookup B t := by
  cases o with
  | none => simp [dropOpt]
  | some u => simp [dropOpt, lookup_erase]

theorem lookup_putOpt (B : List (Nat × Nat)) (c : Nat) (o : Option Nat) (t : Nat) :
    lookup (putOpt B c o) t = if o = some t then some c else lookup B t := by
  cases o with
  | none => simp [putOpt]
  | some u => simp [putOpt, lookup_insert]

theorem Idx.upd {B : List (Nat × Nat)} (hB : Idx B f) (hf : InjSome f) (hu : ∀ c', c' ≠ c → f' c' = f c')
    (fresh : ∀ c' t, c' ≠ c → f' c = some t → f c' ≠ some t) :
    Idx (putOpt (dropOpt B (f c)) c (f' c)) f' := by
  intro t c'
  rw [lookup_putOpt, lookup_dropOpt]
  by_cases e : c' = c
  · subst e
    by_cases h' : f' c' = some t
    · simp [h']
    · simp only [h', if_false, iff_false]
      split
      · nofun
      · next h => exact fun hl => h ((hB t c').1 hl)
  · rw [hu c' e]
    by_cases h' : f' c = some t
    · simp only [h', if_true]
      exact ⟨fun x => absurd (Option.some.inj x).symm e, fun x => absurd x (fresh c' t e h')⟩
    · simp only [h', if_false]
      split
      · next h => exact ⟨nofun, fun x => absurd (hf _ _ t x h) e⟩
      · exact hB t c'

end pfun

theorem pidOwner_some {m : List (Nat × Proc)} {pid c : Nat} (hn : (keys m).Nodup)
    (h : pidOwner m pid = some c) : Owner m pid c := by
  fun_induction pidOwner m pid
  case case1 => cases h
  case case2 k p m pid hq =>
    cases h
    exact ⟨p, if_pos rfl, hq⟩
  case case3 k p m pid hq ih =>
    obtain ⟨p', hl, hp'⟩ := ih (List.nodup_cons.1 hn).2 h
    have : ¬ k = c := fun e => (List.nodup_cons.1 hn).1 (e ▸ lookup_some_mem_keys m c p' hl)
    exact ⟨p', (if_neg this).trans hl, hp'⟩

theorem pidOwner_none {m : List (Nat × Proc)} {pid : Nat} (h : pidOwner m pid = none) :
    ∀ c, ¬ Owner m pid c := by
  fun_induction pidOwner m pid
  case case1 => exact fun c ⟨p, hp, _⟩ => nomatch hp
  case case2 => cases h
  case case3 k p m pid hq ih =>
    intro c ⟨p', hl, hp'⟩
    simp only [lookup] at hl
    split at hl
    · cases hl; exact hq hp'
    · exact ih h c ⟨p', hl, hp'⟩

/-- Well-formedness of the session table of the Spec machine. -/
structure PInv (m : List (Nat × Proc)) : Prop where
  nodup : (keys m).Nodup
  wfq : ∀ c p, lookup m c = some p → p.cmd = .query → p.pid ≠ 0 ∧ p.kill ≠ none
  wfn : ∀ c p, lookup m c = some p → p.cmd ≠ .query → p.pid = 0 ∧ p.query = none
  uniq : ∀ pid c c', Owner m pid c → Owner m pid c' → c = c'

theorem PInv.inj {m : List (Nat × Proc)} (hi : PInv m) : InjSome (look runs m) :=
  fun c c' t h h' => hi.uniq t c c' (owner_iff.2 h) (owner_iff.2 h')

structure GoodVal (m : List (Nat × Proc)) (c : Nat) (v : Proc) : Prop where
  wfq : v.cmd = .query → v.pid ≠ 0 ∧ v.kill ≠ none
  wfn : v.cmd ≠ .query → v.pid = 0 ∧ v.query = none
  fresh : ∀ c' t, c' ≠ c → runs v = some t → look runs m c' ≠ some t

theorem PInv_insert {m : List (Nat × Proc)} {c : Nat} {v : Proc} (h : PInv m) (hv : GoodVal m c v) :
    PInv (insert m c v) := by
  refine ⟨nodup_insert m c v h.nodup, ?_, ?_, ?_⟩
  · intro c' p hl
    rw [lookup_insert] at hl
    split at hl
    · cases hl; exact hv.wfq
    · exact h.wfq c' p hl
  · intro c' p hl
    rw [lookup_insert] at hl
    split at hl
    · cases hl; exact hv.wfn
    · exact h.wfn c' p hl
  · intro pid c₁ c₂ h₁ h₂
    have := h.inj.upd (look_insert_ne runs m c v) (by rw [look_insert, if_pos rfl]; exact hv.fresh)
    exact this c₁ c₂ pid (owner_iff.1 h₁) (owner_iff.1 h₂)

theorem PInv_erase {m : List (Nat × Proc)} (c : Nat) (h : PInv m) : PInv (erase m c) := by
  refine ⟨nodup_erase m c h.nodup, ?_, ?_, ?_⟩
  · intro c' p hl hq
    rw [lookup_erase] at hl
    split at hl
    · cases hl
    · exact h.wfq c' p hl hq
  · intro c' p hl hq
    rw [lookup_erase] at hl
    split at hl
    · cases hl
    · exact h.wfn c' p hl hq
  · intro pid c1 c2 h1 h2
    rw [owner_erase] at h1 h2
    exact h.uniq pid c1 c2 h1.2 h2.2

theorem PInv_nil : PInv [] :=
  ⟨by simp [keys], by intro c p h; simp [lookup] at h, by intro c p h; simp [lookup] at h,
   by intro pid c c' ⟨p, h, _⟩; simp [lookup] at h⟩

theorem not_owner_of_nonquery {m : List (Nat × Proc)} {c : Nat} {p : Proc} (hl : lookup m c = some p)
    (hq : p.cmd ≠ .query) (pid : Nat) : ¬ Owner m pid c := by
  rintro ⟨p', hl', h1, _⟩
  rw [hl] at hl'; cases hl'; exact hq h1

theorem goodVal_nonquery {m : List (Nat × Proc)} {c : Nat} {v : Proc} (h : v.cmd ≠ .query)
    (h0 : v.pid = 0) (hq : v.query = none) : GoodVal m c v :=
  ⟨fun e => absurd e h, fun _ => ⟨h0, hq⟩, fun _ _ _ e => by rw [runs_of_ne h] at e; cases e⟩

/-- The invariants the property states, on the Impl state alone. -/
structure Good (s : St) : Prop where
  connected : s.connected = (s.procs.length : Int)
  running : s.running = (cnt isQuery s.procs : Int)
  byPid : ∀ pid c, lookup s.byPid pid = some c ↔ Owner s.procs pid c
  wf : PInv s.procs

/-- Reducible, so that a case hypothesis of `astep (abs s) e` about `(abs s).procs` rewrites `s.procs`. -/
abbrev abs (s : St) : ASt := { procs := s.procs, cancelled := s.cancelled, nextTok := s.nextTok }

theorem sim_iff {s : St} {a : ASt} : Sim s a ∧ PInv a.procs ↔ a = abs s ∧ Good s := by
  constructor
  · rintro ⟨⟨hp, hc, hn, hcon, hrun, hby⟩, hi⟩
    obtain ⟨p, cs, n⟩ := a
    cases hp; cases hc; cases hn
    exact ⟨rfl, hcon, hrun, hby, hi⟩
  · rintro ⟨rfl, hcon, hrun, hby, hi⟩
    exact ⟨⟨rfl, rfl, rfl, hcon, hrun, hby⟩, hi⟩

theorem Good.idx {s : St} (hg : Good s) : Idx s.byPid (look runs s.procs) :=
  fun t c => (hg.byPid t c).trans owner_iff

theorem Good.byPid_none {s : St} (hg : Good s) {pid : Nat} (h : ∀ c, ¬ Owner s.procs pid c) :
    lookup s.byPid pid = none := by
  cases hb : lookup s.byPid pid with
  | none => rfl
  | some c => exact absurd ((hg.byPid pid c).1 hb) (h c)

theorem Good.lookup_byPid {s : St} (hg : Good s) (pid : Nat) : lookup s.byPid pid = pidOwner s.procs pid := by
  cases ho : pidOwner s.procs pid with
  | some c => exact (hg.byPid pid c).2 (pidOwner_some hg.wf.nodup ho)
  | none => exact hg.byPid_none (pidOwner_none ho)

/-- A counter kept as an integer follows a count that moves by the same amounts. -/
theorem counter_shift {R r : Int} {X Y o w : Nat} (h1 : X + o = Y + w) (hR : R + (o : Int) = r + (w : Int))
    (h2 : r = (Y : Int)) : R = (X : Int) := by
  have : R + (o : Int) = (X : Int) + (o : Int) := by
    rw [hR, h2, ← Int.natCast_add, ← Int.natCast_add, h1]
  exact (Int.add_left_inj _).mp this

/-- Storing `v` for connection `c`: each counter moves by what `v` counts for, less what the entry it
replaces counted for; the index drops the query of the old entry and enters that of `v`. -/
theorem good_insert {s : St} {c : Nat} {v : Proc} {B : List (Nat × Nat)} {C R : Int} {cs : List Nat} {ns : Nat}
    (hg : Good s) (hv : GoodVal s.procs c v)
    (hC : C + (cntOpt (fun _ => 1) (lookup s.procs c) : Nat) = s.connected + 1)
    (hR : R + (cntOpt isQuery (lookup s.procs c) : Nat) = s.running + (isQuery v : Nat))
    (hB : B = putOpt (dropOpt s.byPid (look runs s.procs c)) c (runs v)) :
    Good { procs := insert s.procs c v, byPid := B, connected := C, running := R, cancelled := cs, nextTok := ns } := by
  have hc1 := cnt_insert (fun _ => 1) s.procs c v
  rw [cnt_one_eq_length, cnt_one_eq_length] at hc1
  refine ⟨counter_shift hc1 hC hg.connected, counter_shift (cnt_insert isQuery s.procs c v) hR hg.running, ?_,
    PInv_insert hg.wf hv⟩
  have := hg.idx.upd hg.wf.inj (look_insert_ne runs s.procs c v) (by rw [look_insert, if_pos rfl]; exact hv.fresh)
  rw [look_insert, if_pos rfl, ← hB] at this
  exact fun t c' => (this t c').trans owner_iff.symm

theorem good_replace_nonquery {s : St} {c : Nat} {p v : Proc} {cs : List Nat} {ns : Nat} (hg : Good s)
    (hl : lookup s.procs c = some p) (hq : p.cmd ≠ .query) (hv : v.cmd ≠ .query) (hv0 : v.pid = p.pid) (hvq : v.query = p.query) :
    Good { s with cancelled := cs, nextTok := ns, procs := insert s.procs c v } :=
  have hp := hg.wf.wfn c p hl hq
  good_insert hg (goodVal_nonquery hv (hv0.trans hp.1) (hvq.trans hp.2)) (by rw [hl]; rfl)
    (by rw [hl]; exact congrArg (fun n : Nat => s.running + (n : Int)) ((if_neg hq).trans (if_neg hv).symm))
    (by rw [look_of hl, runs_of_ne hq, runs_of_ne hv]; rfl)

theorem not_owner_zero {m : List (Nat × Proc)} (hi : PInv m) (c : Nat) : ¬ Owner m 0 c := by
  rintro ⟨p, hl, h1, h2⟩
  exact (hi.wfq c p hl h1).1 h2

theorem good_step {s : St} {a' : ASt} {e : Ev} {r : Res}
    (hg : Good s) (h : astep (abs s) e = some (a', r)) (hr : inRegion (abs s) e = false) :
    (step s e).2 = r ∧ abs (step s e).1 = a' ∧ Good (step s e).1 := by
  revert h
  -- the paths of the Spec; on each, `step` is unfolded along the same tests
  fun_cases astep (abs s) e
  -- outside the protocol
  case case1 | case3 | case4 | case8 | case11 | case13 | case14 | case15 | case22 => nofun
  -- the connection is not registered: RemoveConnection, BeginQuery (error return 1), BeginOperation,
  -- EndOperation, Kill return at once
  case case6 c hl | case9 c pid hpid hl | case18 c hl | case21 c hl | case24 c hl =>
    simp only [step, hl]
    rintro ⟨⟩
    exact ⟨rfl, rfl, hg⟩
  -- AddConnection
  case case2 c hl =>
    rintro ⟨⟩
    exact ⟨rfl, rfl, good_insert hg (goodVal_nonquery (by simp) rfl rfl)
      (by rw [hl]; exact Int.add_zero _) (by rw [hl]; rfl) (by rw [look_of_none hl]; rfl)⟩
  -- ConnectionReady
  case case5 c p hl hq =>
    -- outside the region no operation is registered, so the refreshed entry is the fresh struct
    simp only [inRegion, regionRemoveDuringQuery, regionReadyDuringOperation, hl, Bool.false_or] at hr
    have hk : p.kill = none := by
      cases hk : p.kill with
      | none => rfl
      | some t => simp [hq, hk] at hr
    obtain ⟨h0, hqq⟩ := hg.wf.wfn c p hl hq
    have hv : ({ p with cmd := Cmd.sleep } : Proc) = idleProc .sleep := by rw [h0, hk, hqq]; rfl
    rw [hv]
    rintro ⟨⟩
    exact ⟨rfl, rfl, good_replace_nonquery hg hl hq (by simp) h0.symm hqq.symm⟩
  -- RemoveConnection
  case case7 c p hl =>
    simp only [inRegion, regionRemoveDuringQuery, hl, regionReadyDuringOperation, Bool.or_false,
      decide_eq_false_iff_not] at hr
    -- no query runs, so `QueryPid` is 0, which nobody runs: the index has no entry to delete
    have he : erase s.byPid p.pid = s.byPid := by
      rw [(hg.wf.wfn c p hl hr).1]
      exact erase_of_lookup_none (hg.byPid_none (not_owner_zero hg.wf))
    simp only [step, hl, he]
    rintro ⟨⟩
    refine ⟨rfl, rfl, ?_, ?_, ?_, PInv_erase c hg.wf⟩
    · have h1 := cnt_erase (fun _ => 1) s.procs c hg.wf.nodup
      rw [cnt_one_eq_length, cnt_one_eq_length, hl] at h1
      exact counter_shift (w := 0) h1 (by simp [cntOpt]) hg.connected
    · have h1 := cnt_erase isQuery s.procs c hg.wf.nodup
      rw [hl] at h1
      exact counter_shift (w := 0) h1 (by simp [cntOpt, isQuery, hr]) hg.running
    · intro pid c'
      show lookup s.byPid pid = some c' ↔ Owner (erase s.procs c) pid c'
      rw [owner_erase, hg.byPid]
      exact ⟨fun ho => ⟨fun ecc => not_owner_of_nonquery hl hr pid (ecc ▸ ho), ho⟩, fun x => x.2⟩
  -- BeginQuery, error return 2 (the query id is in use) included: an error return leaves the whole
  -- state, `Threads_running` too, as it was
  case case10 c pid hpid p hl c' ho =>
    simp only [step, hl, hg.lookup_byPid, ho]
    rintro ⟨⟩
    exact ⟨rfl, rfl, hg⟩
  case case12 c pid hpid p hl ho hbusy tok =>
    simp only [step, hl, hg.lookup_byPid, ho]
    rintro ⟨⟩
    have hq : p.cmd ≠ .query := fun e => hbusy (Or.inl (by rw [e]; simp))
    refine ⟨rfl, rfl, good_insert hg ⟨fun _ => ⟨hpid, Option.some_ne_none _⟩, fun x => absurd rfl x, ?_⟩
      (by rw [hl]; rfl) (by rw [hl]; simp [cntOpt, isQuery, hq]) (by rw [look_of hl, runs_of_ne hq]; rfl)⟩
    rintro c' t _ ⟨⟩ hc'
    exact pidOwner_none ho c' (owner_iff.2 hc')
  -- EndQuery
  case case16 c pid hpid c' ho hcc p hl =>
    obtain rfl := Decidable.not_not.1 hcc
    obtain ⟨p', hl', hq, hpp⟩ := pidOwner_some hg.wf.nodup ho
    cases hl.symm.trans hl'
    -- a running query has its cancel func registered, so the nil `Kill` (the crash path of `step`) does not arise
    obtain ⟨_, hk⟩ := hg.wf.wfq c' p hl hq
    cases hkk : p.kill with
    | none => exact absurd hkk hk
    | some t =>
      simp only [step, hl, hpp, hkk, if_true, cancelOpt, idleProc]
      rintro ⟨⟩
      exact ⟨rfl, rfl, good_insert hg (goodVal_nonquery (by simp) rfl rfl) (by rw [hl]; rfl)
        (by rw [hl]; simp [cntOpt, isQuery, hq]) (by rw [look_of hl, runs_of_query hq, hpp]; rfl)⟩
  case case17 c pid hpid ho =>
    -- nobody runs `pid`: the index has no entry to delete
    have he := erase_of_lookup_none ((hg.lookup_byPid pid).trans ho)
    cases hl : lookup s.procs c with
    | none =>
      simp only [step, hl, he]
      rintro ⟨⟩
      exact ⟨rfl, rfl, hg⟩
    | some p =>
      have hne : ¬ p.pid = pid := by
        intro e
        by_cases hq : p.cmd = .query
        · exact pidOwner_none ho c ⟨p, hl, hq, e⟩
        · exact hpid ((hg.wf.wfn c p hl hq).1.symm.trans e).symm
      simp only [step, hl, hne, he, if_false]
      rintro ⟨⟩
      exact ⟨rfl, rfl, hg⟩
  -- BeginOperation
  case case19 c p hl hbusy =>
    cases hk : p.kill with
    | some t =>
      simp only [step, hl, hk]
      rintro ⟨⟩
      exact ⟨rfl, rfl, hg⟩
    | none =>
      -- as in EndQuery: a running query has its cancel func registered
      exact absurd hk (hbusy.elim (fun hq => (hg.wf.wfq c p hl hq).2) id)
  case case20 c p hl hfree tok =>
    have hq : p.cmd ≠ .query := fun e => hfree (Or.inl e)
    have hk : p.kill = none := Decidable.not_not.1 fun e => hfree (Or.inr e)
    simp only [step, hl, hk]
    rintro ⟨⟩
    exact ⟨rfl, rfl, good_replace_nonquery hg hl hq hq rfl rfl⟩
  -- EndOperation
  case case23 c p hl hq =>
    cases hkk : p.kill with
    | none =>
      -- nothing registered: the Spec rewrites the entry by itself
      have e : ({ p with kill := none } : Proc) = p := by rw [← hkk]
      simp only [step, hl, hkk, cancelOpt, e, insert_self hl]
      rintro ⟨⟩
      exact ⟨rfl, rfl, hg⟩
    | some t =>
      simp only [step, hl, hkk, cancelOpt]
      rintro ⟨⟩
      exact ⟨rfl, rfl, good_replace_nonquery hg hl hq hq rfl rfl⟩
  -- Kill
  case case25 c p hl =>
    simp only [step, hl]
    rintro ⟨⟩
    exact ⟨rfl, rfl, hg.connected, hg.running, hg.byPid, hg.wf⟩

/-- One event, any kind: inside the protocol and outside the regions the Impl model makes exactly
the Spec's move and re-establishes the refinement relation. -/
theorem sim_step {s : St} {a a' : ASt} {e : Ev} {r : Res}
    (hs : Sim s a) (hi : PInv a.procs) (h : astep a e = some (a', r)) (hr : inRegion a e = false) :
    (step s e).2 = r ∧ Sim (step s e).1 a' ∧ PInv a'.procs := by
  obtain ⟨rfl, hg⟩ := sim_iff.1 ⟨hs, hi⟩
  obtain ⟨h1, rfl, h3⟩ := good_step hg h hr
  exact ⟨h1, sim_iff.2 ⟨rfl, h3⟩⟩

/-- The Spec's trace of a history; `none` as soon as one call leaves the protocol. -/
def atrace : ASt → List Ev → Option (List (ASt × Res))
  | _, [] => some []
  | a, e :: es =>
    match astep a e with
    | none => none
    | some (a', r) =>
      match atrace a' es with
      | none => none
      | some t => some ((a', r) :: t)

def aexec (a : ASt) (es : List Ev) : Option ASt :=
  match atrace a es with
  | none => none
  | some t => some ((t.getLast?.map (·.1)).getD a)

/-- No call of the history falls into a defect region (decided along the Spec's run). -/
def noRegion : ASt → List Ev → Bool
  | _, [] => true
  | a, e :: es =>
    match astep a e with
    | none => true
    | some (a', _) => !inRegion a e && noRegion a' es

def SimTrace : List (St × Res) → List (ASt × Res) → Prop
  | [], [] => True
  | (s, r) :: t, (a, r') :: t' => r = r' ∧ Sim s a ∧ PInv a.procs ∧ SimTrace t t'
  | _, _ => False

theorem refinement_from {s : St} {a : ASt} (es : List Ev) (tr : List (ASt × Res))
    (hs : Sim s a) (hi : PInv a.procs) (ht : atrace a es = some tr) (hr : noRegion a es = true) :
    SimTrace (run s es) tr := by
  revert ht
  fun_induction atrace a es generalizing s tr
  case case1 => rintro ⟨⟩; trivial
  case case2 | case3 => nofun
  case case4 a e es a' r hstep t htr ih =>
    rintro ⟨⟩
    simp only [noRegion, hstep, Bool.and_eq_true, Bool.not_eq_true'] at hr
    obtain ⟨h1, h2, h3⟩ := sim_step hs hi hstep hr.1
    exact ⟨h1, h2, h3, ih t h2 h3 hr.2 htr⟩

theorem sim_init : Sim St.init ASt.init :=
  ⟨rfl, rfl, rfl, rfl, rfl, by
    intro pid c
    constructor
    · intro h; simp [St.init, lookup] at h
    · rintro ⟨p, h, _⟩; simp [ASt.init, lookup] at h⟩

theorem good_of_simTrace {t : List (St × Res)} {t' : List (ASt × Res)} (h : SimTrace t t') :
    ∀ x ∈ t, Good x.1 := by
  fun_induction SimTrace t t'
  case case1 => exact fun _ hx => nomatch hx
  case case2 s r t a r' t' ih =>
    intro x hx
    rcases List.mem_cons.1 hx with rfl | hx
    · exact (sim_iff.1 ⟨h.2.1, h.2.2.1⟩).2
    · exact ih h.2.2.2 x hx
  case case3 => exact h.elim

/-! `held` is `look (·.kill)` by definition, so its equations are those of `look`; from here on `held` is used through them. -/

theorem held_of_lookup {m : List (Nat × Proc)} {c : Nat} {p : Proc} (h : lookup m c = some p) :
    held m c = p.kill :=
  look_of h

theorem held_of_lookup_none {m : List (Nat × Proc)} {c : Nat} (h : lookup m c = none) :
    held m c = none :=
  look_of_none h

theorem held_insert (m : List (Nat × Proc)) (k : Nat) (v : Proc) (c : Nat) :
    held (insert m k v) c = if k = c then v.kill else held m c :=
  look_insert (·.kill) m k v c

theorem held_erase (m : List (Nat × Proc)) (k : Nat) (c : Nat) :
    held (erase m k) c = if k = c then none else held m c :=
  look_erase (·.kill) m k c

theorem held_insert_self (m : List (Nat × Proc)) (k : Nat) (v : Proc) : held (insert m k v) k = v.kill := by
  rw [held_insert, if_pos rfl]

theorem mem_cancel {l : List Nat} {t u : Nat} : u ∈ cancel l t ↔ u ∈ l ∨ u = t := by
  unfold cancel
  split
  · next ht => exact ⟨Or.inl, fun h => h.elim id (· ▸ ht)⟩
  · exact List.mem_cons.trans Or.comm

theorem mem_cancelOpt {l : List Nat} {o : Option Nat} {u : Nat} : u ∈ cancelOpt l o ↔ u ∈ l ∨ o = some u := by
  cases o with
  | none => exact ⟨Or.inl, fun h => h.elim id nofun⟩
  | some t => exact mem_cancel.trans (or_congr Iff.rfl ⟨fun h => h ▸ rfl, fun h => (Option.some.inj h).symm⟩)

/-- The shape of one call, whatever the state (no protocol assumed): only the called connection's
registration changes, it becomes nil, stays, or becomes the fresh token; only the cancel func that
was registered for *that* connection can have been called. -/
structure StepShape (s : St) (e : Ev) (s' : St) : Prop where
  others : ∀ c', c' ≠ e.conn → held s'.procs c' = held s.procs c'
  own : held s'.procs e.conn = none ∨ held s'.procs e.conn = held s.procs e.conn ∨
        (held s'.procs e.conn = some s.nextTok ∧ s'.nextTok = s.nextTok + 1)
  tok : s'.nextTok = s.nextTok ∨ s'.nextTok = s.nextTok + 1
  cancelled : ∀ t ∈ s'.cancelled, t ∈ s.cancelled ∨ held s.procs e.conn = some t
  mono : ∀ t ∈ s.cancelled, t ∈ s'.cancelled

theorem shape_refl {s : St} {e : Ev} : StepShape s e s :=
  ⟨fun _ _ => rfl, Or.inr (Or.inl rfl), Or.inl rfl, fun _ h => Or.inl h, fun _ h => h⟩

theorem shape_of {s s' : St} {e : Ev}
    (hothers : ∀ c', c' ≠ e.conn → held s'.procs c' = held s.procs c')
    (hown : held s'.procs e.conn = none ∨ held s'.procs e.conn = held s.procs e.conn ∨
        (held s'.procs e.conn = some s.nextTok ∧ s'.nextTok = s.nextTok + 1))
    (htok : s'.nextTok = s.nextTok ∨ s'.nextTok = s.nextTok + 1)
    (hc : s'.cancelled = s.cancelled ∨ s'.cancelled = cancelOpt s.cancelled (held s.procs e.conn)) :
    StepShape s e s' := by
  refine ⟨hothers, hown, htok, ?_, ?_⟩
  · intro t ht
    rcases hc with hc | hc
    · rw [hc] at ht; exact Or.inl ht
    · rw [hc] at ht; exact mem_cancelOpt.1 ht
  · intro t ht
    rcases hc with hc | hc
    · rw [hc]; exact ht
    · rw [hc]; exact mem_cancelOpt.2 (Or.inl ht)

theorem shape_insert {s s' : St} {e : Ev} {v : Proc} (hp : s'.procs = insert s.procs e.conn v)
    (hown : v.kill = none ∨ v.kill = held s.procs e.conn ∨ (v.kill = some s.nextTok ∧ s'.nextTok = s.nextTok + 1))
    (htok : s'.nextTok = s.nextTok ∨ s'.nextTok = s.nextTok + 1)
    (hc : s'.cancelled = s.cancelled ∨ s'.cancelled = cancelOpt s.cancelled (held s.procs e.conn)) :
    StepShape s e s' :=
  shape_of (fun c' hc' => hp ▸ (held_insert ..).trans (if_neg (Ne.symm hc'))) (by rw [hp, held_insert_self]; exact hown) htok hc

/-- The shape of a call and what its result `.ok tok` means, together: both are read off the same walk of `step`. -/
theorem step_shape_ok (s : St) (e : Ev) :
    StepShape s e (step s e).1 ∧
    ∀ tok, (step s e).2 = .ok tok → tok = s.nextTok ∧ held (step s e).1.procs e.conn = some tok := by
  -- the second conjunct on the two paths that return `.ok` (BeginQuery, BeginOperation store the fresh token)
  have begun : ∀ {m : List (Nat × Proc)} {c : Nat} {v : Proc}, v.kill = some s.nextTok →
      ∀ tok, Res.ok s.nextTok = .ok tok → tok = s.nextTok ∧ held (insert m c v) c = some tok :=
    fun hv tok h => by cases h; exact ⟨rfl, by rw [held_insert_self, hv]⟩
  -- on the paths that call a cancel func, it is the one the entry found holds: `hc` of `shape_of` / `shape_insert`
  have cancels : ∀ {c : Nat} {p : Proc} {k : Option Nat}, lookup s.procs c = some p → p.kill = k →
      cancelOpt s.cancelled k = cancelOpt s.cancelled (held s.procs c) :=
    fun hl hk => by rw [held_of_lookup hl, hk]
  -- the paths of `step`, in the order in which it is written
  fun_cases step s e
  -- AddConnection, ConnectionReady
  case case1 c | case2 c => exact ⟨shape_insert rfl (Or.inl rfl) (Or.inl rfl) (Or.inl rfl), nofun⟩
  -- RemoveConnection
  case case3 c hl => exact ⟨shape_refl, nofun⟩
  case case4 c p hl =>
    refine ⟨shape_of (fun c' hc' => ?_) (Or.inl ?_) (Or.inl rfl) (Or.inr (cancels hl rfl)), nofun⟩
    · exact (held_erase ..).trans (if_neg (Ne.symm hc'))
    · exact (held_erase ..).trans (if_pos rfl)
  -- BeginQuery
  case case5 c pid hl | case6 c pid p hl c' hb => exact ⟨shape_refl, nofun⟩
  case case7 c pid p hl hb tok =>
    exact ⟨shape_insert rfl (Or.inr (Or.inr ⟨rfl, rfl⟩)) (Or.inr rfl) (Or.inl rfl), begun rfl⟩
  -- EndQuery: the index entry goes first; then no process, the nil `Kill`, the cancel, another query id
  case case8 c pid s₁ hl | case11 c pid s₁ p hl hp =>
    exact ⟨shape_of (fun _ _ => rfl) (Or.inr (Or.inl rfl)) (Or.inl rfl) (Or.inl rfl), nofun⟩
  case case9 c p hk s₁ hl s₂ => exact ⟨shape_insert rfl (Or.inl hk) (Or.inl rfl) (Or.inl rfl), nofun⟩
  case case10 c p t hk s₁ hl s₂ =>
    exact ⟨shape_insert rfl (Or.inl rfl) (Or.inl rfl) (Or.inr (cancels hl hk)), nofun⟩
  -- BeginOperation
  case case12 c hl | case13 c p hl t hk => exact ⟨shape_refl, nofun⟩
  case case14 c p hl hk tok =>
    exact ⟨shape_insert rfl (Or.inr (Or.inr ⟨rfl, rfl⟩)) (Or.inr rfl) (Or.inl rfl), begun rfl⟩
  -- EndOperation
  case case15 c hl | case16 c p hl hk => exact ⟨shape_refl, nofun⟩
  case case17 c p hl t hk =>
    exact ⟨shape_insert rfl (Or.inl rfl) (Or.inl rfl) (Or.inr (cancels hl hk)), nofun⟩
  -- Kill
  case case18 c hl => exact ⟨shape_refl, nofun⟩
  case case19 c p hl =>
    exact ⟨shape_of (fun _ _ => rfl) (Or.inr (Or.inl rfl)) (Or.inl rfl) (Or.inr (cancels hl rfl)), nofun⟩

theorem step_shape (s : St) (e : Ev) : StepShape s e (step s e).1 := (step_shape_ok s e).1

/-- Token discipline: every token ever handed out or cancelled is below the supply, and no two
connections hold the same cancel func. -/
structure TokInv (s : St) : Prop where
  cancLt : ∀ t ∈ s.cancelled, t < s.nextTok
  heldLt : ∀ c t, held s.procs c = some t → t < s.nextTok
  heldInj : ∀ c c' t, held s.procs c = some t → held s.procs c' = some t → c = c'

theorem tokInv_init : TokInv St.init :=
  ⟨by intro t h; simp [St.init] at h, by intro c t h; simp [St.init, held, lookup] at h,
   by intro c c' t h; simp [St.init, held, lookup] at h⟩

theorem StepShape.cancelled_lt {s s' : St} {e : Ev} (hs : StepShape s e s') (hi : TokInv s) :
    ∀ t ∈ s'.cancelled, t < s.nextTok :=
  fun t ht => (hs.cancelled t ht).elim (hi.cancLt t) (hi.heldLt _ t)

theorem tokInv_of_shape {s s' : St} {e : Ev} (hi : TokInv s) (hs : StepShape s e s') : TokInv s' := by
  have hle : s.nextTok ≤ s'.nextTok := hs.tok.elim (fun h => Nat.le_of_eq h.symm) (fun h => h ▸ Nat.le_succ _)
  have own : ∀ t, held s'.procs e.conn = some t →
      held s.procs e.conn = some t ∨ (t = s.nextTok ∧ s'.nextTok = s.nextTok + 1) := by
    intro t h
    rcases hs.own with h1 | h1 | ⟨h1, h2⟩
    · rw [h1] at h; cases h
    · exact Or.inl (h1 ▸ h)
    · rw [h1] at h; cases h; exact Or.inr ⟨rfl, h2⟩
  -- the field `heldInj` is `InjSome (held _.procs)` spelt out, and `hs.others` says `held` changes at `e.conn` only
  refine ⟨fun t ht => Nat.lt_of_lt_of_le (hs.cancelled_lt hi t ht) hle, ?_, InjSome.upd hi.heldInj hs.others ?_⟩
  · intro c t h
    by_cases hc : c = e.conn
    · rcases own t (hc ▸ h) with h1 | ⟨rfl, h2⟩
      · exact Nat.lt_of_lt_of_le (hi.heldLt _ t h1) hle
      · rw [h2]; exact Nat.lt_succ_self _
    · rw [hs.others c hc] at h; exact Nat.lt_of_lt_of_le (hi.heldLt c t h) hle
  · intro c' t hc' h h'
    rcases own t h with h1 | ⟨rfl, _⟩
    · exact hc' (hi.heldInj _ _ t h' h1)
    · exact Nat.lt_irrefl _ (hi.heldLt c' _ h')

theorem token_fresh {s : St} {e : Ev} {tok : Nat} (hi : TokInv s) (h : (step s e).2 = .ok tok) :
    tok ∉ (step s e).1.cancelled ∧ held (step s e).1.procs e.conn = some tok ∧
    ∀ c, c ≠ e.conn → held (step s e).1.procs c ≠ some tok := by
  have hs := step_shape s e
  obtain ⟨rfl, hheld⟩ := (step_shape_ok s e).2 tok h
  -- the token is the supply value, above everything cancelled so far
  exact ⟨fun hmem => Nat.lt_irrefl _ (hs.cancelled_lt hi _ hmem), hheld,
    fun c hc hh => hc ((tokInv_of_shape hi hs).heldInj c e.conn _ hh hheld)⟩

theorem exec_append (s : St) (es fs : List Ev) : exec s (es ++ fs) = exec (exec s es) fs := by
  simp [exec, List.foldl_append]

theorem tokInv_exec (s : St) (es : List Ev) (hi : TokInv s) : TokInv (exec s es) := by
  induction es generalizing s with
  | nil => exact hi
  | cons e es ih => exact ih _ (tokInv_of_shape hi (step_shape s e))

structure SSim (s : SSt) (a : SASt) : Prop where
  pl : Sim s.pl a.pl
  closed : s.closed = a.closed

theorem inRegion_kill (a : ASt) (c : Nat) : inRegion a (.kill c) = false := rfl

theorem inRegion_endQ (a : ASt) (c pid : Nat) : inRegion a (.endQ c pid) = false := rfl

theorem astep_ne_crash {a a' : ASt} {e : Ev} {r : Res} (h : astep a e = some (a', r)) : r ≠ .crash := by
  revert h
  fun_cases astep a e <;> rintro ⟨⟩ <;> nofun

theorem killStmtBody_pl (kt : KillType) (s : SSt) (c : Nat) :
    (killStmtBody kt s c).pl = (step s.pl (.kill c)).1 := by
  cases kt <;> rfl

theorem killStmtBody_closed (kt : KillType) (s : SSt) (c : Nat) :
    (killStmtBody kt s c).closed = match kt with
      | .connection => s.closed ++ [c]
      | .query => s.closed := by
  cases kt <;> rfl

theorem sstep_pl (s : SSt) (e : SqlEv) : (sstep s e).1.pl = exec s.pl (lower e) := by
  cases e with
  | call e => simp [sstep, lower, exec]
  | killStmt kt i pid c => simp [sstep, closeStmt, killStmtBody_pl, lower, exec]
  | «show» i pid => simp [sstep, closeStmt, lower, exec]

theorem sexec_pl (s : SSt) (es : List SqlEv) : (sexec s es).pl = exec s.pl (lowerAll es) := by
  rw [exec, lowerAll, List.foldl_flatMap]
  exact (List.foldl_hom SSt.pl fun s e => (sstep_pl s e).symm).symm

theorem sstep_closed (s : SSt) (e : SqlEv) : (sstep s e).1.closed = s.closed ++ closeRequests [e] := by
  cases e with
  | call e => simp [sstep, closeRequests]
  | killStmt kt i pid c => cases kt <;> simp [sstep, closeStmt, killStmtBody, closeRequests]
  | «show» i pid => simp [sstep, closeStmt, closeRequests]

theorem closeRequests_cons (e : SqlEv) (es : List SqlEv) :
    closeRequests (e :: es) = closeRequests [e] ++ closeRequests es := by
  cases e with
  | killStmt kt i pid c => cases kt <;> simp [closeRequests]
  | call e | «show» i pid => simp [closeRequests]

theorem sexec_closed (s : SSt) (es : List SqlEv) : (sexec s es).closed = s.closed ++ closeRequests es := by
  induction es generalizing s with
  | nil => simp [sexec, closeRequests]
  | cons e es ih =>
    have h1 : sexec s (e :: es) = sexec (sstep s e).1 es := rfl
    rw [h1, ih, sstep_closed, closeRequests_cons e es, List.append_assoc]

/-- Closing a statement is its `EndQuery`; the Spec never demands a crash, so the statement's result
stands. -/
theorem sim_closeStmt {s : SSt} {p p' : ASt} {cl : List Nat} {i pid : Nat} {r0 : Res} {r : SRes}
    (hs : SSim s ⟨p, cl⟩) (hi : PInv p.procs) (he : astep p (.endQ i pid) = some (p', r0)) :
    (closeStmt s i pid r).2 = r ∧ SSim (closeStmt s i pid r).1 ⟨p', cl⟩ ∧ PInv p'.procs := by
  obtain ⟨e1, e2, e3⟩ := sim_step hs.pl hi he (inRegion_endQ _ _ _)
  exact ⟨by simp [closeStmt, e1, astep_ne_crash he], ⟨e2, hs.closed⟩, e3⟩

/-- One SQL-layer call: inside the protocol and outside the regions (no statement is in a region) the
Impl model makes exactly the Spec's move — same result (for SHOW PROCESSLIST: same rows), same close
requests — and re-establishes the refinement relation. -/
theorem sim_sql_step {s : SSt} {a a' : SASt} {e : SqlEv} {r : SRes}
    (hs : SSim s a) (hi : PInv a.pl.procs) (h : sastep a e = some (a', r)) (hr : sInRegion a e = false) :
    (sstep s e).2 = r ∧ SSim (sstep s e).1 a' ∧ PInv a'.pl.procs := by
  revert h
  fun_cases sastep a e
  -- one of the calls the statement stands for is outside the protocol
  case case1 | case3 | case4 | case6 => nofun
  case case2 e p r' hst =>
    rintro ⟨⟩
    obtain ⟨h1, h2, h3⟩ := sim_step hs.pl hi hst hr
    exact ⟨congrArg SRes.call h1, ⟨h2, hs.closed⟩, h3⟩
  case case5 kt i pid c p r₁ hk p' r₂ he =>
    rintro ⟨⟩
    obtain ⟨_, k2, k3⟩ := sim_step hs.pl hi hk (inRegion_kill _ _)
    exact sim_closeStmt (s := killStmtBody kt s c)
      ⟨by rw [killStmtBody_pl]; exact k2, hs.closed ▸ killStmtBody_closed kt s c⟩ k3 he
  case case7 i pid p' r₂ he =>
    rintro ⟨⟩
    rw [← hs.pl.procs]
    exact sim_closeStmt hs hi he

/-- The Spec's trace of an SQL-layer history; `none` as soon as one call leaves the protocol. -/
def satrace : SASt → List SqlEv → Option (List (SASt × SRes))
  | _, [] => some []
  | a, e :: es =>
    match sastep a e with
    | none => none
    | some (a', r) =>
      match satrace a' es with
      | none => none
      | some t => some ((a', r) :: t)

def sNoRegion : SASt → List SqlEv → Bool
  | _, [] => true
  | a, e :: es =>
    match sastep a e with
    | none => true
    | some (a', _) => !sInRegion a e && sNoRegion a' es

def SSimTrace : List (SSt × SRes) → List (SASt × SRes) → Prop
  | [], [] => True
  | (s, r) :: t, (a, r') :: t' => r = r' ∧ SSim s a ∧ PInv a.pl.procs ∧ SSimTrace t t'
  | _, _ => False

theorem sql_refinement_from {s : SSt} {a : SASt} (es : List SqlEv) (tr : List (SASt × SRes))
    (hs : SSim s a) (hi : PInv a.pl.procs) (ht : satrace a es = some tr) (hr : sNoRegion a es = true) :
    SSimTrace (srun s es) tr := by
  revert ht
  fun_induction satrace a es generalizing s tr
  case case1 => rintro ⟨⟩; trivial
  case case2 | case3 => nofun
  case case4 a e es a' r hstep t htr ih =>
    rintro ⟨⟩
    simp only [sNoRegion, hstep, Bool.and_eq_true, Bool.not_eq_true'] at hr
    obtain ⟨h1, h2, h3⟩ := sim_sql_step hs hi hstep hr.1
    exact ⟨h1, h2, h3, ih t h2 h3 hr.2 htr⟩

theorem ssim_init : SSim SSt.init SASt.init := ⟨sim_init, rfl⟩

theorem good_of_ssimTrace {t : List (SSt × SRes)} {t' : List (SASt × SRes)} (h : SSimTrace t t') :
    ∀ x ∈ t, Good x.1.pl := by
  fun_induction SSimTrace t t'
  case case1 => exact fun _ hx => nomatch hx
  case case2 s r t a r' t' ih =>
    intro x hx
    rcases List.mem_cons.1 hx with rfl | hx
    · exact (sim_iff.1 ⟨h.2.1.pl, h.2.2.1⟩).2
    · exact ih h.2.2.2 x hx
  case case3 => exact h.elim

end Gms.ProcList

namespace Gms.C37
open Gms.ProcList

/-- **Refinement (guarded: `refinement_partial`).** For *every* history of calls that stays inside
the protocol of `sql.ProcessList` (the Spec machine `astep` answers every call) and avoids the two
listed defect regions (`remove_during_query`, `ready_during_operation`; the error returns of
`BeginQuery` are covered since the repair of F-C37-a, see `beginQuery_refines`), the Impl model of `ProcessList` returns the Spec's result at every call and
after every call its state is the Spec state plus exact redundant data: same session table
(`Processes()` shows exactly the connected sessions, each with the query it is running), same set
of cancelled contexts, `Threads_connected`/`Threads_running` equal to the derived counts, and
`byQueryPid` exactly the ground-truth owner relation.

The unguarded statement (without `noRegion`) is false for the code that exists — see
`finding_remove_during_query`, `finding_ready_during_operation`:

    theorem refinement (es tr) (ht : atrace ASt.init es = some tr) : SimTrace (run St.init es) tr -/
theorem refinement_partial (es : List Ev) (tr : List (ASt × Res))
    (ht : atrace ASt.init es = some tr) (hr : noRegion ASt.init es = true) :
    SimTrace (run St.init es) tr :=
  refinement_from es tr sim_init PInv_nil ht hr

/-- `Threads_connected` = number of sessions in the list, `Threads_running` = number of sessions
whose command is `Query`, `byQueryPid` = the owner relation, after every call of every covered
history. -/
theorem invariants_hold (es : List Ev) (tr : List (ASt × Res))
    (ht : atrace ASt.init es = some tr) (hr : noRegion ASt.init es = true) :
    ∀ x ∈ run St.init es, Good x.1 :=
  good_of_simTrace (refinement_partial es tr ht hr)

theorem inv_connected (es : List Ev) (tr : List (ASt × Res))
    (ht : atrace ASt.init es = some tr) (hr : noRegion ASt.init es = true) :
    ∀ x ∈ run St.init es, x.1.connected = (x.1.procs.length : Int) :=
  fun x hx => (invariants_hold es tr ht hr x hx).connected

theorem inv_running (es : List Ev) (tr : List (ASt × Res))
    (ht : atrace ASt.init es = some tr) (hr : noRegion ASt.init es = true) :
    ∀ x ∈ run St.init es, x.1.running = (cnt isQuery x.1.procs : Int) :=
  fun x hx => (invariants_hold es tr ht hr x hx).running

theorem inv_byPid (es : List Ev) (tr : List (ASt × Res))
    (ht : atrace ASt.init es = some tr) (hr : noRegion ASt.init es = true) :
    ∀ x ∈ run St.init es, ∀ pid c, lookup x.1.byPid pid = some c ↔ Owner x.1.procs pid c :=
  fun x hx => (invariants_hold es tr ht hr x hx).byPid

/-- Non-vacuity: a two-connection history with a double `EndQuery`, a `KILL` of a running query, a
`KILL` of an unknown id, an operation, an error return of `BeginOperation` and a disconnect is
covered (inside the protocol, outside the regions). -/
def sampleHistory : List Ev :=
  [.add 1, .ready 1, .add 2, .ready 2, .beginQ 1 1, .kill 1, .beginOp 1, .endQ 1 1, .endQ 1 1,
   .beginOp 2, .kill 7, .endOp 2, .beginQ 2 2, .beginQ 1 3, .kill 2, .endQ 2 2, .remove 2, .endQ 1 3, .remove 1]

/-- Non-vacuity for the error returns of `BeginQuery` (covered since the repair of F-C37-a): an
unregistered connection, a query id in use by another connection, the same after the query ended. -/
def sampleHistoryErr : List Ev :=
  [.beginQ 1 1, .add 1, .ready 1, .add 2, .ready 2, .beginQ 1 1, .beginQ 2 1, .beginQ 3 2, .endQ 1 1,
   .beginQ 2 1, .beginQ 2 1, .endQ 2 1, .remove 1, .beginQ 1 4, .remove 2]

example : (atrace ASt.init sampleHistoryErr).isSome = true ∧ noRegion ASt.init sampleHistoryErr = true := by decide +kernel
example : (run St.init sampleHistoryErr).map (·.2) =
    [.errNotRegistered, .done, .done, .done, .done, .ok 0, .errPidUsed, .errNotRegistered, .done,
     .ok 1, .errPidUsed, .done, .done, .errNotRegistered, .done] ∧
    (run St.init sampleHistoryErr).map (·.1.running) = [0, 0, 0, 0, 0, 1, 1, 1, 0, 1, 1, 0, 0, 0, 0] := by decide +kernel

example : (atrace ASt.init sampleHistory).isSome = true ∧ noRegion ASt.init sampleHistory = true := by decide +kernel
example : (exec St.init sampleHistory).cancelled = [3, 2, 1, 0] ∧ (exec St.init sampleHistory).running = 0 := by decide +kernel

/-- **KILL (and every other call) cancels only the targeted work — all states, all calls, no
protocol assumption.** A context that is cancelled after a call was cancelled before it, or its
cancel func was the one registered for the connection the call names. -/
theorem kill_targets_only (s : St) (e : Ev) (t : Nat) (h : t ∈ (step s e).1.cancelled) :
    t ∈ s.cancelled ∨ held s.procs e.conn = some t :=
  (step_shape s e).cancelled t h

/-- `Kill c` itself: exactly the registered cancel func of `c` is called, nothing else changes. -/
theorem kill_exact (s : St) (c : Nat) :
    (step s (.kill c)).1 = { s with cancelled := cancelOpt s.cancelled (held s.procs c) } := by
  cases hl : lookup s.procs c with
  | none => simp [step, hl, held_of_lookup_none hl, cancelOpt]
  | some p => simp [step, hl, held_of_lookup hl]

example : (step (exec St.init [.add 1, .ready 1, .add 2, .ready 2, .beginQ 1 5, .beginQ 2 6]) (.kill 2)).1.cancelled = [1] := by
  decide +kernel

/-- A call on one connection never changes what is registered for another connection. -/
theorem other_connections_untouched (s : St) (e : Ev) (c : Nat) (h : c ≠ e.conn) :
    held (step s e).1.procs c = held s.procs c :=
  (step_shape s e).others c h

/-- Token discipline holds after *every* history whatsoever (also outside the protocol). -/
theorem tokens_disciplined (es : List Ev) : TokInv (exec St.init es) :=
  tokInv_exec St.init es tokInv_init

/-- **A cancellation never affects a later query on the same connection — all histories.** The
context handed out by a successful `BeginQuery`/`BeginOperation` after any history is not cancelled
at that moment and is not the context of any other connection; by `kill_targets_only` it can from
then on only be cancelled by a call that names its own connection while it is still registered. -/
theorem no_late_cancel (es : List Ev) (e : Ev) (tok : Nat)
    (h : (step (exec St.init es) e).2 = .ok tok) :
    tok ∉ (step (exec St.init es) e).1.cancelled ∧
    held (step (exec St.init es) e).1.procs e.conn = some tok ∧
    ∀ c, c ≠ e.conn → held (step (exec St.init es) e).1.procs c ≠ some tok :=
  token_fresh (tokens_disciplined es) h

example : (step (exec St.init [.add 1, .ready 1, .beginQ 1 1, .kill 1, .endQ 1 1]) (.beginQ 1 2)).2 = .ok 1 := by decide +kernel

/-- **Refinement at the SQL layer (guarded by the same two regions; no statement is in a region).**
For every history of direct `ProcessList` calls *and* statements `KILL QUERY n` / `KILL CONNECTION n` /
`KILL n` / `SHOW PROCESSLIST` executed through the engine that stays inside the protocol and whose
direct calls avoid the two listed regions, the model of the engine path (rowexec `buildKill`,
`buildShowProcessList`, the tracked iterator's `EndQuery`) returns the Spec's result at every call —
for `SHOW PROCESSLIST` the rows are exactly the Spec's sessions with their running queries — makes
exactly the Spec's close requests, and keeps the `ProcessList` state in the relation `Sim`. -/
theorem sql_refinement_partial (es : List SqlEv) (tr : List (SASt × SRes))
    (ht : satrace SASt.init es = some tr) (hr : sNoRegion SASt.init es = true) :
    SSimTrace (srun SSt.init es) tr :=
  sql_refinement_from es tr ssim_init PInv_nil ht hr

/-- Counters = counts and pid index = owners after every call of every covered SQL-layer history. -/
theorem sql_invariants_hold (es : List SqlEv) (tr : List (SASt × SRes))
    (ht : satrace SASt.init es = some tr) (hr : sNoRegion SASt.init es = true) :
    ∀ x ∈ srun SSt.init es, Good x.1.pl :=
  good_of_ssimTrace (sql_refinement_partial es tr ht hr)

/-- **Lowering — all histories, no protocol assumed.** The `ProcessList` state after a history with
statements is the state after the history in which every statement is replaced by the direct calls it
stands for (`KILL … c` by `Kill c; EndQuery`, `SHOW PROCESSLIST` by `EndQuery`). Everything proved
about all histories of direct calls therefore holds with statements in them. -/
theorem sql_lowering (es : List SqlEv) : (sexec SSt.init es).pl = exec St.init (lowerAll es) :=
  sexec_pl SSt.init es

/-- Token discipline after every SQL-layer history whatsoever. -/
theorem sql_tokens_disciplined (es : List SqlEv) : TokInv (sexec SSt.init es).pl := by
  rw [sql_lowering]; exact tokens_disciplined (lowerAll es)

/-- A cancellation by a KILL statement never affects a later query: the context handed out by a
successful `BeginQuery`/`BeginOperation` after any SQL-layer history is fresh and registered for its
own connection only. -/
theorem sql_no_late_cancel (es : List SqlEv) (e : Ev) (tok : Nat)
    (h : (step (sexec SSt.init es).pl e).2 = .ok tok) :
    tok ∉ (step (sexec SSt.init es).pl e).1.cancelled ∧
    held (step (sexec SSt.init es).pl e).1.procs e.conn = some tok ∧
    ∀ c, c ≠ e.conn → held (step (sexec SSt.init es).pl e).1.procs c ≠ some tok :=
  token_fresh (sql_tokens_disciplined es) h

/-- **A KILL statement of either type cancels what the target is doing — every state, every issuer,
no protocol assumed.** If a cancel func is registered for connection `c` (a running query or an
operation), it has been called when `KILL QUERY c` / `KILL CONNECTION c` / `KILL c` returns. -/
theorem kill_stmt_cancels_target (s : SSt) (kt : KillType) (i pid c t : Nat)
    (h : held s.pl.procs c = some t) :
    t ∈ (sstep s (.killStmt kt i pid c)).1.pl.cancelled := by
  have h1 : t ∈ (step s.pl (.kill c)).1.cancelled := by
    rw [kill_exact]; exact mem_cancelOpt.2 (Or.inr h)
  rw [sstep_pl]
  exact (step_shape _ (.endQ i pid)).mono t h1

/-- **… and nothing else**: a context that is cancelled after a KILL statement was cancelled before,
or it was registered for the target, or it is the issuing statement's own (ended by the engine's
`EndQuery`). -/
theorem kill_stmt_targets_only (s : SSt) (kt : KillType) (i pid c t : Nat)
    (h : t ∈ (sstep s (.killStmt kt i pid c)).1.pl.cancelled) :
    t ∈ s.pl.cancelled ∨ held s.pl.procs c = some t ∨ held s.pl.procs i = some t := by
  rw [sstep_pl] at h
  rcases kill_targets_only (step s.pl (.kill c)).1 (.endQ i pid) t h with h1 | h1
  · rcases kill_targets_only _ _ t h1 with h2 | h2
    · exact Or.inl h2
    · exact Or.inr (Or.inl h2)
  · right; right
    rw [kill_exact] at h1
    exact h1

/-- The two kill types differ in the close request only: on the `ProcessList` they do the same. -/
theorem kill_stmt_types_agree (s : SSt) (i pid c : Nat) :
    (sstep s (.killStmt .connection i pid c)).1.pl = (sstep s (.killStmt .query i pid c)).1.pl :=
  (sstep_pl s _).trans (sstep_pl s _).symm

/-- **Close requests — all histories.** The connections the server is asked to close are exactly the
targets of the `KILL CONNECTION` / `KILL` statements, in order: `KILL QUERY`, `SHOW PROCESSLIST` and
the direct calls request nothing. -/
theorem close_requests_exact (es : List SqlEv) : (sexec SSt.init es).closed = closeRequests es := by
  rw [sexec_closed]; rfl

/-- Non-vacuity: `KILL CONNECTION 2` issued by connection 1 while connection 2 runs a query — covered
(inside the protocol, outside the regions); connection 2's context (token 1) is cancelled, the issuer's
own query (token 0) is ended, connection 2 is still listed in command Query with its `Threads_running`
count (the server removes it when its handler unwinds) and exactly connection 2 is asked to close. -/
def sampleSqlKillConn : List SqlEv :=
  [.call (.add 1), .call (.ready 1), .call (.add 2), .call (.ready 2), .call (.beginQ 1 1), .call (.beginQ 2 2),
   .killStmt .connection 1 1 2, .call (.endQ 1 1)]

example : (satrace SASt.init sampleSqlKillConn).isSome = true ∧ sNoRegion SASt.init sampleSqlKillConn = true := by decide +kernel
example : (sexec SSt.init sampleSqlKillConn).pl.cancelled = [0, 1] ∧ (sexec SSt.init sampleSqlKillConn).closed = [2] ∧
    (sexec SSt.init sampleSqlKillConn).pl.running = 1 := by decide +kernel
example : held (sexec SSt.init (sampleSqlKillConn.take 6)).pl.procs 2 = some 1 := by decide +kernel

/-- Non-vacuity: `KILL QUERY`, `KILL CONNECTION` of a busy and of an idle connection, `SHOW PROCESSLIST`
and a `KILL` of an unknown id on four connections (harness corpus case 9). -/
def sampleSqlHistory : List SqlEv :=
  [.call (.add 1), .call (.ready 1), .call (.add 2), .call (.ready 2), .call (.add 3), .call (.ready 3), .call (.add 4), .call (.ready 4),
   .call (.beginQ 2 1), .call (.beginQ 3 2), .call (.beginQ 4 3),
   .call (.beginQ 1 4), .killStmt .query 1 4 2, .call (.endQ 1 4),
   .call (.beginQ 1 5), .killStmt .connection 1 5 3, .call (.endQ 1 5),
   .call (.endQ 2 1),
   .call (.beginQ 1 6), .killStmt .connection 1 6 2, .call (.endQ 1 6),
   .call (.beginQ 1 7), .show 1 7, .call (.endQ 1 7),
   .call (.beginQ 1 8), .killStmt .connection 1 8 77, .call (.endQ 1 8),
   .call (.endQ 3 2), .call (.remove 3), .call (.endQ 4 3)]

example : (satrace SASt.init sampleSqlHistory).isSome = true ∧ sNoRegion SASt.init sampleSqlHistory = true := by decide +kernel
example : (sexec SSt.init sampleSqlHistory).closed = [3, 2, 77] ∧ (sexec SSt.init sampleSqlHistory).pl.running = 0 ∧
    2 ∉ (sexec SSt.init (sampleSqlHistory.take 17)).pl.cancelled ∧ 1 ∈ (sexec SSt.init (sampleSqlHistory.take 17)).pl.cancelled := by decide +kernel

/-- **Full statement for `BeginQuery` (holds since the `fix:` commit; it was false before).** Every
`BeginQuery` call inside the protocol — success *and* both error returns, no region guard — returns the
Spec's result and re-establishes the refinement relation, in particular `Threads_running` = number
of sessions in command Query. -/
theorem beginQuery_refines {s : St} {a a' : ASt} {c pid : Nat} {r : Res}
    (hs : Sim s a) (hi : PInv a.procs) (h : astep a (.beginQ c pid) = some (a', r)) :
    (step s (.beginQ c pid)).2 = r ∧ Sim (step s (.beginQ c pid)).1 a' ∧ PInv a'.procs :=
  sim_step hs hi h rfl

/-- **A failed `BeginQuery` has no effect — every state, every argument, no protocol assumed.** If the
call does not hand out a context, the whole `ProcessList` state (the two counters, the process list,
the pid index, the cancelled contexts) is what it was. -/
theorem beginQuery_error_no_effect (s : St) (c pid : Nat)
    (h : ∀ tok, (step s (.beginQ c pid)).2 ≠ .ok tok) : (step s (.beginQ c pid)).1 = s := by
  cases hl : lookup s.procs c with
  | none => simp [step, hl]
  | some p =>
    cases hb : lookup s.byPid pid with
    | some x => simp [step, hl, hb]
    | none => exact absurd (by simp [step, hl, hb]) (h s.nextTok)

/-- `Threads_running` moves in `BeginQuery` exactly when a context is handed out. -/
theorem beginQuery_running (s : St) (c pid : Nat) :
    (step s (.beginQ c pid)).1.running =
      s.running + (match (step s (.beginQ c pid)).2 with | .ok _ => 1 | _ => 0) := by
  cases hl : lookup s.procs c with
  | none => simp [step, hl]
  | some p =>
    cases hb : lookup s.byPid pid with
    | some x => simp [step, hl, hb]
    | none => simp [step, hl, hb]

example : (step St.init (.beginQ 1 1)).2 = .errNotRegistered ∧ (step St.init (.beginQ 1 1)).1.running = 0 := by decide +kernel
example : (step (exec St.init [.add 1, .ready 1]) (.beginQ 1 1)).2 = .ok 0 ∧
    (step (exec St.init [.add 1, .ready 1]) (.beginQ 1 1)).1.running = 1 := by decide +kernel

/-- Witness of the repaired defect, first error return: before the `fix:` commit `BeginQuery` on an
unregistered connection returned its error *after* counting the query (`Threads_running` = 1 with no
session at all); the repaired `BeginQuery` leaves the counter at 0. If the increment moves back above
the error returns, `facts_match` breaks and this history is the replay. -/
theorem fixed_begin_query_error_path :
    ∃ es, (atrace ASt.init es).isSome = true ∧
      (execPreFix St.init es).running ≠ (cnt isQuery (execPreFix St.init es).procs : Int) ∧
      (exec St.init es).running = (cnt isQuery (exec St.init es).procs : Int) :=
  ⟨[.beginQ 1 1], by decide +kernel⟩

/-- Witness of the repaired defect, second error return: the query id is already in use. -/
theorem fixed_begin_query_error_path_dup_pid :
    ∃ es, (atrace ASt.init es).isSome = true ∧
      (execPreFix St.init es).running ≠ (cnt isQuery (execPreFix St.init es).procs : Int) ∧
      (exec St.init es).running = (cnt isQuery (exec St.init es).procs : Int) :=
  ⟨[.add 1, .ready 1, .add 2, .ready 2, .beginQ 1 1, .beginQ 2 1], by decide +kernel⟩

/-- Both old witnesses are inside the protocol and outside every remaining region, i.e. they are now
covered by `refinement_partial` / `invariants_hold`. -/
theorem fixed_witnesses_covered :
    noRegion ASt.init [.beginQ 1 1] = true ∧
    noRegion ASt.init [.add 1, .ready 1, .add 2, .ready 2, .beginQ 1 1, .beginQ 2 1] = true ∧
    beginQueryErrorCall ASt.init (.beginQ 1 1) = true := by decide +kernel

/-- F-C37-b. `RemoveConnection` while the connection's query is registered never gives the
`Threads_running` increment back (the later `EndQuery` finds no process). -/
theorem finding_remove_during_query :
    ∃ es, (atrace ASt.init es).isSome = true ∧
      (exec St.init es).running ≠ (cnt isQuery (exec St.init es).procs : Int) :=
  ⟨[.add 1, .ready 1, .beginQ 1 1, .remove 1, .endQ 1 1], by decide +kernel⟩

/-- `ConnectionReady` inside a registered operation (the order of calls in
`SessionManager.SetDB`) replaces the `Process` struct and with it the operation's cancel func:
a `KILL` that the Spec delivers to the operation is lost, and `EndOperation` no longer cancels the
sub-context. -/
theorem finding_ready_during_operation :
    ∃ es a, aexec ASt.init es = some a ∧ (exec St.init es).cancelled ≠ a.cancelled :=
  ⟨[.add 1, .beginOp 1, .ready 1, .kill 1, .endOp 1], _, rfl, by decide +kernel⟩

/-- Every witness above lies in its region (so the guard of `refinement_partial` is exactly what
excludes it). -/
theorem findings_in_regions :
    noRegion ASt.init [.add 1, .ready 1, .beginQ 1 1, .remove 1, .endQ 1 1] = false ∧
    noRegion ASt.init [.add 1, .beginOp 1, .ready 1, .kill 1, .endOp 1] = false := by decide +kernel

/-- The code read back from /repo's working tree still has the shape the model transliterates:
the four counter updates sit in the four methods with these deltas, the `Threads_running` increment
of `BeginQuery` comes after both of its error returns (the repair of F-C37-a: none of the two error
returns follows the increment — if the increment moves back up, this obligation breaks and
`fixed_begin_query_error_path` is the replay), `RemoveConnection` does not touch
`Threads_running`, every event method holds `pl.mu` (atomic steps), `EndQuery`/`EndOperation`/`Kill`
guard (or not) the `Kill` func exactly as modelled, and the command names are the three MySQL
ones. SQL layer: the iterator body of rowexec `buildKill` calls `ProcessList.Kill` for *both* kill types
and `KillConnection` in addition for type Connection only (`killStmtBody`; the calls are evaluated per
kill type from the if/switch structure, so a `KILL CONNECTION` that no longer calls `Kill` breaks this
obligation and `sampleSqlKillConn` is the replay), planbuilder maps `Kill.Connection` to the two types as
modelled, and every statement's iterator is still wrapped by the tracked iterator whose `done` calls
`ProcessList.EndQuery` (`closeStmt`). -/
theorem facts_match :
    Generated.C37.counterEffects = counterEffects ∧
    Generated.C37.beginQueryIncrementBeforeErrorReturns = false ∧
    Generated.C37.beginQueryErrorReturns = 2 ∧
    Generated.C37.beginQueryErrorReturnsAfterIncrement = 0 ∧
    Generated.C37.methodsUnderMutex =
      ["AddConnection", "BeginOperation", "BeginQuery", "ConnectionReady", "EndOperation", "EndQuery", "Kill",
       "Processes", "RemoveConnection"] ∧
    Generated.C37.killNilGuards = [("EndOperation", true), ("EndQuery", false), ("Kill", true), ("RemoveConnection", true)] ∧
    Generated.C37.commandNames = [("ProcessCommandConnect", "Connect"), ("ProcessCommandQuery", "Query"), ("ProcessCommandSleep", "Sleep")] ∧
    Generated.C37.killStmtCalls = killStmtCalls ∧
    Generated.C37.killPlanTypes = killPlanTypes ∧
    Generated.C37.trackedIterDoneCalls = ["ProcessList.EndQuery"] ∧
    Generated.C37.finalizeItersAddsTrackedIter = true :=
  ⟨rfl, rfl, rfl, rfl, rfl, rfl, rfl, rfl, rfl, rfl, rfl⟩

end Gms.C37
