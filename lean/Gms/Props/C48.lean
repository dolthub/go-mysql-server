/-
C48 — Guarded goroutines turn panics into errors.
-/
import Gms.Model.Errguard
import Gms.Generated.C48

namespace Gms.C48
open Gms.Errguard
variable {E P : Type}

/-- The premises of the model, re-read from errguard.go on this run: the closure passed to
`g.Go` has a named error result, its first statement is a `defer` of a function literal that
calls `recover()`, tests it against nil and assigns the named result, and its last statement is
`return fn()`; `RecoverAndLog` also calls `recover()` and does not re-panic. -/
theorem facts_match :
    Gms.Generated.C48.goCallsGroupGo = true ∧ Gms.Generated.C48.namedResult = "err" ∧
    Gms.Generated.C48.firstStmtIsDeferRecover = true ∧ Gms.Generated.C48.recoverAssignsNamedResult = true ∧
    Gms.Generated.C48.lastStmtReturnsFn = true ∧ Gms.Generated.C48.closureStmtCount = 2 ∧
    Gms.Generated.C48.noRepanic = true ∧ Gms.Generated.C48.recoverAndLogRecovers = true :=
  ⟨rfl, rfl, rfl, rfl, rfl, rfl, rfl, rfl⟩

/-- An ordinary returned error is propagated unchanged (identity, not wrapped); nil stays nil. -/
theorem guard_preserves_error (e : Option E) :
    guard (Outcome.ret e : Outcome E P) = e.map GErr.same := by
  cases e <;> rfl

/-- A panic, with any panic value, becomes a (non-nil) error built from that value. -/
theorem guard_panic_is_error (v : P) : guard (Outcome.panic v : Outcome E P) = some (GErr.recovered v) := rfl

/-- The guarded closure returns nil iff the function returned nil. -/
theorem guard_none_iff (o : Outcome E P) : guard o = none ↔ o = Outcome.ret none := by
  cases o with
  | ret e => cases e <;> simp [Errguard.guard]
  | panic v => simp [Errguard.guard]

/-- `Wait` is nil iff every function returned nil — for every completion order. -/
theorem wait_none_iff (order : List (Outcome E P)) :
    wait order = none ↔ ∀ o ∈ order, o = Outcome.ret none := by
  simp [wait, List.findSome?_eq_none_iff, guard_none_iff]

/-- `Wait` returns the guarded result of the first goroutine, in completion order, that did
not return nil. -/
theorem wait_first (pre : List (Outcome E P)) (o : Outcome E P) (post : List (Outcome E P))
    (hpre : ∀ p ∈ pre, p = Outcome.ret none) (ho : o ≠ Outcome.ret none) :
    wait (pre ++ o :: post) = guard o := by
  have hp : wait pre = none := (wait_none_iff pre).2 hpre
  unfold wait at hp ⊢
  rw [List.findSome?_append, hp, Option.none_or, List.findSome?_cons]
  cases h : guard o with
  | none => exact absurd ((guard_none_iff o).mp h) ho
  | some g => rfl

/-- Whatever the schedule, a non-nil `Wait` result is the guarded result of one of the
functions: an own error of a function that returned it, or the recovered value of one that
panicked. -/
theorem wait_mem (order : List (Outcome E P)) (g : GErr E P) (h : wait order = some g) :
    ∃ o ∈ order, guard o = some g := by
  simp only [wait] at h
  exact List.exists_of_findSome?_eq_some h

/-- Nil-ness of `Wait` does not depend on the schedule (any permutation of completion order). -/
theorem wait_none_perm (o₁ o₂ : List (Outcome E P)) (hp : o₁.Perm o₂) :
    wait o₁ = none ↔ wait o₂ = none := by
  simp only [wait_none_iff, hp.mem_iff]

/-- Nested groups compose: a function that runs an inner guarded group and returns its `Wait()`
never panics, and the outer `Wait` is nil iff all inner functions returned nil. -/
theorem nested_none_iff (inner : List (Outcome E P)) :
    wait [(nested inner : Outcome (GErr E P) P)] = none ↔ ∀ o ∈ inner, o = Outcome.ret none := by
  rw [wait_none_iff, ← wait_none_iff inner, List.forall_mem_singleton, nested, Outcome.ret.injEq]

/-- Non-vacuity: a schedule in which a panic completes first, then an error. -/
example : wait ([.ret none, .panic 7, .ret (some 3)] : List (Outcome Nat Nat)) = some (.recovered 7) := by
  decide
example : wait ([.ret none, .ret (some 3), .panic 7] : List (Outcome Nat Nat)) = some (.same 3) := by
  decide

end Gms.C48
