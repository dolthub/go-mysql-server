/-
C38 — Named locks give mutual exclusion and are linearizable.
-/
import Gms.Model.Locks
import Gms.Generated.C38

namespace Gms.Locks

@[simp] theorem upd_same {β : Type} {t : Nat → β} {n : Nat} {v : β} : upd t n v n = v := by simp [upd]

theorem upd_other {β : Type} {t : Nat → β} {n m : Nat} {v : β} (h : m ≠ n) : upd t n v m = t m := by
  simp [upd, h]

theorem owner_some {t : Table} {n o c : Nat} (h : t n = some (o, c)) : owner t n = o := by rw [owner, h]

theorem owner_none {t : Table} {n : Nat} (h : t n = none) : owner t n = 0 := by rw [owner, h]

theorem owner_upd (t : Table) (n m : Nat) (p : Nat × Nat) :
    owner (upd t n (some p)) m = if m = n then p.1 else owner t m := by
  by_cases h : m = n <;> simp [owner, upd, h]

theorem count_upd (t : Table) (n m o c : Nat) :
    count (upd t n (some (o, c))) m = if m = n then c else count t m := by
  by_cases h : m = n <;> simp [count, upd, h]

theorem acqVal_fst {u o c : Nat} : (acqVal u o c).1 = u := by
  unfold acqVal; split <;> rfl

theorem astep_kindOp {t : Table} {k : Kind} {u n o c : Nat} (ht : t n = some (o, c)) :
    astep t (kindOp k u n) =
      if goCond k u o then (upd t n (some (casVal k u o c)), casRes k) else (t, failRes k) := by
  cases k <;> simp [goCond, kindOp, astep, casVal, casRes, failRes, ht]

theorem unlock_held {t : Table} {u n c : Nat} (h : t n = some (u, c)) :
    (astep t (.unlock u n)).1 n = some (unlockVal u c) := by
  simp only [astep, h, ne_eq, not_true_eq_false, if_false, upd_same]

theorem tryAcq_success {t : Table} {u n o c : Nat} (h : t n = some (o, c)) (ho : o = 0 ∨ o = u) :
    (astep t (.tryAcq u n)).1 n = some (acqVal u o c) := by
  simp only [astep, h, ho, if_true, upd_same]

def Op.session : Op → Option Nat
  | .ensure _ => none
  | .tryAcq u _ => some u
  | .unlock u _ => some u
  | .relOne u _ => some u
  | .getState _ => none

/-- A primitive leaves the table alone or writes one record; the record it overwrites was free or its
session's own; the new holder is nobody, the old holder, or the session whose acquisition `op` is. -/
theorem astep_frame (t : Table) (op : Op) :
    (astep t op).1 = t ∨
    ∃ m p, (astep t op).1 = upd t m (some p) ∧
      (owner t m = 0 ∨ op.session = some (owner t m)) ∧
      (p.1 = 0 ∨ p.1 = owner t m ∨ op = .tryAcq p.1 m) := by
  fun_cases astep t op with
  | case1 n absent => exact Or.inr ⟨n, (0, 0), rfl, Or.inl (owner_none absent), Or.inl rfl⟩
  | case4 u n o c hn free_or_mine =>
    refine Or.inr ⟨n, acqVal u o c, rfl, ?_, Or.inr (Or.inr (by rw [acqVal_fst]))⟩
    rw [owner_some hn]; exact free_or_mine.imp id (congrArg some ·.symm)
  | case8 u n o c hn mine =>
    have mine : o = u := Decidable.not_not.1 mine
    refine Or.inr ⟨n, unlockVal u c, rfl, Or.inr (by rw [owner_some hn, mine]; rfl), ?_⟩
    rw [owner_some hn, mine]
    unfold unlockVal
    split
    · exact Or.inr (Or.inl rfl)
    · exact Or.inl rfl
  | case11 u n o c hn mine =>
    exact Or.inr ⟨n, (0, 0), rfl, Or.inr (by rw [owner_some hn, Decidable.not_not.1 mine]; rfl), Or.inl rfl⟩
  | _ => exact Or.inl rfl

theorem arun_cons (t : Table) (op : Op) (ops : List Op) :
    arun t (op :: ops) = ((arun (astep t op).1 ops).1, (astep t op).2 :: (arun (astep t op).1 ops).2) := by
  simp [arun]

def rep (op : Op) : Nat → Table → Table
  | 0, t => t
  | k + 1, t => rep op k (astep t op).1

theorem rep_succ_last (op : Op) (j : Nat) : ∀ t : Table, rep op (j + 1) t = (astep (rep op j t) op).1 := by
  induction j with
  | zero => intro t; rfl
  | succ j ih => intro t; exact ih _

theorem proj_upd (cells : Nat → Option Cell) (n : Nat) (c : Cell) :
    proj (upd cells n (some c)) = upd (proj cells) n (some (c.owner, c.count)) := by
  funext m
  by_cases h : m = n <;> simp [proj, upd, h]

theorem proj_some {cells : Nat → Option Cell} {n : Nat} {c : Cell} (h : cells n = some c) :
    proj cells n = some (c.owner, c.count) := by rw [proj, h]; rfl

theorem mem_addLock {l : List Nat} {n m : Nat} : m ∈ addLock l n ↔ m = n ∨ m ∈ l := by
  unfold addLock
  split
  · constructor
    · exact Or.inr
    · rintro (h | h)
      · subst h; assumption
      · exact h
  · simp

theorem mem_delLock {l : List Nat} {n m : Nat} : m ∈ delLock l n ↔ m ∈ l ∧ m ≠ n := by
  simp [delLock]

/-- The primitive a thread in loop `k` on name `n` is executing. -/
def pcOp (u : Nat) : Pc → Option Op
  | .idle => none
  | .load k n => some (kindOp k u n)
  | .cas k n _ _ _ => some (kindOp k u n)

def callOp (u : Nat) : Call → Op
  | .tryLock n => .tryAcq u n
  | .unlock n => .unlock u n
  | .relOne n => .relOne u n
  | .getState n => .getState n

structure Inv (s : CSt) : Prop where
  /-- versions (pointer identities) in use are below the allocation supply -/
  verLt : ∀ n c, s.cells n = some c → c.ver < s.nextVer
  /-- a thread about to load has resolved an existing cell -/
  loadEx : ∀ u k n, s.pc u = .load k n → ∃ c, s.cells n = some c
  /-- a thread about to CAS: the record it loaded is what the version it holds stood for, and the
  decision it took on that record allowed the CAS -/
  casOk : ∀ u k n v o c, s.pc u = .cas k n v o c →
      v < s.nextVer ∧ goCond k u o = true ∧
      ∃ cell, s.cells n = some cell ∧ (cell.ver = v → cell.owner = o ∧ cell.count = c)
  /-- a session's lock set contains every name it owns (it may contain more: `ReleaseAll`) -/
  owned : ∀ u n c, u ≠ 0 → s.cells n = some c → c.owner = u → n ∈ s.sets u

theorem inv_init : Inv CSt.init :=
  ⟨by intro n c h; simp [CSt.init] at h, by intro u k n h; simp [CSt.init] at h,
   by intro u k n v o c h; simp [CSt.init] at h, by intro u n c _ h; simp [CSt.init] at h⟩

/-- What `Inv` asks of thread `u` at program counter `p`. -/
def PcOK (s : CSt) (u : Nat) : Pc → Prop
  | .idle => True
  | .load _ n => ∃ c, s.cells n = some c
  | .cas k n v o c => v < s.nextVer ∧ goCond k u o = true ∧
      ∃ cell, s.cells n = some cell ∧ (cell.ver = v → cell.owner = o ∧ cell.count = c)

theorem inv_pc {s : CSt} {u : Nat} {p : Pc} (hi : Inv s) (hp : PcOK s u p) :
    Inv { s with pc := upd s.pc u p } := by
  refine ⟨hi.verLt, ?_, ?_, hi.owned⟩
  · intro u' k n h
    by_cases e : u' = u
    · subst e; simp only [upd_same] at h; subst h
      exact hp
    · simp only [upd_other e] at h; exact hi.loadEx u' k n h
  · intro u' k n v o c h
    by_cases e : u' = u
    · subst e; simp only [upd_same] at h; subst h
      exact hp
    · simp only [upd_other e] at h; exact hi.casOk u' k n v o c h

/-- A freshly allocated record is written to the cell of `n` (creation, successful CAS); `S` are the lock
sets afterwards. No pending CAS holds the new version. -/
theorem inv_write {s : CSt} {n o c : Nat} {S : Nat → List Nat} (hi : Inv s)
    (hown : o ≠ 0 → n ∈ S o)
    (hsets : ∀ u' m, m ≠ n → m ∈ s.sets u' → m ∈ S u') :
    Inv { s with cells := upd s.cells n (some ⟨s.nextVer, o, c⟩), nextVer := s.nextVer + 1, sets := S } := by
  refine ⟨?_, ?_, ?_, ?_⟩
  · intro m cm h
    by_cases e : m = n
    · subst e; simp only [upd_same] at h; cases h; exact Nat.lt_succ_self _
    · simp only [upd_other e] at h
      exact Nat.lt_succ_of_lt (hi.verLt m cm h)
  · intro u' k m h
    obtain ⟨cm, hcm⟩ := hi.loadEx u' k m h
    by_cases e : m = n
    · subst e; exact ⟨_, upd_same⟩
    · exact ⟨cm, (upd_other e).trans hcm⟩
  · intro u' k m v o' c' h
    obtain ⟨h1, h2, cell, h3, h4⟩ := hi.casOk u' k m v o' c' h
    refine ⟨Nat.lt_succ_of_lt h1, h2, ?_⟩
    by_cases e2 : m = n
    · subst e2
      exact ⟨_, upd_same, fun hv => absurd (hv ▸ h1) (Nat.lt_irrefl _)⟩
    · exact ⟨cell, (upd_other e2).trans h3, h4⟩
  · intro u' m cm hu' h ho
    by_cases e : m = n
    · subst e
      simp only [upd_same] at h
      cases h
      subst ho
      exact hown hu'
    · simp only [upd_other e] at h
      exact hsets u' m e (hi.owned u' m cm hu' h ho)

/-- The step's linearization label is what happened to the abstract table at this step. -/
def LinOK (t t' : Table) : Option (Op × R) → Prop
  | none => t' = t
  | some (op, r) => astep t op = (t', r)

theorem call_ok (s : CSt) (u : Nat) (c : Call) (hi : Inv s) :
    Inv (call s u c).st ∧ LinOK (proj s.cells) (proj (call s u c).st.cells) (call s u c).lin := by
  cases c with
  | tryLock n =>
    cases hc : s.cells n with
    | none =>
      simp only [call, hc]
      constructor
      · exact inv_pc (inv_write (o := 0) (c := 0) hi (absurd rfl) (fun _ _ _ h => h))
          ⟨_, upd_same⟩
      · simp only [LinOK, astep, proj, hc, Option.map_none]
        rw [proj_upd s.cells n ⟨s.nextVer, 0, 0⟩]
    | some cell =>
      simp only [call, hc]
      constructor
      · exact inv_pc hi ⟨_, hc⟩
      · simp [LinOK, astep, proj, hc]
  | unlock n | relOne n =>
    cases hc : s.cells n with
    | none => simp only [call, hc]; exact ⟨hi, by simp [LinOK, astep, proj, hc]⟩
    | some cell =>
      simp only [call, hc]
      exact ⟨inv_pc hi ⟨_, hc⟩, rfl⟩
  | getState n =>
    cases hc : s.cells n with
    | none => simp only [call, hc]; exact ⟨hi, by simp [LinOK, astep, proj, hc]⟩
    | some cell =>
      simp only [call, hc]
      refine ⟨hi, ?_⟩
      by_cases h0 : cell.owner = 0 <;> simp [LinOK, astep, proj, hc, h0]

theorem micro_ok (s : CSt) (u : Nat) (hi : Inv s) :
    Inv (micro s u).st ∧ LinOK (proj s.cells) (proj (micro s u).st.cells) (micro s u).lin := by
  fun_cases micro s u with
  | case1 idle => exact ⟨hi, rfl⟩
  | case2 k n loading absent => exact ⟨hi, rfl⟩
  | case3 k n loading cell present go =>
    exact ⟨inv_pc hi ⟨hi.verLt n cell present, go, cell, present, fun _ => ⟨rfl, rfl⟩⟩, rfl⟩
  | case4 k n loading cell present stop =>
    exact ⟨inv_pc hi trivial, (astep_kindOp (proj_some present)).trans (if_neg stop)⟩
  | case5 k n v o c swapping absent => exact ⟨hi, rfl⟩
  | case6 k n o c cell present nv swapping =>
    -- the version loaded is the current one, so (`casOk`) the record loaded is the current record
    obtain ⟨_, hg, _, hc, heq⟩ := hi.casOk u k n cell.ver o c swapping
    cases present.symm.trans hc
    obtain ⟨rfl, rfl⟩ := heq rfl
    constructor
    · refine inv_pc (inv_write (S := upd s.sets u _) hi ?_ ?_) trivial
      · intro held
        -- a nonzero new holder is `u`: an acquisition adds `n` now unless `u` held it already (`owned`); an unlock
        -- that keeps `u` leaves the count above 0, so no `DelLock` (`owned` again); the last unlock and a release
        -- install holder 0
        cases k with
        | «try» =>
          rw [show nv.1 = u from acqVal_fst] at held ⊢
          simp only [upd_same, casSets]
          split
          · exact mem_addLock.2 (Or.inl rfl)
          · next h0 => exact hi.owned u n cell held hc ((of_decide_eq_true hg).resolve_left h0)
        | unl =>
          simp only [nv, casVal, unlockVal] at held ⊢
          split at held
          · next hc1 =>
            simp only [hc1, if_true, upd_same, casSets, Nat.sub_ne_zero_of_lt hc1, if_false]
            exact hi.owned u n cell held hc (of_decide_eq_true hg)
          · exact absurd rfl held
        | rel => exact absurd rfl held
      · intro u' m hm hmem
        by_cases e : u' = u
        · subst e
          rw [upd_same]
          cases k with
          | «try» =>
            simp only [casSets]
            split
            · exact mem_addLock.2 (Or.inr hmem)
            · exact hmem
          | unl =>
            simp only [casSets]
            split
            · exact mem_delLock.2 ⟨hmem, hm⟩
            · exact hmem
          | rel => exact hmem
        · rw [upd_other e]; exact hmem
    · simp only [LinOK]
      rw [proj_upd]
      exact (astep_kindOp (proj_some hc)).trans (if_pos hg)
  | case7 k n v o c swapping cell present stale => exact ⟨inv_pc hi ⟨_, present⟩, rfl⟩

theorem cstep_ok (s : CSt) (a : Act) (o : Out) (hi : Inv s) (h : cstep s a = some o) :
    Inv o.st ∧ LinOK (proj s.cells) (proj o.st.cells) o.lin := by
  cases a with
  | call u c =>
    simp only [cstep] at h
    split at h
    · cases h; exact call_ok s u c hi
    · cases h
  | step u =>
    simp only [cstep] at h
    split at h
    · cases h
    · cases h; exact micro_ok s u hi

/-- Forward simulation over a whole schedule: the linearization points, in the order in which they
were taken, are a legal sequential run of the atomic Spec from the abstraction of the start state
to the abstraction of the end state, with the very results the calls returned. -/
theorem crun_linearizable (acts : List Act) (s s' : CSt) (ls : List (Op × R)) (hi : Inv s)
    (h : crun s acts = some (s', ls)) :
    Inv s' ∧ arun (proj s.cells) (ls.map (·.1)) = (proj s'.cells, ls.map (·.2)) := by
  induction acts generalizing s ls with
  | nil => simp only [crun] at h; cases h; exact ⟨hi, rfl⟩
  | cons a as ih =>
    simp only [crun] at h
    split at h
    · cases h
    · rename_i o ho
      split at h
      · cases h
      · rename_i s2 ls2 hr
        cases h
        obtain ⟨hi2, hlin⟩ := cstep_ok s a o hi ho
        obtain ⟨hi3, hrun⟩ := ih o.st ls2 hi2 hr
        refine ⟨hi3, ?_⟩
        cases hl : o.lin with
        | none =>
          rw [hl] at hlin
          simp only [LinOK] at hlin
          simp only [Option.toList, List.nil_append]
          rw [← hlin]; exact hrun
        | some x =>
          obtain ⟨op, r⟩ := x
          rw [hl] at hlin
          simp only [LinOK] at hlin
          simp only [Option.toList, List.cons_append, List.nil_append, List.map_cons]
          rw [arun_cons, hlin]
          simp only [hrun]

/-- A call that completes at a `micro` step is linearized at that very step, as the primitive it
is executing and with the result it returns; a step that does not complete a call is silent. -/
theorem micro_completion (s : CSt) (u : Nat) :
    match (micro s u).done with
    | some r => ∃ op, pcOp u (s.pc u) = some op ∧ (micro s u).lin = some (op, r)
    | none => (micro s u).lin = none := by
  fun_cases micro s u with
  | case1 idle => rfl
  | case2 k n loading absent => rfl
  | case3 k n loading cell present go => rfl
  | case4 k n loading cell present stop => exact ⟨_, by rw [loading]; rfl, rfl⟩
  | case5 k n v o c swapping absent => rfl
  | case6 k n o c cell present nv swapping => exact ⟨_, by rw [swapping]; rfl, rfl⟩
  | case7 k n v o c swapping cell present stale => rfl

/-- After its first action a thread is executing the primitive of its call. -/
theorem call_pc (s : CSt) (u : Nat) (c : Call) (h : (call s u c).done = none) :
    pcOp u ((call s u c).st.pc u) = some (callOp u c) := by
  cases c with
  | tryLock n => cases hc : s.cells n <;> simp [call, hc, pcOp, callOp, kindOp]
  | unlock n | relOne n => cases hc : s.cells n <;> simp_all [call, pcOp, callOp, kindOp]
  | getState n => simp [call] at h

/-- `micro_pc` in every state: on the two paths `Inv` excludes (the cell is missing) the state is returned
unchanged. -/
theorem micro_keeps_op (s : CSt) (u : Nat) :
    ((micro s u).done = none → pcOp u ((micro s u).st.pc u) = pcOp u (s.pc u)) ∧
    (∀ u', u' ≠ u → (micro s u).st.pc u' = s.pc u') := by
  fun_cases micro s u with
  | case1 idle => exact ⟨fun _ => rfl, fun _ _ => rfl⟩
  | case2 k n loading absent => exact ⟨fun _ => rfl, fun _ _ => rfl⟩
  | case3 k n loading cell present go =>
    refine ⟨fun _ => ?_, fun _ => upd_other⟩
    rw [loading]
    simp [pcOp]
  | case4 k n loading cell present stop => exact ⟨nofun, fun _ => upd_other⟩
  | case5 k n v o c swapping absent => exact ⟨fun _ => rfl, fun _ _ => rfl⟩
  | case6 k n o c cell present nv swapping => exact ⟨nofun, fun _ => upd_other⟩
  | case7 k n v o c swapping cell present stale =>
    refine ⟨fun _ => ?_, fun _ => upd_other⟩
    rw [swapping]
    simp [pcOp]

/-- A step of a thread keeps the primitive it is executing until the call completes, and never
touches another thread's program counter. -/
theorem micro_pc (s : CSt) (u : Nat) (hi : Inv s) :
    ((micro s u).done = none → pcOp u ((micro s u).st.pc u) = pcOp u (s.pc u)) ∧
    (∀ u', u' ≠ u → (micro s u).st.pc u' = s.pc u') :=
  micro_keeps_op s u

/-- The Go expressions of the records that `acqVal`, `unlockVal` and a release transliterate, as text;
`facts_match` compares them with what the source has. -/
def modelAcquireValues : List String := ["ownedLock{userId, 1}", "ownedLock{userId, currLock.Count + 1}"]
def modelUnlockValues : List String := ["ownedLock{}", "ownedLock{userId, currLock.Count - 1}"]
def modelReleaseAllValues : List String := ["ownedLock{}"]

end Gms.Locks

namespace Gms.C38
open Gms.Locks

/-- **Linearizability (all schedules, any number of sessions, names and steps).** Take any schedule
of the interleaved Impl model from the initial state — calls `TryLock`/`Lock` attempt, `Unlock`, one
`ReleaseAll` iteration and `GetLockState` by any sessions, each advancing by its own atomic steps
(map lookup/creation, load, CAS, retry) in any interleaving. Then the primitives, taken in the order of
their linearization points (the successful CAS, or the load on which a failing / read-only call
decides), form a legal *sequential* run of the atomic Spec `astep` from the empty table, ending in
the abstraction of the final cells, with exactly the results the calls returned. -/
theorem linearizable (acts : List Act) (s' : CSt) (ls : List (Op × R))
    (h : crun CSt.init acts = some (s', ls)) :
    arun Table.empty (ls.map (·.1)) = (proj s'.cells, ls.map (·.2)) :=
  (crun_linearizable acts CSt.init s' ls inv_init h).2

/-- The invariant (versions fresh, a pending CAS carries what its version stood for, every owned
name is in the owner's session set) holds in every reachable state. -/
theorem reachable_inv (acts : List Act) (s' : CSt) (ls : List (Op × R))
    (h : crun CSt.init acts = some (s', ls)) : Inv s' :=
  (crun_linearizable acts CSt.init s' ls inv_init h).1

/-- The linearization point of a call lies inside the call: it is taken at one of the call's own
steps — the one that completes it — as the primitive of that call and with the returned result;
all other steps of the call are silent (except the creation step of `TryLock`, a primitive of its
own). -/
theorem lin_point_at_completion (s : CSt) (u : Nat) (hi : Inv s) :
    match (micro s u).done with
    | some r => ∃ op, pcOp u (s.pc u) = some op ∧ (micro s u).lin = some (op, r)
    | none => (micro s u).lin = none :=
  micro_completion s u

/-- A call that completes at its first action is linearized there; otherwise the first action is
silent, except `TryLock`/`Lock`, whose first action is the (separately visible) creation step. -/
theorem lin_point_at_completion_first (s : CSt) (u : Nat) (c : Call) :
    match (call s u c).done with
    | some r => (call s u c).lin = some (callOp u c, r)
    | none => (call s u c).lin = none ∨ ∃ n, c = .tryLock n ∧ (call s u c).lin = some (.ensure n, .unit) := by
  cases c with
  | tryLock n => cases hc : s.cells n <;> simp [call, hc]
  | unlock n | relOne n => cases hc : s.cells n <;> simp [call, hc, callOp]
  | getState n => simp [call, callOp]

/-- Non-vacuity: two sessions race for lock 7; session 2 loads the free record, session 1 loads and
wins the CAS, session 2's CAS fails, it reloads and returns false; session 1 re-enters, unlocks
twice; session 2 then gets the lock. -/
def sampleSchedule : List Act :=
  [.call 1 (.tryLock 7), .call 2 (.tryLock 7), .step 2, .step 1, .step 1, .step 2, .step 2,
   .call 1 (.tryLock 7), .step 1, .step 1, .call 2 (.getState 7), .call 1 (.unlock 7), .step 1, .step 1,
   .call 1 (.unlock 7), .step 1, .step 1, .call 2 (.tryLock 7), .step 2, .step 2, .call 1 (.unlock 7), .step 1]

example : (crun CSt.init sampleSchedule).map (·.2) = some
    [(.ensure 7, .unit), (.ensure 7, .unit), (.tryAcq 1 7, .acquired true), (.tryAcq 2 7, .acquired false),
     (.ensure 7, .unit), (.tryAcq 1 7, .acquired true), (.getState 7, .inUse 1), (.unlock 1 7, .ok),
     (.unlock 1 7, .ok), (.ensure 7, .unit), (.tryAcq 2 7, .acquired true), (.unlock 1 7, .errNotOwned)] := by
  decide +kernel

/-- `GET_LOCK` succeeds exactly when the lock is free or already held by the caller. -/
theorem tryAcq_succeeds_iff (t : Table) (u n : Nat) (hex : (t n).isSome) :
    (astep t (.tryAcq u n)).2 = .acquired true ↔ (owner t n = 0 ∨ owner t n = u) := by
  cases ht : t n with
  | none => simp [ht] at hex
  | some p =>
    obtain ⟨o, c⟩ := p
    simp only [astep, ht, owner]
    by_cases hc : o = 0 ∨ o = u <;> simp [hc]

/-- **Mutual exclusion.** A lock held by `u` cannot be acquired by anybody else. -/
theorem mutex_partial (t t' : Table) (u v n : Nat) (hu : u ≠ 0) (ho : owner t n = u)
    (h : astep t (.tryAcq v n) = (t', .acquired true)) : v = u := by
  have hex : (t n).isSome := by
    cases ht : t n with
    | none => rw [owner, ht] at ho; exact absurd ho.symm hu
    | some p => rfl
  rcases (tryAcq_succeeds_iff t v n hex).1 (congrArg Prod.snd h) with h0 | h1
  · exact absurd (ho.symm.trans h0) hu
  · exact (ho.symm.trans h1).symm

/-- **Nobody but the holder changes a held lock** (in particular `RELEASE_LOCK` and
`RELEASE_ALL_LOCKS` by a non-holder have no effect): owner and count are untouched by every
primitive of every other session. -/
theorem holder_stable (t : Table) (op : Op) (u n : Nat) (hu : u ≠ 0) (ho : owner t n = u)
    (hs : op.session ≠ some u) : (astep t op).1 n = t n := by
  rcases astep_frame t op with h | ⟨m, p, h, hold, _⟩
  · rw [h]
  · rw [h]
    by_cases e : n = m
    · subst e
      rw [ho] at hold
      exact (hold.elim hu hs).elim
    · exact upd_other e

/-- `RELEASE_LOCK` by a non-holder fails and changes nothing. -/
theorem release_by_nonholder_noop (t : Table) (u n : Nat) (h : owner t n ≠ u) (hex : (t n).isSome) :
    astep t (.unlock u n) = (t, .errNotOwned) := by
  cases ht : t n with
  | none => rw [ht] at hex; cases hex
  | some p => exact (astep_kindOp (k := .unl) ht).trans (if_neg (mt of_decide_eq_true (owner_some ht ▸ h)))

theorem reacquire (u n : Nat) (hu : u ≠ 0) (t : Table) (c : Nat) (h : t n = some (u, c)) (j : Nat) :
    rep (.tryAcq u n) j t n = some (u, c + j) := by
  induction j with
  | zero => exact h
  | succ j ih => rw [rep_succ_last, tryAcq_success ih (Or.inr rfl), acqVal, if_neg hu]; rfl

/-- **Re-entrancy.** From a free lock, `k+1` acquisitions by `u` give count `k+1` … -/
theorem reentrant_acquire (t : Table) (u n c0 k : Nat) (hu : u ≠ 0) (ht : t n = some (0, c0)) :
    rep (.tryAcq u n) (k + 1) t n = some (u, k + 1) := by
  have step1 : (astep t (.tryAcq u n)).1 n = some (u, 1) := by
    rw [tryAcq_success ht (Or.inl rfl), acqVal, if_pos rfl]
  rw [rep, reacquire u n hu _ 1 step1 k, Nat.add_comm 1 k]

/-- … `j < c` releases leave the lock with the holder at count `c - j` … -/
theorem reentrant_release_partial (u n : Nat) (j : Nat) : ∀ (t : Table) (c : Nat),
    t n = some (u, c) → j < c → rep (.unlock u n) j t n = some (u, c - j) := by
  induction j with
  | zero => intro t c h _; exact h
  | succ j ih =>
    intro t c h hj
    have more : c - j > 1 := Nat.lt_sub_of_add_lt (Nat.add_comm 1 j ▸ hj)
    rw [rep_succ_last, unlock_held (ih t c h (Nat.lt_of_succ_lt hj)), unlockVal, if_pos more]; rfl

/-- … and exactly `c` releases free it. -/
theorem reentrant_release_full (u n : Nat) (c : Nat) : ∀ (t : Table),
    t n = some (u, c + 1) → rep (.unlock u n) (c + 1) t n = some (0, 0) := by
  intro t h
  have last := reentrant_release_partial u n c t (c + 1) h (Nat.lt_succ_self c)
  rw [Nat.add_sub_cancel_left] at last
  rw [rep_succ_last, unlock_held last, unlockVal, if_neg (Nat.lt_irrefl 1)]

example : rep (.unlock 3 1) 2 (rep (.tryAcq 3 1) 2 (astep Table.empty (.ensure 1)).1) 1 = some (0, 0) := by decide +kernel
example : rep (.unlock 3 1) 1 (rep (.tryAcq 3 1) 2 (astep Table.empty (.ensure 1)).1) 1 = some (3, 1) := by decide +kernel

/-- `IS_USED_LOCK` / `IS_FREE_LOCK` report the true holder. -/
theorem state_reports_owner (t : Table) (n : Nat) :
    (astep t (.getState n)).1 = t ∧
    (astep t (.getState n)).2 =
      (match t n with
       | none => R.notExist
       | some (o, _) => if o = 0 then R.free else R.inUse o) := by
  cases ht : t n with
  | none => simp [astep, ht]
  | some p => obtain ⟨o, c⟩ := p; by_cases h0 : o = 0 <;> simp [astep, ht, h0]

/-- One `ReleaseAll` iteration on `n` leaves `n` not held by `u`. -/
theorem relOne_releases (t : Table) (u n : Nat) (hu : u ≠ 0) : owner (astep t (.relOne u n)).1 n ≠ u := by
  cases ht : t n with
  | none =>
    simp only [astep, ht]
    rw [owner_none ht]
    exact hu.symm
  | some p =>
    obtain ⟨o, c⟩ := p
    by_cases h : o = u
    · simp only [astep, ht, h, ne_eq, not_true_eq_false, if_false]
      rw [owner_upd, if_pos rfl]
      exact hu.symm
    · simp only [astep, ht, ne_eq, h, not_false_eq_true, if_true]
      rw [owner_some ht]
      exact h

/-- Only an acquisition by `u` itself makes `u` the holder of `n`. -/
theorem released_stays_released (t : Table) (op : Op) (u n : Nat) (hu : u ≠ 0) (ho : owner t n ≠ u)
    (hop : op ≠ .tryAcq u n) : owner (astep t op).1 n ≠ u := by
  rcases astep_frame t op with h | ⟨m, p, h, _, hnew⟩
  · rw [h]; exact ho
  · rw [h, owner_upd]
    split
    · rename_i e
      subst e
      rcases hnew with h0 | h1 | h2
      · rw [h0]; exact fun e => hu e.symm
      · rw [h1]; exact ho
      · intro e; rw [e] at h2; exact hop h2
    · exact ho

theorem arun_released (u n : Nat) (hu : u ≠ 0) (ops : List Op) : ∀ (t : Table),
    (∀ op ∈ ops, op ≠ .tryAcq u n) → owner t n ≠ u ∨ .relOne u n ∈ ops → owner (arun t ops).1 n ≠ u := by
  induction ops with
  | nil => intro t _ h; exact h.resolve_right List.not_mem_nil
  | cons op ops ih =>
    intro t hno h
    rw [arun_cons]
    refine ih _ (fun o ho => hno o (List.mem_cons_of_mem _ ho)) ?_
    rcases h with free | later
    · exact Or.inl (released_stays_released t op u n hu free (hno op List.mem_cons_self))
    · rcases List.mem_cons.1 later with now | later
      · exact Or.inl (now ▸ relOne_releases t u n hu)
      · exact Or.inr later

/-- **RELEASE_ALL_LOCKS releases every lock of the session, under any interleaving.** In a
sequential run of primitives (by the linearizability theorem: in any concurrent execution) that
contains the `ReleaseAll` iteration for `n` and in which `u` does not acquire `n` (the session is
busy with `ReleaseAll`), `n` is not held by `u` at the end — whatever the other sessions do in
between. By `reachable_inv` (`Inv.owned`) the iterations cover every name `u` holds. -/
theorem releaseAll_releases_interleaved (ops : List Op) (t : Table) (u n : Nat) (hu : u ≠ 0)
    (hno : ∀ op ∈ ops, op ≠ .tryAcq u n) (hrel : Op.relOne u n ∈ ops) :
    owner (arun t ops).1 n ≠ u :=
  arun_released u n hu ops t hno (Or.inr hrel)

/-- The names a session holds are all in its lock set — in every reachable state of the
concurrent model — so `ReleaseAll`'s iteration over the set visits every held lock. -/
theorem session_set_covers_owned (acts : List Act) (s' : CSt) (ls : List (Op × R))
    (h : crun CSt.init acts = some (s', ls)) (u n : Nat) (hu : u ≠ 0) (ho : owner (proj s'.cells) n = u) :
    n ∈ s'.sets u := by
  have hi := reachable_inv acts s' ls h
  cases hc : s'.cells n with
  | none =>
    have absent : proj s'.cells n = none := by rw [proj, hc]; rfl
    exact absurd ((owner_none absent).symm.trans ho).symm hu
  | some cell => exact hi.owned u n cell hu hc ((owner_some (proj_some hc)).symm.trans ho)

/-- The set may be larger than what is held: `ReleaseAll` does not call `DelLock` (DESIGN F-C38-a;
harmless for the results: the extra names fail the owner test of later iterations). -/
example : ((seqReleaseAll (seqCall CSt.init 4 (.tryLock 9)).1 4).1.sets 4 = [9]) ∧
    (proj (seqReleaseAll (seqCall CSt.init 4 (.tryLock 9)).1 4).1.cells 9 = some (0, 0)) := by decide +kernel

/-- `ReleaseAll` is a *sequence* of linearizable iterations, not one atomic step: session 1 holds
8 and 9, releases 8, session 2 sees 8 free and then 9 still held, then 9 is released. (No single
point between the two reads of session 2 can be "the" release of both.) The Spec therefore has the
per-name primitive `relOne`, and the property's "behave like some sequential order" is proved for
primitives. -/
example : (crun CSt.init
    [.call 1 (.tryLock 8), .step 1, .step 1, .call 1 (.tryLock 9), .step 1, .step 1,
     .call 1 (.relOne 8), .step 1, .step 1, .call 2 (.getState 8), .call 2 (.getState 9),
     .call 1 (.relOne 9), .step 1, .step 1]).map (fun x => x.2.drop 4) = some
    [(.relOne 1 8, .released 1), (.getState 8, .free), (.getState 9, .inUse 1), (.relOne 1 9, .released 1)] := by
  decide +kernel

/-- `Owner == 0` is the code's encoding of "free", so a session whose id is 0 (API level:
only `NewBaseSessionWithClientServer(…, 0)` makes one; `NewBaseSession` numbers from 2, the server from 1) never excludes anybody: it "acquires"
the lock, the record stays free, and another session acquires it as well. The full statement
(`mutex_partial` without `u ≠ 0`) is false. -/
theorem finding_session_id_zero :
    ∃ ops, (arun Table.empty ops).2 =
      [.unit, .acquired true, .free, .unit, .acquired true] ∧
      ops = [.ensure 1, .tryAcq 0 1, .getState 1, .ensure 1, .tryAcq 5 1] :=
  ⟨_, by decide +kernel, rfl⟩

/-- The same through the interleaved Impl model, run sequentially. -/
example : (seqCall (seqCall CSt.init 0 (.tryLock 1)).1 5 (.tryLock 1)).2 = some (.acquired true) ∧
    (seqCall CSt.init 0 (.tryLock 1)).2 = some (.acquired true) := by decide +kernel

/-- The records installed by the three CAS sites, the number of CAS/load sites per function, the
session-set calls per function (`ReleaseAll` has no `DelLock`), and the `LockState` numbering are
what the model transliterates. -/
theorem facts_match :
    Generated.C38.acquireValues = modelAcquireValues ∧
    Generated.C38.unlockValues = modelUnlockValues ∧
    Generated.C38.releaseAllValues = modelReleaseAllValues ∧
    Generated.C38.casSites = [("ReleaseAll", 1), ("Unlock", 1), ("tryLock", 2)] ∧
    Generated.C38.loadSites = [("GetLockState", 1), ("ReleaseAll", 1), ("Unlock", 1), ("tryLock", 1)] ∧
    Generated.C38.sessionSetCalls = [("ReleaseAll", "IterLocks"), ("Unlock", "DelLock"), ("tryLock", "AddLock")] ∧
    Generated.C38.conditions =
      [("GetLockState", "currLock.Owner == 0"),
       ("ReleaseAll", "currLock.Owner != int64(userId)"), ("Unlock", "currLock.Owner != userId"),
       ("Unlock", "currLock.Count > 1"), ("Unlock", "newVal.Count == 0"),
       ("tryLock", "currLock.Owner == 0"), ("tryLock", "currLock.Owner == userId")] ∧
    Generated.C38.lockStates = [("LockDoesNotExist", 0), ("LockInUse", 1), ("LockFree", 2)] :=
  ⟨rfl, rfl, rfl, rfl, rfl, rfl, rfl, rfl⟩

end Gms.C38
