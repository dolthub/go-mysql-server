/-
C51 — Full-text search matches the indexed words and stays in sync.

Model: Gms/Model/Fulltext.lean; the editor of the pseudo-index tables: Gms/Model/FulltextEditor.lean.
Lemmas: Gms/Lemmas/FulltextKeys.lean (key resolution, MATCH, the WHERE form, unique keys), Gms/Lemmas/FulltextEditor.lean
(the editor). The first part of this file (namespace `Gms.Fulltext`) holds what the other two do not: the three-state
loop invariant of the tokenizer (`run_pieces`, with `GoodWord`, `out`, `filt`) under `tokens_spec`, and the counts of
`bump` (`cnt_bump`, `cnt_foldl_bump`) under `unique_count`, since `cnt` is defined here.
-/
import Gms.Model.Fulltext
import Gms.Lemmas.FulltextEditor
import Gms.Lemmas.FulltextKeys
import Gms.Generated.C51

namespace Gms.Fulltext

/-- `cur` (reversed building word) starts and ends with a non-apostrophe. -/
def GoodWord (cur : Word) : Prop :=
  (∃ f, cur.getLast? = some f ∧ isApos f = false) ∧ (∃ h, cur.head? = some h ∧ isApos h = false)

def fstWords (W : List (Word × Nat)) : List Word := W.reverse.map (·.1)

def okw (minLen : Nat) (w : Word) : Bool := decide (bytes w ≥ minLen)

theorem dropWhile_head_false {l : Word} {h : R} (hh : l.head? = some h) (hn : isApos h = false) :
    l.dropWhile isApos = l := by
  cases l with
  | nil => rfl
  | cons x xs => simp at hh; subst hh; simp [List.dropWhile, hn]

theorem emit_nil {minLen : Nat} (hm : 0 < minLen) (pos : Nat) (W : List (Word × Nat)) :
    emit minLen [] pos W = W := by
  simp [emit, trimLeft, trimRight, bytes]
  omega

theorem fstWords_emit {minLen : Nat} {bw t : Word} {pos : Nat} {W : List (Word × Nat)}
    (h1 : trimLeft bw.reverse = bw.reverse) (h2 : trimRight bw.reverse = t) :
    fstWords (emit minLen bw pos W) = fstWords W ++ (if okw minLen t then [t] else []) := by
  unfold emit
  simp only [h1, h2, okw]
  split <;> simp_all [fstWords]

theorem emit_good (minLen : Nat) {cur : Word} (g : GoodWord cur) (pos : Nat) (W : List (Word × Nat)) :
    fstWords (emit minLen cur pos W) = fstWords W ++ (if okw minLen cur.reverse then [cur.reverse] else []) := by
  obtain ⟨⟨f, hf, hfa⟩, ⟨h, hh, hha⟩⟩ := g
  refine fstWords_emit (dropWhile_head_false (by simpa using hf) hfa) ?_
  rw [trimRight, List.reverse_reverse, dropWhile_head_false hh hha]

theorem emit_apos (minLen : Nat) {a : R} {cur : Word} (g : GoodWord cur) (ha : isApos a = true) (pos : Nat)
    (W : List (Word × Nat)) :
    fstWords (emit minLen (a :: cur) pos W) = fstWords W ++ (if okw minLen cur.reverse then [cur.reverse] else []) := by
  obtain ⟨⟨f, hf, hfa⟩, ⟨h, hh, hha⟩⟩ := g
  have hne : cur ≠ [] := by intro e; simp [e] at hh
  refine fstWords_emit (dropWhile_head_false (by simp [List.head?_append, hf]) hfa) ?_
  rw [trimRight, List.reverse_reverse, List.dropWhile_cons_of_pos ha, dropWhile_head_false hh hha]

/-- Words finally delivered when the loop continues from `ts` at byte index `i` over `rest`. -/
def out (minLen : Nat) (ts : TS) (i : Nat) (rest : List R) : List Word :=
  let t := run minLen ts i rest
  fstWords (emit minLen t.bw t.pos t.words)

def filt (minLen : Nat) (l : List Word) : List Word := l.filter (okw minLen)

theorem goodWord_single {r : R} (h : isApos r = false) : GoodWord [r] :=
  ⟨⟨r, rfl, h⟩, ⟨r, rfl, h⟩⟩

/-- `GoodWord` constrains the two ends only: anything (`mid`) may sit between them. -/
theorem goodWord_push {r : R} (mid : Word) {cur : Word} (g : GoodWord cur) (h : isApos r = false) :
    GoodWord (r :: (mid ++ cur)) := by
  obtain ⟨⟨f, hf, hfa⟩, _⟩ := g
  exact ⟨⟨f, by rw [← List.cons_append, List.getLast?_append, hf]; rfl, hfa⟩, ⟨r, rfl, h⟩⟩

theorem okw_nil {minLen : Nat} (hm : 0 < minLen) : okw minLen [] = false := by
  simp [okw, bytes]; omega

theorem filt_cons (minLen : Nat) (w : Word) (l : List Word) :
    filt minLen (w :: l) = (if okw minLen w then [w] else []) ++ filt minLen l := by
  rw [filt, List.filter_cons]; split <;> rfl

theorem filt_nil (minLen : Nat) : filt minLen [] = [] := rfl

theorem filt_nil_cons {minLen : Nat} (hm : 0 < minLen) (l : List Word) : filt minLen ([] :: l) = filt minLen l := by
  rw [filt_cons, okw_nil hm]; rfl

theorem out_nil (minLen : Nat) (ts : TS) (i : Nat) :
    out minLen ts i [] = fstWords (emit minLen ts.bw ts.pos ts.words) := rfl

theorem out_cons (minLen : Nat) (ts : TS) (i : Nat) (r : R) (rest : List R) :
    out minLen ts i (r :: rest) = out minLen (step minLen ts i r) (i + r.len) rest := rfl

theorem pieces_ch {p : Bool} {r : R} {rest : List R} {cur : Word} (h : r.ch = true) :
    pieces p (r :: rest) cur = pieces true rest (r :: cur) := by
  rw [pieces, h]; rfl

theorem pieces_sep {p : Bool} {r : R} {rest : List R} {cur : Word} (h : r.ch = false)
    (h' : (isApos r && p && nextIsCh rest) = false) :
    pieces p (r :: rest) cur = cur.reverse :: pieces false rest [] := by
  rw [pieces, h, h']; rfl

theorem pieces_apos (a : R) (rest : List R) (cur : Word) (ha : isApos a = true) (hac : a.ch = false)
    (hn : nextIsCh rest = true) : pieces true (a :: rest) cur = pieces false rest (a :: cur) := by
  rw [pieces, hac, ha, hn]; rfl

/-- The loop invariant: in each of the three parser states the words still to be delivered are
the Spec pieces of the remaining input (in the apostrophe state the Spec is one rune behind). -/
theorem run_pieces (minLen : Nat) (hm : 0 < minLen) (rest : List R)
    (hdoc : ∀ r ∈ rest, r.ch = true → isApos r = false) :
    (∀ pos W i, out minLen { st := .ws, bw := [], pos := pos, words := W } i rest
        = fstWords W ++ filt minLen (pieces false rest [])) ∧
    (∀ cur pos W i, GoodWord cur → out minLen { st := .word, bw := cur, pos := pos, words := W } i rest
        = fstWords W ++ filt minLen (pieces true rest cur)) ∧
    (∀ a cur pos W i, GoodWord cur → isApos a = true → a.ch = false →
        out minLen { st := .apos, bw := a :: cur, pos := pos, words := W } i rest
        = fstWords W ++ filt minLen (pieces true (a :: rest) cur)) := by
  induction rest with
  | nil =>
    refine ⟨fun pos W i => ?_, fun cur pos W i g => ?_, fun a cur pos W i g ha hac => ?_⟩
    · rw [out_nil, emit_nil hm, pieces, List.reverse_nil, filt_nil_cons hm]
      exact (List.append_nil _).symm
    · rw [out_nil, emit_good minLen g, pieces, filt_cons, filt_nil, List.append_nil]
    · rw [out_nil, emit_apos minLen g ha, pieces_sep hac (Bool.and_false _), pieces, List.reverse_nil,
        filt_cons, filt_nil_cons hm, filt_nil, List.append_nil]
  | cons r rest ih =>
    obtain ⟨ihA, ihB, ihC⟩ := ih fun x hx => hdoc x (List.mem_cons_of_mem _ hx)
    have hr := hdoc r (List.mem_cons_self ..)
    refine ⟨fun pos W i => ?_, fun cur pos W i g => ?_, fun a cur pos W i g ha hac => ?_⟩
    · rw [out_cons]
      cases hch : r.ch with
      | true =>
        -- in every branch: the right side is rewritten back into `out` of the successor state, and the
        -- closing `simp only` computes that one `step`
        rw [pieces_ch hch, ← ihB [r] pos W (i + r.len) (goodWord_single (hr hch))]
        simp only [step, hch, if_true]
      | false =>
        rw [pieces_sep hch (by rw [Bool.and_false, Bool.false_and]), List.reverse_nil,
          filt_nil_cons hm, ← ihA (pos + 1) W (i + r.len)]
        simp only [step, hch, Bool.false_eq_true, if_false]
    · rw [out_cons]
      cases hch : r.ch with
      | true =>
        rw [pieces_ch hch, ← ihB (r :: cur) pos W (i + r.len) (goodWord_push [] g (hr hch))]
        simp only [step, hch, Bool.not_true, Bool.false_eq_true, if_false]
      | false =>
        cases ha : isApos r with
        | true =>
          rw [← ihC r cur pos W (i + r.len) g ha hch]
          simp only [step, hch, ha, Bool.not_false, if_true]
        | false =>
          rw [pieces_sep hch (by rw [ha]; rfl), filt_cons, ← List.append_assoc, ← emit_good minLen g pos W,
            ← ihA i (emit minLen cur pos W) (i + r.len)]
          simp only [step, hch, ha, Bool.not_false, if_true, Bool.false_eq_true, if_false]
    · rw [out_cons]
      cases hch : r.ch with
      | true =>
        rw [pieces_apos a (r :: rest) cur ha hac hch, pieces_ch hch,
          ← ihB (r :: a :: cur) pos W (i + r.len) (goodWord_push [a] g (hr hch))]
        simp only [step, hch, Bool.not_true, Bool.false_eq_true, if_false]
      | false =>
        rw [pieces_sep hac (by rw [nextIsCh, hch, Bool.and_false]),
          pieces_sep hch (by rw [Bool.and_false, Bool.false_and]), List.reverse_nil, filt_cons,
          filt_nil_cons hm, ← List.append_assoc, ← emit_apos minLen g ha pos W, ← ihA i (emit minLen (a :: cur) pos W) (i + r.len)]
        simp only [step, hch, Bool.not_false, if_true]

theorem tokens_spec (minLen : Nat) (hm : 0 < minLen) (doc : List R)
    (hdoc : ∀ r ∈ doc, r.ch = true → isApos r = false) :
    (tokenize minLen doc).map (·.1) = specWords minLen doc := by
  have := (run_pieces minLen hm doc hdoc).1 0 [] 0
  -- `okw` is the filter of `specWords` with its `decide` written out
  have e : okw minLen = fun w => decide (bytes w ≥ minLen) := rfl
  simpa [out, fstWords, tokenize, specWords, filt, e, init] using this

section uniq
variable {κ : Type} [DecidableEq κ]

/-- Count recorded for key `k` (0 when absent). -/
def cnt (k : κ) : List (Word × κ × Nat) → Nat
  | [] => 0
  | (_, k', n) :: rest => if k' = k then n else cnt k rest

theorem cnt_bump (k k' : κ) (w : Word) (acc : List (Word × κ × Nat)) :
    cnt k' (bump k w acc) = cnt k' acc + (if k' = k then 1 else 0) := by
  induction acc with
  | nil =>
    rw [bump, cnt, cnt, cnt, Nat.zero_add]
    by_cases h : k = k'
    · rw [if_pos h, if_pos h.symm]
    · rw [if_neg h, if_neg (Ne.symm h)]
  | cons e rest ih =>
    obtain ⟨w0, k0, n0⟩ := e
    rw [bump]
    by_cases hk : k0 = k
    · -- the entry of the class is at the head: its count goes up by one
      rw [if_pos hk, cnt, cnt, hk]
      by_cases h : k = k'
      · rw [if_pos h, if_pos h, if_pos h.symm]
      · rw [if_neg h, if_neg h, if_neg (Ne.symm h)]; rfl
    · -- another class at the head keeps its count; below it the induction hypothesis
      rw [if_neg hk, cnt, cnt, ih]
      by_cases h : k0 = k'
      · rw [if_pos h, if_pos h, if_neg fun e => hk (h.trans e)]; rfl
      · rw [if_neg h, if_neg h]

theorem cnt_foldl_bump (key : Word → κ) (ws : List Word) (acc : List (Word × κ × Nat)) (k : κ) :
    cnt k (ws.foldl (fun a w => bump (key w) w a) acc) = cnt k acc + (ws.filter (fun w => decide (key w = k))).length := by
  induction ws generalizing acc with
  | nil => rfl
  | cons w ws ih =>
    rw [List.foldl_cons, ih, cnt_bump, List.filter_cons]
    by_cases hk : key w = k
    · rw [if_pos (Eq.symm hk), if_pos (decide_eq_true hk), List.length_cons]; omega
    · rw [if_neg (Ne.symm hk), if_neg (by simpa using hk)]; rfl

end uniq

end Gms.Fulltext

namespace Gms.C51
open Gms.Fulltext

/-- Facts regenerated from the source on this run: every minimum-length test of the parser is
`len(word.Word) >= 3`, the three parser states, the `isCharacter` / `isApostrophe` predicates the
harness classifies runes with, the apostrophe trims of `newParserWord`, `maxWordLength`, and the
number of `len(word) > maxWordLength` guards in the editor's `Insert` (3) and `Delete` (1 — the
DOC_COUNT loop of `Delete` has none, see `finding_dml_rejected_for_row_with_overlong_word`). -/
theorem facts_match :
    Generated.C51.minWordLenSites = [3, 3, 3] ∧ Generated.C51.minWordLenOps = [">=", ">=", ">="] ∧
    Generated.C51.isCharacterExpr =
      "((unicode.IsLetter(r) || unicode.IsNumber(r) || unicode.IsDigit(r)) && !unicode.IsPunct(r)) || r == '_'" ∧
    Generated.C51.isApostropheExpr = "r == '\\''" ∧
    Generated.C51.parserStateCases = ["parserState_Whitespace", "parserState_Word", "parserState_Apostrophe"] ∧
    Generated.C51.wordTrims = ["strings.TrimLeft \"'\"", "strings.TrimRight \"'\""] ∧
    Generated.C51.maxWordLength = 84 ∧
    Generated.C51.maxLenGuardsInsert = 3 ∧ Generated.C51.maxLenGuardsDelete = 1 :=
  ⟨rfl, rfl, rfl, rfl, rfl, rfl, rfl, rfl, rfl⟩

/-- Tokenizer = Spec, for every document: the state machine of `NewDefaultParser` delivers exactly
the pieces between separators that have at least 3 bytes, where a rune is part of a word iff it is
a word character or an apostrophe directly between two word characters (so `it's` is one word,
`it''s` is two pieces, leading/trailing apostrophes never belong to a word). Hypothesis: the
apostrophe is not itself classified as a word character (true of Go's predicate: `'` is
punctuation; the driver checks it on every case). -/
theorem tokens_spec (doc : List R) (hdoc : ∀ r ∈ doc, r.ch = true → isApos r = false) :
    (tokenize 3 doc).map (·.1) = specWords 3 doc :=
  Gms.Fulltext.tokens_spec 3 (by decide) doc hdoc

/-- Non-vacuity: `it's a''b c'` over ASCII: words `it's` only (`a`, `b`, `c` are too short). -/
example :
    let a (c : Nat) : R := { cp := c, len := 1, ch := true }
    let q : R := { cp := 39, len := 1, ch := false }
    let s : R := { cp := 32, len := 1, ch := false }
    (tokenize 3 [a 105, a 116, q, a 115, s, a 97, q, q, a 98, s, a 99, q]).map (·.1) = [[a 105, a 116, q, a 115]]
    ∧ specWords 3 [a 105, a 116, q, a 115, s, a 97, q, q, a 98, s, a 99, q] = [[a 105, a 116, q, a 115]] := by
  decide +kernel

/-- The unique-word list has one entry per class of the collation hash. -/
theorem unique_keys_nodup {κ : Type} [DecidableEq κ] (key : Word → κ) (ws : List Word) :
    ((uniqueWords key ws).map (·.2.1)).Nodup :=
  List.foldlRecOn (motive := fun acc => (acc.map (·.2.1)).Nodup) ws _ List.nodup_nil
    fun acc h w _ => nodup_bump (key w) w acc h

/-- `DocumentCount(word)`: the count recorded for a class is the number of words of the document
in that class. -/
theorem unique_count {κ : Type} [DecidableEq κ] (key : Word → κ) (ws : List Word) (k : κ) :
    cnt k (uniqueWords key ws) = (ws.filter (fun w => decide (key w = k))).length :=
  (cnt_foldl_bump key ws [] k).trans (Nat.zero_add _)

/-- Every class of the collation hash that occurs in the document is listed, and nothing else. -/
theorem unique_complete {κ : Type} [DecidableEq κ] (key : Word → κ) (ws : List Word) (k : κ) :
    k ∈ (uniqueWords key ws).map (·.2.1) ↔ ∃ w ∈ ws, key w = k := by
  rw [uniqueWords, mem_keys_foldl]
  exact or_iff_right List.not_mem_nil

/-- MATCH … AGAINST (relevance > 0) ⇔ some word of the search string has the collation key of some
storable word of the row's document ⇔ the per-word lookup loop of `inNaturalLanguageMode` /
`fulltextFilterTableRowIter` (one lookup per unique search word) finds at least one entry. -/
theorem match_iff {κ : Type} [DecidableEq κ] (key : Word → κ) (q doc : List R) :
    (ftMatch key 3 84 q doc = true ↔
      ∃ w ∈ (tokenize 3 q).map (·.1), ∃ w' ∈ indexable 3 84 doc, key w = key w') ∧
    (ftMatch key 3 84 q doc = true ↔ 0 < matchCount key 3 84 q doc) := by
  refine ⟨?_, ftMatch_iff_count key 3 84 q doc⟩
  simp only [ftMatch, List.any_eq_true, decide_eq_true_eq]

/-
Full statement for the WHERE form — FALSE for the code as it is (`finding_where_match_repeats_row_per_matched_word`):
  ∀ keyed rows q, implMatchWhere key 3 84 keyed rows q = specMatch key 3 84 rows q
-/

/-- WHERE MATCH … returns each matching row exactly once — guarded: unless the table has a
primary key and some row contains two different words of the search string. -/
theorem where_form_partial {κ : Type} [DecidableEq κ] (key : Word → κ) (keyed : Bool) (rows : List Row) (q : List R)
    (h : rRepeats key 3 84 keyed rows q = false) :
    implMatchWhere key 3 84 keyed rows q = specMatch key 3 84 rows q := by
  cases keyed with
  | false => rfl
  | true =>
    refine implMatchWhere_keyed key 3 84 rows q fun r hr => ?_
    simp only [rRepeats, Bool.true_and] at h
    simpa using List.any_eq_false.mp h r hr

/-- `id INT PRIMARY KEY`. -/
def layPk1 : Layout := { pk := [0], uks := [], nn := [] }
/-- `PRIMARY KEY (k2, id)` over the columns `(id, k2, …)`: declared out of column order. -/
def layPkBA : Layout := { pk := [1, 0], uks := [], nn := [] }
/-- `UNIQUE KEY u0 (k2, id)`, both NOT NULL. -/
def layUkBA : Layout := { pk := [], uks := [[1, 0]], nn := [0, 1] }
/-- `UNIQUE KEY u0 (k2, id)` with `id` nullable: unusable as a row key. -/
def layUkNull : Layout := { pk := [], uks := [[1, 0]], nn := [1] }

/-- Shape facts regenerated from the source: in `GetKeyColumns` the primary-key branch walks
`sch.PkOrdinals` (the *declaration* order of PRIMARY KEY, not the schema order) and copies it into
`positions`; the unique-key branch walks `index.Expressions()` and appends each resolved column; the
three results are tried in the order primary, unique, none. In `fulltextFilterTableRowIter.Next` the key
values `docRow[1 : len(docRow)-1]` become `ranges[i]` positionally, and `PartitionRows` selects the parent
index `PRIMARY` / `KeyCols.Name`. -/
theorem facts_key_shape :
    Generated.C51.keyColsRanges = ["sch.PkOrdinals", "indexes", "index.Expressions()"] ∧
    Generated.C51.keyColsCopies = ["copy(positions, sch.PkOrdinals)"] ∧
    Generated.C51.keyColsPositionAppends = ["parentColPosition"] ∧
    Generated.C51.keyColsTypes = ["KeyType_Primary", "KeyType_Unique", "KeyType_None"] ∧
    Generated.C51.filterKeyRanges = ["docRow[1 : len(docRow)-1]"] ∧
    Generated.C51.filterRangeTargets = ["ranges[i]"] ∧
    Generated.C51.filterParentIndexIDs = ["\"PRIMARY\"", "f.MatchAgainst.KeyCols.Name"] :=
  ⟨rfl, rfl, rfl, rfl, rfl, rfl, rfl⟩

def ktCode : KeyType → Nat × Nat
  | .primary => (0, 0)
  | .unique i => (1, i)
  | .none => (2, 0)

/-- Run facts: on a freshly created table of every key layout of the envelope (12 layouts × 2 column
placements) the real `fulltext.GetKeyColumns` returned the key type and positions the model
`getKeyColumns` computes, and the parent index the filter selects has the columns `parentIndexCols`. -/
theorem facts_key_columns :
    Generated.C51.keyColsRuns.length = 24 ∧
    ∀ e ∈ Generated.C51.keyColsRuns,
      ktCode (getKeyColumns { pk := e.1.1, uks := e.1.2.1, nn := e.1.2.2 }).type = (e.2.1, e.2.2.1) ∧
      (getKeyColumns { pk := e.1.1, uks := e.1.2.1, nn := e.1.2.2 }).positions = e.2.2.2.1 ∧
      parentIndexCols { pk := e.1.1, uks := e.1.2.1, nn := e.1.2.2 }
        (getKeyColumns { pk := e.1.1, uks := e.1.2.1, nn := e.1.2.2 }).type = e.2.2.2.2 := by
  decide +kernel

/-- **Key-column resolution**: for EVERY key layout (any PRIMARY KEY declaration order, any list of
UNIQUE KEYs, any nullability) the key values are stored in DOC_COUNT in exactly the column order of
the parent index they are later used to probe. -/
theorem key_columns_resolve (lay : Layout) :
    (getKeyColumns lay).positions = parentIndexCols lay (getKeyColumns lay).type :=
  key_resolution lay

/-- 'sun pie' under key (id 1, k2 2); 'sun' under (2, 1); 'pie' under (3, 3). -/
def rowsBA : List Row :=
  [{ id := 1, k2 := 2, cols := [some ([115, 117, 110, 32, 112, 105, 101].map fun c => { cp := c, len := 1, ch := c != 32 })] },
   { id := 2, k2 := 1, cols := [some ([115, 117, 110].map fun c => { cp := c, len := 1, ch := true })] },
   { id := 3, k2 := 3, cols := [some ([112, 105, 101].map fun c => { cp := c, len := 1, ch := true })] }]
def qSun : List R := [115, 117, 110].map fun c => { cp := c, len := 1, ch := true }

/-- Non-vacuity: `PRIMARY KEY (k2, id)` resolves to positions `[1, 0]`, a unique key over the same
columns likewise, a unique key with a nullable column falls back to the row hash; on a table with a
transposed pair of keys the WHERE form finds exactly the two rows containing 'sun'. -/
example : (getKeyColumns layPkBA = { type := .primary, positions := [1, 0] }) ∧
    (getKeyColumns layUkBA = { type := .unique 0, positions := [1, 0] }) ∧
    (getKeyColumns layUkNull = { type := .none, positions := [] }) ∧
    UniqueOn (getKeyColumns layPkBA).positions rowsBA ∧
    (implWhere (fun w => w) 3 84 layPkBA rowsBA qSun).map (fun r => (r.id, r.k2)) = [(1, 2), (2, 1)] ∧
    (specMatch (fun w => w) 3 84 rowsBA qSun).map (fun r => (r.id, r.k2)) = [(1, 2), (2, 1)] := by
  unfold UniqueOn
  decide +kernel

/-- Why `key_columns_resolve` matters (that the walk lemmas speak of `filterWalk … cs cs`, positions equal to the
index columns, is not decoration): were the key values of `PRIMARY KEY (k2, id)` stored in *schema* order `[0, 1]` while the
parent index is probed in declaration order `[1, 0]`, the entry of row (1, 2) is resolved to the row
with k2 = 1, id = 2 — rows are lost (and others delivered in their place) although every
pseudo-index table is consistent with itself. -/
theorem schema_order_positions_lose_rows :
    ∃ rows q x, x ∈ specMatch (fun w => w) 3 84 rows q ∧
      x ∉ (filterWalk (fun w => w) 3 84 [0, 1] [1, 0] rows q).filter (fun r => ftMatch (fun w => w) 3 84 q (docOf r)) :=
  ⟨[{ id := 1, k2 := 2, cols := [some qSun] }, { id := 3, k2 := 3, cols := [some qSun] }], qSun,
    { id := 1, k2 := 2, cols := [some qSun] }, by decide +kernel⟩

/-- The walk with explicit key resolution is the multiplicity model `implMatchWhere` as a multiset:
for every key layout with a usable key and every table whose rows differ on that key, every row is
delivered exactly `matchCount` times. -/
theorem filter_walk_count {κ : Type} [DecidableEq κ] (key : Word → κ) (lay : Layout) (rows : List Row) (q : List R)
    (hk : keyedIdx lay = true) (hu : UniqueOn (getKeyColumns lay).positions rows) (x : Row) :
    (implWhere key 3 84 lay rows q).count x = (implMatchWhere key 3 84 true rows q).count x := by
  rw [count_implWhere key 3 84 q hk hu x, implMatchWhere, if_pos rfl, count_flatMap_replicate]

/-- **MATCH in WHERE returns exactly the rows MATCH in the select list marks, for every key layout**
(as a set of rows — full strength, no defect region: the known repeat defect only concerns how often a
row is returned): primary keys in any declaration order, unique keys, row-hash tables. Hypothesis:
the rows differ on the key the index uses (`where_form_same_rows_hist`: true after any history). -/
theorem where_form_same_rows {κ : Type} [DecidableEq κ] (key : Word → κ) (lay : Layout) (rows : List Row) (q : List R)
    (hu : keyedIdx lay = true → UniqueOn (getKeyColumns lay).positions rows) (x : Row) :
    x ∈ implWhere key 3 84 lay rows q ↔ x ∈ specMatch key 3 84 rows q := by
  cases hk : keyedIdx lay with
  | false => simp [implWhere, hk]
  | true =>
    rw [← List.count_pos_iff, count_implWhere key 3 84 q hk (hu hk) x, specMatch, List.mem_filter,
      ftMatch_iff_count, ← List.count_pos_iff]
    exact ⟨fun h => ⟨Nat.pos_of_mul_pos_left h, Nat.pos_of_mul_pos_right h⟩, fun h => Nat.mul_pos h.2 h.1⟩

/-- Outside the repeat region the WHERE form of every key layout is a permutation of the Spec. -/
theorem where_form_key_layouts_partial {κ : Type} [DecidableEq κ] (key : Word → κ) (lay : Layout) (rows : List Row) (q : List R)
    (hu : keyedIdx lay = true → UniqueOn (getKeyColumns lay).positions rows)
    (h : rRepeats key 3 84 (keyedIdx lay) rows q = false) :
    (implWhere key 3 84 lay rows q).Perm (specMatch key 3 84 rows q) := by
  cases hk : keyedIdx lay with
  | false => simp [implWhere, hk]
  | true =>
    rw [List.perm_iff_count]
    intro x
    rw [filter_walk_count key lay rows q hk (hu hk) x, where_form_partial key true rows q (by rw [← hk]; exact h)]

/-- The reference semantics keeps every declared key unique across any history (so the hypothesis of
the theorems above holds for every reachable table), and so does the Impl model of the statements. -/
theorem keys_stay_unique (lay : Layout) (ops : List Op) :
    KeysUnique lay (ops.foldl (applyOp lay) []) ∧ KeysUnique lay (ops.foldl (applyOpImpl 3 84 lay) []) :=
  ⟨List.foldlRecOn ops _ (keysUnique_nil lay) fun _ h op _ => keysUnique_applyOp op h,
    List.foldlRecOn ops _ (keysUnique_nil lay) fun _ h op _ => keysUnique_applyOpImpl 3 84 op h⟩

/-- After ANY DML history on ANY key layout, `WHERE MATCH … AGAINST` selects exactly the rows the
select-list form marks. -/
theorem where_form_same_rows_hist {κ : Type} [DecidableEq κ] (key : Word → κ) (lay : Layout) (ops : List Op) (q : List R) (x : Row) :
    x ∈ implWhere key 3 84 lay (ops.foldl (applyOpImpl 3 84 lay) []) q ↔
      x ∈ specMatch key 3 84 (ops.foldl (applyOpImpl 3 84 lay) []) q :=
  where_form_same_rows key lay _ q
    (fun hk => (keys_stay_unique lay ops).2 _ (positions_mem_constraints lay hk)) x

def ascii (s : List Nat) : List R := s.map fun c =>
  { cp := c, len := 1, ch := (97 ≤ c && c ≤ 122) || (65 ≤ c && c ≤ 90) }

/-- Finding: a keyed row containing both `sun` and `pie` is returned twice for `AGAINST ('sun pie')`. -/
theorem finding_where_match_repeats_row_per_matched_word :
    ∃ rows q, rRepeats (fun w => w) 3 84 true rows q = true ∧
      implMatchWhere (fun w => w) 3 84 true rows q ≠ specMatch (fun w => w) 3 84 rows q :=
  ⟨[{ id := 1, cols := [some (ascii [115, 117, 110, 32, 112, 105, 101])] }], ascii [115, 117, 110, 32, 112, 105, 101], by decide +kernel⟩

/-
Full statement for DML histories — FALSE for the code as it is (`finding_dml_rejected_for_row_with_overlong_word`):
  ∀ lay ops, ops.foldl (applyOpImpl 3 84 lay) [] = ops.foldl (applyOp lay) []
-/

/-- Table contents after a history follow the reference semantics — guarded: unless the history
deletes or updates a row whose document contains a word longer than `maxWordLength` bytes. -/
theorem dml_partial (lay : Layout) (ops : List Op) (h : rStuck 3 84 lay [] ops = false) :
    ops.foldl (applyOpImpl 3 84 lay) [] = ops.foldl (applyOp lay) [] :=
  foldl_applyOpImpl_of_not_rStuck 3 84 lay ops [] h

/-- Finding: a row with an 85-byte word can be inserted but never deleted (the statement fails). -/
theorem finding_dml_rejected_for_row_with_overlong_word :
    ∃ lay ops, rStuck 3 84 lay [] ops = true ∧
      ops.foldl (applyOpImpl 3 84 lay) [] ≠ ops.foldl (applyOp lay) [] :=
  ⟨layPk1, [.ins { id := 1, cols := [some (ascii (List.replicate 85 119))] }, .del 1], by decide +kernel⟩

/-- Non-vacuity of `dml_partial` / `where_form_partial`: a history with insert, update, key change
and delete on short words. -/
example : rStuck 3 84 layPk1 [] [.ins { id := 1, cols := [some (ascii [115, 117, 110])] }, .upd 1 [some (ascii [112, 105, 101])],
      .rekey 1 2, .ins { id := 1, cols := [none] }, .del 1] = false
    ∧ ([Op.ins { id := 1, cols := [some (ascii [115, 117, 110])] }, .upd 1 [some (ascii [112, 105, 101])],
      .rekey 1 2, .ins { id := 1, cols := [none] }, .del 1].foldl (applyOp layPk1) []).map (·.id) = [2] := by
  decide +kernel

/-- Non-vacuity on a composite key declared out of column order: a duplicate key is rejected, each key
component can be changed, a change that would collide is rejected as a whole. -/
example :
    ([Op.ins { id := 1, k2 := 2, cols := [none] }, .ins { id := 2, k2 := 1, cols := [none] }, .ins { id := 1, k2 := 2, cols := [] },
      .rekey2 2 2, .rekey 2 1, .rekey2 1 5].foldl (applyOp layPkBA) []).map (fun r => (r.id, r.k2)) = [(1, 5), (2, 2)] := by
  decide +kernel

/-- `TableEditor.Insert` preserves "index tables = F(rows)" — for every table state, row, collation
hash and row-key function (primary key or row hash), duplicates included. -/
theorem editor_insert_sync {κ ρ : Type} [DecidableEq κ] [DecidableEq ρ] (key : Word → κ) (rk : Row → ρ)
    (rows : List Row) (ix : Idx κ ρ) (r : Row) (hs : Sync key rk 3 84 rows ix) (hk : KeysOK rk (r :: rows)) :
    Sync key rk 3 84 (r :: rows) (edInsert key rk 3 84 ix r) :=
  sync_insert key rk 3 84 rows ix r hs hk

/-
Full statement for Delete — FALSE for the code as it is (`finding_editor_delete_fails`):
  ∀ rows ix r, Sync rows ix → r ∈ rows → ∃ ix', edDelete ix r = some ix' ∧ Sync (rows.erase r) ix'
-/

/-- `TableEditor.Delete` succeeds and preserves "index tables = F(rows)" — guarded: the row's
document has no word longer than `maxWordLength`. -/
theorem editor_delete_sync_partial {κ ρ : Type} [DecidableEq κ] [DecidableEq ρ] (key : Word → κ) (rk : Row → ρ)
    (rows : List Row) (ix : Idx κ ρ) (r : Row) (hs : Sync key rk 3 84 rows ix) (hk : KeysOK rk rows) (hr : r ∈ rows)
    (hl : noLong 3 84 r) :
    ∃ ix', edDelete key rk 3 84 ix r = some ix' ∧ Sync key rk 3 84 (rows.erase r) ix' :=
  sync_delete key rk 3 84 rows ix r hs hk hr hl

/-- `Delete` (hence `Update`) fails exactly when it reaches the last copy of a row whose document
contains a unique word of more than 84 bytes — the region `dml_rejected_for_row_with_overlong_word`
derived from the editor model instead of postulated. -/
theorem editor_delete_fails_iff {κ ρ : Type} [DecidableEq κ] [DecidableEq ρ] (key : Word → κ) (rk : Row → ρ)
    (rows : List Row) (ix : Idx κ ρ) (r : Row) (hs : Sync key rk 3 84 rows ix) :
    edDelete key rk 3 84 ix r = none ↔ rows.count r = 1 ∧ (uniq key 3 r).any (fun e => bytes e.1 > 84) = true :=
  delete_fails_iff key rk 3 84 rows ix r hs

/-- **The index stays in sync across any DML history** (`ft_index_inv`): starting from the empty
table, after any sequence of row-level `Insert` / `Delete` / `Update` calls that are admissible on
the table they meet (deleted rows exist, keys stay unique) and delete no row with an over-long word,
no call fails and ROW_COUNT, DOC_COUNT, GLOBAL_COUNT and POSITION are exactly the Spec functions of
the resulting table. -/
theorem ft_index_inv {κ ρ : Type} [DecidableEq κ] [DecidableEq ρ] (key : Word → κ) (rk : Row → ρ)
    (ops : List EdOp) (h : histOK rk 3 84 [] ops) :
    ∃ ix, runEd key rk 3 84 (Idx.empty : Idx κ ρ) ops = some ix ∧ Sync key rk 3 84 (ops.foldl tblStep []) ix :=
  sync_hist key rk 3 84 ops [] Idx.empty (sync_empty key rk 3 84) (fun _ ha => by simp at ha) h

def row1 : Row := { id := 1, cols := [some (ascii [115, 117, 110, 32, 112, 105, 101])] }   -- 'sun pie'
def row2 : Row := { id := 2, cols := [some (ascii [115, 117, 110])] }                       -- 'sun'
def rowLong : Row := { id := 3, cols := [some (ascii (List.replicate 85 119))] }            -- 85 × 'w'

/-- Non-vacuity of `ft_index_inv`: insert, insert, update, delete on a keyed table. -/
example : histOK (fun r => r.id) 3 84 [] [.ins row1, .ins row2, .upd row1 { row1 with cols := [none] }, .del row2] := by
  simp only [histOK, opOK, opNoLong, tblStep, KeysOK, noLong]
  decide +kernel

/-- Finding (same region as `finding_dml_rejected_for_row_with_overlong_word`, on the editor model):
after inserting a row with an 85-byte word, `Delete` of that row fails. -/
theorem finding_editor_delete_fails :
    ∃ ops r, (runEd (fun w => w) (fun r => r.id) 3 84 (Idx.empty : Idx Word Nat) ops).isSome = true ∧
      r ∈ ops.foldl tblStep [] ∧
      (runEd (fun w => w) (fun r => r.id) 3 84 (Idx.empty : Idx Word Nat) (ops ++ [.del r])).isSome = false :=
  ⟨[.ins rowLong], rowLong, by decide +kernel⟩

end Gms.C51
