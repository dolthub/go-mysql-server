/-
C33 — Regular expression functions agree with each other and with the pattern.

Model: Gms/Model/RegexFn.lean — the SQL layer (/repo's regexp_*.go) and the wrapper layer
(go-icu-regex, reached through internal/regex) over an *arbitrary* matcher
`m : Nat → List (start, end)`. The theorems below hold for every matcher (ICU included, whatever
it matches), every subject, every position / occurrence / return option; those about the order of
matches and about REPLACE ask for a well-formed matcher (`WFfrom`), a position inside the text, or both,
and `replace_splices_exactly_matches` for a non-empty text (the empty one is the finding
`replace_empty_text_drops_replacement`).
The rows of one statement go through ONE node (`runRows`): `rows_independent` — under a sound caching
discipline, and with constant arguments equal in every row (`Respects`), no row's result depends on the
rows before it.
-/
import Gms.Model.RegexFn
import Gms.Generated.C33

namespace Gms.RegexFn

theorem findFrom_pos {m : Matcher} {len : Nat} {pos : Int} (hpos : 1 ≤ pos) (hlen : pos - 1 ≤ len) :
    findFrom m len (pos - 1) = some (m (pos - 1).toNat) := by
  unfold findFrom
  rw [if_neg (by omega), if_neg (by omega)]

theorem findFrom_zero (m : Matcher) (len : Nat) : findFrom m len 0 = some (m 0) := by
  simp [findFrom]

/-- The match the wrappers report: `uregex_find(start)`, then `occurrence - 1` times `uregex_findNext`. -/
def hit (m : Matcher) (len : Nat) (start occ : Int) : Option Match := (findFrom m len start).bind (nth · occ)

theorem hit_pos {m : Matcher} {len : Nat} {pos : Int} (hpos : 1 ≤ pos) (hlen : pos - 1 ≤ len) (occ : Int) :
    hit m len (pos - 1) occ = (m (pos - 1).toNat)[(occ - 1).toNat]? := by
  rw [hit, findFrom_pos hpos hlen]
  rfl

theorem wMatches_eq (m : Matcher) (len : Nat) (start occ : Int) :
    wMatches m len start occ = (hit m len start occ).isSome := by
  unfold wMatches hit
  cases findFrom m len start <;> rfl

theorem wIndexOf_eq (m : Matcher) (len : Nat) (start occ : Int) (endIndex : Bool) :
    wIndexOf m len start occ endIndex =
      match hit m len (start - 1) occ with
      | some (s, e) => (if endIndex then e else s) + 1
      | none => 0 := by
  unfold wIndexOf hit
  cases findFrom m len (start - 1) <;> rfl

theorem wSubstring_eq (m : Matcher) (units : List Nat) (start occ : Int) :
    wSubstring m units start occ =
      match hit m units.length (start - 1) occ with
      | some (s, e) => some (decodeUtf16 ((units.drop s).take (e - s)))
      | none => none := by
  unfold wSubstring hit
  cases findFrom m units.length (start - 1) <;> rfl

theorem hit_occ_zero (m : Matcher) (len : Nat) (start : Int) : hit m len start 0 = hit m len start 1 := rfl

/-- The head copied by `appendHead` plus the first `appendReplacement` is the splice from 0. -/
theorem splice_head {units rep : List Nat} {h s e : Nat} {rest : List Match} (hs : h ≤ s) :
    units.take h ++ spliceFrom units rep h ((s, e) :: rest) = spliceFrom units rep 0 ((s, e) :: rest) := by
  simp only [spliceFrom, List.drop_zero, Nat.sub_zero]
  rw [← List.append_assoc, ← List.append_assoc, ← List.take_add, Nat.add_sub_cancel' hs]

/-- Lowers the bound, e.g. from the `(pos - 1).toNat` of `replace_splices_exactly_matches` to the `0` `replace_length` asks for. -/
theorem WFfrom_mono {len lo : Nat} {ms : List Match} (w : WFfrom len lo ms) {lo' : Nat} (h : lo' ≤ lo) :
    WFfrom len lo' ms := by
  cases ms with
  | nil => trivial
  | cons hd tl => exact ⟨Nat.le_trans h w.1, w.2⟩

theorem WFfrom_getElem? {len lo : Nat} {ms : List Match} (w : WFfrom len lo ms) {i s e : Nat} (h : ms[i]? = some (s, e)) :
    lo ≤ s ∧ s ≤ e ∧ e ≤ len ∧ WFfrom len (max e (s + 1)) (ms.drop (i + 1)) := by
  induction ms generalizing lo i with
  | nil => simp at h
  | cons hd tl ih =>
    cases i with
    | zero => cases h; exact w
    | succ i =>
      have := ih w.2.2.2 h
      exact ⟨Nat.le_trans w.1 (by omega), this.2⟩

theorem WFfrom_next {len lo : Nat} {ms : List Match} (w : WFfrom len lo ms) {i s e s' e' : Nat} (h : ms[i]? = some (s, e))
    (h' : ms[i + 1]? = some (s', e')) : s < s' ∧ e ≤ s' := by
  have wtl := (WFfrom_getElem? w h).2.2.2
  have := (WFfrom_getElem? wtl (i := 0) (by rwa [List.getElem?_drop])).1
  exact ⟨Nat.le_trans (Nat.le_max_right ..) this, Nat.le_trans (Nat.le_max_left ..) this⟩

/-- After a match `[s, e)` the append position is `e` and the tail is well-formed from `max e (s + 1)`: hence `p ≤ lo`.
Stated with `+ p` on the left: no subtraction for `omega` to case on. -/
theorem spliceFrom_length (units rep : List Nat) (p lo : Nat) (sel : List Match) (w : WFfrom units.length lo sel)
    (hlo : p ≤ lo) (hp : p ≤ units.length) :
    (spliceFrom units rep p sel).length + (sel.map fun m => m.2 - m.1).sum + p
      = units.length + sel.length * rep.length := by
  induction sel generalizing p lo with
  | nil => simp only [spliceFrom, List.length_drop, List.map_nil, List.sum_nil, List.length_nil, Nat.zero_mul]; omega
  | cons hd tl ih =>
    obtain ⟨s, e⟩ := hd
    obtain ⟨h1, h2, h3, w⟩ := w
    have := ih e _ w (Nat.le_max_left _ _) h3
    simp only [spliceFrom, List.length_append, List.length_take, List.length_drop, List.map_cons, List.sum_cons,
      List.length_cons, Nat.add_mul, Nat.one_mul]
    rw [Nat.min_eq_left (Nat.sub_le_sub_right (Nat.le_trans h2 h3) p)]
    omega

def isScalar (r : Nat) : Bool := r < 0xD800 || (0xE000 ≤ r && r < 0x110000)

theorem decodeUtf16_cons_of_not_surrogate (u : Nat) (rest : List Nat) (h : isSurrogate u = false) :
    decodeUtf16 (u :: rest) = u :: decodeUtf16 rest := by
  have nh : ¬ (0xD800 ≤ u ∧ u < 0xDC00) := by
    simp only [isSurrogate, Bool.and_eq_false_iff, decide_eq_false_iff_not] at h; omega
  cases rest with
  | nil => simp [decodeUtf16, h]
  | cons v rest =>
    rw [decodeUtf16, if_neg (fun c => nh ⟨c.1, c.2.1⟩), h]; rfl

/-- The pair has the shape `utf16.Encode` writes for the supplementary character `0x10000 + x`. -/
theorem decodeUtf16_pair (x : Nat) (hx : x < 0x100000) (rest : List Nat) :
    decodeUtf16 ((0xD800 + x / 1024) :: (0xDC00 + x % 1024) :: rest) = (0x10000 + x) :: decodeUtf16 rest := by
  have hd : x / 1024 < 1024 := Nat.div_lt_of_lt_mul hx
  have hm : x % 1024 < 1024 := Nat.mod_lt _ (by decide)
  rw [decodeUtf16, if_pos ⟨Nat.le_add_right _ _, by omega, Nat.le_add_right _ _, by omega⟩,
    Nat.add_sub_cancel_left, Nat.add_sub_cancel_left, Nat.add_assoc, Nat.div_add_mod']

theorem encodeUtf16_bmp_no_surrogate (rs : List Nat) (h : ∀ r ∈ rs, r < 0x10000) :
    ∀ u ∈ encodeUtf16 rs, ¬ (0xD800 ≤ u ∧ u < 0xE000) := by
  induction rs with
  | nil => simp [encodeUtf16]
  | cons r rs ih =>
    rw [encodeUtf16, if_pos (h r (by simp)), List.forall_mem_cons]
    refine ⟨?_, ih fun x hx => h x (by simp [hx])⟩
    cases hsr : isSurrogate r
    · simpa [isSurrogate] using hsr
    · simp

theorem Respects.keys {md : Modes} {rows : List Row} (h : Respects md rows) (hm : md.cacheRegex = true) :
    ∀ x ∈ rows, ∀ y ∈ rows, x.key = y.key := by
  simp only [Modes.cacheRegex, Bool.and_eq_true] at hm
  obtain ⟨_, hpat, hflags, _⟩ := h
  intro x hx y hy
  simp only [Row.key]
  rw [hpat hm.1 x hx y hy, hflags hm.2 x hx y hy]

theorem Respects.rows {md : Modes} {rows : List Row} (h : Respects md rows) (hm : md.cacheVal = true) :
    ∀ x ∈ rows, ∀ y ∈ rows, x = y := by
  simp only [Modes.cacheVal, Modes.cacheRegex, Bool.and_eq_true] at hm
  obtain ⟨htext, hpat, hflags, hrest⟩ := h
  intro x hx y hy
  cases x; cases y
  rw [Row.mk.injEq]
  exact ⟨htext hm.1.2 _ hx _ hy, hpat hm.1.1.1 _ hx _ hy, hflags hm.1.1.2 _ hx _ hy, hrest hm.2 _ hx _ hy⟩

theorem perRow_sound : Discipline.perRow.Sound := by
  intro o n h
  simp [Discipline.perRow] at h

theorem keyed_sound : Discipline.keyed.Sound := by
  intro o n h
  simpa [Discipline.keyed] using h

theorem pickKey_sound {d : Discipline} (hd : d.Sound) {cR : Bool} {c : Option Key} {rk : Key}
    (h : cR = true → c = some rk) : pickKey d cR c rk = rk := by
  fun_cases pickKey d cR c rk
  next hcR => rw [h hcR]; rfl
  next k0 hkeep => exact hd k0 rk hkeep
  next => rfl
  next => rfl

/-- What a node relies on between two `Eval` calls of a statement whose rows are `rows`: what its own flags promise is
true of every row. The modes and `once` play no part; `compileOnce.Do` is where the flags are set from them (`onceBlock_inv`). -/
structure NodeInv (W : World) (fn : Fn) (rows : List Row) (n : Node) : Prop where
  regex : n.cacheRegex = true → ∀ r ∈ rows, n.compiled = some r.key
  same : n.cacheVal = true → ∀ x ∈ rows, ∀ y ∈ rows, x = y
  value : ∀ v, n.cachedVal = some v → ∀ r ∈ rows, evalFresh W fn r = v

theorem NodeInv.fresh {W : World} {fn : Fn} {rows : List Row} : NodeInv W fn rows Node.fresh :=
  ⟨fun h => (nomatch h), fun h => (nomatch h), fun _ h => (nomatch h)⟩

theorem onceBlock_inv {W : World} {fn : Fn} {md : Modes} {rows : List Row} {n : Node} (h : Respects md rows)
    (inv : NodeInv W fn rows n) {r : Row} (hr : r ∈ rows) : NodeInv W fn rows (onceBlock md n r.key) := by
  fun_cases onceBlock md n r.key
  · exact inv
  · exact ⟨fun (hm : md.cacheRegex = true) x hx => by rw [if_pos hm, h.keys hm r hr x hx], h.rows, inv.value⟩

theorem step_independent {d : Discipline} (hd : d.Sound) {W : World} {fn : Fn} {md : Modes} {rows : List Row}
    (h : Respects md rows) {n : Node} (inv : NodeInv W fn rows n) {r : Row} (hr : r ∈ rows) :
    (step d W fn md n r).2 = evalFresh W fn r ∧ NodeInv W fn rows (step d W fn md n r).1 := by
  unfold step
  cases hc : n.cachedVal with
  | some v => exact ⟨(inv.value v hc r hr).symm, inv⟩
  | none =>
    simp only
    have inv1 := onceBlock_inv h inv hr
    -- of the node after `compileOnce.Do` only the invariant is used
    generalize onceBlock md n r.key = n1 at inv1 ⊢
    rw [pickKey_sound hd fun hm => inv1.regex hm r hr]
    refine ⟨rfl, fun hm x hx => (inv1.regex hm r hr).symm.trans (inv1.regex hm x hx), inv1.same, fun v hv x hx => ?_⟩
    obtain ⟨hcond, rfl⟩ := Option.ite_some_none_eq_some.mp hv
    simp only [Bool.and_eq_true] at hcond
    obtain ⟨⟨hcacheVal, _⟩, _⟩ := hcond
    rw [inv1.same hcacheVal x hx r hr]
    rfl

theorem runRows_independent {d : Discipline} (hd : d.Sound) {W : World} {fn : Fn} {md : Modes} {rows : List Row}
    (h : Respects md rows) {rs : List Row} (hrs : rs ⊆ rows) {n : Node} (inv : NodeInv W fn rows n) :
    runRows d W fn md n rs = rs.map (evalFresh W fn) := by
  induction rs generalizing n with
  | nil => rfl
  | cons r rs ih =>
    obtain ⟨hr, hrs⟩ := List.cons_subset.mp hrs
    obtain ⟨hres, hinv⟩ := step_independent hd h inv hr
    rw [runRows, hres, ih hrs hinv, List.map_cons]

theorem compile_null_or_err (p : PatArg) (f : FlagArg) (r : Res) (hc : compile p f = some r) :
    r = .null ∨ ∃ e, r = .err e := by
  unfold compile at hc
  cases p <;> cases f <;> simp at hc <;> subst hc <;> simp

theorem evalFresh_eq_call (W : World) (fn : Fn) (r : Row) : evalFresh W fn r = evalCall (r.call W fn) := rfl

end Gms.RegexFn

namespace Gms.C33
open Gms.RegexFn

/-- REGEXP_LIKE reports a match iff REGEXP_INSTR (position 1, occurrence 1) is positive. -/
theorem like_iff_instr_pos (m : Matcher) (len : Nat) :
    wMatches m len 0 0 = true ↔ wIndexOf m len 1 1 false > 0 := by
  rw [wMatches_eq, wIndexOf_eq, hit_occ_zero, Int.sub_self]
  cases hit m len 0 1 with
  | none => simp
  | some p => simp

/-- REGEXP_INSTR is positive iff REGEXP_SUBSTR is not NULL (same position and occurrence). -/
theorem instr_pos_iff_substr_some (m : Matcher) (units : List Nat) (pos occ : Int) (ro : Bool) :
    wIndexOf m units.length pos occ ro > 0 ↔ (wSubstring m units pos occ).isSome = true := by
  rw [wIndexOf_eq, wSubstring_eq]
  cases hit m units.length (pos - 1) occ with
  | none => simp
  | some p => simp

/-- The substring returned is the text between the reported start and the reported end. -/
theorem substr_at_instr (m : Matcher) (units : List Nat) (pos occ : Int) (sub : List Nat)
    (h : wSubstring m units pos occ = some sub) :
    let k := wIndexOf m units.length pos occ false
    let kend := wIndexOf m units.length pos occ true
    0 < k ∧ 0 < kend ∧ sub = decodeUtf16 ((units.drop (k - 1).toNat).take ((kend - 1).toNat - (k - 1).toNat)) := by
  rw [wSubstring_eq] at h
  simp only [wIndexOf_eq]
  cases hh : hit m units.length (pos - 1) occ with
  | none => simp [hh] at h
  | some p =>
    obtain ⟨s, e⟩ := p
    simp only [hh, Option.some.injEq] at h
    simp only [Bool.false_eq_true, if_false, if_true, Int.add_sub_cancel, Int.toNat_natCast]
    exact ⟨by omega, by omega, h.symm⟩

/-- LIKE ⇔ INSTR > 0 ⇔ SUBSTR ≠ NULL at the SQL level (default position and occurrence). -/
theorem sql_like_instr_substr_agree (text : List Nat) (bl : Nat) (m : Matcher) :
    let call (fn : Fn) : Call := { fn, text := .ok text bl, pat := .ok, flags := .absent, rep := .null, ints := [], m }
    (evalCall (call .like) = .int 1 ↔ ∃ k, 0 < k ∧ evalCall (call .instr) = .int k) ∧
    (evalCall (call .like) = .int 1 ↔ ∃ s, evalCall (call .substr) = .str s) := by
  have c1 : clamp32 1 = 1 := by decide
  have c0 : (clamp32 0 == 1) = false := by decide
  simp only [evalCall, compile, defaults, c1, c0, reduceCtorEq, if_false, wMatches_eq, wIndexOf_eq, wSubstring_eq,
    hit_occ_zero, Int.sub_self]
  cases hit m (encodeUtf16 text).length 0 1 with
  | none => simp
  | some p => simp

/-- The reported end is not before the reported start, the start is not before the search
position, and the next occurrence starts strictly further right (at or after the previous end). -/
theorem occurrence_monotone (m : Matcher) (len : Nat) (pos occ : Int) (hpos : 1 ≤ pos) (hlen : pos - 1 ≤ len)
    (hocc : 1 ≤ occ) (w : WFfrom len (pos - 1).toNat (m (pos - 1).toNat)) :
    let k := wIndexOf m len pos occ false
    let kend := wIndexOf m len pos occ true
    let k' := wIndexOf m len pos (occ + 1) false
    (0 < k → pos ≤ k ∧ k ≤ kend ∧ kend ≤ len + 1) ∧ (0 < k → 0 < k' → k < k' ∧ kend ≤ k') := by
  simp only [wIndexOf_eq, hit_pos hpos hlen]
  have e1 : (occ + 1 - 1).toNat = (occ - 1).toNat + 1 := by omega
  rw [e1]
  generalize (occ - 1).toNat = i
  generalize m (pos - 1).toNat = ms at w
  cases hp : ms[i]? with
  | none => simp
  | some p =>
    obtain ⟨s, e⟩ := p
    simp only [Bool.false_eq_true, if_false, if_true]
    constructor
    · intro _
      have := WFfrom_getElem? w hp
      omega
    · intro _
      cases hq : ms[i + 1]? with
      | none => simp
      | some q =>
        obtain ⟨s', e'⟩ := q
        have := WFfrom_next w hp hq
        simp only
        omega

/-- With a well-formed matcher and a non-empty text, REGEXP_REPLACE is the text in which exactly
the selected matches — all of them for occurrence 0, the `occ`-th otherwise — are replaced; when
the selection is empty the text is returned unchanged. -/
theorem replace_splices_exactly_matches (m : Matcher) (units rep : List Nat) (pos occ : Int)
    (hne : units ≠ []) (hpos : 1 ≤ pos) (hlen : pos - 1 ≤ units.length)
    (w : WFfrom units.length (pos - 1).toNat (m (pos - 1).toNat)) :
    let ms := m (pos - 1).toNat
    wReplace m units rep pos occ =
      spliceSpec units rep (if occ = 0 then ms else (ms.drop (occ - 1).toNat).take 1) := by
  have hemp : units.isEmpty = false := by cases units; contradiction; rfl
  simp only
  unfold wReplace
  rw [findFrom_pos hpos hlen]
  simp only
  generalize m (pos - 1).toNat = ms at w
  -- for occurrence 0 nothing is dropped, so both sides select from `ms.drop (occ - 1).toNat`
  have hsel : (if occ = 0 then ms else (ms.drop (occ - 1).toNat).take 1) =
      if occ = 0 then ms.drop (occ - 1).toNat else (ms.drop (occ - 1).toNat).take 1 := by
    split
    · subst occ; rfl
    · rfl
  rw [hsel]
  cases hd : ms.drop (occ - 1).toNat with
  | nil => simp [spliceSpec, spliceFrom]
  | cons hit rest =>
    obtain ⟨s, e⟩ := hit
    simp only [hemp, Bool.false_eq_true, if_false, List.take_succ_cons, List.take_zero]
    -- the hit starts at or after the search position and the end of the match before it
    have hk : ms[(occ - 1).toNat]? = some (s, e) := by rw [← List.head?_drop, hd]; rfl
    have hprev : (if (occ - 1).toNat = 0 then 0 else ((ms[(occ - 1).toNat - 1]?).map (·.2)).getD 0) ≤ s := by
      split
      · exact Nat.zero_le s
      · rename_i hk0
        cases hp : ms[(occ - 1).toNat - 1]? with
        | none => exact Nat.zero_le s
        | some p => exact (WFfrom_next w hp (by rwa [Nat.sub_add_cancel (Nat.pos_of_ne_zero hk0)])).2
    have hle := Nat.max_le.mpr ⟨hprev, (WFfrom_getElem? w hk).1⟩
    by_cases ho : occ = 0
    · rw [if_pos ho]
      exact splice_head hle
    · rw [if_neg ho]
      exact splice_head hle

/-- Length law of the splice: every selected match `[s,e)` is exchanged for one copy of the
replacement. -/
theorem replace_length (units rep : List Nat) (sel : List Match) (w : WFfrom units.length 0 sel) :
    (spliceSpec units rep sel).length + (sel.map fun m => m.2 - m.1).sum
      = units.length + sel.length * rep.length := by
  simpa [spliceSpec] using spliceFrom_length units rep 0 0 sel w (Nat.le_refl _) (Nat.zero_le _)

/-- No match from the start position ⇒ the text is returned unchanged. -/
theorem replace_no_match (m : Matcher) (units rep : List Nat) (pos occ : Int) (hpos : 1 ≤ pos)
    (hlen : pos - 1 ≤ units.length) (h : m (pos - 1).toNat = []) : wReplace m units rep pos occ = units := by
  unfold wReplace
  rw [findFrom_pos hpos hlen]
  simp only [h, List.drop_nil]

/-- `UCharStr.GetString ∘ SetString` is the identity on every well-formed string. -/
theorem utf16_roundtrip (rs : List Nat) (h : ∀ r ∈ rs, isScalar r = true) :
    decodeUtf16 (encodeUtf16 rs) = rs := by
  induction rs with
  | nil => rfl
  | cons r rs ih =>
    have hr := h r (by simp)
    simp only [isScalar, Bool.or_eq_true, Bool.and_eq_true, decide_eq_true_eq] at hr
    have ih' := ih fun x hx => h x (by simp [hx])
    rw [encodeUtf16]
    by_cases hb : r < 0x10000
    · have ns : isSurrogate r = false := by simp [isSurrogate]; omega
      rw [if_pos hb, ns, if_neg Bool.false_ne_true, decodeUtf16_cons_of_not_surrogate r _ ns, ih']
    · rw [if_neg hb, if_pos (by omega), decodeUtf16_pair _ (by omega), ih', Nat.add_sub_cancel' (by omega)]

/-- For text without supplementary characters no position splits a surrogate pair: the region
`pos_splits_surrogate_pair` is empty there. -/
theorem bmp_never_splits (rs : List Nat) (h : ∀ r ∈ rs, r < 0x10000) (pos : Int) :
    splitsPair (encodeUtf16 rs) pos = false := by
  unfold splitsPair
  simp only
  split
  · rfl
  · cases h1 : (encodeUtf16 rs)[(pos - 1).toNat]? with
    | none => rfl
    | some lo =>
      cases h2 : (encodeUtf16 rs)[(pos - 1).toNat - 1]? with
      | none => rfl
      | some hi =>
        have := encodeUtf16_bmp_no_surrogate rs h lo (List.mem_of_getElem? h1)
        simp only [decide_eq_false_iff_not]
        omega

/-- A NULL pattern makes the result NULL; a NULL text never yields a value (the result is NULL, or
the error raised earlier while compiling the pattern and flags). -/
theorem null_arguments (c : Call) :
    (c.pat = .null → evalCall c = .null) ∧
    (c.text = .null → evalCall c = .null ∨ ∃ e, evalCall c = .err e) := by
  constructor
  · intro h; simp [evalCall, compile, h]
  · intro h
    unfold evalCall
    cases hc : compile c.pat c.flags with
    | some r => simpa using compile_null_or_err _ _ r hc
    | none => simp [h]

/-- An invalid pattern is an error whatever the other arguments are (unless the pattern or the
flags are NULL / unusable, which is decided first). -/
theorem invalid_pattern_errors (c : Call) (hp : c.pat = .invalid) (hf : c.flags = .absent ∨ c.flags = .ok) :
    evalCall c = .err "invalidregex" := by
  unfold evalCall compile
  rcases hf with hf | hf <;> simp [hp, hf]

-- Full statement (false on the unchanged tree, by the three `finding_*` witnesses below): ∀ c, evalCall c = spec c.
-- `spec_eq_impl_outside_regions` is its guarded form.

/-- `REGEXP_REPLACE('中','x','y',3)`: position 3 passes the byte-length check (3 bytes) but lies
beyond the one-unit text; the result is the empty string — the text is lost. -/
theorem finding_replace_pos_beyond_text_empties :
    ∃ c : Call, region c = some "replace_pos_beyond_text_empties" ∧ evalCall c = .str [] ∧ spec c = .err "oob" :=
  ⟨{ fn := .replace, text := .ok [0x4E2D] 3, pat := .ok, flags := .absent, rep := .ok [0x79] 1,
     ints := [.int 3], m := fun _ => [] }, by decide +kernel⟩

/-- `REGEXP_REPLACE('', 'x*', 'y')`: REGEXP_INSTR reports the (empty) match at 1, but nothing is
substituted. -/
theorem finding_replace_empty_text_drops_replacement :
    ∃ c : Call, region c = some "replace_empty_text_drops_replacement" ∧ evalCall c = .str [] ∧ spec c = .str [0x79] ∧
      evalCall { c with fn := .instr, ints := [] } = .int 1 :=
  ⟨{ fn := .replace, text := .ok [] 0, pat := .ok, flags := .absent, rep := .ok [0x79] 1,
     ints := [], m := fun _ => [(0, 0)] }, by decide +kernel⟩

/-- A position can point into the middle of a surrogate pair (`REGEXP_INSTR('😀', p, 2)`); ICU is
then started inside a character, where its behaviour is undefined (observed: wrong matches and
SIGSEGV). -/
theorem finding_pos_splits_surrogate_pair :
    ∃ rs pos, (∀ r ∈ rs, isScalar r = true) ∧ splitsPair (encodeUtf16 rs) pos = true :=
  ⟨[0x1F600], 2, by decide, by decide⟩

/-- Outside the regions the Spec is the Impl model. -/
theorem spec_eq_impl_outside_regions (c : Call) (h : region c = none) : spec c = evalCall c := by
  unfold spec; rw [h]

/-- **Row independence.** Whatever regexes the earlier rows left in the node, under a sound caching
discipline (the regex is kept only if pattern *and* flags are unchanged) every row of a statement
gets the result it would get on a node of its own — for every matcher world, every function, every
combination of constant / per-row arguments, every sequence of rows. -/
theorem rows_independent (d : Discipline) (hd : d.Sound) (W : World) (fn : Fn) (md : Modes) (rows : List Row)
    (h : Respects md rows) :
    runRows d W fn md Node.fresh rows = rows.map (evalFresh W fn) :=
  runRows_independent hd h (List.Subset.refl rows) .fresh

/-- The code's discipline (re-compile on every row unless pattern and flags are constants). -/
theorem code_rows_independent (W : World) (fn : Fn) (md : Modes) (rows : List Row) (h : Respects md rows) :
    runRows .perRow W fn md Node.fresh rows = rows.map (evalFresh W fn) :=
  rows_independent _ perRow_sound W fn md rows h

/-- "Re-compile iff pattern or flags changed" is observationally the code's discipline. -/
theorem keyed_eq_perRow (W : World) (fn : Fn) (md : Modes) (rows : List Row) (h : Respects md rows) :
    runRows .keyed W fn md Node.fresh rows = runRows .perRow W fn md Node.fresh rows := by
  rw [rows_independent _ keyed_sound W fn md rows h, code_rows_independent W fn md rows h]

/-- Descending instead of ascending order: the same results, reversed. -/
theorem rows_descending (d : Discipline) (hd : d.Sound) (W : World) (fn : Fn) (md : Modes) (rows : List Row)
    (h : Respects md rows) :
    runRows d W fn md Node.fresh rows.reverse = (runRows d W fn md Node.fresh rows).reverse := by
  rw [rows_independent d hd W fn md rows h, List.map_reverse.symm]
  exact runRows_independent hd h (List.reverse_subset.mpr (List.Subset.refl rows)) .fresh

/-- A filter in front of the node (WHERE id <= k AND REGEXP_LIKE(…)): the surviving rows get the
results they get without the filter. -/
theorem rows_filtered (d : Discipline) (hd : d.Sound) (W : World) (fn : Fn) (md : Modes) (rows : List Row)
    (p : Row → Bool) (h : Respects md rows) :
    runRows d W fn md Node.fresh (rows.filter p) = (rows.filter p).map (evalFresh W fn) :=
  runRows_independent hd h List.filter_sublist.subset .fresh

/-- Non-vacuity: a two-row statement with per-row pattern and flags and a constant position. -/
example : Respects ⟨false, false, false, true⟩
    [⟨.ok [66] 1, (.ok, 0), (.ok, 0), .null, [.int 1]⟩, ⟨.ok [98] 1, (.ok, 0), (.ok, 1), .null, [.int 1]⟩] := by
  decide

/-- The two-row world of the witnesses: pattern `b` on the subject `B`; flags value 0 is `'i'`
(one match), flags value 1 is `'c'` (none); pattern value 1 (`x`) never matches. -/
def witnessWorld : World := fun k _ => if k.1.2 = 0 ∧ k.2.2 = 0 then fun i => if i = 0 then [(0, 1)] else [] else fun _ => []

/-- Keyed on the pattern alone the second row is answered with the first row's flags:
`REGEXP_LIKE('B','b','i')`, then `REGEXP_LIKE('B','b','c')` → 1, 1 instead of 1, 0. -/
theorem patternOnly_not_independent :
    ∃ (W : World) (md : Modes) (rows : List Row), Respects md rows ∧
      runRows .patternOnly W .like md Node.fresh rows ≠ rows.map (evalFresh W .like) :=
  ⟨witnessWorld, ⟨false, false, false, true⟩,
   [⟨.ok [66] 1, (.ok, 0), (.ok, 0), .null, []⟩, ⟨.ok [66] 1, (.ok, 0), (.ok, 1), .null, []⟩], by decide, by decide⟩

/-- Keyed on the flags alone the second row is answered with the first row's pattern. -/
theorem flagsOnly_not_independent :
    ∃ (W : World) (md : Modes) (rows : List Row), Respects md rows ∧
      runRows .flagsOnly W .instr md Node.fresh rows ≠ rows.map (evalFresh W .instr) :=
  ⟨witnessWorld, ⟨false, false, false, true⟩,
   [⟨.ok [66] 1, (.ok, 0), (.ok, 0), .null, []⟩, ⟨.ok [66] 1, (.ok, 1), (.ok, 0), .null, []⟩], by decide, by decide⟩

/-- A stale compile outcome also hides NULL / error classes: with the pattern-only key a NULL
match_type after a usable one is answered with a value. -/
theorem patternOnly_hides_null_flags :
    runRows .patternOnly witnessWorld .like ⟨false, false, false, true⟩ Node.fresh
      [⟨.ok [66] 1, (.ok, 0), (.ok, 0), .null, []⟩, ⟨.ok [66] 1, (.ok, 0), (.null, 2), .null, []⟩] = [.int 1, .int 1] ∧
    evalFresh witnessWorld .like ⟨.ok [66] 1, (.ok, 0), (.null, 2), .null, []⟩ = .null := by decide

/-- Outside the defect regions of single calls the Spec of a statement is what the code computes
through one node. -/
theorem spec_rows_outside_regions (W : World) (fn : Fn) (md : Modes) (rows : List Row) (h : Respects md rows)
    (hr : regionRows W fn rows = none) :
    specRows W fn rows = runRows .perRow W fn md Node.fresh rows := by
  rw [code_rows_independent W fn md rows h]
  unfold specRows
  apply List.map_congr_left
  intro r hm
  have := (List.findSome?_eq_none_iff.mp hr) r hm
  rw [evalFresh_eq_call, spec_eq_impl_outside_regions _ this]

theorem facts_registry :
    Generated.C33.registry = [("regexp_instr", "FunctionN", "NewRegexpInstr"), ("regexp_like", "FunctionN", "NewRegexpLike"),
      ("regexp_replace", "FunctionN", "NewRegexpReplace"), ("regexp_substr", "FunctionN", "NewRegexpSubstr")] := rfl

/-- The literal defaults of the constructors (position 1, occurrence 1 — 0 for REPLACE —,
return_option 0), and nothing is filled in any other way than `args[i]` or such a literal. -/
theorem facts_ctor_defaults :
    Generated.C33.ctorLitFields =
      [("NewRegexpInstr", 4, "ReturnOption", 0),
       ("NewRegexpInstr", 3, "Occurrence", 1), ("NewRegexpInstr", 3, "ReturnOption", 0),
       ("NewRegexpInstr", 2, "Position", 1), ("NewRegexpInstr", 2, "Occurrence", 1),
       ("NewRegexpInstr", 2, "ReturnOption", 0),
       ("NewRegexpSubstr", 3, "Occurrence", 1),
       ("NewRegexpSubstr", 2, "Position", 1), ("NewRegexpSubstr", 2, "Occurrence", 1),
       ("NewRegexpReplace", 4, "Occurrence", 0),
       ("NewRegexpReplace", 3, "Position", 1), ("NewRegexpReplace", 3, "Occurrence", 0)] ∧
    Generated.C33.ctorArgFields.length = 57 ∧ Generated.C33.ctorOtherFields = [] := ⟨rfl, rfl, rfl⟩

/-- `defaults` agrees with the regenerated table on every arity. -/
theorem facts_defaults_model :
    defaults .instr [] = [.int 1, .int 1, .int 0] ∧ defaults .instr [.int 7] = [.int 7, .int 1, .int 0] ∧
    defaults .instr [.int 7, .int 8] = [.int 7, .int 8, .int 0] ∧
    defaults .substr [] = [.int 1, .int 1] ∧ defaults .substr [.int 7] = [.int 7, .int 1] ∧
    defaults .replace [] = [.int 1, .int 0] ∧ defaults .replace [.int 7] = [.int 7, .int 0] :=
  ⟨rfl, rfl, rfl, rfl, rfl, rfl, rfl⟩

theorem facts_flags :
    Generated.C33.compileFlagSwitch =
      ["'i' => regexFlags |= regex.RegexFlags_Case_Insensitive", "'m' => regexFlags |= regex.RegexFlags_Multiline",
       "'n' => regexFlags |= regex.RegexFlags_Dot_All", "'u' => regexFlags |= regex.RegexFlags_Unix_Lines"] ∧
    Generated.C33.consolidateSwitch.length = 6 ∧
    Generated.C33.consolidateSwitch.head? = some "'c' => delete(flagSet, \"i\")" := ⟨rfl, rfl, rfl⟩

theorem facts_wrapper_calls :
    Generated.C33.wrapperCalls =
      ["RegexpLike: r.re.Matches(ctx, 0, 0)",
       "RegexpInstr: r.re.IndexOf(ctx, int(pos.(int32)), int(occurrence.(int32)), returnOption.(int32) == 1)",
       "RegexpSubstr: r.re.Substring(ctx, int(pos.(int32)), int(occurrence.(int32)))",
       "RegexpReplace: r.re.Replace(ctx, rText.(string), int(pos.(int32)), int(occurrence.(int32)))"] ∧
    Generated.C33.replacePosChecks =
      ["pos.(int32) <= 0", "len(text.(string)) != 0 && int(pos.(int32)) > len(text.(string))"] := ⟨rfl, rfl⟩

def recvOf : Fn → String
  | .like => "RegexpLike"
  | .instr => "RegexpInstr"
  | .substr => "RegexpSubstr"
  | .replace => "RegexpReplace"

/-- The per-receiver tables of the extractor list the four structs in this order; the names are
distinct, so the entry of `recvOf fn` is the `fn`-th. -/
theorem lookup_recvOf {α : Type} (v : Fn → α) (fn : Fn) :
    List.lookup (recvOf fn) [("RegexpLike", v .like), ("RegexpInstr", v .instr), ("RegexpSubstr", v .substr),
      ("RegexpReplace", v .replace)] = some (v fn) := by
  cases fn <;> simp [recvOf, List.lookup]

/-- The state of a node is exactly the one modelled by `Node`: `compileOnce`/`cacheRegex`/`cacheVal`
(`once`, `cacheRegex`, `cacheVal`), `re`/`compileErr` (`compiled`) and `cachedVal` — no further
field (such as a remembered pattern value) survives from row to row. -/
theorem facts_node_state :
    ∀ fn : Fn, Generated.C33.nodeState.lookup (recvOf fn) =
      some ["cacheRegex bool", "cacheVal bool", "cachedVal any", "compileErr error", "compileOnce sync.Once", "re regex.Regex"] :=
  lookup_recvOf fun _ => _

/-- The cached regex is keyed on pattern **and** flags (`Modes.cacheRegex`), the cached value in
addition on every other argument (`Modes.cacheVal`); the per-row branch closes the previous regex
and re-compiles from the row's pattern and flags unconditionally (`Discipline.perRow`). -/
theorem facts_cache_discipline :
    (∀ fn : Fn, Generated.C33.cacheRegexKey.lookup (recvOf fn) = some ["Pattern", "Flags"]) ∧
    Generated.C33.cacheValKey =
      [("RegexpLike", ["Text"]), ("RegexpInstr", ["Text", "Position", "Occurrence", "ReturnOption"]),
       ("RegexpSubstr", ["Text", "Position", "Occurrence"]), ("RegexpReplace", ["Text", "RText", "Position", "Occurrence"])] ∧
    (∀ fn : Fn, Generated.C33.onceBlock.lookup (recvOf fn) =
      some ["cacheRegex := canBeCached", "cacheVal := cacheRegex && canBeCached",
            "if cacheRegex: re, compileErr := compileRegex(pattern=Pattern, text=Text, flags=Flags, row)"]) ∧
    (∀ fn : Fn, Generated.C33.perRowBranch.lookup (recvOf fn) =
      some ["close the previous regex", "re, compileErr := compileRegex(pattern=Pattern, text=Text, flags=Flags, row)"]) :=
  ⟨lookup_recvOf fun _ => _, rfl, lookup_recvOf fun _ => _, lookup_recvOf fun _ => _⟩

/-- Every argument field of a constructor is covered by one of the two `canBeCached` calls, i.e.
the cached value depends on no argument outside its key. -/
theorem facts_cache_key_covers_arguments :
    ∀ row ∈ Generated.C33.ctorArgFields,
      let recv := ([("NewRegexpLike", "RegexpLike"), ("NewRegexpInstr", "RegexpInstr"), ("NewRegexpSubstr", "RegexpSubstr"),
        ("NewRegexpReplace", "RegexpReplace")].lookup row.1).getD ""
      row.2.2.1 ∈ (Generated.C33.cacheRegexKey.lookup recv).getD [] ∨
      row.2.2.1 ∈ (Generated.C33.cacheValKey.lookup recv).getD [] := by
  decide +kernel

/-- Who writes the state: `compile` (and `WithChildren`, which hands the regex over to the copy);
`Eval` writes `cachedVal` in LIKE / INSTR / SUBSTR only (`cachesResult`), behind `r.cacheVal`, and
the `cachedVal != nil` short cut sits in front of `compile`. -/
theorem facts_state_writers :
    (∀ fn : Fn, Generated.C33.stateWrites.filterMap (fun w => if w.1 = recvOf fn then some w.2 else none) =
      [("WithChildren", "re"), ("compile", "cacheRegex"), ("compile", "cacheVal"), ("compile", "re,compileErr"),
       ("compile", "compileErr"), ("compile", "re,compileErr")] ++ (if cachesResult fn then [("Eval", "cachedVal")] else [])) ∧
    Generated.C33.stateWrites.length = 27 ∧
    (∀ fn : Fn, Generated.C33.evalHead.lookup (recvOf fn) =
      some ["if r.cachedVal != nil { return r.cachedVal, nil }", "r.compile(ctx, row)"]) ∧
    (∀ fn : Fn, Generated.C33.cachedValGuards.lookup (recvOf fn) = some (if cachesResult fn then ["r.cacheVal"] else [])) :=
  ⟨by intro fn; cases fn <;> decide +kernel, rfl, lookup_recvOf fun _ => _,
    lookup_recvOf fun fn => if cachesResult fn then ["r.cacheVal"] else []⟩

end Gms.C33
