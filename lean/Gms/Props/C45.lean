/-
C45 — Trace redaction never leaks identifiers or literals (sql/sqlredact).
-/
import Gms.Model.Redact
import Gms.Lemmas.Basics
import Gms.Generated.C45
import Std.Data.String.ToNat

namespace Gms.Redact

theorem lookup_eq (l : List (Bytes × Nat)) (k : Bytes) : lookup l k = l.lookup k := by
  induction l with
  | nil => rfl
  | cons p rest ih =>
    rw [lookup, List.lookup_cons, ih]
    by_cases h : p.1 = k
    · rw [if_pos h, ← h, beq_self_eq_true]
    · rw [if_neg h, beq_false_of_ne (Ne.symm h)]

theorem symLookup_eq (l : List (Nat × String)) (typ : Nat) : symLookup l typ = l.lookup typ := by
  induction l with
  | nil => rfl
  | cons p rest ih =>
    rw [symLookup, List.lookup_cons, ih]
    by_cases h : p.1 = typ
    · rw [if_pos h, ← h, beq_self_eq_true]
    · rw [if_neg h, beq_false_of_ne (Ne.symm h)]

theorem mem_of_lookup_eq_some {α β} [BEq α] [LawfulBEq α] {l : List (α × β)} {k : α} {v : β}
    (h : l.lookup k = some v) : (k, v) ∈ l := by
  obtain ⟨l₁, l₂, rfl, -⟩ := List.lookup_eq_some_iff.mp h
  simp

theorem lookup_mem {l : List (Bytes × Nat)} {k : Bytes} {v : Nat} (h : lookup l k = some v) :
    (k, v) ∈ l :=
  mem_of_lookup_eq_some (lookup_eq l k ▸ h)

theorem lookup_none_iff {l : List (Bytes × Nat)} {k : Bytes} :
    lookup l k = none ↔ ∀ p ∈ l, p.1 ≠ k := by
  simp only [lookup_eq, List.lookup_eq_none_iff, bne_iff_ne, ne_comm (a := k)]

theorem lookup_append (l r : List (Bytes × Nat)) (k : Bytes) :
    lookup (l ++ r) k = (lookup l k).or (lookup r k) := by
  simp only [lookup_eq, List.lookup_append]

theorem lookup_of_mem_nodup (l : List (Bytes × Nat)) (k : Bytes) (v : Nat)
    (hn : (l.map Prod.fst).Nodup) (h : (k, v) ∈ l) : lookup l k = some v := by
  cases hl : lookup l k with
  | none => exact absurd rfl (lookup_none_iff.mp hl _ h)
  | some v' => cases Basics.eq_of_nodup_map hn (lookup_mem hl) h rfl; rfl

/-- Keys are distinct; the tokens are exactly `1..n`, in mint order. -/
structure WFns (l : List (Bytes × Nat)) (n : Nat) : Prop where
  keys : (l.map Prod.fst).Nodup
  vals : l.map Prod.snd = List.range' 1 n

def WF (m : Mapping) : Prop := WFns m.idents m.nCount ∧ WFns m.values m.vCount

theorem WF.idents {m : Mapping} (h : WF m) : WFns m.idents m.nCount := h.1

theorem WF.values {m : Mapping} (h : WF m) : WFns m.values m.vCount := h.2

theorem lookup_append_of_some {l : List (Bytes × Nat)} {k : Bytes} {v : Nat}
    (h : lookup l k = some v) (r : List (Bytes × Nat)) : lookup (l ++ r) k = some v := by
  rw [lookup_append, h, Option.some_or]

theorem lookup_concat_of_none {l : List (Bytes × Nat)} {k : Bytes} (h : lookup l k = none)
    (v : Nat) : lookup (l ++ [(k, v)]) k = some v := by
  rw [lookup_append, h, Option.none_or, lookup, if_pos rfl]

theorem WFns.mint {l : List (Bytes × Nat)} {n : Nat} (h : WFns l n) {k : Bytes}
    (hk : lookup l k = none) : WFns (l ++ [(k, n + 1)]) (n + 1) := by
  refine ⟨Basics.nodup_map_concat h.keys (lookup_none_iff.mp hk), ?_⟩
  rw [List.map_append, h.vals, List.range'_concat]
  simp [Nat.add_comm]

theorem WFns.bound {l : List (Bytes × Nat)} {n : Nat} (h : WFns l n) {k : Bytes} {v : Nat}
    (hv : lookup l k = some v) : 1 ≤ v ∧ v ≤ n := by
  have hm : v ∈ l.map Prod.snd := List.mem_map.mpr ⟨(k, v), lookup_mem hv, rfl⟩
  rw [h.vals, List.mem_range'_1] at hm
  omega

theorem WFns.inj {l : List (Bytes × Nat)} {n : Nat} (h : WFns l n) (k1 k2 : Bytes) (v : Nat)
    (h1 : lookup l k1 = some v) (h2 : lookup l k2 = some v) : k1 = k2 :=
  congrArg Prod.fst <| Basics.eq_of_nodup_map (h.vals ▸ List.nodup_range') (lookup_mem h1)
    (lookup_mem h2) rfl

theorem WFns.length {l : List (Bytes × Nat)} {n : Nat} (h : WFns l n) : l.length = n := by
  have := congrArg List.length h.vals
  simpa using this

/-- Monotone growth: what a lexeme was mapped to is never changed. -/
def Ext (m m' : Mapping) : Prop :=
  (∀ k v, lookup m.idents k = some v → lookup m'.idents k = some v) ∧
  (∀ k v, lookup m.values k = some v → lookup m'.values k = some v)

theorem Ext.refl (m : Mapping) : Ext m m := ⟨fun _ _ h => h, fun _ _ h => h⟩

theorem Ext.trans {a b c : Mapping} (h1 : Ext a b) (h2 : Ext b c) : Ext a c :=
  ⟨fun k v h => h2.1 k v (h1.1 k v h), fun k v h => h2.2 k v (h1.2 k v h)⟩

def lookupOf (m : Mapping) : AOp → Option Nat
  | .readI k | .lockI k => lookup m.idents k
  | .readV k | .lockV k => lookup m.values k

theorem aStep_spec (m : Mapping) (op : AOp) (h : WF m) :
    WF (aStep m op).1 ∧ Ext m (aStep m op).1 ∧ (aStep m op).2 = lookupOf (aStep m op).1 op := by
  cases op with
  | readI k => exact ⟨h, Ext.refl m, rfl⟩
  | readV k => exact ⟨h, Ext.refl m, rfl⟩
  | lockI k =>
    simp only [aStep]
    cases hl : lookup m.idents k with
    | some t => exact ⟨h, Ext.refl m, hl.symm⟩
    | none =>
      exact ⟨⟨h.idents.mint hl, h.values⟩, ⟨fun _ _ hv => lookup_append_of_some hv _, fun _ _ hv => hv⟩,
        (lookup_concat_of_none hl _).symm⟩
  | lockV k =>
    simp only [aStep]
    cases hl : lookup m.values k with
    | some t => exact ⟨h, Ext.refl m, hl.symm⟩
    | none =>
      exact ⟨⟨h.idents, h.values.mint hl⟩, ⟨fun _ _ hv => hv, fun _ _ hv => lookup_append_of_some hv _⟩,
        (lookup_concat_of_none hl _).symm⟩

theorem lookupOf_ext {m m' : Mapping} (h : Ext m m') (op : AOp) (t : Nat)
    (hl : lookupOf m op = some t) : lookupOf m' op = some t := by
  cases op <;> simp only [lookupOf] at hl ⊢
  case readI | lockI => exact h.1 _ _ hl
  case readV | lockV => exact h.2 _ _ hl

/-- The `match` in this statement, in `redactValue_eq_steps` below and in `Gms.C45.redactIdent_is_two_steps`
(the same statement) is compiled to a matcher named after the first declaration with that shape, which is
this one: it stays in front of them. `redactValue_eq_steps` is the value-side twin, in two halves because
`redactValue` returns a `Nat` where `aStep` returns an `Option Nat`. -/
theorem redactIdent_eq_steps (m : Mapping) (k : Bytes) (hk : k ≠ []) :
    redactIdent m k =
      match aStep m (.readI k) with
      | (m', some t) => (m', some t)
      | (m', none) => aStep m' (.lockI k) := by
  simp only [redactIdent, hk, if_false, aStep]
  cases hl : lookup m.idents k <;> simp [hl]

theorem redactValue_eq_steps (m : Mapping) (k : Bytes) :
    (redactValue m k).1 = (match aStep m (.readV k) with
      | (m', some _) => m'
      | (m', none) => (aStep m' (.lockV k)).1) ∧
    some (redactValue m k).2 = (match aStep m (.readV k) with
      | (_, some t) => some t
      | (m', none) => (aStep m' (.lockV k)).2) := by
  simp only [redactValue, aStep]
  cases hl : lookup m.values k <;> simp [hl]

theorem redactValue_fst (m : Mapping) (k : Bytes) : (redactValue m k).1 = (aStep m (.lockV k)).1 := by
  simp only [redactValue, aStep]
  cases lookup m.values k <;> rfl

theorem redactIdent_fst (m : Mapping) (k : Bytes) :
    ∃ op, (redactIdent m k).1 = (aStep m op).1 := by
  unfold redactIdent
  split
  · exact ⟨.readI k, rfl⟩
  · exact ⟨.lockI k, rfl⟩

/-- Every token costs the mapping one atomic step: a locked one if it is redacted, a read if not. -/
theorem emitToken_fst (S : List Bytes) (m : Mapping) (typ : Nat) (val : Bytes) :
    ∃ op, (emitToken S m typ val).1 = (aStep m op).1 := by
  unfold emitToken emitIdent
  cases classify typ <;> simp only
  case ident => exact redactIdent_fst m val
  case str | num | hex | bit => exact ⟨_, redactValue_fst m val⟩
  case arg => exact ⟨.readI val, rfl⟩
  case other =>
    split
    · exact redactIdent_fst m val
    · exact ⟨.readI val, rfl⟩

theorem aRun_cons_fst (m : Mapping) (op : AOp) (ops : List AOp) :
    (aRun m (op :: ops)).1 = (aRun (aStep m op).1 ops).1 := rfl

/-- The mapping a statement leaves behind is the one some schedule of atomic steps leaves behind,
so what holds after every schedule (`Gms.C45.concurrent_consistent`) holds after the sequential
redactor. -/
theorem redactLoop_is_run (S : List Bytes) (toks : List Tok) (m : Mapping) :
    ∃ ops, (redactLoop S toks m).1 = (aRun m ops).1 := by
  fun_induction redactLoop S toks m
  case case1 => exact ⟨[], rfl⟩
  case case2 => exact ⟨[], rfl⟩
  case case3 => exact ⟨[], rfl⟩
  case case4 ih => exact ih
  case case5 t ts m _ _ _ r rest ih =>
    obtain ⟨ops, h⟩ := ih
    obtain ⟨op, e⟩ := emitToken_fst S m t.typ t.val
    exact ⟨op :: ops, h.trans (by rw [e, aRun_cons_fst])⟩

def mapKeys (ρ : Bytes → Bytes) (l : List (Bytes × Nat)) : List (Bytes × Nat) :=
  l.map fun p => (ρ p.1, p.2)

def Mapping.rename (ρi ρv : Bytes → Bytes) (m : Mapping) : Mapping :=
  { m with idents := mapKeys ρi m.idents, values := mapKeys ρv m.values }

theorem lookup_mapKeys {ρ : Bytes → Bytes} (hρ : Function.Injective ρ) {l : List (Bytes × Nat)}
    {k : Bytes} : lookup (mapKeys ρ l) (ρ k) = lookup l k := by
  simp only [lookup_eq, mapKeys, List.lookup_eq_findSome?, List.findSome?_map]
  congr; funext p
  simp [hρ.eq_iff]

/-- Rewrite the secret lexemes of a token: identifiers (and keyword-typed lexemes that are in
the identifier set) by `ρi`, literals by `ρv`; everything else is left alone. -/
def renameTok (ρi ρv : Bytes → Bytes) (S : List Bytes) (t : Tok) : Tok :=
  match classify t.typ with
  | .ident => { t with val := ρi t.val }
  | .str | .num | .hex | .bit => { t with val := ρv t.val }
  | .arg => t
  | .other => if t.val ≠ [] ∧ t.val ∈ S then { t with val := ρi t.val } else t

theorem renameTok_typ (ρi ρv : Bytes → Bytes) (S : List Bytes) (t : Tok) :
    (renameTok ρi ρv S t).typ = t.typ := by
  unfold renameTok
  cases classify t.typ <;> simp only
  split <;> rfl

theorem redactIdent_rename (ρi ρv : Bytes → Bytes) (hi : Function.Injective ρi)
    (h0 : ∀ x, ρi x = [] ↔ x = []) (m : Mapping) (k : Bytes) :
    redactIdent (m.rename ρi ρv) (ρi k) =
      ((redactIdent m k).1.rename ρi ρv, (redactIdent m k).2) := by
  unfold redactIdent
  by_cases hk : k = []
  · subst hk
    have : ρi [] = [] := (h0 []).mpr rfl
    simp [this]
  · have : ρi k ≠ [] := fun e => hk ((h0 k).mp e)
    simp only [this, hk, if_false]
    have hl : lookup (m.rename ρi ρv).idents (ρi k) = lookup m.idents k := lookup_mapKeys hi
    rw [hl]
    cases lookup m.idents k with
    | some t => rfl
    | none => simp [Mapping.rename, mapKeys]

theorem redactValue_rename (ρi ρv : Bytes → Bytes) (hv : Function.Injective ρv)
    (m : Mapping) (k : Bytes) :
    redactValue (m.rename ρi ρv) (ρv k) =
      ((redactValue m k).1.rename ρi ρv, (redactValue m k).2) := by
  unfold redactValue
  have hl : lookup (m.rename ρi ρv).values (ρv k) = lookup m.values k := lookup_mapKeys hv
  rw [hl]
  cases lookup m.values k with
  | some t => rfl
  | none => simp [Mapping.rename, mapKeys]

/-- How the identifier set of the second run must relate to the first on one token. -/
def SetOK (ρi : Bytes → Bytes) (S S' : List Bytes) (t : Tok) : Prop :=
  classify t.typ = .other → t.val ≠ [] → (t.val ∈ S → ρi t.val ∈ S') ∧ (t.val ∉ S → t.val ∉ S')

theorem emitToken_rename (ρi ρv : Bytes → Bytes) (hi : Function.Injective ρi)
    (hv : Function.Injective ρv) (h0 : ∀ x, ρi x = [] ↔ x = []) (S S' : List Bytes) (m : Mapping)
    (t : Tok) (hS : SetOK ρi S S' t) :
    emitToken S' (m.rename ρi ρv) t.typ (renameTok ρi ρv S t).val =
      ((emitToken S m t.typ t.val).1.rename ρi ρv, (emitToken S m t.typ t.val).2) := by
  unfold emitToken renameTok emitIdent
  cases hc : classify t.typ <;> simp only
  case ident => rw [redactIdent_rename ρi ρv hi h0]
  case str | num | hex | bit => rw [redactValue_rename ρi ρv hv]
  case other =>
    by_cases hin : t.val ≠ [] ∧ t.val ∈ S
    · have h1 : ρi t.val ≠ [] := fun e => hin.1 ((h0 _).mp e)
      have h2 : ρi t.val ∈ S' := (hS hc hin.1).1 hin.2
      simp only [hin, and_self, if_true, h1, h2, ne_eq, not_false_eq_true]
      rw [redactIdent_rename ρi ρv hi h0]
    · by_cases hne : t.val = []
      · simp [hne]
      · have hnotin : t.val ∉ S := fun e => hin ⟨hne, e⟩
        have h2 : t.val ∉ S' := (hS hc hne).2 hnotin
        simp [hne, hnotin, h2]

theorem redactLoop_rename (ρi ρv : Bytes → Bytes) (hi : Function.Injective ρi)
    (hv : Function.Injective ρv) (h0 : ∀ x, ρi x = [] ↔ x = []) (S S' : List Bytes)
    (toks : List Tok) (m : Mapping) (hS : ∀ t ∈ toks, SetOK ρi S S' t) :
    redactLoop S' (toks.map (renameTok ρi ρv S)) (m.rename ρi ρv) =
      ((redactLoop S toks m).1.rename ρi ρv, (redactLoop S toks m).2) := by
  fun_induction redactLoop S toks m
  case case1 => rfl
  case case2 h_end =>
    rw [List.map_cons, redactLoop, renameTok_typ, if_pos h_end]
  case case3 h_end h_lex =>
    rw [List.map_cons, redactLoop, renameTok_typ, if_neg h_end, if_pos h_lex]
  case case4 h_end h_lex h_comment ih =>
    rw [List.map_cons, redactLoop, renameTok_typ, if_neg h_end, if_neg h_lex, if_pos h_comment]
    exact ih fun t ht => hS t (List.mem_cons_of_mem _ ht)
  case case5 t ts m h_end h_lex h_comment r rest ih =>
    rw [List.map_cons, redactLoop, renameTok_typ, if_neg h_end, if_neg h_lex, if_neg h_comment,
      emitToken_rename ρi ρv hi hv h0 S S' m t (hS t List.mem_cons_self)]
    simp only
    rw [ih fun t ht => hS t (List.mem_cons_of_mem _ ht)]

theorem renameTok_id (S : List Bytes) : renameTok id id S = id := by
  funext t
  unfold renameTok
  cases classify t.typ <;> simp only [id]
  split <;> rfl

theorem Mapping.rename_id (m : Mapping) : m.rename id id = m := by
  simp [Mapping.rename, mapKeys]

theorem redactLoop_congr (S S' : List Bytes) (toks : List Tok) (m : Mapping)
    (h : ∀ t ∈ toks, SetOK id S S' t) : redactLoop S toks m = redactLoop S' toks m := by
  have := redactLoop_rename id id (fun _ _ e => e) (fun _ _ e => e) (fun _ => Iff.rfl) S S' toks m h
  rw [renameTok_id, List.map_id, Mapping.rename_id, Mapping.rename_id] at this
  exact this.symm

inductive PieceOK (S : List Bytes) (toks : List Tok) : Piece → Prop
  | ident (k : Option Nat) : PieceOK S toks (.ident k)
  | str (k : Nat) : PieceOK S toks (.str k)
  | num (k : Nat) : PieceOK S toks (.num k)
  | hex (k : Nat) : PieceOK S toks (.hex k)
  | bit (k : Nat) : PieceOK S toks (.bit k)
  | arg (t : Tok) (ht : t ∈ toks) (hc : classify t.typ = .arg) : PieceOK S toks (.raw t.val)
  | structural (t : Tok) (ht : t ∈ toks) (hc : classify t.typ = .other)
      (hv : t.val = [] ∨ t.val ∉ S) : PieceOK S toks (.raw (emitStructural t.typ t.val))

theorem PieceOK.mono {S : List Bytes} {ts : List Tok} {t : Tok} {p : Piece}
    (h : PieceOK S ts p) : PieceOK S (t :: ts) p := by
  cases h with
  | arg t' ht hc => exact .arg t' (List.mem_cons_of_mem _ ht) hc
  | structural t' ht hc hv => exact .structural t' (List.mem_cons_of_mem _ ht) hc hv
  | _ => constructor

theorem emitToken_piece (S : List Bytes) (m : Mapping) (t : Tok) (ts : List Tok) :
    PieceOK S (t :: ts) (emitToken S m t.typ t.val).2 := by
  unfold emitToken emitIdent
  cases hc : classify t.typ <;> simp only
  · exact .ident _
  · exact .str _
  · exact .num _
  · exact .hex _
  · exact .bit _
  · exact .arg t List.mem_cons_self hc
  · split
    · exact .ident _
    · rename_i hn
      refine .structural t List.mem_cons_self hc ?_
      by_cases hne : t.val = []
      · exact Or.inl hne
      · exact Or.inr (fun e => hn ⟨hne, e⟩)

/-- A run that returns pieces was not cut short by a LEX_ERROR, and without type-0 tokens nothing else ends it
early: it read every token, one piece per non-comment token. -/
theorem redactLoop_complete (S : List Bytes) (toks : List Tok) (m : Mapping) (ps : List Piece)
    (h0 : ∀ t ∈ toks, t.typ ≠ 0) (h : (redactLoop S toks m).2 = some ps) :
    (∀ t ∈ toks, t.typ ≠ tLEX_ERROR) ∧
      ps.length = (toks.filter (fun t => decide (t.typ ≠ tCOMMENT))).length := by
  fun_induction redactLoop S toks m generalizing ps
  case case1 => cases h; exact ⟨nofun, rfl⟩
  case case2 h_end => exact absurd h_end (h0 _ List.mem_cons_self)
  case case3 => cases h
  case case4 h_lex h_comment ih =>
    rw [List.forall_mem_cons] at h0 ⊢
    rw [List.filter_cons_of_neg (by simpa using h_comment)]
    exact ⟨⟨h_lex, (ih ps h0.2 h).1⟩, (ih ps h0.2 h).2⟩
  case case5 h_lex h_comment _ _ ih =>
    obtain ⟨qs, hq, rfl⟩ := Option.map_eq_some_iff.mp h
    rw [List.forall_mem_cons] at h0 ⊢
    rw [List.filter_cons_of_pos (by simpa using h_comment), List.length_cons, List.length_cons,
      (ih qs h0.2 hq).2]
    exact ⟨⟨h_lex, (ih qs h0.2 hq).1⟩, rfl⟩

theorem leaks_eq_false (S : List Bytes) (t : Tok) :
    leaks S t = false ↔ (classify t.typ = .other → t.val ≠ [] → t.val ∉ S → t.role = .kw) := by
  simp only [leaks, Bool.eq_false_iff, ne_eq, Bool.and_eq_true, decide_eq_true_eq, not_and,
    Decidable.not_not, and_imp]

end Gms.Redact

namespace Gms.C45
open Gms.Redact

/-- The switch of `emitToken`, the helpers, `symbolOps`, the loop and the lock protocol the model
transliterates are what the extractor read from the source on this run. -/
theorem facts_match :
    Gms.Generated.C45.emitSwitch =
      [([("ID", tID)], "I"),
       ([("STRING", tSTRING)], "b:' V b:'"),
       ([("INTEGRAL", tINTEGRAL), ("FLOAT", tFLOAT), ("HEXNUM", tHEXNUM)], "b:: V"),
       ([("HEX", tHEX)], "s:X' V b:'"),
       ([("BIT_LITERAL", tBIT_LITERAL)], "s:B' V b:'"),
       ([("VALUE_ARG", tVALUE_ARG), ("LIST_ARG", tLIST_ARG)], "RAW"),
       ([], "if(len(val) > 0){if(_, ok := identSet[string(val)]; ok){I ret }} S")]
    ∧ Gms.Generated.C45.emitIdentBody = "b:` N b:`"
    ∧ Gms.Generated.C45.emitStructuralBody =
        "if(len(val) > 0){RAW ret } if(typ < 256){TYPBYTE ret } if(s, ok := symbolOps[typ]; ok){SYM ret } b: "
    ∧ Gms.Generated.C45.symbolOps = symbolOps
    ∧ Gms.Generated.C45.preLoopGuards =
        ["if(m == nil){m = NewMapping()}", "if(parseErr != nil){ret UnparseableMarker, parseErr}"]
    ∧ Gms.Generated.C45.loopBody =
        ["typ, val := tk.Scan()", "if(typ == 0){break}",
         "if(typ == sqlparser.LEX_ERROR){ret UnparseableMarker, ErrLexFailed}",
         "if(typ == sqlparser.COMMENT){continue}", "if(!first){b: }", "first = false",
         "emitToken(&out, typ, val, m, identSet)"]
    ∧ Gms.Generated.C45.afterLoop = ["return out.String(), nil"]
    ∧ Gms.Generated.C45.parseAndScanArgs = ["sql", "sql"]
    ∧ Gms.Generated.C45.unparseableMarker = "<unparseable>"
    ∧ Gms.Generated.C45.collectIdentsCases =
        ["sqlparser.TableIdent => if !v.IsEmpty() { idents[v.String()] = struct{}{} }",
         "sqlparser.ColIdent => if !v.IsEmpty() { idents[v.String()] = struct{}{} }"] :=
  ⟨rfl, rfl, rfl, rfl, rfl, rfl, rfl, rfl, rfl, rfl⟩

/-- The two-step lock protocol of `RedactIdent` / `RedactValue` is the one `aStep` models. -/
theorem facts_match_mapping :
    Gms.Generated.C45.stepsRedactIdent =
      ["if m == nil || orig == \"\" { return orig }", "m.mu.RLock()",
       "if t, ok := m.idents[orig]; ok { m.mu.RUnlock() return t }", "m.mu.RUnlock()", "m.mu.Lock()",
       "defer m.mu.Unlock()", "if t, ok := m.idents[orig]; ok { return t }", "m.nCount++",
       "t := \"n\" + strconv.Itoa(m.nCount)", "m.idents[orig] = t", "return t"]
    ∧ Gms.Generated.C45.stepsRedactValue =
      ["if m == nil { return orig }", "m.mu.RLock()",
       "if t, ok := m.values[orig]; ok { m.mu.RUnlock() return t }", "m.mu.RUnlock()", "m.mu.Lock()",
       "defer m.mu.Unlock()", "if t, ok := m.values[orig]; ok { return t }", "m.vCount++",
       "t := \"v\" + strconv.Itoa(m.vCount)", "m.values[orig] = t", "return t"] :=
  ⟨rfl, rfl⟩

/-- The empty mapping is well formed. -/
theorem wf_empty : WF {} := ⟨⟨by simp, by simp⟩, ⟨by simp, by simp⟩⟩

/-- Distinct counters render to distinct token strings (`strconv.Itoa` is injective). -/
theorem identTok_injective (a b : Nat) (h : identTok a = identTok b) : a = b := by
  unfold identTok at h
  exact Nat.repr_injective ((String.append_right_inj _).mp h)

theorem valueTok_injective (a b : Nat) (h : valueTok a = valueTok b) : a = b := by
  unfold valueTok at h
  exact Nat.repr_injective ((String.append_right_inj _).mp h)

/-- **Noninterference.** Rewrite every secret lexeme of a statement — identifiers and keyword-typed
lexemes of the identifier set by any injective `ρi`, literals by any injective `ρv` — and the
redacted pieces are *identical*; the mapping afterwards is the renamed mapping. The output is a
function of the statement's shape (token types, public texts, equality pattern), not of the
secret lexemes. -/
theorem noninterference (ρi ρv : Bytes → Bytes) (hi : Function.Injective ρi)
    (hv : Function.Injective ρv) (h0 : ∀ x, ρi x = [] ↔ x = []) (S S' : List Bytes)
    (toks : List Tok) (m : Mapping) (hS : ∀ t ∈ toks, SetOK ρi S S' t) :
    (redactLoop S' (toks.map (renameTok ρi ρv S)) (m.rename ρi ρv)).2 = (redactLoop S toks m).2 ∧
    (redactLoop S' (toks.map (renameTok ρi ρv S)) (m.rename ρi ρv)).1 =
      (redactLoop S toks m).1.rename ρi ρv := by
  rw [redactLoop_rename ρi ρv hi hv h0 S S' toks m hS]
  exact ⟨rfl, rfl⟩

/-- Non-vacuity of `noninterference`: a renaming that changes every secret of
`SELECT a FROM t WHERE a = 'x'` (tokens abbreviated), with a keyword-typed `status`(=[9]) in the
identifier set. -/
example :
    let toks : List Tok := [⟨57353, [83], .kw⟩, ⟨tID, [1], .kw⟩, ⟨57567, [9], .name⟩, ⟨61, [], .kw⟩,
      ⟨tSTRING, [7], .kw⟩, ⟨tID, [1], .kw⟩]
    (redactLoop [[1], [9]] toks {}).2 =
      some [.raw [83], .ident (some 1), .ident (some 2), .raw [61], .str 1, .ident (some 1)] ∧
    (redactLoop [[101], [109]] (toks.map (renameTok (fun x => x.map (· + 100)) (fun x => 0 :: x) [[1], [9]])) {}).2 =
      some [.raw [83], .ident (some 1), .ident (some 2), .raw [61], .str 1, .ident (some 1)] := by
  decide +kernel

/-- **Output alphabet.** Every emitted piece is a placeholder, a bind placeholder's own text, or
the text of a keyword/operator token that is not in the identifier set. No identifier-typed or
literal-typed token text is ever written. -/
theorem output_alphabet (S : List Bytes) (toks : List Tok) (m : Mapping) (ps : List Piece)
    (h : (redactLoop S toks m).2 = some ps) : ∀ p ∈ ps, PieceOK S toks p := by
  fun_induction redactLoop S toks m generalizing ps
  case case1 => cases h; nofun
  case case2 => cases h; nofun
  case case3 => cases h
  case case4 ih => exact fun p hp => (ih ps h p hp).mono
  case case5 t ts m _ _ _ r rest ih =>
    obtain ⟨qs, hq, rfl⟩ := Option.map_eq_some_iff.mp h
    intro p hp
    rcases List.mem_cons.mp hp with rfl | e
    · exact emitToken_piece S m t ts
    · exact (ih qs hq p e).mono

/-- A structural token without text writes an operator from a closed vocabulary. -/
theorem structural_closed (typ : Nat) :
    (typ < 256 ∧ emitStructural typ [] = [UInt8.ofNat typ]) ∨
    (∃ s ∈ symbolOps.map Prod.snd, emitStructural typ [] = strBytes s) ∨
    emitStructural typ [] = [32] := by
  unfold emitStructural
  by_cases h : typ < 256
  · left; simp [h]
  · right
    simp only [ne_eq, not_true_eq_false, if_false, h]
    cases hs : symLookup symbolOps typ with
    | none => right; rfl
    | some s =>
      left
      exact ⟨s, List.mem_map.mpr ⟨_, mem_of_lookup_eq_some (symLookup_eq _ typ ▸ hs), rfl⟩, rfl⟩

/-- **Token structure is kept**: one piece per non-comment token. -/
theorem token_structure_preserved (S : List Bytes) (toks : List Tok) (m : Mapping)
    (ps : List Piece) (h0 : ∀ t ∈ toks, t.typ ≠ 0) (h : (redactLoop S toks m).2 = some ps) :
    ps.length = (toks.filter (fun t => decide (t.typ ≠ tCOMMENT))).length :=
  (redactLoop_complete S toks m ps h0 h).2

example : (redactLoop [] [⟨tID, [1], .kw⟩, ⟨tCOMMENT, [2], .kw⟩, ⟨44, [], .kw⟩] {}).2 =
    some [.ident (some 1), .raw [44]] := by decide +kernel

/-- **Unparseable input yields only the marker**: whenever the status is not `ok`, and a lexer
error anywhere in the stream forces that. -/
theorem unparseable_only_marker (m : Mapping) (inp : Input) :
    ((redactInto m inp).2.2 ≠ .ok → (redactInto m inp).1 = marker) ∧
    (inp = .parseFail → redactInto m inp = (marker, m, .parseErr)) ∧
    (∀ S toks, inp = .parsed S toks → (∀ t ∈ toks, t.typ ≠ 0) → (∃ t ∈ toks, t.typ = tLEX_ERROR) →
      (redactInto m inp).1 = marker ∧ (redactInto m inp).2.2 = .lexErr) := by
  refine ⟨?_, ?_, ?_⟩
  · cases inp with
    | parseFail => intro _; rfl
    | parsed S toks =>
      simp only [redactInto]
      split
      · intro h; exact absurd rfl h
      · intro _; rfl
  · intro h; subst h; rfl
  · rintro S toks rfl h0 ⟨t, ht, he⟩
    simp only [redactInto]
    split
    · rename_i ps heq
      exact absurd he ((redactLoop_complete S toks m ps h0 (congrArg Prod.snd heq)).1 t ht)
    · exact ⟨rfl, rfl⟩

/-- **Concurrent redactions sharing a mapping stay consistent**: for *every* interleaving of the
atomic steps of any number of goroutines (read under RLock; re-check and mint under Lock), the
final mapping is well formed (a function, injective, tokens `1..count`), nothing assigned earlier
changed, and every token any step handed back is the final mapping's token for that lexeme. -/
theorem concurrent_consistent (m0 : Mapping) (ops : List AOp) (h : WF m0) :
    WF (aRun m0 ops).1 ∧ Ext m0 (aRun m0 ops).1 ∧
      ∀ op t, (op, some t) ∈ (aRun m0 ops).2 → lookupOf (aRun m0 ops).1 op = some t := by
  induction ops generalizing m0 with
  | nil => exact ⟨h, Ext.refl _, by simp [aRun]⟩
  | cons op ops ih =>
    obtain ⟨hw, hx, hr⟩ := aStep_spec m0 op h
    have ih' := ih (aStep m0 op).1 hw
    simp only [aRun]
    refine ⟨ih'.1, hx.trans ih'.2.1, ?_⟩
    intro op' t hm
    rcases List.mem_cons.mp hm with e | e
    · injection e with e1 e2
      subst e1
      exact lookupOf_ext ih'.2.1 op' t (hr.symm.trans e2.symm)
    · exact ih'.2.2 op' t e

/-- Two goroutines racing on the same new lexeme: both read-miss, both take the lock in turn;
one token is minted and both get it. -/
example : aRun {} [.readI [1], .readI [1], .lockI [1], .readV [5], .lockI [1], .lockV [5]] =
    ({ idents := [([1], 1)], values := [([5], 1)], nCount := 1, vCount := 1 },
     [(.readI [1], none), (.readI [1], none), (.lockI [1], some 1), (.readV [5], none),
      (.lockI [1], some 1), (.lockV [5], some 1)]) := by decide +kernel

/-- **Mapping is a function and injective, for every history.** After any sequence of statements'
worth of tokens (any identifier sets, any token lists), starting from any well-formed mapping:
the keys are distinct, the tokens handed out are exactly `1..count` in mint order (so distinct
lexemes have distinct tokens), and no earlier assignment was changed. -/
theorem mapping_functional_injective (S : List Bytes) (toks : List Tok) (m : Mapping) (h : WF m) :
    let m' := (redactLoop S toks m).1
    WF m' ∧ Ext m m' ∧
      (∀ k1 k2 v, lookup m'.idents k1 = some v → lookup m'.idents k2 = some v → k1 = k2) ∧
      (∀ k1 k2 v, lookup m'.values k1 = some v → lookup m'.values k2 = some v → k1 = k2) ∧
      m'.idents.length = m'.nCount ∧ m'.values.length = m'.vCount := by
  obtain ⟨ops, e⟩ := redactLoop_is_run S toks m
  have hw := concurrent_consistent m ops h
  rw [← e] at hw
  exact ⟨hw.1, hw.2.1, hw.1.idents.inj, hw.1.values.inj, hw.1.idents.length, hw.1.values.length⟩

/-- `RedactIdent` is the read step followed, on a miss, by the locked step. -/
theorem redactIdent_is_two_steps (m : Mapping) (k : Bytes) (hk : k ≠ []) :
    redactIdent m k =
      match aStep m (.readI k) with
      | (m', some t) => (m', some t)
      | (m', none) => aStep m' (.lockI k) :=
  redactIdent_eq_steps m k hk

/-! ### Spec: every user-chosen lexeme is redacted

The full statement
  `∀ S toks m, redactLoop S toks m = specLoop S toks m`
("whatever the generator marks as a user-chosen name is written as a placeholder") is FALSE for
the code as it stands: `collectIdents` only sees TableIdent/ColIdent nodes that `sqlparser.Walk`
reaches, and the grammar stores many names elsewhere. The guarded version and the witnesses: -/

/-- Guard: every keyword-typed user lexeme is in the identifier set `collectIdents` produced. -/
def NoLeak (S : List Bytes) (toks : List Tok) : Prop := ∀ t ∈ toks, leaks S t = false

theorem impl_eq_spec_partial (S : List Bytes) (toks : List Tok) (m : Mapping)
    (h : NoLeak S toks) : redactLoop S toks m = specLoop S toks m := by
  unfold specLoop
  apply redactLoop_congr
  intro t _ hc hne
  -- `SetOK id S (specS S toks) t`: `specS` only adds to `S`; a lexeme it adds is the text of a user token `t'` of
  -- class `other`, which under the guard is template text
  unfold specS
  refine ⟨List.mem_append_left _, fun hS hin => ?_⟩
  obtain ⟨t', ht', hv⟩ := List.mem_map.mp ((List.mem_append.mp hin).resolve_left hS)
  obtain ⟨hm, hu⟩ := List.mem_filter.mp ht'
  simp only [isUserOther, Bool.and_eq_true, decide_eq_true_eq] at hu
  exact hu.2 ((leaks_eq_false S t').mp (h t' hm) hu.1 (hv ▸ hne) (hv ▸ hS))

/-- Under the guard, no raw piece carries a user-chosen lexeme: a raw piece is a bind placeholder
or the text of a token the generator itself marks as template text (or an operator). -/
theorem no_user_lexeme_verbatim_partial (S : List Bytes) (toks : List Tok) (m : Mapping)
    (ps : List Piece) (hn : NoLeak S toks) (h : (redactLoop S toks m).2 = some ps) :
    ∀ bs, Piece.raw bs ∈ ps →
      (∃ t ∈ toks, classify t.typ = .arg ∧ bs = t.val) ∨
      (∃ t ∈ toks, classify t.typ = .other ∧ bs = emitStructural t.typ t.val ∧
        (t.val = [] ∨ t.role = .kw)) := by
  intro bs hb
  have := output_alphabet S toks m ps h _ hb
  generalize hp : Piece.raw bs = p at this
  cases this with
  | arg t ht hc => injection hp with e; exact Or.inl ⟨t, ht, hc, e⟩
  | structural t ht hc hv =>
    injection hp with e
    refine Or.inr ⟨t, ht, hc, e, ?_⟩
    rcases hv with hv | hv
    · exact Or.inl hv
    · by_cases hne : t.val = []
      · exact Or.inl hne
      · exact Or.inr ((leaks_eq_false S t).mp (hn t ht) hc hne hv)
  | _ => cases hp

/-- Non-vacuity: a statement with a keyword-typed column name that *is* collected. -/
example : NoLeak [[1], [9]] [⟨57353, [83], .kw⟩, ⟨57567, [9], .name⟩, ⟨tID, [1], .name⟩] := by
  unfold NoLeak; decide +kernel

/-- Finding, class 1: `CREATE TABLE t (status int)` — tokens CREATE TABLE `t` ( status int ):
the column name is keyword-typed, `collectIdents` returns only `t`, `status` is written verbatim. -/
theorem finding_kwname_in_ddl_definition :
    ∃ S toks m, region S toks = some "kwname_in_ddl_definition" ∧ redactLoop S toks m ≠ specLoop S toks m :=
  ⟨[[116]], [⟨57515, [67], .kw⟩, ⟨57524, [84], .kw⟩, ⟨tID, [116], .name⟩, ⟨40, [], .kw⟩,
      ⟨57567, [115, 116], .leaky 1⟩, ⟨57787, [105], .kw⟩, ⟨41, [], .kw⟩], {}, by decide +kernel, by decide +kernel⟩

/-- Finding, class 2: `CREATE TRIGGER status …` (trigger name). -/
theorem finding_kwname_of_stored_object :
    ∃ S toks m, region S toks = some "kwname_of_stored_object" ∧ redactLoop S toks m ≠ specLoop S toks m :=
  ⟨[], [⟨57515, [67], .kw⟩, ⟨57564, [84], .kw⟩, ⟨57567, [115, 116], .leaky 2⟩], {}, by decide +kernel, by decide +kernel⟩

/-- Finding, class 3: `CREATE USER status`. -/
theorem finding_kwname_of_account_or_grant :
    ∃ S toks m, region S toks = some "kwname_of_account_or_grant" ∧ redactLoop S toks m ≠ specLoop S toks m :=
  ⟨[], [⟨57515, [67], .kw⟩, ⟨57655, [85], .kw⟩, ⟨57567, [115, 116], .leaky 3⟩], {}, by decide +kernel, by decide +kernel⟩

/-- Finding, class 4: `EXPLAIN SELECT name FROM status` (Walk does not enter the explained statement). -/
theorem finding_kwname_in_unwalked_clause :
    ∃ S toks m, region S toks = some "kwname_in_unwalked_clause" ∧ redactLoop S toks m ≠ specLoop S toks m :=
  ⟨[], [⟨57550, [69], .kw⟩, ⟨57353, [83], .kw⟩, ⟨58001, [110], .leaky 4⟩, ⟨57358, [70], .kw⟩,
      ⟨57567, [115, 116], .leaky 4⟩], {}, by decide +kernel, by decide +kernel⟩

/-- A region is only ever reported for a case that does leak, and only when every leaking token
sits in a listed position class. -/
theorem region_sound (S : List Bytes) (toks : List Tok) (r : String) (h : region S toks = some r) :
    ¬ NoLeak S toks ∧ ∀ t ∈ toks, leaks S t = true → (tokRegion t).isSome = true := by
  unfold region at h
  generalize hls : toks.filter (leaks S) = ls at h
  cases ls with
  | nil => simp at h
  | cons t rest =>
    simp only at h
    split at h
    · rename_i hall
      constructor
      · intro hn
        have : t ∈ toks.filter (leaks S) := by rw [hls]; exact List.mem_cons_self
        have hm := List.mem_filter.mp this
        rw [hn t hm.1] at hm
        exact absurd hm.2 (by simp)
      · intro t' ht' hl'
        have : t' ∈ t :: rest := by rw [← hls]; exact List.mem_filter.mpr ⟨ht', hl'⟩
        exact List.all_eq_true.mp hall t' this
    · simp at h

end Gms.C45
