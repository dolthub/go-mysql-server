/-
C25 — Integer and decimal arithmetic is exact or reports out-of-range.

Model: Gms/Model/Num.lean (Impl = Go's 64-bit wrapping operators on `BitVec 64` behind the operand
conversion of `Arithmetic/IntDiv/Mod/Div/UnaryMinus.Eval`, followed by the rendering through the
declared result type; Spec = exact `Int` arithmetic).

The full-strength statement

    theorem arith_exact_or_error : lt.InRange lv → rt.InRange rv →
        acceptable (arithResOk lt rt) (implArith op lt lv rt rv) (exactArith op lv rv)

is FALSE for the unchanged code (`finding_bigint_overflow_wraps`, `finding_unsigned_operand_clamped`);
what is proved instead is `arith_exact_partial` (exact outside the two regions) together with
`arith_overflow_never_acceptable` (inside `bigint_overflow_wraps` the code is *always* wrong and never
reports), i.e. `arith_acceptable_iff`. Likewise for unary minus (`neg_acceptable_iff`, an exact
characterisation) and DIV (`intdiv_partial`). `/` on integers is exact (`div_round_exact`); `%` on integers never hits the
decimal path's failure and has the sign of the dividend (`int_mod_never_fails`, `mod_sign_of_dividend`).
DECIMAL operands (`apd` is a parameter, taken as exact): `dec_add_sub_exact`, `dec_mul_exact`,
`dec_mod_partial` (+ `int_mod_never_fails`), `dec_div_partial` (no double rounding: `trunc_then_round`),
`dec_intdiv_partial`, with findings `mod_quotient_exceeds_precision`, `div_internal_scale_not_above_final`.
-/
import Gms.Model.Num
import Gms.Lemmas.Digits
import Gms.Generated.C25

namespace Gms.Num

theorem toInt_ofInt64 {v : Int} (h : inI64 v) : (BitVec.ofInt 64 v).toInt = v :=
  BitVec.toInt_ofInt_eq_self (by decide) h.1 (Int.lt_of_le_sub_one h.2)

theorem toNat_ofInt64 {v : Int} (h : inU64 v) : ((BitVec.ofInt 64 v).toNat : Int) = v := by
  unfold inU64 maxU64 at h
  rw [BitVec.toNat_ofInt, Int.toNat_of_nonneg (Int.emod_nonneg _ (by decide))]
  exact Int.emod_eq_of_lt h.1 (by omega)

theorem inI64_toInt (x : BitVec 64) : inI64 x.toInt :=
  ⟨BitVec.le_toInt x, Int.le_sub_one_of_lt BitVec.toInt_lt⟩

theorem inU64_toNat (x : BitVec 64) : inU64 x.toNat :=
  ⟨Int.natCast_nonneg _, Int.le_sub_one_of_lt (Int.ofNat_lt.mpr x.isLt)⟩

theorem ITy.bounds (t : ITy) :
    (t.unsigned = true ∧ t.lo = 0 ∧ t.hi ≤ maxU64 ∧ (t.bits ≤ 32 → t.hi < 2^32)) ∨
    (t.unsigned = false ∧ minI64 ≤ t.lo ∧ t.hi ≤ maxI64 ∧ (t.bits ≤ 32 → -(2^31) ≤ t.lo ∧ t.hi < 2^31)) := by
  cases t <;> decide

/-- The third component is the magnitude that `arith_narrow_exact` multiplies through `AOp.natAbs_exact_le`. -/
theorem ITy.inRange_i64_or_u64 {t : ITy} {v : Int} (h : t.InRange v) :
    (t.unsigned = true ∧ inU64 v ∧ (t.bits ≤ 32 → v.natAbs ≤ 2^32 - 1)) ∨
    (t.unsigned = false ∧ inI64 v ∧ (t.bits ≤ 32 → v.natAbs ≤ 2^31)) := by
  obtain ⟨h1, h2⟩ := h
  rcases t.bounds with ⟨hu, b1, b2, b3⟩ | ⟨hu, b1, b2, b3⟩
  · exact Or.inl ⟨hu, ⟨b1 ▸ h1, Int.le_trans h2 b2⟩, fun hb => by have := b3 hb; omega⟩
  · exact Or.inr ⟨hu, ⟨Int.le_trans b1 h1, Int.le_trans h2 b2⟩, fun hb => by have := b3 hb; omega⟩

theorem toI64_of_not_clamped {t : ITy} {v : Int} (hc : ¬ (t = .u64 ∧ v > maxI64)) :
    toI64 t v = BitVec.ofInt 64 v := if_neg hc

theorem toI64_of_le (t : ITy) {v : Int} (h : v ≤ maxI64) : toI64 t v = BitVec.ofInt 64 v :=
  toI64_of_not_clamped fun hc => absurd hc.2 (Int.not_lt.mpr h)

theorem AOp.bv_ofInt (op : AOp) (a b : Int) :
    op.bv (BitVec.ofInt 64 a) (BitVec.ofInt 64 b) = BitVec.ofInt 64 (op.exact a b) := by
  cases op
  · exact (BitVec.ofInt_add a b).symm
  · simp only [AOp.bv, AOp.exact, BitVec.sub_eq_add_neg, Int.sub_eq_add_neg, BitVec.ofInt_add, BitVec.ofInt_neg]
  · exact (BitVec.ofInt_mul a b).symm

theorem udiv_ofInt64 {a b : Int} (ha : inU64 a) (hb : inU64 b) :
    ((BitVec.ofInt 64 a / BitVec.ofInt 64 b).toNat : Int) = a.tdiv b := by
  rw [BitVec.toNat_udiv, Int.natCast_ediv, toNat_ofInt64 ha, toNat_ofInt64 hb]
  exact (Int.tdiv_eq_ediv_of_nonneg ha.1).symm

theorem sdiv_ofInt64 {a b : Int} (ha : inI64 a) (hb : inI64 b) (h : ¬ (a = minI64 ∧ b = -1)) :
    ((BitVec.ofInt 64 a).sdiv (BitVec.ofInt 64 b)).toInt = a.tdiv b := by
  have e1 := toInt_ofInt64 ha
  have e2 := toInt_ofInt64 hb
  have hne : BitVec.ofInt 64 a ≠ BitVec.intMin 64 ∨ BitVec.ofInt 64 b ≠ -1#64 := by
    by_cases h1 : a = minI64
    · exact Or.inr fun hb' => h ⟨h1, by rw [← e2, hb']; decide⟩
    · exact Or.inl fun ha' => h1 (by rw [← e1, ha']; decide)
  rw [BitVec.toInt_sdiv_of_ne_or_ne _ _ hne, e1, e2]

theorem AOp.natAbs_exact_le (op : AOp) {a b : Int} {A B : Nat} (hA : 2 ≤ A) (hB : 2 ≤ B)
    (ha : a.natAbs ≤ A) (hb : b.natAbs ≤ B) : (op.exact a b).natAbs ≤ A * B := by
  have hs : A + B ≤ A * B := by
    have h1 := Nat.mul_le_mul_right B hA
    have h2 := Nat.mul_le_mul_left A hB
    omega
  cases op
  · exact Nat.le_trans (Int.natAbs_add_le a b) (Nat.le_trans (Nat.add_le_add ha hb) hs)
  · exact Nat.le_trans (Int.natAbs_sub_le a b) (Nat.le_trans (Nat.add_le_add ha hb) hs)
  · exact Int.natAbs_mul a b ▸ Nat.mul_le_mul ha hb

end Gms.Num

namespace Gms.C25
open Gms.Num

theorem acceptable_int_iff (resOk : Int → Bool) (x v : Int) : acceptable resOk (.int x) (.int v) ↔ x = v := by
  unfold acceptable
  simp only [Obs.int.injEq, reduceCtorEq, false_and, or_false]

theorem acceptable_guard {resOk : Int → Bool} {c : Prop} [Decidable c] {q r : Int}
    (hc : c → q < minI64 ∨ q > maxI64) (hr : ¬ c → r = q) :
    acceptable resOk (if c then .errRange else .int r) (.int q) := by
  by_cases h : c
  · rw [if_pos h]
    refine Or.inr ⟨rfl, q, rfl, fun hh => ?_⟩
    have := hc h
    have := hh.1
    unfold inI64 at this
    omega
  · rw [if_neg h, hr h]
    exact Or.inl rfl

theorem arithResOk_iff (lt rt : ITy) (v : Int) :
    arithResOk lt rt v = true ↔ if arithUnsigned lt rt then inU64 v else inI64 v := by
  unfold arithResOk
  split <;> exact decide_eq_true_iff

/-- No range hypothesis on the operands: conversion, operator and rendering all work modulo `2^64`. -/
theorem arith_exact_of_fits (op : AOp) (lt : ITy) (lv : Int) (rt : ITy) (rv : Int)
    (hc : ¬ unsigned_operand_clamped lt lv rt rv) (ho : ¬ bigint_overflow_wraps op lt lv rt rv) :
    implArith op lt lv rt rv = exactArith op lv rv := by
  rw [bigint_overflow_wraps, Bool.not_eq_false, arithResOk_iff] at ho
  unfold implArith exactArith
  by_cases hu : arithUnsigned lt rt = true
  · rw [if_pos hu] at ho ⊢
    unfold toU64
    rw [AOp.bv_ofInt, toNat_ofInt64 ho]
  · rw [if_neg hu] at ho ⊢
    have hcl : ¬ (lt = .u64 ∧ lv > maxI64) := fun h => hc ⟨eq_false_of_ne_true hu, Or.inl h⟩
    have hcr : ¬ (rt = .u64 ∧ rv > maxI64) := fun h => hc ⟨eq_false_of_ne_true hu, Or.inr h⟩
    rw [toI64_of_not_clamped hcl, toI64_of_not_clamped hcr, AOp.bv_ofInt, toInt_ofInt64 ho]

theorem arith_exact_partial (op : AOp) (lt : ITy) (lv : Int) (rt : ITy) (rv : Int)
    (hl : lt.InRange lv) (hr : rt.InRange rv)
    (hc : ¬ unsigned_operand_clamped lt lv rt rv) (ho : ¬ bigint_overflow_wraps op lt lv rt rv) :
    implArith op lt lv rt rv = exactArith op lv rv :=
  arith_exact_of_fits op lt lv rt rv hc ho

theorem implArith_in_declared_range (op : AOp) (lt : ITy) (lv : Int) (rt : ITy) (rv : Int) :
    ∃ x, implArith op lt lv rt rv = .int x ∧ arithResOk lt rt x = true := by
  unfold implArith arithResOk
  split
  · exact ⟨_, rfl, decide_eq_true (inU64_toNat _)⟩
  · exact ⟨_, rfl, decide_eq_true (inI64_toInt _)⟩

/-- Inside `bigint_overflow_wraps` the code is always wrong and never reports: the region is exactly
a defect class (no accidental hits). Needs no hypothesis on the operands. -/
theorem arith_overflow_never_acceptable (op : AOp) (lt : ITy) (lv : Int) (rt : ITy) (rv : Int)
    (ho : bigint_overflow_wraps op lt lv rt rv) :
    ¬ acceptable (arithResOk lt rt) (implArith op lt lv rt rv) (exactArith op lv rv) := by
  obtain ⟨x, hx, hw⟩ := implArith_in_declared_range op lt lv rt rv
  rw [hx, exactArith, acceptable_int_iff]
  rintro rfl
  exact Bool.false_ne_true (ho.symm.trans hw)

/-- Outside `unsigned_operand_clamped`, `+ - *` is acceptable exactly outside `bigint_overflow_wraps`. -/
theorem arith_acceptable_iff (op : AOp) (lt : ITy) (lv : Int) (rt : ITy) (rv : Int)
    (hl : lt.InRange lv) (hr : rt.InRange rv) (hc : ¬ unsigned_operand_clamped lt lv rt rv) :
    acceptable (arithResOk lt rt) (implArith op lt lv rt rv) (exactArith op lv rv)
      ↔ ¬ bigint_overflow_wraps op lt lv rt rv :=
  ⟨fun h ho => arith_overflow_never_acceptable op lt lv rt rv ho h,
   fun ho => Or.inl (arith_exact_partial op lt lv rt rv hl hr hc ho)⟩

/-- Operands narrower than 64 bits are widened before the operator is applied, so `+` and `*` on
them are always exact, and `-` is exact unless both are unsigned and the difference is negative
(the declared result type is then BIGINT UNSIGNED). -/
theorem arith_narrow_exact (op : AOp) (lt : ITy) (lv : Int) (rt : ITy) (rv : Int)
    (hl : lt.InRange lv) (hr : rt.InRange rv) (hlb : lt.bits ≤ 32) (hrb : rt.bits ≤ 32)
    (hs : op = .sub → arithUnsigned lt rt = true → rv ≤ lv) :
    implArith op lt lv rt rv = exactArith op lv rv := by
  apply arith_exact_of_fits op lt lv rt rv
  · rintro ⟨_, ⟨h, _⟩ | ⟨h, _⟩⟩
    · exact absurd (h ▸ hlb) (by decide)
    · exact absurd (h ▸ hrb) (by decide)
  · have fits : ∀ {M : Nat}, (op.exact lv rv).natAbs ≤ M → M ≤ 2^63 - 1 → inI64 (op.exact lv rv) := by
      intro M h1 h2
      unfold inI64 minI64 maxI64
      omega
    rw [bigint_overflow_wraps, Bool.not_eq_false, arithResOk_iff]
    unfold arithUnsigned
    rcases ITy.inRange_i64_or_u64 hl with ⟨lu, ⟨l0, _⟩, l2⟩ | ⟨lu, _, l2⟩ <;>
    rcases ITy.inRange_i64_or_u64 hr with ⟨ru, ⟨r0, _⟩, r2⟩ | ⟨ru, _, r2⟩ <;>
    rw [lu, ru]
    -- the magnitude of the exact result is at most the product of the operands' bounds: `(2^32 - 1) * (2^32 - 1)`,
    -- `(2^32 - 1) * 2^31`, `2^31 * (2^32 - 1)`, `2^31 * 2^31`; only the first exceeds `maxI64`
    all_goals have hm := op.natAbs_exact_le (by decide) (by decide) (l2 hlb) (r2 hrb)
    · have h0 : 0 ≤ op.exact lv rv := by
        cases op
        · exact Int.add_nonneg l0 r0
        · exact Int.sub_nonneg_of_le (hs rfl (by rw [arithUnsigned, lu, ru]; rfl))
        · exact Int.mul_nonneg l0 r0
      exact (if_pos rfl).mpr ⟨h0, by unfold maxU64; omega⟩
    all_goals exact (if_neg (by decide)).mpr (fits hm (by decide))

theorem wrapS_def (n : Nat) (v : Int) : wrapS n v = v.bmod (2^n) := by
  unfold wrapS; rw [BitVec.toInt_ofInt]

theorem bmod_neg_of_range {m : Nat} {v : Int} (h0 : 0 ≤ v) (h1 : v < m) :
    (-v).bmod m = if 2 * v ≤ m then -v else m - v := by
  split
  · exact Int.bmod_eq_of_le_mul_two (by omega) (by omega)
  · rw [← Int.add_bmod_right, Int.bmod_eq_of_le_mul_two (by omega) (by omega)]
    omega

/-- Go's `-intN(x)` for an unsigned operand `x = v` of width `N = n`: the inner conversion is absorbed by the outer one. -/
theorem wrapS_neg_wrapS {n : Nat} {v : Int} (h0 : 0 ≤ v) (h1 : v < (2 ^ n : Nat)) :
    wrapS n (-(wrapS n v)) = if 2 * v ≤ (2 ^ n : Nat) then -v else (2 ^ n : Nat) - v := by
  rw [wrapS_def, wrapS_def, Int.bmod_neg_bmod, bmod_neg_of_range h0 h1]

theorem neg_signed_exact_iff {n : Nat} {v : Int} (h0 : 0 ≤ v) (h1 : v < (2 ^ n : Nat)) :
    wrapS n (-(wrapS n v)) = -v ↔ 2 * v ≤ (2 ^ n : Nat) := by
  rw [wrapS_neg_wrapS h0 h1]
  split <;> omega

theorem neg_unsigned_exact_iff {n : Nat} {cap v : Int} (hc : 0 ≤ cap) (h0 : 0 ≤ v)
    (h1 : v < (2 ^ n : Nat)) : renderUnsigned cap (wrapS n (-(wrapS n v))) = -v ↔ v = 0 := by
  rw [wrapS_neg_wrapS h0 h1]
  -- with `0 ≤ cap` the value rendered through an unsigned type is never negative, so it is `-v` only at `v = 0`
  simp only [renderUnsigned]
  omega

/-- Unary minus on an integer column is acceptable exactly outside the two listed regions: the
regions are an exact characterisation of where the unchanged code is wrong. -/
theorem neg_acceptable_iff (t : ITy) (v : Int) (h : t.InRange v) :
    acceptable negResOk (implNeg t v) (exactNeg v)
      ↔ ¬ neg_unsigned_wraps t v ∧ ¬ neg_mediumint_min_clamped t v := by
  unfold neg_unsigned_wraps neg_mediumint_min_clamped exactNeg
  cases t <;>
    simp only [ITy.InRange, ITy.lo, ITy.hi, ITy.unsigned, ITy.bits, if_true, if_false, Bool.false_eq_true] at h <;>
    simp only [implNeg, acceptable_int_iff, reduceCtorEq, false_and, true_and, not_false_eq_true, and_true, and_self, iff_true]
  -- `i8`, `i16`, `i32` (`-int64(n)`, no region) are closed by the `simp only`
  case u8 | u16 | u24 => rw [neg_unsigned_exact_iff (by decide) h.1 (by omega), Decidable.not_not]
  case i24 =>
    -- the clamp bites at the one value whose negation is out of range
    by_cases hv : v = -2 ^ 23
    · subst hv; decide
    · rw [Int.min_eq_right (by omega), Int.max_eq_right (by omega)]
      exact iff_of_true rfl hv
  case u32 | u64 => rw [neg_signed_exact_iff h.1 (by omega)]; omega
  case i64 => exact acceptable_guard (fun hv => Or.inr (by subst hv; decide)) fun _ => rfl

theorem toI64_zero (t : ITy) : toI64 t 0 = 0 := toI64_of_le t (by decide)

theorem implIntDiv_zero (lt : ITy) (lv : Int) (rt : ITy) : implIntDiv lt lv rt 0 = .null := by
  unfold implIntDiv
  rw [toI64_zero]
  cases lt.unsigned <;> cases rt.unsigned <;> rfl

theorem implIntDiv_unsigned {lt rt : ITy} {lv rv : Int} (lu : lt.unsigned = true) (ru : rt.unsigned = true)
    (hl : inU64 lv) (hr : inU64 rv) (hz : rv ≠ 0) : implIntDiv lt lv rt rv = .int (lv.tdiv rv) := by
  unfold implIntDiv toU64
  rw [lu, ru, if_pos (by decide), if_neg fun h0 => hz (by rw [← toNat_ofInt64 hr, h0]; rfl), udiv_ofInt64 hl hr]

theorem implIntDiv_signed {lt rt : ITy} {lv rv : Int} (lu : lt.unsigned = false) (ru : rt.unsigned = false)
    (hl : inI64 lv) (hr : inI64 rv) (hz : rv ≠ 0) (h : ¬ (lv = minI64 ∧ rv = -1)) :
    implIntDiv lt lv rt rv = .int (lv.tdiv rv) := by
  unfold implIntDiv
  rw [lu, ru, if_neg (by decide), if_pos (by decide), toI64_of_le lt hl.2, toI64_of_le rt hr.2,
    if_neg fun h0 => hz (by rw [← toInt_ofInt64 hr, h0]; rfl), sdiv_ofInt64 hl hr h]

theorem implIntDiv_mixed {resOk : Int → Bool} {lt rt : ITy} {lv rv : Int} (hm : lt.unsigned ≠ rt.unsigned)
    (hz : rv ≠ 0) (h : ¬ intdiv_mixed_negative_as_unsigned lt lv rt rv) :
    acceptable resOk (implIntDiv lt lv rt rv) (.int (lv.tdiv rv)) := by
  unfold implIntDiv
  have hb : (lt.unsigned && rt.unsigned) = false ∧ (!lt.unsigned && !rt.unsigned) = false := by
    revert hm
    cases lt.unsigned <;> cases rt.unsigned <;> decide
  rw [if_neg (ne_true_of_eq_false hb.1), if_neg (ne_true_of_eq_false hb.2), if_neg hz]
  exact acceptable_guard id fun hg => if_neg fun hq => h ⟨hm, hz, hq, Int.not_lt.mp (hg ∘ Or.inl)⟩

/-- `DIV` is acceptable (truncating quotient, NULL on a zero divisor, or an out-of-range error when the
quotient does not fit) outside the two listed regions. -/
theorem intdiv_partial (lt : ITy) (lv : Int) (rt : ITy) (rv : Int)
    (hl : lt.InRange lv) (hr : rt.InRange rv)
    (h3 : ¬ intdiv_minint_by_minus1 lt lv rt rv) (h4 : ¬ intdiv_mixed_negative_as_unsigned lt lv rt rv) :
    acceptable (intDivResOk lt rt) (implIntDiv lt lv rt rv) (exactIntDiv lv rv) := by
  by_cases hz : rv = 0
  · subst hz
    exact Or.inl (implIntDiv_zero lt lv rt)
  rw [exactIntDiv, if_neg hz]
  rcases ITy.inRange_i64_or_u64 hl with ⟨lu, hlv, _⟩ | ⟨lu, hlv, _⟩ <;>
  rcases ITy.inRange_i64_or_u64 hr with ⟨ru, hrv, _⟩ | ⟨ru, hrv, _⟩
  · exact Or.inl (implIntDiv_unsigned lu ru hlv hrv hz)
  · exact implIntDiv_mixed (by rw [lu, ru]; decide) hz h4
  · exact implIntDiv_mixed (by rw [lu, ru]; decide) hz h4
  · exact Or.inl (implIntDiv_signed lu ru hlv hrv hz fun h => h3 ⟨lu, ru, h⟩)

theorem zero_divisor_null (lt : ITy) (lv : Int) (rt : ITy) :
    implIntDiv lt lv rt 0 = .null ∧ implMod lv 0 = .null ∧ implDiv lv 0 = .null :=
  ⟨implIntDiv_zero lt lv rt, if_pos rfl, if_pos rfl⟩

/-- `SELECT 9223372036854775807 + 1` → `-9223372036854775808`. -/
theorem finding_bigint_overflow_wraps :
    ∃ op lt lv rt rv, lt.InRange lv ∧ rt.InRange rv ∧ bigint_overflow_wraps op lt lv rt rv ∧
      implArith op lt lv rt rv = .int (-9223372036854775808) ∧
      ¬ acceptable (arithResOk lt rt) (implArith op lt lv rt rv) (exactArith op lv rv) :=
  ⟨.add, .i64, 9223372036854775807, .i8, 1, by decide⟩

/-- `SELECT 200 - 201` (two TINYINT UNSIGNED literals) → `18446744073709551615`. -/
theorem finding_bigint_overflow_wraps_narrow_unsigned :
    ∃ lv rv, ITy.u8.InRange lv ∧ ITy.u8.InRange rv ∧ litTy lv = some .u8 ∧ litTy rv = some .u8 ∧
      implArith .sub .u8 lv .u8 rv = .int 18446744073709551615 ∧ exactArith .sub lv rv = .int (-1) :=
  ⟨200, 201, by decide⟩

/-- `SELECT 18446744073709551615 + -9223372036854775808` → `-1`; the exact result fits BIGINT. -/
theorem finding_unsigned_operand_clamped :
    ∃ op lt lv rt rv, lt.InRange lv ∧ rt.InRange rv ∧ unsigned_operand_clamped lt lv rt rv ∧
      ¬ bigint_overflow_wraps op lt lv rt rv ∧ implArith op lt lv rt rv = .int (-1) ∧
      ¬ acceptable (arithResOk lt rt) (implArith op lt lv rt rv) (exactArith op lv rv) :=
  ⟨.add, .u64, 18446744073709551615, .i64, -9223372036854775808, by decide⟩

/-- `SELECT -9223372036854775808 DIV -1` → `-9223372036854775808`. -/
theorem finding_intdiv_minint_by_minus1 :
    ∃ lt lv rt rv, lt.InRange lv ∧ rt.InRange rv ∧ intdiv_minint_by_minus1 lt lv rt rv ∧
      ¬ acceptable (intDivResOk lt rt) (implIntDiv lt lv rt rv) (exactIntDiv lv rv) :=
  ⟨.i64, -9223372036854775808, .i8, -1, by decide⟩

/-- `SELECT -500 DIV 200` → `18446744073709551614`. -/
theorem finding_intdiv_mixed_negative_as_unsigned :
    ∃ lt lv rt rv, lt.InRange lv ∧ rt.InRange rv ∧ intdiv_mixed_negative_as_unsigned lt lv rt rv ∧
      implIntDiv lt lv rt rv = .int 18446744073709551614 ∧
      ¬ acceptable (intDivResOk lt rt) (implIntDiv lt lv rt rv) (exactIntDiv lv rv) :=
  ⟨.i16, -500, .u8, 200, by decide⟩

/-- TINYINT UNSIGNED 200: `-c` → `56`. -/
theorem finding_neg_unsigned_wraps :
    ∃ t v, t.InRange v ∧ neg_unsigned_wraps t v ∧ implNeg t v = .int 56 ∧ exactNeg v = .int (-200) :=
  ⟨.u8, 200, by decide⟩

/-- MEDIUMINT -8388608: `-c` → `8388607`. -/
theorem finding_neg_mediumint_min_clamped :
    ∃ t v, t.InRange v ∧ neg_mediumint_min_clamped t v ∧ implNeg t v = .int 8388607 ∧ exactNeg v = .int 8388608 :=
  ⟨.i24, -8388608, by decide⟩

theorem numDigits_pos (n : Nat) : 1 ≤ numDigits n := by
  rw [numDigits.eq_1]; split <;> omega

theorem numDigits_eq (n : Nat) : numDigits n = (Digits.digits 10 n).length := by
  fun_induction numDigits n with
  | case1 n hn => rw [Digits.digits_of_lt hn]; rfl
  | case2 n hn ih => rw [Digits.digits_of_ge (by decide) (Nat.le_of_not_lt hn), List.length_append, ih]; rfl

theorem numDigits_mono {m n : Nat} (h : m ≤ n) : numDigits m ≤ numDigits n := by
  rw [numDigits_eq, numDigits_eq]
  exact Digits.length_digits_mono (by decide) h

theorem dec_mod_partial (a b : Dec) (h : ¬ mod_quotient_exceeds_precision a b) :
    implDecMod a b = exactDecMod a b :=
  ite_congr rfl (fun _ => rfl) fun hb => if_neg fun hh => h ⟨hb, hh⟩

theorem mod_quotient_fits_of_scale_le {a b : Dec} (hs : b.scale ≤ a.scale) :
    ¬ mod_quotient_exceeds_precision a b := by
  rintro ⟨-, h⟩
  -- the common scale is the dividend's, and `a.at a.scale = a.coeff` (the first instance of `Dec.at` the `rw` meets)
  rw [Nat.max_eq_left hs, Dec.at, Nat.sub_self, Int.pow_zero, Int.mul_one] at h
  have := numDigits_mono (Nat.div_le_self a.coeff.natAbs (b.at a.scale).natAbs)
  have := Nat.le_max_left (numDigits a.coeff.natAbs) (numDigits b.coeff.natAbs)
  omega

/-- On two integers `%` never hits the `apd.Rem` precision failure: the decimal path computes exactly
`implMod`. -/
theorem int_mod_never_fails (a b : Int) : implDecMod (Dec.ofInt a) (Dec.ofInt b) = implMod a b := by
  rw [dec_mod_partial (Dec.ofInt a) (Dec.ofInt b) (mod_quotient_fits_of_scale_le (Nat.le_refl _))]
  simp [exactDecMod, implMod, Dec.ofInt, Dec.at]

/-- `%`: the result has the sign of the dividend, is smaller than the divisor in magnitude, and
`dividend = divisor * (dividend DIV divisor) + remainder` with the truncating quotient of `exactIntDiv`. -/
theorem mod_sign_of_dividend (lv rv r : Int) (hz : rv ≠ 0) (h : implMod lv rv = .dec r 0) :
    lv = rv * Int.tdiv lv rv + r ∧ r.natAbs < rv.natAbs ∧ (0 ≤ lv → 0 ≤ r) ∧ (lv ≤ 0 → r ≤ 0) := by
  unfold implMod at h
  rw [if_neg hz] at h
  simp only [Obs.dec.injEq, and_true] at h
  subst h
  refine ⟨(Int.mul_tdiv_add_tmod lv rv).symm, ?_, ?_, ?_⟩
  · rw [Int.natAbs_tmod]; exact Nat.mod_lt _ (Int.natAbs_pos.mpr hz)
  · intro h0; exact Int.tmod_nonneg rv h0
  · intro h0
    have h1 : 0 ≤ (-lv).tmod rv := Int.tmod_nonneg rv (by omega)
    rw [Int.neg_tmod] at h1
    omega

theorem Dec.at_spec (a : Dec) (s : Nat) (h : a.scale ≤ s) : a.at s * 10 ^ a.scale = a.coeff * 10 ^ s := by
  unfold Dec.at
  rw [Int.mul_assoc, ← Int.pow_add, Nat.sub_add_cancel h]

/-- sum and difference of two fractions `ca/Pa`, `cb/Pb` brought to the common denominator `S` -/
theorem cross_mul {A B ca cb Pa Pb S : Int} (ha : A * Pa = ca * S) (hb : B * Pb = cb * S) :
    (A + B) * Pa * Pb = (ca * Pb + cb * Pa) * S ∧ (A - B) * Pa * Pb = (ca * Pb - cb * Pa) * S := by
  have h1 : A * Pa * Pb = ca * Pb * S := by rw [ha, Int.mul_right_comm]
  have h2 : B * Pa * Pb = cb * Pa * S := by rw [Int.mul_right_comm, hb, Int.mul_right_comm]
  exact ⟨by rw [Int.add_mul, Int.add_mul, h1, h2, Int.add_mul], by rw [Int.sub_mul, Int.sub_mul, h1, h2, Int.sub_mul]⟩

/-- `+`/`-` on decimals: the result `c / 10^s` is exactly `a ± b` (stated without division: both
sides multiplied by `10^s`), at scale `max`. -/
theorem dec_add_sub_exact (a b : Dec) :
    (∃ c, implDecArith .add a b = .dec c (max a.scale b.scale) ∧
      c * 10 ^ a.scale * 10 ^ b.scale = (a.coeff * 10 ^ b.scale + b.coeff * 10 ^ a.scale) * 10 ^ (max a.scale b.scale)) ∧
    (∃ c, implDecArith .sub a b = .dec c (max a.scale b.scale) ∧
      c * 10 ^ a.scale * 10 ^ b.scale = (a.coeff * 10 ^ b.scale - b.coeff * 10 ^ a.scale) * 10 ^ (max a.scale b.scale)) := by
  have h := cross_mul (Dec.at_spec a (max a.scale b.scale) (Nat.le_max_left _ _))
    (Dec.at_spec b (max a.scale b.scale) (Nat.le_max_right _ _))
  exact ⟨⟨_, rfl, h.1⟩, ⟨_, rfl, h.2⟩⟩

theorem dec_mul_exact (a b : Dec) :
    implDecArith .mul a b = .dec (a.coeff * b.coeff) (a.scale + b.scale) := rfl

/-- General form of "truncate at a finer scale, then round half-up" = "round half-up": for `j + 1`
extra digits there is no double-rounding error. -/
theorem trunc_then_round (N D j : Nat) (hD : 0 < D) :
    (N * 10 ^ (j + 1) / D + 5 * 10 ^ j) / 10 ^ (j + 1) = (2 * N + D) / (2 * D) := by
  have e : ∀ X, 2 * X * (5 * 10 ^ j) = X * 10 ^ (j + 1) := fun X => by
    rw [Nat.pow_succ, Nat.mul_mul_mul_comm, ← Nat.mul_assoc X]
    exact Nat.mul_comm _ _
  have hp : 0 < 5 * 10 ^ j := Nat.mul_pos (by decide) (Nat.pow_pos (by decide))
  -- both sides as one quotient over `D * 10 ^ (j + 1)`
  rw [← Nat.add_mul_div_right _ _ hD, Nat.div_div_eq_div_mul, ← Nat.mul_div_mul_right (2 * N + D) (2 * D) hp,
    Nat.add_mul, e N, e D, Nat.mul_comm D (5 * 10 ^ j)]

/-- Truncating the quotient at 9 places and then rounding half-up to 4 places is the same as rounding
the exact quotient half-up to 4 places (no double-rounding error). -/
theorem trunc9_round4 (a b : Nat) (hb : 0 < b) :
    (a * 10 ^ 9 / b + 5 * 10 ^ 4) / 10 ^ 5 = (2 * a * 10 ^ 4 + b) / (2 * b) := by
  have h := trunc_then_round (a * 10 ^ 4) b 4 hb
  rwa [Nat.mul_assoc a, ← Nat.pow_add, ← Nat.mul_assoc 2] at h

/-- `/` with a DECIMAL operand returns the exact quotient rounded half away from zero to the final
scale, whenever the internal working scale is above the final scale. -/
theorem dec_div_partial (a b : Dec) (h : ¬ div_internal_scale_not_above_final a b) :
    implDecDiv a b = exactDecDiv a b := by
  unfold div_internal_scale_not_above_final at h
  unfold implDecDiv exactDecDiv
  refine ite_congr rfl (fun _ => rfl) fun hb => ?_
  simp only
  rw [if_neg h]
  have hD : 0 < b.coeff.natAbs * 10 ^ a.scale :=
    Nat.mul_pos (Int.natAbs_pos.mpr hb) (Nat.pow_pos (by decide))
  obtain ⟨j, hj⟩ : ∃ j, divInternalScale a.scale b.scale = divFinalScale a.scale + (j + 1) :=
    ⟨divInternalScale a.scale b.scale - divFinalScale a.scale - 1, by omega⟩
  -- `10 ^ (S + sb) = 10 ^ (f + sb) * 10 ^ (j + 1)`: the numerator is `N * 10 ^ (j + 1)` with `N` the numerator of the Spec
  rw [hj, Nat.add_sub_cancel_left, Nat.add_sub_cancel, Nat.add_right_comm _ (j + 1), Nat.pow_add _ _ (j + 1),
    ← Nat.mul_assoc, trunc_then_round _ _ j hD]

/-- The integer `/` model is the decimal `/` model at scale 0 (one code path in `Div.Eval`). -/
theorem int_div_is_dec_div (a b : Int) : implDecDiv (Dec.ofInt a) (Dec.ofInt b) = implDiv a b := by
  unfold implDecDiv implDiv Dec.ofInt
  have hS : divInternalScale 0 0 = 9 := by decide
  have hf : divFinalScale 0 = 4 := by decide
  refine ite_congr rfl (fun _ => rfl) fun _ => ?_
  simp only [hS, hf, divPrecInc, show ¬ ((9:Nat) ≤ 4) by omega, if_false, Nat.add_zero, Nat.pow_zero, Nat.mul_one]

theorem exactDecDiv_ofInt (a b : Int) : exactDecDiv (Dec.ofInt a) (Dec.ofInt b) = exactDiv4 a b := by
  simp [exactDecDiv, exactDiv4, Dec.ofInt, divFinalScale, divPrecInc, Nat.mul_assoc]

/-- `/` on two integers returns the exact quotient rounded half away from zero to 4 places (or NULL
for a zero divisor), for all integers. -/
theorem div_round_exact (lv rv : Int) : implDiv lv rv = exactDiv4 lv rv := by
  rw [← int_div_is_dec_div, dec_div_partial (Dec.ofInt lv) (Dec.ofInt rv) (show ¬ divInternalScale 0 0 ≤ divFinalScale 0 by decide),
    exactDecDiv_ofInt]

/-- `DIV` with a DECIMAL operand is acceptable unless it is declared unsigned and the quotient is negative. -/
theorem dec_intdiv_partial (u : Bool) (a b : Dec) (h : ¬ intdiv_dec_negative_as_unsigned u a b) :
    acceptable (decIntDivResOk u) (implDecIntDiv u a b) (exactDecIntDiv a b) := by
  unfold implDecIntDiv exactDecIntDiv
  by_cases hb : b.coeff = 0
  · rw [if_pos hb, if_pos hb]
    exact Or.inl rfl
  · rw [if_neg hb, if_neg hb]
    exact acceptable_guard id fun hg => if_neg fun hq => h ⟨hq.1, hb, hq.2, Int.not_lt.mp (hg ∘ Or.inl)⟩

theorem finding_mod_quotient_exceeds_precision :
    ∃ a b, mod_quotient_exceeds_precision a b ∧ implDecMod a b = .errOther ∧ exactDecMod a b = .dec 0 2 :=
  ⟨Dec.ofInt 127, ⟨1, 2⟩, by
    simp [mod_quotient_exceeds_precision, implDecMod, exactDecMod, Dec.ofInt, Dec.at, numDigits]⟩

/-- `SELECT 2.00000/3` → `0.666666666`; the exact quotient rounds to `0.666666667`. -/
theorem finding_div_internal_scale_not_above_final :
    ∃ a b, div_internal_scale_not_above_final a b ∧ implDecDiv a b = .dec 666666666 9 ∧
      exactDecDiv a b = .dec 666666667 9 :=
  ⟨⟨200000, 5⟩, Dec.ofInt 3, by decide⟩

/-! ### Non-vacuity of the guarded theorems -/

example : ITy.i64.InRange 9223372036854775806 ∧ ITy.u8.InRange 1 ∧
    ¬ unsigned_operand_clamped .i64 9223372036854775806 .u8 1 ∧
    ¬ bigint_overflow_wraps .add .i64 9223372036854775806 .u8 1 ∧
    implArith .add .i64 9223372036854775806 .u8 1 = .int 9223372036854775807 := by decide

example : ITy.u64.InRange 18446744073709551615 ∧ ITy.u32.InRange 4294967295 ∧
    ¬ unsigned_operand_clamped .u64 18446744073709551615 .u32 4294967295 ∧
    ¬ bigint_overflow_wraps .sub .u64 18446744073709551615 .u32 4294967295 ∧
    implArith .sub .u64 18446744073709551615 .u32 4294967295 = .int 18446744069414584320 := by decide

example : implArith .mul .i32 (-2147483648) .u32 4294967295 = .int (-9223372034707292160) := by decide

example : ¬ intdiv_minint_by_minus1 .i64 (-9223372036854775808) .i8 1 ∧
    ¬ intdiv_mixed_negative_as_unsigned .i64 (-7) .i8 2 ∧ implIntDiv .i64 (-7) .i8 2 = .int (-3) ∧
    implIntDiv .u64 18446744073709551615 .i8 1 = .errRange ∧ implMod (-7) 2 = .dec (-1) 0 ∧
    implDiv 2 3 = .dec 6667 4 ∧ implDiv (-2) 3 = .dec (-6667) 4 ∧ implDiv 3000001 20000006667 = .dec 1 4 := by decide

example : ¬ neg_unsigned_wraps .u32 2147483648 ∧ implNeg .u32 2147483648 = .int (-2147483648) ∧
    implNeg .i64 (-9223372036854775808) = .errRange ∧ implNeg .i8 (-128) = .int 128 := by decide

example : ¬ div_internal_scale_not_above_final ⟨20000, 4⟩ (Dec.ofInt 3) ∧
    implDecDiv ⟨20000, 4⟩ (Dec.ofInt 3) = .dec 66666667 8 ∧
    implDecArith .add ⟨15, 1⟩ ⟨225, 2⟩ = .dec 375 2 ∧ implDecArith .mul ⟨15, 1⟩ ⟨225, 2⟩ = .dec 3375 3 ∧
    implDecIntDiv false ⟨-75, 1⟩ (Dec.ofInt 2) = .int (-3) := by decide

/-! ### Obligations over the facts regenerated from the source on this run -/

def goIntTypes : List String := ["uint8", "int8", "uint16", "int16", "uint32", "int32", "uint64", "int64"]

/-- `plus/minus/mult`: every integer Go type is combined only with itself and by the native operator
(so the 64-bit model `AOp.bv` is what runs after both operands were converted to the result type). -/
theorem facts_match_switch :
    Gms.Generated.C25.plusCases = goIntTypes.map (fun t => (t, t, "l + r")) ∧
    Gms.Generated.C25.minusCases = goIntTypes.map (fun t => (t, t, "l - r")) ∧
    Gms.Generated.C25.multCases = goIntTypes.map (fun t => (t, t, "l * r")) ∧
    Gms.Generated.C25.intDivIntCases = [("uint64", "uint64"), ("int64", "int64")] :=
  ⟨rfl, rfl, rfl, rfl⟩

/-- `UnaryMinus.Eval`: the conversions the model `implNeg` transliterates. -/
theorem facts_match_neg :
    Gms.Generated.C25.negCases = [("int8", "-int64(n)"), ("int16", "-int64(n)"), ("int32", "-int64(n)"),
      ("int64", "-n"), ("uint8", "-int8(n)"), ("uint16", "-int16(n)"), ("uint32", "-int32(n)"), ("uint64", "-int64(n)")] ∧
    Gms.Generated.C25.negInt64Guard = "n == math.MinInt64" ∧
    Gms.Generated.C25.negInt64GuardError = "sql.ErrValueOutOfRange.New" :=
  ⟨rfl, rfl, rfl⟩

theorem facts_match_consts :
    Gms.Generated.C25.divPrecInc = divPrecInc ∧ Gms.Generated.C25.divIntPrecInc = divIntPrecInc :=
  ⟨rfl, rfl⟩

/-- The declared result type of every operator on every pair of integer types, dumped from the real
expression nodes, is the one the model renders through (600 entries, all pairs). -/
theorem facts_match_types :
    (∀ e ∈ Gms.Generated.C25.binTypeTable, binResTy e.1 e.2.1 e.2.2.1 = e.2.2.2) ∧
    Gms.Generated.C25.binTypeTable.length = 600 ∧
    (∀ e ∈ Gms.Generated.C25.negTypeTable, negResTy e.1 = e.2) ∧
    Gms.Generated.C25.negTypeTable.map (·.1) = ITy.all := by
  decide +kernel

/-- The planbuilder types integer literals at every boundary the way `litTy` does. -/
theorem facts_match_literals :
    (∀ e ∈ Gms.Generated.C25.litTypeTable, litTy e.1 = e.2) ∧ 60 ≤ Gms.Generated.C25.litTypeTable.length := by
  decide +kernel

end Gms.C25
