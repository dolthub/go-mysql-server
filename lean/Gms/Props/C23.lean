/-
C23 — Triggers fire exactly once per affected row, inside the statement.

Model: `Gms/Model/Triggers.lean` (`specOrder` = MySQL's trigger order; `orderImpl cap` = `plan.OrderTriggers`
with Go's slice aliasing; `execDml` = per-row firing of one DML statement with audit-table triggers).

Full statement (false on the unchanged tree: `finding_order_input_aliasing`, `finding_trigger_fires_thrice`,
`finding_order_panics` refute the first half, `finding_failed_statement_keeps_trigger_effects` the second):
  ∀ cap ts, wellFormed ts → orderImpl cap ts = specOrder ts        and a failed statement leaves no audit row
What is proved:
  * `specOrder_perm`, `specOrder_respects` — the Spec order is a permutation of the triggers and puts every
    FOLLOWS trigger after / PRECEDES trigger before a trigger with the referenced name, for every trigger list
    that has a Spec order (no reference to a trigger that does not exist yet);
  * `orderTriggers_correct_partial` — for every capacity and every well-formed trigger list on which
    `OrderTriggers` does not overwrite a visible slot of its input slice (`¬ aliasVisible`, the Region
    predicate of the finding), the Impl model returns exactly the Spec order; `orderTriggers_perm_partial` —
    and so a permutation of the triggers that respects every FOLLOWS / PRECEDES;
  * `fires_once_per_row_*` — for a successful INSERT and for every UPDATE / DELETE, any ordered trigger list and
    any table, the audit trail consists, per affected row in statement order, of the BEFORE triggers in order
    followed by the AFTER triggers in order — each trigger exactly once per affected row, none for other rows
    (a failing INSERT: `finding_failed_statement_keeps_trigger_effects`);
  * `insert_old_new_values`, `after_insert_new_is_stored`, `before_insert_new_is_stored`, `update_old_new_values`,
    `update_old_is_row`, `delete_old_values` — the OLD/NEW values every trigger sees, for written values that the
    conversion to the column type changes too: NEW of an AFTER trigger is the stored row, what the BEFORE chain
    leaves (converted) is what is stored, OLD is the row as it was; `before_new_keeps_key` — a BEFORE UPDATE
    chain keeps the key of NEW;
  * `trigger_values_correct_partial` — outside Region `before_insert_new_unconverted` (a BEFORE INSERT trigger
    looks at a written value that the conversion changes) the Impl model agrees with the Spec; the full statement
    stands above the theorem and is false on the unchanged tree (`finding_before_insert_new_unconverted`).
-/
import Gms.Model.Triggers
import Gms.Lemmas.InsertSort
import Gms.Generated.C23

namespace Gms.Triggers

theorem findName_eq_findIdx? (r : TName) (l : List Trig) : findName r l = l.findIdx? (fun t => t.name = r) := by
  induction l with
  | nil => rfl
  | cons t l ih => simp only [findName, List.findIdx?_cons, decide_eq_true_eq, ih]

theorem findName_some {r : TName} {l : List Trig} {j : Nat} (h : findName r l = some j) :
    ∃ hj : j < l.length, l[j].name = r := by
  rw [findName_eq_findIdx?, List.findIdx?_eq_some_iff_getElem] at h
  obtain ⟨hj, hp, _⟩ := h
  exact ⟨hj, by simpa using hp⟩

theorem findName_of_mem {r : TName} {S : List Trig} (h : r ∈ S.map (·.name)) (R : List Trig) :
    ∃ j, j < S.length ∧ findName r S = some j ∧ findName r (S ++ R) = some j := by
  have h' : ∃ x ∈ S, (fun t : Trig => decide (t.name = r)) x = true := by simpa using h
  have hS := List.findIdx?_eq_some_of_exists h'
  refine ⟨_, List.findIdx_lt_length_of_exists h', ?_, ?_⟩
  · rw [findName_eq_findIdx?, hS]
  · rw [findName_eq_findIdx?, List.findIdx?_append, hS, Option.some_or]

theorem specInsert_shape {ord o : List Trig} {t : Trig} (h : specInsert ord t = some o) :
    ∃ p, o = ord.take p ++ t :: ord.drop p ∧
      ∀ k r, t.order = some (k, r) → ∃ j, findName r ord = some j ∧ p = insPos k j := by
  revert h
  fun_cases specInsert ord t with
  | case1 h_order =>
    rintro ⟨⟩
    exact ⟨ord.length, by simp, fun k r hkr => by rw [h_order] at hkr; cases hkr⟩
  | case2 k ref h_order h_find => intro h; cases h
  | case3 k ref h_order j h_find =>
    rintro ⟨⟩
    exact ⟨insPos k j, rfl, fun k' r' hkr => by rw [h_order] at hkr; cases hkr; exact ⟨j, h_find, rfl⟩⟩

/-- In the order `o`, trigger `t` stands after (FOLLOWS) / before (PRECEDES) a trigger carrying the
referenced name. -/
def Respects (o : List Trig) (t : Trig) : Prop :=
  ∀ k r, t.order = some (k, r) →
    ∃ x, x.name = r ∧ (k = .follows → [x, t].Sublist o) ∧ (k = .precedes → [t, x].Sublist o)

theorem specInsert_respects {ord o o' : List Trig} {t : Trig} (h : specInsert ord t = some o) (hs : o.Sublist o') :
    Respects o' t := by
  obtain ⟨p, rfl, hp⟩ := specInsert_shape h
  intro k r ho
  obtain ⟨j, hj, rfl⟩ := hp k r ho
  obtain ⟨hlt, hn⟩ := findName_some hj
  refine ⟨ord[j], hn, ?_, ?_⟩
  · rintro rfl
    rw [show insPos .follows j = j + 1 from rfl, List.take_succ_eq_append_getElem hlt] at hs
    exact ((List.sublist_append_right _ [ord[j]]).append ((List.nil_sublist _).cons_cons t)).trans hs
  · rintro rfl
    rw [show insPos .precedes j = j from rfl, List.drop_eq_getElem_cons hlt] at hs
    exact (((List.nil_sublist _).cons_cons ord[j]).cons_cons t).trans ((List.sublist_append_right _ _).trans hs)

theorem specInsert_perm_sublist {ord o : List Trig} {t : Trig} (h : specInsert ord t = some o) :
    o.Perm (t :: ord) ∧ ord.Sublist o := by
  obtain ⟨p, rfl, _⟩ := specInsert_shape h
  have h1 := @List.perm_middle _ t (ord.take p) (ord.drop p)
  have h2 : (ord.take p ++ ord.drop p).Sublist (ord.take p ++ t :: ord.drop p) :=
    (List.Sublist.refl _).append (List.sublist_cons_self t _)
  rw [List.take_append_drop] at h1 h2
  exact ⟨h1, h2⟩

theorem specFold_spec {ts acc o : List Trig} (h : specFold acc ts = some o) :
    o.Perm (acc ++ ts) ∧ acc.Sublist o ∧ ∀ t ∈ ts, Respects o t := by
  fun_induction specFold acc ts with
  | case1 acc => cases h; simp
  | case2 acc t ts h_ins => cases h
  | case3 acc t ts acc' h_ins ih =>
    obtain ⟨hp, hs, hr⟩ := ih h
    obtain ⟨hp1, hs1⟩ := specInsert_perm_sublist h_ins
    exact ⟨hp.trans ((hp1.append_right ts).trans List.perm_middle.symm), hs1.trans hs,
      List.forall_mem_cons.mpr ⟨specInsert_respects h_ins hs, hr⟩⟩

/-- Every FOLLOWS/PRECEDES names a trigger created earlier (what MySQL accepts at CREATE time). -/
def wfFrom : List TName → List Trig → Bool
  | _, [] => true
  | seen, t :: ts =>
    (match t.order with
     | none => true
     | some (_, r) => seen.contains r) && wfFrom (seen ++ [t.name]) ts

def wellFormed (ts : List Trig) : Bool := wfFrom [] ts

theorem mutated_mono {cap rem i : Nat} {st : LoopState} (h : (orderLoop cap rem i st).mutated = false) :
    st.mutated = false := by
  fun_induction orderLoop cap rem i st with
  | case1 | case2 | case4 => exact h
  | case3 rem i st t h_get h_order ih => exact ih h
  | case5 rem i st t h_get k ref h_order ord' j h_find p tail trig2 ih => exact (Bool.or_eq_false_iff.mp (ih h)).1

theorem insPos_le {k : OrdKind} {j n : Nat} (h : j < n) : insPos k j ≤ n := by
  cases k <;> simp [insPos] <;> omega

/-- One iteration on a state whose ordered slice is `S` followed by the triggers not yet visited:
`t` is placed as `specInsert` places it, and the input slice may be written to. -/
theorem orderLoop_step (cap : Nat) {done S : List Trig} (t : Trig) (rest : List Trig) (hlen : S.length = done.length)
    (hw : ∀ k r, t.order = some (k, r) → r ∈ S.map (·.name)) :
    ∃ S' trig2, specInsert S t = some S' ∧
      orderLoop cap (rest.length + 1) done.length
          { trig := done ++ t :: rest, ord := S ++ t :: rest, mutated := false, panicked := false } =
        orderLoop cap rest.length (done.length + 1)
          { trig := trig2, ord := S' ++ rest, mutated := trig2 != done ++ t :: rest, panicked := false } := by
  have hget : (done ++ t :: rest)[done.length]? = some t := by simp
  rw [orderLoop]
  simp only [hget]
  cases ho : t.order with
  | none =>
    refine ⟨S ++ [t], done ++ t :: rest, by simp only [specInsert, ho], ?_⟩
    simp only [bne_self_eq_false, List.append_assoc, List.singleton_append]
  | some kr =>
    obtain ⟨k, r⟩ := kr
    -- Go searches the referent in `S ++ rest`, the Spec in `S`: both find it at the same `j` inside `S`, and the
    -- cut at `insPos k j ≤ S.length` stays inside `S` too, so `take`/`drop` leave `rest` alone
    obtain ⟨j, hjl, hjS, hj⟩ := findName_of_mem (hw k r ho) rest
    have herase : (S ++ t :: rest).eraseIdx done.length = S ++ rest := by
      rw [← hlen, List.eraseIdx_append_of_length_le (Nat.le_refl _), Nat.sub_self]; rfl
    have hple : insPos k j ≤ S.length := insPos_le hjl
    -- `trig2` is left open: it is whatever the loop wrote to the input slice, read off by the final `rfl`
    refine ⟨S.take (insPos k j) ++ t :: S.drop (insPos k j), ?_, by simp only [specInsert, ho, hjS], ?_⟩
    rotate_left
    simp only [herase, hj, List.take_append_of_le_length hple, List.drop_append_of_le_length hple, Bool.false_or,
      List.append_assoc, List.cons_append]
    rfl

/-- Loop invariant of `OrderTriggers` for runs that never overwrite a visible input slot: from a state
after `done.length` iterations whose ordered slice is a permutation `S` of `done` followed by the
untouched rest, the loop does not panic and ends with `specFold S rest` (with `S` the Spec order of
`done`: the Spec order of all triggers). -/
theorem loop_spec (cap : Nat) : ∀ (rest done S : List Trig), S.Perm done →
    wfFrom (done.map (·.name)) rest = true →
    (orderLoop cap rest.length done.length
        { trig := done ++ rest, ord := S ++ rest, mutated := false, panicked := false }).mutated = false →
    (orderLoop cap rest.length done.length
        { trig := done ++ rest, ord := S ++ rest, mutated := false, panicked := false }).panicked = false ∧
    specFold S rest = some (orderLoop cap rest.length done.length
        { trig := done ++ rest, ord := S ++ rest, mutated := false, panicked := false }).ord := by
  intro rest
  induction rest with
  | nil => intro done S hp hw hm; simp [orderLoop, specFold]
  | cons t rest ih =>
    intro done S hp hw
    -- any permutation `S` of `done` will do: an iteration asks of `S` only that it carries the referenced
    -- name (`wfFrom`), and `specInsert` turns a permutation of `done` into one of `done ++ [t]`
    simp only [wfFrom, Bool.and_eq_true] at hw
    obtain ⟨S', trig2, hins, hstep⟩ := orderLoop_step cap t rest hp.length_eq fun k r ho => by
      have := hw.1
      simp only [ho, List.contains_iff_mem] at this
      exact (hp.map _).mem_iff.mpr this
    rw [List.length_cons, hstep]
    intro hm
    -- the write to the input slice must have been invisible
    have h2 := mutated_mono hm
    rw [bne_eq_false_iff_eq] at h2
    subst h2
    have hp' : S'.Perm (done ++ [t]) :=
      (specInsert_perm_sublist hins).1.trans ((hp.cons t).trans (List.perm_append_comm (l₁ := [t])))
    have := ih (done ++ [t]) S' hp' (by rw [List.map_append]; exact hw.2)
    simp only [List.append_assoc, List.singleton_append, List.length_append, List.length_cons, List.length_nil] at this
    simp only [bne_self_eq_false] at hm ⊢
    simp only [specFold, hins]
    exact this hm

/-- What one BEFORE UPDATE/DELETE trigger does to NEW (the `match` of `runBefore`). -/
def setNew (t : Trig) (new : Option Row) : Option Row :=
  match t.setB, new with
  | some k, some r => some { r with b := r.b + k }
  | _, _ => new

/-- What one BEFORE INSERT trigger does to NEW (the `match` of `runBeforeRaw`). -/
def setRaw (t : Trig) (new : RawRow) : RawRow :=
  match t.setB with
  | some k => { new with b := 10 * (roundT new.b + k) }
  | none => new

theorem setNew_a (t : Trig) (new : Option Row) : (setNew t new).map (·.a) = new.map (·.a) := by
  unfold setNew
  split <;> rfl

theorem setRaw_a (t : Trig) (new : RawRow) : (setRaw t new).a = new.a := by
  unfold setRaw
  cases t.setB <;> rfl

/-- The records a BEFORE chain writes when started on NEW = `s`; NEW at its end is `bf.foldl (fun s t => upd t s) s`. -/
def chain {σ : Type} (upd : Trig → σ → σ) (rec : Trig → σ → Audit) : List Trig → σ → List Audit
  | [], _ => []
  | t :: ts, s => rec t (upd t s) :: chain upd rec ts (upd t s)

theorem runBefore_eq (old : Option Row) : ∀ (bf : List Trig) (new : Option Row) (acc : List Audit),
    runBefore bf old new acc = (bf.foldl (fun n t => setNew t n) new, acc ++ chain setNew (auditOf · old) bf new)
  | [], _, _ => by simp [runBefore, chain]
  | t :: ts, new, acc => by
    rw [show runBefore (t :: ts) old new acc = runBefore ts old (setNew t new) (acc ++ [auditOf t old (setNew t new)]) from rfl,
      runBefore_eq old ts]
    simp [chain]

theorem runBeforeRaw_eq : ∀ (bf : List Trig) (new : RawRow) (acc : List Audit),
    runBeforeRaw bf new acc = (bf.foldl (fun n t => setRaw t n) new, acc ++ chain setRaw auditRaw bf new)
  | [], _, _ => by simp [runBeforeRaw, chain]
  | t :: ts, new, acc => by
    rw [show runBeforeRaw (t :: ts) new acc = runBeforeRaw ts (setRaw t new) (acc ++ [auditRaw t (setRaw t new)]) from rfl,
      runBeforeRaw_eq ts]
    simp [chain]

section Chain
variable {σ : Type} {upd : Trig → σ → σ} {rec : Trig → σ → Audit}

theorem chain_names (h : ∀ t s, (rec t s).n = t.name) (bf : List Trig) (s : σ) :
    (chain upd rec bf s).map (·.n) = bf.map (·.name) := by
  induction bf generalizing s with
  | nil => rfl
  | cons t ts ih => simp [chain, h, ih]

theorem mem_chain {bf : List Trig} {s : σ} {e : Audit} (h : e ∈ chain upd rec bf s) : ∃ t s', e = rec t s' := by
  induction bf generalizing s with
  | nil => cases h
  | cons t ts ih =>
    rcases List.mem_cons.mp h with rfl | h
    · exact ⟨_, _, rfl⟩
    · exact ih h

theorem getLast?_chain : ∀ (bf : List Trig) (s : σ) (h : bf ≠ []),
    (chain upd rec bf s).getLast? = some (rec (bf.getLast h) (bf.foldl (fun s t => upd t s) s))
  | [_], _, _ => rfl
  | t :: u :: us, s, _ => by simpa [chain] using getLast?_chain (u :: us) (upd t s) (by simp)

end Chain

/-- The names fired for one affected row: the BEFORE triggers in order, then the AFTER triggers. -/
def rowNames (bf af : List Trig) : List TName := bf.map (·.name) ++ af.map (·.name)

/-- The row an INSERT stores for the written row `r`: what the BEFORE chain leaves, converted to
the column types. -/
def insStored (early : Bool) (bf : List Trig) (r : RawRow) : Row :=
  (runBeforeRaw bf (entryRow early r) []).1.stored

/-- The audit records of one inserted row: the BEFORE chain's records, then one record per AFTER
trigger whose NEW is *the stored row*. -/
def insTrace (early : Bool) (bf af : List Trig) (r : RawRow) : List Audit :=
  (runBeforeRaw bf (entryRow early r) []).2 ++ af.map (fun t => auditOf t none (some (insStored early bf r)))

theorem insTrace_names (early : Bool) (bf af : List Trig) (r : RawRow) :
    (insTrace early bf af r).map (·.n) = rowNames bf af := by
  simp [insTrace, rowNames, runBeforeRaw_eq, chain_names (rec := auditRaw) fun _ _ => rfl, auditOf, Function.comp_def]

theorem insertRows_cons (early : Bool) (bf af : List Trig) (r : RawRow) (rs : List RawRow) (au : List Audit) (tbl : List Row) :
    insertRows early bf af (r :: rs) au tbl =
      if tbl.any (fun x => x.a == (insStored early bf r).a) then (au ++ (runBeforeRaw bf (entryRow early r) []).2, tbl, true)
      else insertRows early bf af rs (au ++ insTrace early bf af r) (insertSorted (insStored early bf r) tbl) := by
  simp only [insertRows, insTrace, insStored, runAfter, runBeforeRaw_eq, List.nil_append, List.append_assoc]

theorem insertRows_trace {early : Bool} {bf af : List Trig} {rows : List RawRow} {au au' : List Audit} {tbl tbl' : List Row}
    (h : insertRows early bf af rows au tbl = (au', tbl', false)) :
    au' = au ++ rows.flatMap (insTrace early bf af) ∧
    tbl' = rows.foldl (fun t r => insertSorted (insStored early bf r) t) tbl := by
  induction rows generalizing au tbl with
  | nil => cases h; simp
  | cons r rows ih =>
    rw [insertRows_cons] at h
    split at h
    · cases h
    · obtain ⟨rfl, rfl⟩ := ih h
      simp

theorem insertSorted_inserts : InsertSort.Inserts (fun r x : Row => decide (r.a < x.a)) insertSorted :=
  ⟨fun _ => rfl, fun _ _ _ => by simp only [insertSorted, decide_eq_true_eq]⟩

theorem roundT_ten_mul (n : Int) : roundT (10 * n) = n := by
  unfold roundT
  split <;> omega

theorem ten_mul_roundT {x : Int} (h : x % 10 = 0) : 10 * roundT x = x := by
  obtain ⟨n, rfl⟩ : ∃ n, x = 10 * n := ⟨x / 10, by omega⟩
  rw [roundT_ten_mul]

theorem stored_raw (r : Row) : r.raw.stored = r := by
  cases r
  simp [Row.raw, RawRow.stored, roundT_ten_mul]

theorem entryRow_integral (early : Bool) {r : RawRow} (h : r.integral = true) : entryRow early r = r := by
  cases early
  · rfl
  · obtain ⟨a, b⟩ := r
    simp only [RawRow.integral, Bool.and_eq_true, beq_iff_eq] at h
    simp [entryRow, RawRow.stored, Row.raw, ten_mul_roundT h.1, ten_mul_roundT h.2]

theorem row_early_irrelevant {bf : List Trig} {r : RawRow} (h : bf = [] ∨ r.integral = true) :
    insStored false bf r = insStored true bf r ∧
      (runBeforeRaw bf (entryRow false r) []).2 = (runBeforeRaw bf (entryRow true r) []).2 := by
  rcases h with rfl | h
  · exact ⟨(stored_raw _).symm, rfl⟩
  · rw [insStored, insStored, entryRow_integral true h]
    exact ⟨rfl, rfl⟩

/-- Outside Region `before_insert_new_unconverted` the moment of the conversion does not matter. -/
theorem insertRows_early_irrelevant {bf : List Trig} {rows : List RawRow} (h : ∀ r ∈ rows, bf = [] ∨ r.integral = true)
    (af : List Trig) (au : List Audit) (tbl : List Row) :
    insertRows false bf af rows au tbl = insertRows true bf af rows au tbl := by
  induction rows generalizing au tbl with
  | nil => rfl
  | cons r rows ih =>
    obtain ⟨hs, hb⟩ := row_early_irrelevant (h r List.mem_cons_self)
    rw [insertRows_cons, insertRows_cons, insTrace, insTrace, hs, hb, ih fun x hx => h x (List.mem_cons_of_mem _ hx)]

/-- The row an UPDATE leaves for `r`: `b + k` converted to the column type, then the BEFORE chain. -/
def updStored (bf : List Trig) (k : Tenths) (r : Row) : Row :=
  ((runBefore bf (some r) (some { r with b := roundT (10 * r.b + k) }) []).1).getD r

def updTrace (bf af : List Trig) (k : Tenths) (r : Row) : List Audit :=
  (runBefore bf (some r) (some { r with b := roundT (10 * r.b + k) }) []).2 ++
    af.map (fun t => auditOf t (some r) (some (updStored bf k r)))

def delTrace (bf af : List Trig) (r : Row) : List Audit :=
  (runBefore bf (some r) none []).2 ++ af.map (fun t => auditOf t (some r) none)

/-- `updTrace` and `delTrace` are both of the shape on the left here and in `trace_old_is_row`. -/
theorem trace_names (bf af : List Trig) (old new new' : Option Row) :
    ((runBefore bf old new []).2 ++ af.map (fun t => auditOf t old new')).map (·.n) = rowNames bf af := by
  simp [rowNames, runBefore_eq, chain_names (rec := (auditOf · old)) fun _ _ => rfl, auditOf, Function.comp_def]

theorem trace_old_is_row {bf af : List Trig} {new new' : Option Row} {r : Row} :
    ∀ e ∈ (runBefore bf (some r) new []).2 ++ af.map (fun t => auditOf t (some r) new'),
      e.oa = some (10 * r.a) ∧ e.ob = some (10 * r.b) := by
  intro e he
  rw [runBefore_eq, List.nil_append] at he
  rcases List.mem_append.mp he with he | he
  · obtain ⟨t, s, rfl⟩ := mem_chain he
    exact ⟨rfl, rfl⟩
  · obtain ⟨t, _, rfl⟩ := List.mem_map.mp he
    exact ⟨rfl, rfl⟩

theorem updateRows_trace (bf af : List Trig) (k : Tenths) (lo : Int) : ∀ (tbl : List Row) (au : List Audit),
    updateRows bf af k lo tbl au =
      (au ++ (tbl.filter (fun r => decide (lo ≤ r.a))).flatMap (updTrace bf af k),
       tbl.map (fun r => if lo ≤ r.a then updStored bf k r else r)) := by
  intro tbl
  induction tbl with
  | nil => intro au; simp [updateRows]
  | cons r tbl ih =>
    intro au
    simp only [updateRows]
    by_cases hlo : lo ≤ r.a
    · simp only [hlo, if_true, List.filter_cons, decide_true, List.flatMap_cons, List.map_cons]
      simp only [ih, runAfter, updTrace, updStored, runBefore_eq, List.append_assoc, List.nil_append]
    · simp only [hlo, if_false, List.filter_cons, decide_false, List.map_cons, ih]
      simp

theorem deleteRows_trace (bf af : List Trig) (lo : Int) : ∀ (tbl : List Row) (au : List Audit),
    deleteRows bf af lo tbl au =
      (au ++ (tbl.filter (fun r => decide (lo ≤ r.a))).flatMap (delTrace bf af),
       tbl.filter (fun r => !decide (lo ≤ r.a))) := by
  intro tbl
  induction tbl with
  | nil => intro au; simp [deleteRows]
  | cons r tbl ih =>
    intro au
    simp only [deleteRows]
    by_cases hlo : lo ≤ r.a
    · simp only [hlo, if_true, List.filter_cons, decide_true, List.flatMap_cons, Bool.not_true, Bool.false_eq_true, if_false]
      simp only [ih, runAfter, delTrace, runBefore_eq, List.append_assoc, List.nil_append]
    · simp only [hlo, if_false, List.filter_cons, decide_false, ih]
      simp

theorem execDml_update (spec : Bool) (ordered : List Trig) (tbl : List Row) (k : Tenths) (lo : Int) :
    execDml spec ordered tbl (.update k lo) =
      { outcome := .ok,
        audit := (tbl.filter (fun r => decide (lo ≤ r.a))).flatMap (updTrace (befores ordered) (afters ordered) k),
        table := tbl.map (fun r => if lo ≤ r.a then updStored (befores ordered) k r else r) } := by
  simp only [execDml, firingOrder, List.reverse_reverse, updateRows_trace, List.nil_append]

theorem execDml_delete (spec : Bool) (ordered : List Trig) (tbl : List Row) (lo : Int) :
    execDml spec ordered tbl (.delete lo) =
      { outcome := .ok,
        audit := (tbl.filter (fun r => decide (lo ≤ r.a))).flatMap (delTrace (befores ordered) (afters ordered)),
        table := tbl.filter (fun r => !decide (lo ≤ r.a)) } := by
  simp only [execDml, firingOrder, List.reverse_reverse, deleteRows_trace, List.nil_append]

end Gms.Triggers

namespace Gms.C23
open Gms.Triggers

/-- The list surgery of `OrderTriggers`, the AFTER-reversal and wrapping of the analyzer, and the
append-growth capacities of a trigger slice are the ones the model transliterates. -/
theorem facts_match :
    Gms.Generated.C23.orderAssigns = ["make([]*CreateTrigger,len(triggers))", "copy(orderedTriggers,triggers)",
      "append(orderedTriggers[:i],orderedTriggers[i+1:]...)",
      "append(orderedTriggers[:j],append(triggers[i:i+1],orderedTriggers[j:]...)...)",
      "append(orderedTriggers,triggers[i])",
      "append(orderedTriggers[:j+1],append(triggers[i:i+1],orderedTriggers[j+1:]...)...)"]
    ∧ Gms.Generated.C23.orderRanges = ["i,trigger:=rangetriggers", "j,t:=rangeorderedTriggers", "_,trigger:=rangeorderedTriggers"]
    ∧ Gms.Generated.C23.orderTests = ["trigger.TriggerOrder!=nil", "t.TriggerName==ref",
      "trigger.TriggerOrder.PrecedesOrFollows==sqlparser.PrecedesStr", "trigger.TriggerOrder.PrecedesOrFollows==sqlparser.FollowsStr",
      "len(orderedTriggers)==j-1", "trigger.TriggerTime==sqlparser.BeforeStr"]
    ∧ Gms.Generated.C23.reverseAfter = ["for:left,right:=0,len(afterTriggers)-1;left<right;left,right=left+1,right-1",
      "body:afterTriggers[left],afterTriggers[right]=afterTriggers[right],afterTriggers[left]",
      "return:append(beforeTriggers,afterTriggers...)"]
    ∧ Gms.Generated.C23.wraps = ["*plan.InsertInto:before=n.Source:after=n", "*plan.Update:before=n.Child:after=n",
      "*plan.DeleteFrom:before=n.Child:after=n"]
    ∧ Gms.Generated.C23.appendCaps = [0, 1, 2, 4, 4, 8, 8, 8, 8, 16, 16, 16, 16, 16, 16, 16, 16]
    -- row flow: the row insertIter converts in place is the row it stores *and* the row it returns (= NEW of the
    -- AFTER executors above it); updateIter stores the new half of the row it returns; triggerIter prepends the
    -- row of its child to the trigger logic and passes that row on
    ∧ Gms.Generated.C23.insertFlow = ["assign:row,err:=i.rowSource.Next(ctx)", "assign:row[idx]=converted",
      "assign:row=convertDataAndWarn(ctx,i.schema,row,idx,cErr)", "assign:row[idx]=converted",
      "store:i.replacer.Insert(ctx,row)", "store:i.inserter.Insert(ctx,row)", "return:row,nil"]
    ∧ Gms.Generated.C23.updateFlow = ["assign:oldAndNewRow,err:=u.childIter.Next(ctx)",
      "assign:oldRow,newRow:=oldAndNewRow[:len(oldAndNewRow)/2],oldAndNewRow[len(oldAndNewRow)/2:]",
      "store:u.updater.Update(ctx,oldRow,newRow)", "return:oldAndNewRow,nil"]
    ∧ Gms.Generated.C23.triggerFlow = ["assign:childRow,err:=t.child.Next(ctx)",
      "call:prependRowInPlanForTriggerExecution(ctx,childRow)", "call:t.b.buildNodeExec(ctx,logic,childRow)",
      "call:shouldUseLogicResult(ctx,logic,logicRow)", "return:childRow,nil"] :=
  ⟨rfl, rfl, rfl, rfl, rfl, rfl, rfl, rfl, rfl⟩

/-- The Spec order is a permutation of the triggers: every trigger appears exactly once. -/
theorem specOrder_perm (ts o : List Trig) (h : specOrder ts = some o) : o.Perm ts :=
  (specFold_spec h).1

/-- In the Spec order every FOLLOWS trigger stands after, and every PRECEDES trigger before, a
trigger with the referenced name. -/
theorem specOrder_respects (ts o : List Trig) (h : specOrder ts = some o) : ∀ t ∈ ts, Respects o t :=
  (specFold_spec h).2.2

/-- **`OrderTriggers` is correct whenever it does not overwrite its input.** For every capacity of
the input slice and every well-formed trigger list: if the run never changes a visible element of
`triggers` (Region `order_input_aliasing` does not apply), the result is the Spec order (and it
does not panic). -/
theorem orderTriggers_correct_partial (cap : Nat) (ts : List Trig) (hw : wellFormed ts = true)
    (hr : aliasVisible cap ts = false) : orderImpl cap ts = specOrder ts := by
  have h := loop_spec cap ts [] [] (List.Perm.refl _) (by simpa [wellFormed] using hw)
  simp only [List.nil_append, List.length_nil] at h
  unfold aliasVisible orderRun at hr
  obtain ⟨h1, h2⟩ := h hr
  unfold orderImpl orderRun specOrder
  simp only [h1, Bool.false_eq_true, if_false]
  exact h2.symm

/-- … and in that case it inherits the Spec's guarantees. -/
theorem orderTriggers_perm_partial (cap : Nat) (ts o : List Trig) (hw : wellFormed ts = true)
    (hr : aliasVisible cap ts = false) (h : orderImpl cap ts = some o) : o.Perm ts ∧ ∀ t ∈ ts, Respects o t := by
  rw [orderTriggers_correct_partial cap ts hw hr] at h
  exact ⟨specOrder_perm ts o h, specOrder_respects ts o h⟩

/-- **OLD/NEW values of an INSERT.** A successful INSERT writes, per row as written and in statement
order, the BEFORE chain's records followed by one record per AFTER trigger whose NEW is the *stored*
row `insStored` (= what the BEFORE chain leaves, converted to the column types); the table gains
exactly those stored rows. Holds for the Spec and for the Impl model (any moment of conversion). -/
theorem insert_old_new_values (spec : Bool) (ordered : List Trig) (tbl : List Row) (rows : List RawRow)
    (hok : (execDml spec ordered tbl (.insert rows)).outcome = .ok) :
    (execDml spec ordered tbl (.insert rows)).audit = rows.flatMap (insTrace spec (befores ordered) (afters ordered)) ∧
    (execDml spec ordered tbl (.insert rows)).table =
      rows.foldl (fun t r => insertSorted (insStored spec (befores ordered) r) t) tbl := by
  simp only [execDml, firingOrder, List.reverse_reverse] at hok ⊢
  generalize hres : insertRows spec (befores ordered) (afters ordered) rows [] tbl = res at hok ⊢
  obtain ⟨au, tbl', failed⟩ := res
  cases failed with
  | true => cases hok
  | false => exact insertRows_trace hres

/-- INSERT: per inserted row, the BEFORE triggers in order then the AFTER triggers in order — each
trigger of the event exactly once per row. -/
theorem fires_once_per_row_insert (spec : Bool) (ordered : List Trig) (tbl : List Row) (rows : List RawRow)
    (hok : (execDml spec ordered tbl (.insert rows)).outcome = .ok) :
    (execDml spec ordered tbl (.insert rows)).audit.map (·.n) =
      rows.flatMap (fun _ => rowNames (befores ordered) (afters ordered)) := by
  rw [(insert_old_new_values spec ordered tbl rows hok).1]
  simp only [List.map_flatMap, insTrace_names]

theorem fires_once_per_row_update (spec : Bool) (ordered : List Trig) (tbl : List Row) (k : Tenths) (lo : Int) :
    (execDml spec ordered tbl (.update k lo)).audit.map (·.n) =
      (tbl.filter (fun r => decide (lo ≤ r.a))).flatMap (fun _ => rowNames (befores ordered) (afters ordered)) := by
  simp only [execDml_update, List.map_flatMap, updTrace, trace_names]

theorem fires_once_per_row_delete (spec : Bool) (ordered : List Trig) (tbl : List Row) (lo : Int) :
    (execDml spec ordered tbl (.delete lo)).audit.map (·.n) =
      (tbl.filter (fun r => decide (lo ≤ r.a))).flatMap (fun _ => rowNames (befores ordered) (afters ordered)) := by
  simp only [execDml_delete, List.map_flatMap, delTrace, trace_names]

/-- **NEW of an AFTER INSERT trigger is a row of the table.** Every record an AFTER trigger writes
for a written row `r` shows, cell for cell, the row `insStored … r`, and that row is in the table
when the statement has succeeded — an AFTER trigger never sees a value that was not stored. -/
theorem after_insert_new_is_stored (spec : Bool) (ordered : List Trig) (tbl : List Row) (rows : List RawRow)
    (hok : (execDml spec ordered tbl (.insert rows)).outcome = .ok) (r : RawRow) (hr : r ∈ rows) :
    insStored spec (befores ordered) r ∈ (execDml spec ordered tbl (.insert rows)).table ∧
    ∀ e ∈ (afters ordered).map (fun t => auditOf t none (some (insStored spec (befores ordered) r))),
      e.oa = none ∧ e.ob = none ∧
      e.na = some (10 * (insStored spec (befores ordered) r).a) ∧ e.nb = some (10 * (insStored spec (befores ordered) r).b) := by
  refine ⟨?_, ?_⟩
  · rw [(insert_old_new_values spec ordered tbl rows hok).2, ← List.foldl_map (g := fun t x => insertSorted x t),
      (insertSorted_inserts.foldl_perm _ tbl).mem_iff]
    exact List.mem_append_right _ (List.mem_map_of_mem hr)
  · intro e he
    simp only [List.mem_map] at he
    obtain ⟨t, _, rfl⟩ := he
    simp [auditOf]

/-- **What a BEFORE INSERT chain leaves in NEW is what gets stored**: the last BEFORE trigger's
record shows the row whose conversion to the column types is `insStored`, and the key cell is the
one that entered the chain. -/
theorem before_insert_new_is_stored (early : Bool) (bf : List Trig) (r : RawRow) (hbf : bf ≠ []) :
    ∃ (e : Audit) (new : RawRow), (runBeforeRaw bf (entryRow early r) []).2.getLast? = some e ∧ e.na = some new.a ∧ e.nb = some new.b ∧
      new.stored = insStored early bf r ∧ new.a = (entryRow early r).a := by
  rw [insStored, runBeforeRaw_eq, List.nil_append, getLast?_chain bf _ hbf]
  refine ⟨_, _, rfl, rfl, rfl, rfl, ?_⟩
  exact List.foldlRecOn bf _ (motive := fun s : RawRow => s.a = (entryRow early r).a) rfl
    fun s hs t _ => (setRaw_a t s).trans hs

/-- The row a BEFORE UPDATE chain hands to the storage layer is the updated row with every
`SET NEW.b = NEW.b + k` applied, and it keeps its key. -/
theorem before_new_keeps_key (bf : List Trig) (old : Option Row) (r : Row) (acc : List Audit) :
    ∃ r', (runBefore bf old (some r) acc).1 = some r' ∧ r'.a = r.a := by
  rw [runBefore_eq]
  exact Option.map_eq_some_iff.mp <| List.foldlRecOn bf _ (motive := fun s => s.map (·.a) = some r.a) rfl
    fun s hs t _ => (setNew_a t s).trans hs

/-- **OLD/NEW values of an UPDATE**: per affected row in table order, the BEFORE chain's records then
one record per AFTER trigger with OLD = the row as it was and NEW = the row as it is stored; the
table holds `updStored` for every affected row and the other rows unchanged. -/
theorem update_old_new_values (spec : Bool) (ordered : List Trig) (tbl : List Row) (k : Tenths) (lo : Int) :
    (execDml spec ordered tbl (.update k lo)).audit =
      (tbl.filter (fun r => decide (lo ≤ r.a))).flatMap (updTrace (befores ordered) (afters ordered) k) ∧
    (execDml spec ordered tbl (.update k lo)).table =
      tbl.map (fun r => if lo ≤ r.a then updStored (befores ordered) k r else r) := by
  rw [execDml_update]
  exact ⟨rfl, rfl⟩

/-- Every record of an UPDATE row trace carries the row as it was as OLD. -/
theorem update_old_is_row (bf af : List Trig) (k : Tenths) (r : Row) :
    ∀ e ∈ updTrace bf af k r, e.oa = some (10 * r.a) ∧ e.ob = some (10 * r.b) :=
  trace_old_is_row

/-- **OLD values of a DELETE**: per deleted row, BEFORE then AFTER records with OLD = the deleted row
and no NEW; exactly the rows outside the WHERE clause stay. -/
theorem delete_old_values (spec : Bool) (ordered : List Trig) (tbl : List Row) (lo : Int) :
    (execDml spec ordered tbl (.delete lo)).audit =
      (tbl.filter (fun r => decide (lo ≤ r.a))).flatMap (delTrace (befores ordered) (afters ordered)) ∧
    (execDml spec ordered tbl (.delete lo)).table = tbl.filter (fun r => !decide (lo ≤ r.a)) ∧
    ∀ r, ∀ e ∈ delTrace (befores ordered) (afters ordered) r, e.oa = some (10 * r.a) ∧ e.ob = some (10 * r.b) := by
  rw [execDml_delete]
  exact ⟨rfl, rfl, fun _ => trace_old_is_row⟩

/- Full statement (false on the unchanged tree, see `finding_before_insert_new_unconverted`):
     ∀ ordered tbl d, (execDml false ordered tbl d) and (execDml true ordered tbl d) agree on outcome, table and —
     when the statement succeeds — on every OLD/NEW value the triggers see.
   Proved with the guard `unconvertedSeen ordered d = false`: -/
/-- **The values triggers see are the Spec's, outside Region `before_insert_new_unconverted`**: if no
BEFORE trigger looks at an inserted value that the conversion to the column type changes, the Impl
model and the Spec agree on outcome and table, and on the whole audit trail of a successful
statement (a failing one differs by Region `failed_statement_keeps_trigger_effects` only). -/
theorem trigger_values_correct_partial (ordered : List Trig) (tbl : List Row) (d : Dml)
    (hr : unconvertedSeen ordered d = false) :
    (execDml false ordered tbl d).outcome = (execDml true ordered tbl d).outcome ∧
    (execDml false ordered tbl d).table = (execDml true ordered tbl d).table ∧
    ((execDml true ordered tbl d).outcome = .ok → (execDml false ordered tbl d).audit = (execDml true ordered tbl d).audit) := by
  cases d with
  | insert rows =>
    have hg : ∀ r ∈ rows, befores ordered = [] ∨ r.integral = true := by
      simp only [unconvertedSeen, Bool.and_eq_false_iff, Bool.not_eq_false', List.isEmpty_iff, List.any_eq_false,
        Bool.not_eq_true', Bool.not_eq_false] at hr
      exact fun r hx => hr.imp id fun h => by simpa using h r hx
    simp only [execDml, firingOrder, List.reverse_reverse]
    rw [insertRows_early_irrelevant hg]
    generalize insertRows true (befores ordered) (afters ordered) rows [] tbl = res
    obtain ⟨au, tbl', failed⟩ := res
    cases failed <;> simp
  | update k lo => simp [execDml]
  | delete lo => simp [execDml]

def bt (n : TName) (o : Option (OrdKind × TName) := none) : Trig := { name := n, time := .before, order := o }
def atr (n : TName) (o : Option (OrdKind × TName) := none) : Trig := { name := n, time := .after, order := o }

/-- DESIGN's example: t1, t2, t3 PRECEDES t1, t4 FOLLOWS t1, t5 PRECEDES t2 ↦ t3,t1,t4,t5,t2; with a slice
of capacity 5 `OrderTriggers` does not alias and agrees. -/
example : let ts := [bt 1, bt 2, bt 3 (some (.precedes, 1)), bt 4 (some (.follows, 1)), bt 5 (some (.precedes, 2))]
    wellFormed ts = true ∧ aliasVisible 5 ts = false ∧
    (specOrder ts).map (·.map (·.name)) = some [3, 1, 4, 5, 2] ∧ (orderImpl 5 ts).map (·.map (·.name)) = some [3, 1, 4, 5, 2] := by
  decide

example : (execDml true [bt 1, atr 2] [⟨1, 10⟩, ⟨2, 20⟩] (.delete 2)).audit.map (·.n) = [1, 2] := by decide

/-- `INSERT INTO t VALUES (1, 2.6), (3.4, -0.5)` with one AFTER trigger: it sees (1,3) and (3,-1), the stored
rows, in the Impl model as in the Spec (the guard of `trigger_values_correct_partial` holds: no BEFORE trigger). -/
example : unconvertedSeen [atr 1] (.insert [⟨10, 26⟩, ⟨34, -5⟩]) = false ∧
    (execDml false [atr 1] [] (.insert [⟨10, 26⟩, ⟨34, -5⟩])).outcome = .ok ∧
    (execDml false [atr 1] [] (.insert [⟨10, 26⟩, ⟨34, -5⟩])).audit =
      [⟨1, none, none, some 10, some 30⟩, ⟨1, none, none, some 30, some (-10)⟩] ∧
    (execDml false [atr 1] [] (.insert [⟨10, 26⟩, ⟨34, -5⟩])).table = [⟨1, 3⟩, ⟨3, -1⟩] := by decide

/-- `UPDATE t SET b = b + 1.6`: BEFORE and AFTER triggers see the converted value 12 (= round 11.6). -/
example : (execDml false [bt 1, atr 2] [⟨1, 10⟩] (.update 16 0)).audit =
    [⟨1, some 10, some 100, some 10, some 120⟩, ⟨2, some 10, some 100, some 10, some 120⟩] := by decide

/-- Three triggers (slice capacity 4, as `applyTriggers` builds it): t1, t2 PRECEDES t1, t3 PRECEDES t2
fire as t2,t1,t3 instead of t3,t2,t1. -/
theorem finding_order_input_aliasing :
    let ts := [bt 1, bt 2 (some (.precedes, 1)), bt 3 (some (.precedes, 2))]
    wellFormed ts = true ∧ aliasVisible 4 ts = true ∧
    (orderImpl 4 ts).map (·.map (·.name)) = some [2, 1, 3] ∧ (specOrder ts).map (·.map (·.name)) = some [3, 2, 1] := by
  decide

/-- Five triggers (capacity 8): t3 fires three times, t4 and t5 never — the result is not even a
permutation of the triggers. -/
theorem finding_trigger_fires_thrice :
    let ts := [bt 1, bt 2 (some (.precedes, 1)), bt 3 (some (.follows, 1)), bt 4, bt 5]
    wellFormed ts = true ∧ aliasVisible 8 ts = true ∧
    (orderImpl 8 ts).map (·.map (·.name)) = some [2, 1, 3, 3, 3] ∧ (specOrder ts).map (·.map (·.name)) = some [2, 1, 3, 4, 5] := by
  decide

/-- Seven well-formed triggers (capacity 8): `OrderTriggers` panics ("Referenced trigger … not found"). -/
theorem finding_order_panics :
    let ts := [bt 1, bt 2 (some (.precedes, 1)), bt 3 (some (.follows, 2)), bt 4, bt 5 (some (.precedes, 4)), bt 6, bt 7]
    wellFormed ts = true ∧ aliasVisible 8 ts = true ∧ orderImpl 8 ts = none ∧
    (specOrder ts).map (·.map (·.name)) = some [2, 3, 1, 5, 4, 6, 7] := by
  decide

/-- A statement that fails on its second row keeps the audit rows its triggers wrote (memory
backend: no savepoints), while the table itself is unchanged. -/
theorem finding_failed_statement_keeps_trigger_effects :
    let ts := [{ bt 1 with setB := some 1 }, atr 2]
    (stmtImpl 2 ts [⟨1, 10⟩] (.insert [⟨50, 500⟩, ⟨10, 10⟩, ⟨60, 600⟩])).outcome = .dupKey ∧
    (stmtImpl 2 ts [⟨1, 10⟩] (.insert [⟨50, 500⟩, ⟨10, 10⟩, ⟨60, 600⟩])).audit.map (·.n) = [1, 2, 1] ∧
    (stmtSpec ts [⟨1, 10⟩] (.insert [⟨50, 500⟩, ⟨10, 10⟩, ⟨60, 600⟩])).map (·.audit) = some [] := by
  decide

/-- `INSERT INTO t VALUES (1, 2.6)` with one BEFORE INSERT trigger: the trigger sees NEW.b = 2.6 (the value
as written; `insertIter` converts it only afterwards), MySQL shows it 3 — the stored value. -/
theorem finding_before_insert_new_unconverted :
    unconvertedSeen [bt 1] (.insert [⟨10, 26⟩]) = true ∧
    (execDml false [bt 1] [] (.insert [⟨10, 26⟩])).audit = [⟨1, none, none, some 10, some 26⟩] ∧
    (execDml true [bt 1] [] (.insert [⟨10, 26⟩])).audit = [⟨1, none, none, some 10, some 30⟩] ∧
    (execDml false [bt 1] [] (.insert [⟨10, 26⟩])).table = [⟨1, 3⟩] := by
  decide

end Gms.C23
