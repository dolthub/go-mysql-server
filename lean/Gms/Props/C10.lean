/-
C10 — No SQL input crashes the engine (partial: proof for the modelled cores + exploration).

"The Go code panics" is an explicit outcome of the models in Gms/Model/Crash.lean,
Gms/Model/RangeMap.lean, Gms/Model/JsonQuote.lean, Gms/Model/SliceMap.lean and
Gms/Model/StoredReparse.lean. Proved here, for all inputs:

* character-set conversion (`RangeMap.Decode/Encode/EncodeReplaceUnknown`, any table): `Decode` and
  `EncodeReplaceUnknown` never panic; `Encode` never panics when its search loop has the length
  guard, and without the guard it panics exactly in the tail region (`encode_unguarded_crash_iff`)
  and otherwise agrees with the guarded loop; whether the guard is present is re-read from the
  source on every run (`encode_guard_present`);
* `internal/strings.Unquote` (JSON_UNQUOTE): the Spec never panics, the code does not panic off the
  listed region (`unquote_safe_partial`; that it agrees with the Spec there is C32
  `unquote_eq_spec_partial`), `finding_unquote_bad_unicode_escape` is the witness that it panics inside;
* `validateMysqlNativePassword` (as repaired by d3c438db7): never panics and equals its Spec for all
  inputs (`native_password_total_safe`, `native_password_eq_spec`); the pre-fix code panicked exactly
  for responses of 1..19 bytes (`nativePasswordPreFix_crash_iff`, `fixed_native_password_short_response`);
* `Locate.Eval` (LOCATE): never panics whatever the case mapping does to the lengths (`locate_total_safe`);
  slicing the original string with an offset found in its case-mapped copy is safe for a mapping that
  never lengthens a string (`mapped_offset_safe_of_nonexpanding`) and Go's does lengthen
  (`facts_case_table_expands`, `mapped_offset_crash_witness`);
* the re-parse of stored routines (`BuildProcedureHelper`): no history of SET sql_mode / CREATE PROCEDURE /
  CALL / listings panics when the recorded mode is used (`reparse_total_safe`); `session_mode_leak_crashes`
  is the replay of the defect class.

Everything else of the engine is explored, not proved: the harness runs statement streams through
`Engine.Query` and lists the crash sites it reaches (known_findings/C10.jsonl, regions `panic:<site>`);
which panics the query path converts into errors is a regenerated fact (`facts_match`).
-/
import Gms.Model.Crash
import Gms.Model.SliceMap
import Gms.Model.StoredReparse
import Gms.Lemmas.RangeMap
import Gms.Lemmas.JsonQuote
import Gms.Generated.C10

namespace Gms.SliceMap
open Gms.Utf8 Gms.ScalarFn

theorem sliceFrom_of_le (s : Bytes) (i : Int) (h0 : 0 ≤ i) (h1 : i ≤ s.length) :
    sliceFrom s i = some (s.drop i.toNat) :=
  if_pos ⟨h0, h1⟩

theorem slice_ne_none (s : Bytes) (i j : Int) (h0 : 0 ≤ i) (h1 : i ≤ j) (h2 : j ≤ s.length) :
    slice s i j ≠ none := by
  rw [slice, if_pos ⟨h0, h1, h2⟩]; simp

theorem indexOf_le (sub t : Bytes) (r : Nat) (h : indexOf sub t = some r) : r ≤ t.length := by
  fun_induction indexOf sub t generalizing r with
  | case1 | case3 => cases h; exact Nat.zero_le _
  | case2 => cases h
  | case4 c cs hpre ih =>
    obtain ⟨k, hk, rfl⟩ := Option.map_eq_some_iff.1 h
    exact Nat.succ_le_succ (ih k hk)

theorem decodeRune1_width_le (b0 : Nat) (rest : Bytes) : (decodeRune1 b0 rest).2 ≤ rest.length + 1 := by
  fun_cases decodeRune1 b0 rest <;> simp <;> omega

theorem runeOffset_le (k : Nat) (s : Bytes) : runeOffset k s ≤ s.length := by
  fun_induction runeOffset k s with
  | case1 | case2 => exact Nat.zero_le _
  | case3 k b0 rest w ih =>
    have hw := decodeRune1_width_le b0 rest
    simp only [List.length_drop, List.length_cons] at ih ⊢
    omega

end Gms.SliceMap

namespace Gms.StoredReparse

theorem step_preserves_inv {Text : Type} (parses : Opts → Text → Bool) (pol : Policy) (s : St Text) (x : Stmt Text)
    (h : Inv parses s) : Inv parses (step parses pol s x).1 := by
  fun_cases step parses pol s x with
  | case4 n t hparse hnew => exact List.forall_mem_cons.2 ⟨by simpa using hparse, h⟩
  | _ => exact h

theorem lookup_mem {Text : Type} (s : St Text) (n : Nat) (r : Mode) (t : Text) (h : s.lookup n = some (r, t)) :
    ∃ e ∈ s.store, e.2.1 = r ∧ e.2.2 = t := by
  obtain ⟨e, he, heq⟩ := Option.map_eq_some_iff.1 h
  exact ⟨e, List.mem_of_find?_eq_some he, congrArg Prod.fst heq, congrArg Prod.snd heq⟩

theorem step_recorded_no_crash {Text : Type} (parses : Opts → Text → Bool) (s : St Text) (x : Stmt Text)
    (h : Inv parses s) : (step parses recordedPolicy s x).2 ≠ .crash := by
  fun_cases step parses recordedPolicy s x with
  | case7 n r t hl hbad =>
    obtain ⟨e, he, h1, h2⟩ := lookup_mem s n r t hl
    exact absurd (h1 ▸ h2 ▸ h e he) hbad
  | case9 hbad => exact absurd (List.all_eq_true.2 fun e he => h e he) hbad
  | _ => nofun

theorem run_recorded_no_crash {Text : Type} (parses : Opts → Text → Bool) :
    ∀ (h : List (Stmt Text)) (s : St Text), Inv parses s → Obs.crash ∉ run parses recordedPolicy s h
  | [], _, _ => by simp [run]
  | x :: xs, s, hi => by
    simp only [run, List.mem_cons, not_or]
    exact ⟨fun e => step_recorded_no_crash parses s x hi e.symm,
      run_recorded_no_crash parses xs _ (step_preserves_inv parses recordedPolicy s x hi)⟩

end Gms.StoredReparse

namespace Gms.Crash

theorem xorLoop_none_iff (s r : List Nat) : xorLoop s r = none ↔ r.length < s.length := by
  fun_induction xorLoop s r <;> simp_all

end Gms.Crash

namespace Gms.C10
open Gms.RangeMap Gms.Crash Gms.JsonQuote
open Gms.SliceMap Gms.StoredReparse

/-- Which panics the query path turns into errors, and the shape of the guarded code, as read
from the source on every run: `Engine.Query` / `QueryWithBindings` recover nothing; the planbuilder
recovers only its own `parseErr`, `replanJoin` only `memo.MemoErr` (everything else is re-panicked);
`Decode` has the length guard, `EncodeReplaceUnknown` bounds its search by `len(str)`;
`validateMysqlNativePassword` returns early for an empty response / empty or non-hex stored hash
and — the repair of F-C40-a, commit d3c438db7 — for `len(authResponse) != len(scramble)`, and only
then runs `for i := range scramble { scramble[i] ^= authResponse[i] }` (if that guard disappears
this obligation breaks and the real code disagrees with the model on 1..19-byte responses); `Unquote` guards
`s[i+1 : i+5]` with `i+4 > len(s)`. -/
theorem facts_match :
    Generated.C10.decodeHasLengthGuard = true ∧
    Generated.C10.replaceLoopBoundedByLen = true ∧
    Generated.C10.recoverQueryWithBindings = [] ∧
    Generated.C10.recoverQuery = [] ∧
    Generated.C10.recoverParse = ["parseErr"] ∧
    Generated.C10.recoverBindOnly = ["parseErr"] ∧
    Generated.C10.recoverReplanJoin = ["memo.MemoErr"] ∧
    Generated.C10.nativePasswordEarlyReturns =
      ["len(authResponse) == 0 || len(mysqlNativePassword) == 0", "err != nil", "len(authResponse) != len(scramble)"] ∧
    Generated.C10.nativePasswordLoop = "range scramble: { scramble[i] ^= authResponse[i] }" ∧
    Generated.C10.unquoteUnicodeGuard = "i+4 > len(s)" :=
  ⟨rfl, rfl, rfl, rfl, rfl, rfl, rfl, rfl, rfl, rfl⟩

/-- `Encode`'s search loop has `Decode`'s length guard (the repair of F-C10-a / C30
`encode_unrepresentable_tail`). If the guard disappears this obligation breaks, and the driver —
which instantiates `encodeG` with the regenerated flag — predicts the panics. -/
theorem encode_guard_present : Generated.C10.encodeHasLengthGuard = true := rfl

/-- **`Decode` never panics**, for any table and any bytes. -/
theorem decode_total_safe (rm : RangeMap) (s : List Nat) : decode rm s ≠ .crash :=
  convLoop_guard_no_crash _ _ _ _

/-- **`Encode` with the length guard never panics**, for any table and any bytes. -/
theorem encode_total_safe (rm : RangeMap) (s : List Nat) : encodeG true rm s ≠ .crash :=
  convLoop_guard_no_crash _ _ _ _

/-- `Encode` as compiled (guard flag from the source) never panics. -/
theorem encode_as_compiled_safe (rm : RangeMap) (s : List Nat) :
    encodeG Generated.C10.encodeHasLengthGuard rm s ≠ .crash := by
  rw [encode_guard_present]; exact encode_total_safe rm s

/-- **`EncodeReplaceUnknown` always returns a string.** -/
theorem replace_total_safe (rm : RangeMap) (s : List Nat) : ∃ b, replace rm s = .ok b :=
  replLoop_total _ _ _ _ _ (Nat.lt_succ_self _)

/-- Without the guard `Encode` either panics or does what the guarded loop does … -/
theorem encode_unguarded_cases (rm : RangeMap) (s : List Nat) :
    encodeG false rm s = .crash ∨ encodeG false rm s = encodeG true rm s :=
  convLoop_unguarded_cases _ _ _ _

/-- … and it panics exactly when the search reaches a rest of the string that is shorter than the
longest unit of the table and has no convertible prefix (region `rangemap_encode_unguarded_tail`). -/
theorem encode_unguarded_crash_iff (rm : RangeMap) (s : List Nat) :
    encodeG false rm s = .crash ↔ TailAt (encodeRune rm) rm.inE.length s :=
  convLoop_crash_iff _ _ _ _ (Nat.lt_succ_self _)

/-- The repaired defect F-C10-a on the regenerated latin1 table: `é` given as the latin1 byte E9
(not UTF-8) made the unguarded loop slice `str[:2]` of a one-byte string. -/
theorem fixed_rangemap_encode_unguarded_tail :
    encodeG false Generated.C10.latin1 [0xE9] = .crash ∧ encodeG true Generated.C10.latin1 [0xE9] = .fail ∧
    encodeG false Generated.C10.latin1 [97, 0xC4, 0x80] = .crash := by decide +kernel

/-- Non-vacuity: conversions that succeed, on the regenerated tables. -/
example : encodeG true Generated.C10.latin1 [104, 0xC3, 0xA9] = .ok [104, 0xE9] ∧
    decode Generated.C10.utf16 [0, 0x41] = .ok [0x41] ∧ replace Generated.C10.latin1 [0xC4, 0x80, 97, 98, 99, 100] = .ok [63, 97, 98, 99, 100] := by
  decide +kernel

/-- The shape of `Locate.Eval` as read from the source on every run: the three guards of the edge-case
switch, the ONLY slice expression of the function (`str[position-1:]`, in bounds by the guards:
`locate_total_safe`) and the value returned after `strings.Index` (`res + position`: the offset found
in the lower-cased copy is never used to index the original string). -/
theorem facts_locate :
    Generated.C10.locateGuards =
      ["position <= 0 || (len(str) > 0 && position > len(str))", "len(substr) == 0 && len(str) == 0", "position > len(str)"] ∧
    Generated.C10.locateSlices = ["str[position-1:]"] ∧
    Generated.C10.locateResult = "int32(res + position)" :=
  ⟨rfl, rfl, rfl⟩

/-- The three guards keep `position - 1` inside the string, whatever the mapping; the value is the body of
C34's `ScalarFn.locateImpl` with the mapping as a parameter. -/
theorem locateG_eq (lower : Utf8.Bytes → Utf8.Bytes) (sub str : Utf8.Bytes) (position : Int) :
    locateG lower sub str position =
      some (if position ≤ 0 ∨ ((str.length : Int) > 0 ∧ position > str.length) then 0
        else if sub.isEmpty ∧ str.isEmpty then (if position = 1 then 1 else 0)
        else if position > str.length then 0
        else match ScalarFn.indexOf (lower sub) (lower (str.drop (position - 1).toNat)) with
          | some i => i + position
          | none => 0) := by
  unfold locateG
  simp only
  by_cases h1 : position ≤ 0 ∨ ((str.length : Int) > 0 ∧ position > str.length)
  · rw [if_pos h1, if_pos h1]
  · rw [if_neg h1, if_neg h1]
    by_cases h2 : sub.isEmpty ∧ str.isEmpty
    · rw [if_pos h2, if_pos h2]; split <;> rfl
    · rw [if_neg h2, if_neg h2]
      by_cases h3 : position > str.length
      · rw [if_pos h3, if_pos h3]
      · rw [if_neg h3, if_neg h3, sliceFrom_of_le str _ (by omega) (by omega)]
        simp only
        cases ScalarFn.indexOf (lower sub) (lower (str.drop (position - 1).toNat)) <;> rfl

/-- **`Locate.Eval` never panics**, whatever the case mapping does to the lengths of the strings. -/
theorem locate_total_safe (lower : Utf8.Bytes → Utf8.Bytes) (sub str : Utf8.Bytes) (position : Int) :
    locateG lower sub str position ≠ none := by
  rw [locateG_eq]; exact Option.some_ne_none _

/-- `SliceMap.locateG` is C34's model of the same function (`ScalarFn.locateImpl`, validated
there against the real code on ASCII-case strings) when the mapping is the ASCII one. -/
theorem locateG_eq_locateImpl (sub str : Utf8.Bytes) (position : Int) :
    locateG (ScalarFn.mapCase ScalarFn.lowerByte) sub str position = some (ScalarFn.locateImpl sub str position) :=
  locateG_eq _ sub str position

/-- The class the property excludes — slicing the ORIGINAL string with an offset found in its
case-mapped copy — is safe exactly as long as the mapping never lengthens a string … -/
theorem mapped_offset_safe_of_nonexpanding (lower : Utf8.Bytes → Utf8.Bytes)
    (hlen : ∀ t, (lower t).length ≤ t.length) (sub str : Utf8.Bytes) (position : Int) :
    locateMapped lower sub str position ≠ none := by
  have hle := runeOffset_le (position - 1).toNat str
  have hs := sliceFrom_of_le str (runeOffset (position - 1).toNat str) (Int.natCast_nonneg _) (Int.ofNat_le.2 hle)
  fun_cases locateMapped lower sub str position with
  | case5 n hedge hempty hbig start hslice => cases hs.symm.trans hslice
  | case7 n hedge hempty hbig start tail hslice res hres hpre =>
    cases hs.symm.trans hslice
    -- the match ends inside the mapped tail, which is no longer than the tail itself
    have h1 := Nat.le_trans (indexOf_le _ _ _ hres) (hlen _)
    simp only [Int.toNat_natCast, List.length_drop] at h1
    exact absurd hpre (slice_ne_none str _ _ (Int.natCast_nonneg _)
      (Int.le_add_of_nonneg_right (Int.natCast_nonneg _)) (by omega))
  | _ => nofun

/-- … and Go's case mapping does lengthen strings: on the table regenerated from the compiled code
(`unicode.ToLower` of the harness alphabet) some rune has a longer lower-case encoding. -/
theorem facts_case_table_expands :
    ∃ e ∈ Generated.C10.caseTable, (Utf8.encodeRune e.1).length < (Utf8.encodeRune e.2.1).length := by decide +kernel

/-- Witness of the class on that table: `LOCATE('x', 'ȺȺx')` — two characters in front of the match
whose lower case is one byte longer. The mapped-offset variant slices `str[0:6]` of a 5-byte string;
`Locate.Eval` as written returns 7 (the byte offset in the lower-cased copy, a C34 matter, not a panic);
with ONE such character the overshoot still fits into the string (result off by one, no panic). -/
theorem mapped_offset_crash_witness :
    locateMapped (lowerWith Generated.C10.caseTable) [120] [0xC8, 0xBA, 0xC8, 0xBA, 120] 1 = none ∧
    locateG (lowerWith Generated.C10.caseTable) [120] [0xC8, 0xBA, 0xC8, 0xBA, 120] 1 = some 7 ∧
    locateMapped (lowerWith Generated.C10.caseTable) [120] [0xC8, 0xBA, 120] 1 = some 3 := by decide +kernel

/-- Non-vacuity of `mapped_offset_safe_of_nonexpanding`: the identity mapping qualifies and finds the match. -/
example : locateMapped id [120] [0xC8, 0xBA, 0xC8, 0xBA, 120] 1 = some 3 := by decide +kernel

/-- `BuildProcedureHelper` as read from the source on every run: in front of `ParseWithOptions` the parser
options are set UNCONDITIONALLY from the mode recorded with the routine (no such statement sits in a
branch), the parse error is dropped (`stmt, _, _, _ :=`), the type assertion `stmt.(*ast.DDL)` is
unchecked (so a text that does not parse is a panic: the model's `crash`), and CREATE PROCEDURE records
`sql.LoadSqlMode(b.ctx).String()`. -/
theorem facts_reparse :
    Generated.C10.procReparseOptions = ["sql.NewSqlModeFromString(procDetails.SqlMode).ParserOptions()"] ∧
    Generated.C10.procReparseOptionsInBranches = [] ∧
    Generated.C10.procReparseLhs = ["stmt", "_", "_", "_"] ∧
    Generated.C10.procReparseAssertChecked = false ∧
    Generated.C10.procRecordedMode = "sql.LoadSqlMode(b.ctx).String()" :=
  ⟨rfl, rfl, rfl, rfl, rfl⟩

/-- The parser options of the modes of the `(rp …)` cases, computed by the compiled code from the
session and from the recorded string: they agree with each other and with the model's `optsOf`, and
the recorded string is empty exactly for the empty mode list. -/
theorem facts_mode_table :
    ∀ e ∈ Generated.C10.modeTable,
      e.2.2.1 = e.2.2.2 ∧ (optsOf e.1).ansiQuotes = e.2.2.1.1 ∧ (optsOf e.1).pipesAsConcat = e.2.2.1.2 ∧
      e.2.1 = e.1.isEmpty := by decide +kernel

/-- **A history of SET sql_mode / CREATE PROCEDURE / CALL / listings never panics**, for every parser
and every text: the store only ever holds texts that parse under the mode recorded with them, and
the re-parse uses that mode. -/
theorem reparse_total_safe {Text : Type} (parses : Opts → Text → Bool) (m : Mode) (h : List (Stmt Text)) :
    Obs.crash ∉ run parses recordedPolicy (St.init m) h :=
  run_recorded_no_crash parses h (St.init m) (by intro e he; simp [St.init] at he)

/-- The defect class: when an empty recorded mode makes the re-parse fall back to the CALLING session's
options, a routine stored under `sql_mode = ''` whose text has a double-quoted string panics under
ANSI_QUOTES — on CALL and on every listing. -/
theorem session_mode_leak_crashes :
    run rpParses emptyFallsBack (St.init ["STRICT_TRANS_TABLES"])
      [.setMode [], .create 1 1, .setMode ["ANSI_QUOTES"], .call 1, .list, .setMode [], .call 1] =
      [.ok, .ok, .ok, .crash, .crash, .ok, .ok] ∧
    run rpParses recordedPolicy (St.init ["STRICT_TRANS_TABLES"])
      [.setMode [], .create 1 1, .setMode ["ANSI_QUOTES"], .call 1, .list, .setMode [], .call 1] =
      [.ok, .ok, .ok, .ok, .ok, .ok, .ok] := by decide +kernel

/-- Non-vacuity: CREATE fails under ANSI_QUOTES for the same text (nothing is stored), succeeds without. -/
example : run rpParses recordedPolicy (St.init ["ANSI"]) [.create 1 1, .call 1, .setMode [], .create 1 1, .create 1 0] =
    [.err, .ok, .ok, .ok, .err] := by decide +kernel

/-- The Spec of `Unquote` never panics. -/
theorem unquoteSpec_total_safe (s : Bytes) : unquoteSpec s ≠ .crash :=
  unquoteWith_strict_never_crashes s

/-- FULL STATEMENT (false on the unchanged tree): `∀ s, unquote s ≠ .crash`.
**Partial**: `Unquote` does not panic off the region `crashes` (a `\u` escape followed by exactly
three more bytes, or naming a surrogate, before any earlier error). -/
theorem unquote_safe_partial (s : Bytes) (h : crashes s = false) : unquote s ≠ .crash :=
  fun hc => of_decide_eq_false h ((unquoteWith_eq_crash false s).1 hc)

/-- Finding (C32 `unquote_bad_unicode_escape_panics`, reachable as `SELECT JSON_UNQUOTE('\\u123')`). -/
theorem finding_unquote_bad_unicode_escape :
    ∃ s, unquote s = .crash ∧ unquoteSpec s ≠ .crash :=
  ⟨[92, 117, 49, 50, 51], by decide, by decide⟩

example : unquote [92, 117, 100, 56, 48, 48] = .crash ∧ crashes [92, 117, 49, 50, 51] = true ∧
    crashes [92, 117, 48, 48, 52, 49] = false ∧ unquote [92, 117, 48, 48, 52, 49] = .ok [65] := by decide

/-- **The code is the Spec**, for all inputs. -/
theorem native_password_eq_spec (scramble resp : List Nat) (hashOk : Bool) :
    nativePassword scramble resp hashOk = nativePasswordSpec scramble resp hashOk := by
  fun_cases nativePassword scramble resp hashOk with
  | case1 hempty => rw [nativePasswordSpec, if_pos hempty]
  | case2 hempty hhash => rw [nativePasswordSpec, if_neg hempty, if_pos hhash]
  | case3 hempty hhash hlen => rw [nativePasswordSpec, if_neg hempty, if_neg hhash, if_pos hlen]
  | case4 hempty hhash hlen => rw [nativePasswordSpec, if_neg hempty, if_neg hhash, if_neg hlen]
  | case5 hempty hhash hlen hxor =>
    have := (xorLoop_none_iff scramble resp).1 hxor
    omega

/-- **The password check never panics** (any scramble, any response, any stored hash): the byte
loop is only reached with a response exactly as long as the scramble. -/
theorem native_password_total_safe (scramble resp : List Nat) (hashOk : Bool) :
    nativePassword scramble resp hashOk ≠ .crash := by
  rw [native_password_eq_spec]
  fun_cases nativePasswordSpec scramble resp hashOk <;> nofun

/-- Before the repair the byte loop panicked exactly for a non-empty response shorter than the
SHA-1, checked against a usable stored hash. -/
theorem nativePasswordPreFix_crash_iff (scramble resp : List Nat) (hashOk : Bool) :
    nativePasswordPreFix scramble resp hashOk = .crash ↔ (resp ≠ [] ∧ hashOk = true ∧ resp.length < scramble.length) := by
  rw [← xorLoop_none_iff]
  fun_cases nativePasswordPreFix scramble resp hashOk <;> simp_all

/-- F-C40-a (repaired by d3c438db7). Witness of the repaired defect: a 19-byte response against a
20-byte scramble made the pre-fix code panic; the repaired code rejects it. A 21-byte response whose
first 20 bytes are a valid token was compared (trailing bytes ignored) and is now rejected too. -/
theorem fixed_native_password_short_response :
    nativePasswordPreFix (List.replicate 20 0) (List.replicate 19 1) true = .crash ∧
    nativePassword (List.replicate 20 0) (List.replicate 19 1) true = .rejected ∧
    nativePasswordPreFix (List.replicate 20 0) (List.replicate 21 1) true = .compared ∧
    nativePassword (List.replicate 20 0) (List.replicate 21 1) true = .rejected := by decide

example : nativePassword (List.replicate 20 7) (List.replicate 20 1) true = .compared ∧
    nativePassword (List.replicate 20 7) [] true = .rejected ∧
    nativePassword (List.replicate 20 7) (List.replicate 20 1) false = .rejected ∧
    nativePassword (List.replicate 20 7) [1] true = .rejected := by decide

end Gms.C10
