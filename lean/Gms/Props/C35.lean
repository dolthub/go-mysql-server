/-
C35 — Clients receive exactly the engine's results over the wire: the row pipeline.

For *every* schedule of the reader / batcher / sender goroutines (any interleaving of enabled
steps, any number of rows): the batches delivered to the client followed by the returned last
result are exactly the iterator's rows in order; every delivered batch has exactly `rowsBatch`
rows; on error/cancellation the client has received a prefix; with channels of positive capacity
the pipeline never deadlocks, and with `rowsBatch > 0` it always terminates.

* the rows handed to the callback alias a pooled scratch buffer — memory model Gms/Model/BufPool.lean:
  for every interleaving of any number of connections that keep the buffer discipline (borrowed
  before spooling, returned after the final callback — regenerated facts `facts_match_buffer`),
  every client reads exactly the bytes the engine produced (`buffer_isolation`,
  `pending_rows_stable`); returning the buffer before the final callback is a violation of the
  discipline and does corrupt a client's rows (`early_release_corrupts`);
* the spooling dispatch of doQuery — model Gms/Model/Spool.lean: with a sound QFlagMax1Row the
  strategies deliver exactly the iterator's rows (`dispatch_exact`, `callbacks_sizes`,
  `batchSizes_sum`), the flag is unobservable (`flag_unobservable`), and an unsound flag turns a
  multi-row result into an error (`unsound_max1_flag_errors`).
-/
import Gms.Model.Pipeline
import Gms.Model.Spool
import Gms.Lemmas.BufPool
import Gms.Generated.C35

namespace Gms.Pipeline
variable {α : Type}

structure Inv (c : Cfg) (input : List α) (s : St α) : Prop where
  data : s.delivered.flatten ++ (s.resChan.flatten ++ (s.cur ++ (s.rowChan ++ s.remaining))) = input
  delB : ∀ b ∈ s.delivered, b.length = c.B
  resB : ∀ b ∈ s.resChan, b.length = c.B
  curB : s.cur.length ≤ c.B
  rDone : s.readerDone = true → s.remaining = []
  bDone : s.batcherDone = true → s.readerDone = true ∧ s.rowChan = [] ∧ s.cur.length < c.B
  sDone : s.senderDone = true → s.batcherDone = true ∧ s.resChan = []
  capR : s.rowChan.length ≤ c.capR
  capS : s.resChan.length ≤ c.capS

theorem inv_init (c : Cfg) (input : List α) : Inv c input (init input) := by
  constructor <;> simp [init]

theorem inv_step (c : Cfg) (input : List α) (s s' : St α) (h : Inv c input s) (st : Step c s s') :
    Inv c input s' := by
  cases st with
  | read r rest hf hrem hcap =>
    exact { h with
      -- `simp only` reduces the projections of `{ s with … }`, so that `h.data` can be rewritten with
      data := by simp only; rw [← h.data, hrem]; simp
      rDone := fun hd => nomatch (h.rDone hd).symm.trans hrem
      bDone := fun hd => nomatch (h.rDone (h.bDone hd).1).symm.trans hrem
      capR := by rw [List.length_append]; exact hcap }
  | readerClose hf hrem hnd =>
    exact { h with
      rDone := fun _ => hrem
      bDone := fun hd => nomatch hnd.symm.trans (h.bDone hd).1 }
  | take r rc hf hrc hlt =>
    exact { h with
      data := by simp only; rw [← h.data, hrc]; simp
      curB := by rw [List.length_append]; exact hlt
      bDone := fun hd => nomatch (h.bDone hd).2.1.symm.trans hrc
      capR := Nat.le_of_succ_le (show (r :: rc).length ≤ c.capR from hrc ▸ h.capR) }
  | flush hf hfull hcap =>
    exact { h with
      data := by simp only; rw [← h.data]; simp
      resB := List.forall_mem_append.mpr ⟨h.resB, List.forall_mem_singleton.mpr hfull⟩
      curB := Nat.zero_le _
      bDone := fun hd => absurd hfull (Nat.ne_of_lt (h.bDone hd).2.2)
      sDone := fun hd => absurd hfull (Nat.ne_of_lt (h.bDone (h.sDone hd).1).2.2)
      capS := by rw [List.length_append]; exact hcap }
  | batcherClose hf hrc hrd hlt hnd =>
    exact { h with
      bDone := fun _ => ⟨hrd, hrc, hlt⟩
      sDone := fun hd => nomatch hnd.symm.trans (h.sDone hd).1 }
  | send b rs hf hrs =>
    have hres := List.forall_mem_cons.mp (hrs ▸ h.resB)
    exact { h with
      data := by simp only; rw [← h.data, hrs]; simp
      delB := List.forall_mem_append.mpr ⟨h.delB, List.forall_mem_singleton.mpr hres.1⟩
      resB := hres.2
      sDone := fun hd => nomatch (h.sDone hd).2.symm.trans hrs
      capS := Nat.le_of_succ_le (show (b :: rs).length ≤ c.capS from hrs ▸ h.capS) }
  | senderClose hf hrs hbd hnd => exact { h with sDone := fun _ => ⟨hbd, hrs⟩ }
  | fail hf hnd => exact { h with }

theorem inv_reach {c : Cfg} {input : List α} {s : St α} (h : Reach c input s) : Inv c input s := by
  induction h with
  | init => exact inv_init c input
  | step s s' _ st ih => exact inv_step c input s s' ih st

theorem progress {c : Cfg} {s : St α} (hR : 0 < c.capR) (hS : 0 < c.capS) (hcur : s.cur.length ≤ c.B)
    (hnf : s.failed = false) (hfin : ¬ Final s) : ∃ s', Step c s s' ∧ s'.failed = false := by
  -- Tried from the client's end, each candidate finds the channel it writes to empty: no capacity is in its way.
  cases hrs : s.resChan with
  | cons b rs => exact ⟨_, Step.send s b rs hnf hrs, hnf⟩
  | nil =>
    by_cases hfull : s.cur.length = c.B
    · exact ⟨_, Step.flush s hnf hfull (hrs ▸ hS), hnf⟩
    have hlt : s.cur.length < c.B := Nat.lt_of_le_of_ne hcur hfull
    cases hrc : s.rowChan with
    | cons r rc => exact ⟨_, Step.take s r rc hnf hrc hlt, hnf⟩
    | nil =>
      cases hrem : s.remaining with
      | cons r rest => exact ⟨_, Step.read s r rest hnf hrem (hrc ▸ hR), hnf⟩
      | nil =>
        cases hrd : s.readerDone with
        | false => exact ⟨_, Step.readerClose s hnf hrem hrd, hnf⟩
        | true =>
          cases hbd : s.batcherDone with
          | false => exact ⟨_, Step.batcherClose s hnf hrc hrd hlt hbd, hnf⟩
          | true =>
            cases hsd : s.senderDone with
            | false => exact ⟨_, Step.senderClose s hnf hrs hbd hsd, hnf⟩
            | true => exact absurd ⟨hnf, hrd, hbd, hsd⟩ hfin

/-- The weight of a row falls along its way (5, 4, 3, then 1 inside a batch that counts 1 itself), a
flag counts until it is set: every step lowers the sum. -/
def measure (s : St α) : Nat :=
  5 * s.remaining.length + 4 * s.rowChan.length + 3 * s.cur.length + s.resChan.flatten.length
    + s.resChan.length
    + (if s.readerDone then 0 else 1) + (if s.batcherDone then 0 else 1)
    + (if s.senderDone then 0 else 1) + (if s.failed then 0 else 1)

end Gms.Pipeline

namespace Gms.C35
open Gms.Pipeline
variable {α : Type}

theorem lt_of_rows_lt {w w' f1 f2 f3 f4 : Nat} (h : w' < w) : w' + f1 + f2 + f3 + f4 < w + f1 + f2 + f3 + f4 :=
  Nat.add_lt_add_right (Nat.add_lt_add_right (Nat.add_lt_add_right (Nat.add_lt_add_right h _) _) _) _

/-- `if true …` is what `measure s'` shows for a flag the step has just set. -/
theorem flag_lt {b : Bool} {w : Nat} (h : b = false) : w + (if true then 0 else 1) < w + (if b then 0 else 1) := by
  rw [h]; exact Nat.lt_succ_self w

/-- Termination: every step strictly decreases the measure, so every schedule is finite. -/
theorem step_decreases (c : Cfg) (s s' : St α) (hB : 0 < c.B) (st : Step c s s') :
    measure s' < measure s := by
  unfold Pipeline.measure
  cases st with
  | read r rest hf hrem hcap =>
    refine lt_of_rows_lt ?_
    simp only [hrem, List.length_cons, List.length_append, List.length_nil]; omega
  | readerClose hf hrem hnd =>
    exact Nat.add_lt_add_right (Nat.add_lt_add_right (Nat.add_lt_add_right (flag_lt hnd) _) _) _
  | take r rc hf hrc hlt =>
    refine lt_of_rows_lt ?_
    simp only [hrc, List.length_cons, List.length_append, List.length_nil]; omega
  | flush hf hfull hcap =>
    -- the one case that needs `hB`: the batch weighs 3 * B in `cur`, B + 1 in `resChan`
    refine lt_of_rows_lt ?_
    simp only [List.flatten_append, List.flatten_cons, List.flatten_nil, List.append_nil, List.length_append,
      List.length_cons, List.length_nil, hfull]
    omega
  | batcherClose hf hrc hrd hlt hnd =>
    exact Nat.add_lt_add_right (Nat.add_lt_add_right (flag_lt hnd) _) _
  | send b rs hf hrs =>
    refine lt_of_rows_lt ?_
    simp only [hrs, List.flatten_cons, List.length_append, List.length_cons]; omega
  | senderClose hf hrs hbd hnd => exact Nat.add_lt_add_right (flag_lt hnd) _
  | fail hf hnd => exact flag_lt hf

/-- The constants of the model are the ones in server/handler.go on this run. -/
theorem facts_match : Gms.Generated.C35.rowsBatch = 128 ∧ Gms.Generated.C35.rowChanCap = 512 ∧
    Gms.Generated.C35.resChanCap = 4 ∧ Gms.Generated.C35.flushComparison = "==" ∧
    Gms.Generated.C35.goroutines = 4 := ⟨rfl, rfl, rfl, rfl, rfl⟩

/-- Order-preserving and lossless, for every schedule: when the three goroutines have returned
without error, the client has received exactly the iterator's rows, in order; every batch
delivered through the callback has exactly `rowsBatch` rows and the returned last result has
fewer. -/
theorem pipeline_order_lossless (c : Cfg) (input : List α) (s : St α)
    (h : Reach c input s) (hf : Final s) :
    clientRows s = input ∧ (∀ b ∈ s.delivered, b.length = c.B) ∧ s.cur.length < c.B := by
  have inv := inv_reach h
  obtain ⟨_, hr, hb, hs⟩ := hf
  have h1 := inv.sDone hs
  have h2 := inv.bDone hb
  have h3 := inv.rDone hr
  refine ⟨?_, inv.delB, h2.2.2⟩
  have := inv.data
  rw [h1.2, h2.2.1, h3] at this
  simpa [clientRows] using this

theorem clientCallbacks_flatten (s : St α) : (clientCallbacks s).flatten = clientRows s := by
  unfold clientCallbacks clientRows
  split
  next h => rw [List.isEmpty_iff.mp (Bool.and_eq_true_iff.mp h).1, List.append_nil]
  next => rw [List.flatten_append, List.flatten_singleton]

/-- The sequence of `callback` invocations (as `doQuery` makes them) carries exactly the rows,
in order; it is a single empty result iff there are no rows. -/
theorem callbacks_lossless (c : Cfg) (input : List α) (s : St α)
    (h : Reach c input s) (hf : Final s) :
    (clientCallbacks s).flatten = input :=
  (clientCallbacks_flatten s).trans (pipeline_order_lossless c input s h hf).1

/-- On error or cancellation (and at every intermediate moment) what the client has been sent
is a prefix of the result: nothing is reordered, duplicated or invented. -/
theorem error_no_partial_reorder (c : Cfg) (input : List α) (s : St α) (h : Reach c input s) :
    s.delivered.flatten <+: input := by
  have inv := inv_reach h
  exact ⟨_, inv.data⟩

/-- Batch sizes, at every moment of every schedule. -/
theorem batch_sizes (c : Cfg) (input : List α) (s : St α) (h : Reach c input s) :
    (∀ b ∈ s.delivered, b.length = c.B) ∧ (∀ b ∈ s.resChan, b.length = c.B) ∧ s.cur.length ≤ c.B ∧
    s.rowChan.length ≤ c.capR ∧ s.resChan.length ≤ c.capS := by
  have inv := inv_reach h
  exact ⟨inv.delB, inv.resB, inv.curB, inv.capR, inv.capS⟩

/-- No deadlock: in every reachable state that has not failed and is not final, some goroutine
can make progress (given that the client consumes, i.e. `send` is always possible). -/
theorem no_deadlock (c : Cfg) (input : List α) (s : St α) (hB : 0 < c.B) (hR : 0 < c.capR)
    (hS : 0 < c.capS) (h : Reach c input s) (hnf : s.failed = false) (hfin : ¬ Final s) :
    ∃ s', Step c s s' ∧ s'.failed = false :=
  progress hR hS (inv_reach h).curB hnf hfin

/-- The executable scheduler used by the correspondence driver only takes model steps. -/
theorem tick_is_step (c : Cfg) (s s' : St α) (p : Nat) (hnf : s.failed = false)
    (hcur : s.cur.length ≤ c.B) (h : tick c s p = some s') : Step c s s' := by
  unfold tick at h
  extract_lets reader batcher sender order at h
  have rd : ∀ t, reader = some t → Step c s t := by
    intro t ht
    simp only [reader] at ht
    split at ht
    next r rest hrem =>
      split at ht
      next hcap => cases ht; exact Step.read s r rest hnf hrem hcap
      next => cases ht
    next hrem =>
      split at ht
      next => cases ht
      next hrd => cases ht; exact Step.readerClose s hnf hrem (Bool.eq_false_iff.mpr hrd)
  have bt : ∀ t, batcher = some t → Step c s t := by
    intro t ht
    simp only [batcher] at ht
    split at ht
    next hfull =>
      split at ht
      next hcap => cases ht; exact Step.flush s hnf hfull hcap
      next => cases ht
    next hfull =>
      have hlt : s.cur.length < c.B := Nat.lt_of_le_of_ne hcur hfull
      split at ht
      next r rc hrc => cases ht; exact Step.take s r rc hnf hrc hlt
      next hrc =>
        split at ht
        next hd =>
          cases ht
          have hd := Bool.and_eq_true_iff.mp hd
          exact Step.batcherClose s hnf hrc hd.1 hlt ((Bool.not_eq_true' _).mp hd.2)
        next => cases ht
  have sd : ∀ t, sender = some t → Step c s t := by
    intro t ht
    simp only [sender] at ht
    split at ht
    next b rs hrs => cases ht; exact Step.send s b rs hnf hrs
    next hrs =>
      split at ht
      next hd =>
        cases ht
        have hd := Bool.and_eq_true_iff.mp hd
        exact Step.senderClose s hnf hrs hd.1 ((Bool.not_eq_true' _).mp hd.2)
      next => cases ht
  have all : ∀ o ∈ order, ∀ t, o = some t → Step c s t := by
    simp only [order]
    split <;> simp only [List.mem_cons, List.not_mem_nil, or_false, forall_eq_or_imp, forall_eq]
    · exact ⟨rd, bt, sd⟩
    · exact ⟨bt, sd, rd⟩
    · exact ⟨sd, rd, bt⟩
  obtain ⟨o, ho, e⟩ := List.exists_of_findSome?_eq_some h
  exact all o ho s' e

/-- Non-vacuity: a concrete run (B = 2, capacities 1) reaches a final state with two delivered
batches and a one-row last result. -/
example :
    let c : Cfg := { B := 2, capR := 1, capS := 1 }
    let s := runSched c (init [1, 2, 3, 4, 5]) [0, 0, 1, 2, 2, 1, 0, 1] 100
    s.delivered = [[1, 2], [3, 4]] ∧ s.cur = [5] ∧ s.senderDone = true ∧ clientRows s = [1, 2, 3, 4, 5] := by
  decide +kernel

section Buffer
-- `Inv`, `inv_init`, `init`, `St` now name the pipeline's and the buffer model's; the proofs below say `BufPool.`
open Gms.BufPool

/-- The buffer life time in the source on this run: borrowed and returned (by a function-level
`defer`) in `doQuery`, the one function that makes the final callback and dispatches to the spooling
helpers, and borrowed before any of them runs. This is `late = true` of `Gms.BufPool.compile`. -/
theorem facts_match_buffer :
    Gms.Generated.C35.bufGetFuncs = ["doQuery"] ∧ Gms.Generated.C35.bufPutFuncs = ["doQuery"] ∧
    Gms.Generated.C35.bufPutDeferredTopLevel = true ∧ Gms.Generated.C35.bufGetBeforeSpool = true ∧
    Gms.Generated.C35.finalCallbackFuncs = ["doQuery"] ∧
    Gms.Generated.C35.spoolCallers = ["doQuery"] := ⟨rfl, rfl, rfl, rfl, rfl, rfl⟩

/-- Isolation: whatever the interleaving of the connections' statements (any number of
connections, rows, batches), if every connection keeps the discipline then every client has read
exactly the bytes the engine produced for the rows it was sent. -/
theorem buffer_isolation (es : List Ev) (h : (run init es).bad = false) : Intact (run init es) :=
  fun c => ((BufPool.inv_run BufPool.inv_init h).conn c).recv

/-- … and at every such moment every row that is still pending (spooled, not yet consumed by the
callback) reads as the bytes written for it, and no two connections hold the same buffer. -/
theorem pending_rows_stable (es : List Ev) (h : (run init es).bad = false) :
    let s := run init es
    (∀ c b, (s.conns c).held = some b → ∀ p ∈ (s.conns c).pending, deref s.bufs p.1 = p.2) ∧
    (∀ c c' b, (s.conns c).held = some b → (s.conns c').held = some b → c = c') ∧
    (∀ c b, (s.conns c).held = some b → b ∉ s.free) := by
  have inv := BufPool.inv_run BufPool.inv_init h
  exact ⟨fun c b hb p hp => ((inv.conn c).pend p hp).2.2, inv.heldInj,
    fun c b hb => ((inv.conn c).inUse b hb).2⟩

/-- The discipline is necessary: when `doQuery` returns the buffer once spooling is finished —
before the final callback — (`compile false`), a statement of another connection that runs before
that callback overwrites the rows the first client is about to be sent. -/
theorem early_release_corrupts :
    let t := Stmt.mk 0 100 1 2 [(0, Stmt.mk 1 200 1 2 [])]
    let s := run init (compile false 128 t)
    s.bad = true ∧ (s.conns 0).sent = [[100, 100]] ∧ (s.conns 0).received = [[200, 200]] := by
  decide +kernel

/-- Non-vacuity of `buffer_isolation`: the same schedule with the source's discipline (`compile
true`), and a bigger one (three connections, full batches of 2 rows, nested at different
callbacks) keep the discipline and every client is intact. -/
example :
    let t := Stmt.mk 0 100 1 2 [(0, Stmt.mk 1 200 1 2 [])]
    let s := run init (compile true 128 t)
    s.bad = false ∧ (s.conns 0).received = [[100, 100]] ∧ (s.conns 1).received = [[200, 200]] := by
  decide +kernel

example :
    let t := Stmt.mk 0 100 5 1 [(0, Stmt.mk 1 200 3 2 [(1, Stmt.mk 2 300 1 1 [])]), (2, Stmt.mk 3 400 0 1 [])]
    let s := run init (compile true 2 t)
    s.bad = false ∧ (s.conns 0).received = [[100], [101], [102], [103], [104]] ∧
      (s.conns 1).received = [[200, 200], [201, 201], [202, 202]] ∧ (s.conns 2).received = [[300]] := by
  decide +kernel

/-! #### Known finding: server-side cursors

Full statement (FALSE on the unchanged tree):
  `∀ c rows between, let s := run init (cursorTrace c rows between); (s.conns c).received = (s.conns c).sent`
— a client that executes a statement through a server-side cursor is sent the engine's rows. The
cursor's pending result is written at FETCH time, after `doQuery` has returned the scratch buffer
its rows point into; a statement of another connection in between overwrites them. -/

/-- Witness (replayed on the real server by the `cursor` stream: the client fetches the rows of
another connection's table, or is disconnected because the overwritten bytes no longer parse). -/
theorem finding_cursor_pending_result_outlives_buffer :
    ∃ c rows between, CursorRegion between ∧
      ((run init (cursorTrace c rows between)).conns c).received
        ≠ ((run init (cursorTrace c rows between)).conns c).sent :=
  ⟨0, [[1, 1]], [Ev.borrow 1, Ev.write 1 [9, 9], Ev.deliver 1, Ev.release 1], by simp [CursorRegion], by decide +kernel⟩

/-- Outside the region — nothing else executes between the EXECUTE and the FETCH — the late read
is still exact, for any rows. -/
theorem cursor_exact_partial (c : Nat) (rows : List (List Nat)) (between : List Ev)
    (h : ¬ CursorRegion between) :
    ((run init (cursorTrace c rows between)).conns c).received
      = ((run init (cursorTrace c rows between)).conns c).sent := by
  obtain rfl : between = [] := Classical.not_not.mp h
  exact cursor_alone_exact c rows

example : ((run init (cursorTrace 3 [[1, 2], [3]] [])).conns 3).received = [[1, 2], [3]] := by decide +kernel

/-! #### Known finding without a Lean model: `cursor_multibatch_cancelled_by_conn_watcher`

A server-side cursor on a result of more than `rowsBatch` rows: the handler is still inside
`doQuery` (parked in the callback until the cursor takes the next batch) when the client's
COM_STMT_FETCH arrives; once the statement is older than the connection watcher's start delay the
watcher (server/connwatch.go) takes the FETCH for "client wrote to connection while a query was
executing" and cancels the statement; the FETCH is never answered. Timers, the socket and the
watcher are outside every model of this property (field level_note of props/C35.json), so there is no witness theorem;
the witness is replayed on the real server by the `cursor` stream (a pausing client on a 129…300-row
result), and the region is decided on the case (cursor ∧ more than one callback). -/

end Buffer

section Dispatch
open Gms.Spool

/-- The dispatch chain of `doQuery` and the error of the max-1-row helper, as in the source. -/
theorem facts_match_dispatch :
    Gms.Generated.C35.dispatchChain =
      ["types.IsOkResultSchema(schema) => resultForOkIter",
       "schema == nil => resultForEmptyIter",
       "analyzer.FlagIsSet(qFlags, sql.QFlagMax1Row) => resultForMax1RowIter",
       "vr, ok := rowIter.(sql.ValueRowIter); ok && vr.IsValueRowIter(sqlCtx) => resultForValueRowIter",
       "else => resultForDefaultIter"] ∧
    Gms.Generated.C35.max1RowError = "result max1Row iterator returned more than one row" := ⟨rfl, rfl⟩

theorem batchSizes_mul_add {B k r : Nat} (h : r < B) :
    batchSizes B (k * B + r) = List.replicate k B ++ (if r ≠ 0 ∨ k = 0 then [r] else []) := by
  unfold batchSizes
  rw [Basics.mul_add_div_of_lt h, Nat.mul_add_mod_of_lt h]

theorem batchSizes_lt {B n : Nat} (h : n < B) : batchSizes B n = [n] := by
  have := batchSizes_mul_add (k := 0) h
  rwa [Nat.zero_mul, Nat.zero_add, if_pos (Or.inr rfl)] at this

/-- The batching pipeline's callbacks have the closed form the dispatch model uses: for every
schedule of the three goroutines, `n / B` batches of `B` rows and then the rest. -/
theorem callbacks_sizes {α : Type} (c : Cfg) (input : List α) (s : St α) (hB : 0 < c.B)
    (h : Reach c input s) (hf : Final s) :
    (clientCallbacks s).map List.length = batchSizes c.B input.length := by
  obtain ⟨hrows, hdel, hcur⟩ := pipeline_order_lossless c input s h hf
  have hmap : s.delivered.map List.length = List.replicate s.delivered.length c.B :=
    List.map_eq_replicate_iff.mpr hdel
  have hlen : input.length = s.delivered.length * c.B + s.cur.length := by
    rw [← hrows, clientRows, List.length_append, List.length_flatten, hmap, List.sum_replicate_nat]
  rw [hlen, batchSizes_mul_add hcur, clientCallbacks]
  cases hc : s.cur with
  | nil =>
    cases hd : s.delivered with
    | nil => simp
    | cons b bs => rw [hd] at hmap; simp [hmap]
  | cons x xs => simp [hmap]

/-- Exactness of the dispatch: if the iterator has the shape its schema promises and the analyzer's
flag is sound, every strategy hands the client exactly what the Spec demands. -/
theorem dispatch_exact (B : Nat) (q : Q) (hB : 1 < B) (hw : WellShaped q) (hs : FlagSound q) :
    handler B q = spec B q := by
  obtain ⟨hok, hnone⟩ := hw
  unfold handler spec
  cases hk : q.kind with
  | ok => simp [hok hk]
  | none => simp [hnone hk]
  | rows =>
    cases hm : q.max1 with
    | false => simp
    | true =>
      have hn : q.n ≤ 1 := hs hm
      simp [hn, batchSizes_lt (Nat.lt_of_le_of_lt hn hB)]

/-- The client is sent all `n` rows. -/
theorem batchSizes_sum (B n : Nat) : (batchSizes B n).sum = n := by
  -- the rest is left out only when it is empty
  have hrest : (if n % B ≠ 0 ∨ n / B = 0 then [n % B] else []).sum = n % B := by
    split
    next => exact List.sum_singleton
    next h => exact (Decidable.not_not.mp fun x => h (Or.inl x)).symm
  rw [batchSizes, List.sum_append, List.sum_replicate_nat, hrest, Nat.mul_comm]
  exact Nat.div_add_mod n B

/-- With a sound flag the flag is unobservable: the client sees the same with and without it (the
in-process engine ignores it). -/
theorem flag_unobservable (B : Nat) (q : Q) (hB : 1 < B) (hw : WellShaped q) (hs : FlagSound q) :
    handler B q = handler B { q with max1 := false } := by
  rw [dispatch_exact B q hB hw hs,
    dispatch_exact B { q with max1 := false } hB hw (by intro h; simp at h)]
  rfl

/-- The soundness of the flag is necessary: a statement that carries the flag and yields two or
more rows fails over the wire, while the Spec (and the in-process engine) delivers the rows. -/
theorem unsound_max1_flag_errors (B : Nat) (q : Q) (hk : q.kind = .rows) (hm : q.max1 = true)
    (hn : 2 ≤ q.n) : handler B q = .err ∧ spec B q = .cbs (batchSizes B q.n) := by
  have : ¬ q.n ≤ 1 := by omega
  simp [handler, spec, hk, hm, this]

/-- Non-vacuity: three NULLs under a UNIQUE index, flag wrongly set. -/
example : handler 128 { kind := .rows, max1 := true, n := 3 } = .err ∧
    spec 128 { kind := .rows, max1 := true, n := 3 } = .cbs [3] := by decide +kernel

example : handler 128 { kind := .rows, max1 := false, n := 300 } = .cbs [128, 128, 44] ∧
    handler 128 { kind := .rows, max1 := true, n := 1 } = .cbs [1] ∧
    handler 128 { kind := .ok, max1 := false, n := 1 } = .cbs [0] ∧
    handler 128 { kind := .none, max1 := false, n := 0 } = .cbs [0] := by decide +kernel

end Dispatch

end Gms.C35
