/-
C36 — Concurrent read-only sessions are isolated; shared registries stay consistent.

Proved here, for the interleaving model `Gms.NonInterf` (every schedule, any number of sessions,
any programs): the store is never written; what a session observes is a function of its own steps
only (projection onto the session run alone); the shared registries equal the sums of the
sessions' own counters at every moment; complete schedules give every session exactly the results
of running its program alone, statement by statement; schedules with the same per-session step
counts end in the same state; fair schedules finish.

Data-race freedom itself is a property of the Go memory model: the logic part is the lockset
argument over the access footprint (`race_free_partial`, with the listed finding
`finding_infoschema_assign_catalog_race`), the race-detector runs of the harness validate the
footprint — see DESIGN.md §6 C36.

For the statements of the idx stream the store is not opaque: `Gms.SharedStore` models the
physical storage every session reads (stored partition + secondary-index storage pointing at
positions) and the access paths of the memory backend over it. Proved: on consistent storage every
access path returns the statement's meaning on the logical table (`impl_eq_spec`), a statement run
after ANY history of statements of any sessions finds the storage as it was and returns that
meaning (`readonly_history_independent`), hence in every complete schedule every session receives
the Spec results (`pq_concurrent_eq_spec`); and for the defect class "a read path writes into the
storage it was handed" (`execAlias`: the iterator walks the stored slice, so the sort of a
primary-key lookup lands in it): results become history dependent and the secondary index points
at the wrong rows (`alias_reverse_scan_breaks_lookup`, `alias_history_dependent`,
`alias_desc_changes_storage`), an ascending lookup repairs it (`alias_asc_repairs`).

Snapshots of the shared process list (`Gms.ProcSnap`, partition-progress maps on a heap because a Go
map in a struct is a reference): a `Processes()` snapshot that copies every map is a value — no
sequence of registry writes changes what its reader sees (`snapshot_is_value`); a snapshot that
keeps the reference of an empty map is changed by the next `AddPartitionProgress`
(`shared_empty_snapshot_changes`, the class of seeded change C36-1).
-/
import Gms.Model.NonInterf
import Gms.Lemmas.NonInterf
import Gms.Model.SharedStore
import Gms.Lemmas.SharedStore
import Gms.Model.ProcSnap
import Gms.Lemmas.ProcSnap
import Gms.Generated.C36

namespace Gms.C36
open Gms.NonInterf
variable {Db : Type}

section Interleaving

/-- Facts re-read from the source on every run: which methods of the shared registries take the
receiver's mutex (every ProcessList method does), the status counters are `atomic.Uint64` updated
by `Add`/`Store`/`Load`, `IncrementStatusVariable` updates the global and the session's own
counter, a session gets fresh counters, `QueryWithBindings` counts `Questions` first and
`Com_select` for SELECT nodes, `BeginQuery`/`EndQuery` move `Threads_running` by ±1, the handler
brackets the query with `BeginQuery` / deferred `EndQuery`. -/
theorem facts_match :
    Gms.Generated.C36.processListMethodsUnlocked = [] ∧
    Gms.Generated.C36.processListMethodsLocked =
      ["AddConnection", "AddPartitionProgress", "AddTableProgress", "BeginOperation", "BeginQuery", "ConnectionReady",
       "EndOperation", "EndQuery", "Kill", "Processes", "RemoveConnection", "RemovePartitionProgress", "RemoveTableProgress",
       "UpdatePartitionProgress", "UpdateTableProgress"] ∧
    Gms.Generated.C36.memoryManagerMethodsLocked = ["Free", "NumCaches", "addCache", "removeCache"] ∧
    Gms.Generated.C36.memoryManagerMethodsUnlocked = ["HasAvailable", "NewHistoryCache", "NewLRUCache", "NewRows2Cache", "NewRowsCache"] ∧
    Gms.Generated.C36.catalogMethodsLocked = ["CreateDatabase", "LockTable", "RemoveDatabase", "Table", "TableAsOf", "TableSchema", "UnlockTables"] ∧
    Gms.Generated.C36.statusValueType = "*atomic.Uint64" ∧
    Gms.Generated.C36.statusValueIncrementCalls = ["s.Val.Add"] ∧
    Gms.Generated.C36.statusValueSetCalls = ["s.Val.Store"] ∧
    Gms.Generated.C36.statusValueValueCalls = ["s.Val.Load"] ∧
    Gms.Generated.C36.incrementStatusVariableCalls = ["StatusVariables.IncrementGlobal", "ctx.Session.IncrementStatusVariable"] ∧
    Gms.Generated.C36.sessionStatusMapFreshValue = true ∧
    Gms.Generated.C36.queryCounters =
      [("Questions", "1", ""), ("Com_select", "1", "plan.NodeRepresentsSelect(ctx, analyzed)")] ∧
    Gms.Generated.C36.queryFirstStatement = "sql.IncrementStatusVariable(ctx, \"Questions\", 1)" ∧
    Gms.Generated.C36.threadsRunningEffects = [("BeginQuery", "1"), ("EndQuery", "-1")] ∧
    Gms.Generated.C36.handlerBracket = ["BeginQuery", "defer EndQuery"] :=
  ⟨rfl, rfl, rfl, rfl, rfl, rfl, rfl, rfl, rfl, rfl, rfl, rfl, rfl, rfl, rfl⟩

/-- The listed finding's code shape, re-read on every run: `AssignCatalog` of the shared
information_schema table object is a plain field assignment, called from `buildResolvedTable`. -/
theorem facts_match_finding :
    Gms.Generated.C36.infoSchemaAssignCatalogBody = ["t.catalog = cat", "return t"] ∧
    Gms.Generated.C36.buildResolvedTableAssignsCatalog = true := ⟨rfl, rfl⟩

/-- **Isolation (non-interference).** For every schedule of any number of sessions running any
read-only programs: the store is never changed, and the complete state of session `i` (its
variables, current database, warnings, own counters, every result it has received, its position)
is exactly the state of that session run ALONE for as many steps as it took in the schedule —
nothing another session does is visible to it. -/
theorem readonly_noninterference (n : Nat) (progs : Nat → List (Stmt Db)) (db : Db) (evs : List Nat) :
    (run n progs db evs).db = db ∧
    ∀ i, i < n → (run n progs db evs).sess i = solo db (progs i) (occ i evs) := by
  constructor
  · exact foldl_db n progs evs (init db)
  · intro i hi
    rw [solo_eq_lsteps]
    exact (foldl_sess n progs evs (init db) i).trans (if_pos hi)

/-- Sessions that do not exist are never touched. -/
theorem outside_sessions_untouched (n : Nat) (progs : Nat → List (Stmt Db)) (db : Db) (evs : List Nat) (i : Nat)
    (hi : ¬ i < n) : (run n progs db evs).sess i = initSess :=
  (foldl_sess n progs evs (init db) i).trans (if_neg hi)

/-- **Registries are consistent at every moment of every schedule**: global `Questions` and
`Com_select` are the sums of the sessions' own counters, `Threads_running` is the number of
sessions inside a statement, and a session's process-list entry says `Query` exactly then. -/
theorem registries_consistent (n : Nat) (progs : Nat → List (Stmt Db)) (db : Db) (evs : List Nat) :
    let g := run n progs db evs
    g.questions = sumN (fun i => (g.sess i).loc.questions) n ∧
    g.comSelect = sumN (fun i => (g.sess i).loc.comSelect) n ∧
    g.running = sumN (fun i => busy (g.sess i)) n ∧
    ∀ i, (g.sess i).command = decide ((g.sess i).phase ≠ .idle) := by
  have h := reg_foldl n progs evs (init db) (reg_init n db)
  exact ⟨h.questions, h.comSelect, h.running, h.command⟩

/-- **Schedule independence**: two schedules in which every session takes the same number of
steps end in the same global state (store, registries, every session). -/
theorem schedule_independent (n : Nat) (progs : Nat → List (Stmt Db)) (db : Db) (evs evs' : List Nat)
    (h : ∀ i, i < n → occ i evs = occ i evs') :
    run n progs db evs = run n progs db evs' := by
  refine reg_ext (reg_foldl n progs evs _ (reg_init n db)) (reg_foldl n progs evs' _ (reg_init n db))
    ((foldl_db n progs evs _).trans (foldl_db n progs evs' _).symm) (funext fun i => ?_)
  simp only [run, foldl_sess]
  split
  · next hi => rw [h i hi]
  · rfl

/-- **Each query returns the same result as when run alone.** In every complete schedule, every
session has received exactly the results of its program executed statement by statement on a
private session (`seqRun`), ends with that run's session state, and the registries are back to
quiescence: `Questions` grew by the number of statements, `Com_select` by the number of SELECTs
counted sequentially, `Threads_running` is 0 and every process-list entry says `Sleep`. -/
theorem concurrent_eq_sequential (n : Nat) (progs : Nat → List (Stmt Db)) (db : Db) (evs : List Nat)
    (hfin : finished n progs (run n progs db evs)) :
    (∀ i, i < n →
      ((run n progs db evs).sess i).results.reverse = (seqRun db (progs i) initLocal).1 ∧
      ((run n progs db evs).sess i).loc = (seqRun db (progs i) initLocal).2 ∧
      ((run n progs db evs).sess i).command = false) ∧
    (run n progs db evs).questions = sumN (fun i => (progs i).length) n ∧
    (run n progs db evs).comSelect = sumN (fun i => (seqRun db (progs i) initLocal).2.comSelect) n ∧
    (run n progs db evs).running = 0 := by
  have reg : Reg n (run n progs db evs) := reg_foldl n progs evs (init db) (reg_init n db)
  have per : ∀ i, i < n →
      ((run n progs db evs).sess i).results.reverse = (seqRun db (progs i) initLocal).1 ∧
      ((run n progs db evs).sess i).loc = (seqRun db (progs i) initLocal).2 := by
    intro i hi
    have := (soloInv_run n progs db evs i hi).idle (Or.inl (hfin i hi).2)
    rwa [(hfin i hi).1, List.take_length] at this
  refine ⟨fun i hi => ⟨(per i hi).1, (per i hi).2, ?_⟩, ?_, ?_, ?_⟩
  · rw [reg.command i, (hfin i hi).2]; rfl
  · rw [reg.questions]; apply sumN_congr; intro i hi
    rw [(per i hi).2, seqRun_questions]; simp [initLocal]
  · rw [reg.comSelect]; apply sumN_congr; intro i hi; rw [(per i hi).2]
  · rw [reg.running]; apply sumN_zero; intro i hi; simp [busy, (hfin i hi).2]

/-- **Fair schedules finish**: a schedule in which every session gets at least four steps per
statement of its program is complete (no session can be starved or blocked by another). -/
theorem fair_schedule_finishes (n : Nat) (progs : Nat → List (Stmt Db)) (db : Db) (evs : List Nat)
    (hfair : ∀ i, i < n → 4 * (progs i).length ≤ occ i evs) :
    finished n progs (run n progs db evs) := by
  intro i hi
  rw [(readonly_noninterference n progs db evs).2 i hi, solo_eq_lsteps]
  exact lsteps_enough db (progs i) (occ i evs) (hfair i hi)

def exProgs : Nat → List (Stmt Nat)
  | 0 => [.setVar "a" 5, .read (fun db => toString db) true (some 0), .addVar "a" 2, .getVar "a", .sessQuestions]
  | 1 => [.getVar "a", .divZero, .showWarnings, .useDb "d2", .curDb, .sessComSelect]
  | _ => []

def exSched : List Nat := [0, 1, 0, 0, 0, 0, 1, 1, 0, 0, 0, 0, 0, 1, 1, 0, 1, 1, 1, 1, 1, 0, 1, 1, 1, 1, 1, 1, 0, 1, 1, 0, 0, 0, 1, 0, 0, 1, 1, 1, 0, 1, 1, 0]

/-- Two interleaved sessions: session 1 never sees session 0's `@a`, warnings and current
database stay private, the registries add up, both got their sequential results. -/
example :
    let g := run 2 exProgs 7 exSched
    (g.sess 0).results.reverse = ["ok", "7", "ok", "i:7", "i:5"] ∧
    (g.sess 1).results.reverse = ["null", "null", "i:1", "ok", "s:d2", "i:3"] ∧
    g.questions = 11 ∧ g.comSelect = 5 ∧ g.running = 0 ∧ g.db = 7 ∧
    (g.sess 0).results.reverse = (seqRun 7 (exProgs 0) initLocal).1 ∧
    (g.sess 1).results.reverse = (seqRun 7 (exProgs 1) initLocal).1 := by
  decide +kernel

/-- The hypothesis of `concurrent_eq_sequential` / `fair_schedule_finishes` is satisfiable, and a
prefix of the schedule shows the registries mid-flight. -/
example : ((run 2 exProgs 7 exSched).sess 0).pc = 5 ∧ ((run 2 exProgs 7 exSched).sess 1).pc = 6 ∧
    ((run 2 exProgs 7 (exSched.take 6)).running = 2) ∧ ((run 2 exProgs 7 (exSched.take 6)).questions = 1) ∧
    occ 0 exSched = 20 ∧ occ 1 exSched = 24 ∧ finished 2 exProgs (run 2 exProgs 7 exSched) := by
  refine ⟨by decide +kernel, by decide +kernel, by decide +kernel, by decide +kernel, by decide +kernel, by decide +kernel, ?_⟩
  intro i hi
  have : i = 0 ∨ i = 1 := by omega
  rcases this with h | h <;> subst h <;> decide +kernel

end Interleaving

section SharedStore
open Gms.SharedStore

/-- Facts about the storage side, re-read / re-measured on every run: `Table.PartitionRows` gives
the partition iterator a copy of the stored partition (`make` + `copy`, and the iterator walks that
copy), `IndexedTable.PartitionRows` stably sorts the iterator's slice in place, no partition
iterator of the freshly compiled code starts at the address of the stored partition, the statement
kinds of the idx stream are planned onto the access paths `Gms.SharedStore.implEval` describes
(primary-key index forwards / reverse, secondary index forwards / reverse, table scan);
`ProcessList.Processes` makes every map of a snapshot, and no snapshot taken in any registry shape
changes when the registry is written afterwards. -/
theorem facts_store :
    Gms.Generated.C36.partitionRowsCopyStmts = ["rowsCopy := make([]sql.Row, len(rows))", "copy(rowsCopy, rows)"] ∧
    Gms.Generated.C36.tableIterRows = "rowsCopy" ∧
    Gms.Generated.C36.indexedTableSortCalls = ["sort.Stable"] ∧
    Gms.Generated.C36.indexedTableSortedSlices = ["ti.rows", "sti.rows"] ∧
    Gms.Generated.C36.scanIteratorsAliasingStorage = [] ∧
    Gms.Generated.C36.idxPlans =
      [("pkr-desc", "IndexedTableAccess [p.pk] reverse"), ("pkr-desc-all", "IndexedTableAccess [p.pk] reverse"),
       ("pkr-asc", "IndexedTableAccess [p.pk]"), ("pkr-eq", "IndexedTableAccess [p.pk]"),
       ("seq", "IndexedTableAccess [p.v]"), ("srows", "IndexedTableAccess [p.v]"),
       ("srng-asc", "IndexedTableAccess [p.v]"), ("srng-desc", "IndexedTableAccess [p.v] reverse"), ("scan", "Table")] ∧
    Gms.Generated.C36.processesMapDefs =
      ["progMap = make(map[string]sql.TableProgress, len(p.Progress))",
       "newProg := sql.TableProgress{ Progress: prog.Progress, PartitionsProgress: make(map[string]sql.PartitionProgress, len(prog.PartitionsProgress)), }",
       "p.Progress = progMap"] ∧
    Gms.Generated.C36.processesSnapshotLeaks = [] :=
  ⟨rfl, rfl, rfl, rfl, rfl, rfl, rfl, rfl⟩

/-- **Impl = Spec on consistent storage** (every access path, every statement). -/
theorem impl_eq_spec (ph : Phys) (hc : Consistent ph) (q : Q) : implEval ph q = specEval (logical ph) q :=
  Gms.SharedStore.impl_eq_spec ph hc q

/-- **Read-only statements leave the shared storage bit-identical, so results do not depend on the
history.** Whatever statements (of whatever sessions) ran before, in whatever order: the storage is
what it was, and every statement returned its meaning on the logical table. -/
theorem readonly_history_independent (ph : Phys) (hc : Consistent ph) (qs : List Q) :
    (runWith execCopy ph qs).2 = ph ∧ (runWith execCopy ph qs).1 = qs.map (specEval (logical ph)) := by
  rw [runWith_copy]
  exact ⟨rfl, List.map_congr_left (fun q _ => Gms.SharedStore.impl_eq_spec ph hc q)⟩

theorem consistent_empty : Consistent emptyPhys := by decide +kernel

theorem tbl_consistent (db : Store) (hdb : ∀ ph ∈ db, Consistent ph) (t : Nat) : Consistent (tbl db t) :=
  Basics.forall_getD hdb consistent_empty t

/-- What a statement of the idx stream reads through the access paths is its meaning on the
logical table. -/
theorem pq_impl_eq_spec (db : Store) (hdb : ∀ ph ∈ db, Consistent ph) (t : Nat) (q : Q) :
    pqImpl t q db = pqSpec t q db := by
  unfold pqImpl pqSpec
  rw [Gms.SharedStore.impl_eq_spec _ (tbl_consistent db hdb t)]

/-- A statement of a batch of the idx stream: a query over the shared storage, or any other
statement of the interleaving model. -/
inductive PStmt where
  | pq (t : Nat) (q : Q) (sel : Bool) (warn : Option Nat)
  | other (st : Stmt Store)

/-- As the Impl model executes it: through the access paths. -/
def PStmt.impl : PStmt → Stmt Store
  | .pq t q sel warn => .read (pqImpl t q) sel warn
  | .other st => st

/-- As the Spec reads it: the meaning on the logical table. -/
def PStmt.spec : PStmt → Stmt Store
  | .pq t q sel warn => .read (pqSpec t q) sel warn
  | .other st => st

theorem sem_impl_eq_spec (db : Store) (hdb : ∀ ph ∈ db, Consistent ph) (p : PStmt) (l : Local) :
    sem p.impl db l = sem p.spec db l := by
  cases p with
  | pq t q sel warn => simp [PStmt.impl, PStmt.spec, sem, Stmt.isSelect, pq_impl_eq_spec db hdb]
  | other st => rfl

theorem seqRun_impl_eq_spec (db : Store) (hdb : ∀ ph ∈ db, Consistent ph) (ps : List PStmt) (l : Local) :
    seqRun db (ps.map PStmt.impl) l = seqRun db (ps.map PStmt.spec) l := by
  induction ps generalizing l with
  | nil => rfl
  | cons p ps ih => simp only [List.map_cons, seqRun, sem_impl_eq_spec db hdb, ih]

/-- **Concurrent sessions over the shared storage receive the Spec results.** In every complete
schedule of any number of sessions whose statements read consistent storage through the access
paths, every session has received exactly what its program means, statement by statement, on the
logical tables — and the storage is what it was. -/
theorem pq_concurrent_eq_spec (n : Nat) (progs : Nat → List PStmt) (db : Store) (hdb : ∀ ph ∈ db, Consistent ph)
    (evs : List Nat)
    (hfin : finished n (fun i => (progs i).map PStmt.impl) (run n (fun i => (progs i).map PStmt.impl) db evs)) :
    (run n (fun i => (progs i).map PStmt.impl) db evs).db = db ∧
    ∀ i, i < n →
      ((run n (fun i => (progs i).map PStmt.impl) db evs).sess i).results.reverse =
        (seqRun db ((progs i).map PStmt.spec) initLocal).1 := by
  refine ⟨(readonly_noninterference n _ db evs).1, ?_⟩
  intro i hi
  rw [((concurrent_eq_sequential n _ db evs hfin).1 i hi).1, seqRun_impl_eq_spec db hdb]

/-- Four rows, two of them with the same indexed value; consistent. -/
def exPh : Phys :=
  { rows := [⟨1, some 10⟩, ⟨2, some 20⟩, ⟨3, some 30⟩, ⟨4, some 10⟩],
    sec := [⟨some 10, 1, 0⟩, ⟨some 10, 4, 3⟩, ⟨some 20, 2, 1⟩, ⟨some 30, 3, 2⟩] }

example : Consistent exPh := by decide +kernel

/-- Non-vacuity of `impl_eq_spec` / `readonly_history_independent`: a reverse primary-key scan, a
secondary-index lookup and a reverse secondary-index scan on `exPh`. -/
example :
    (runWith execCopy exPh [.pkr (some 2) none true none, .srows 20 20, .srng (some 0) (some 20) true]).1 =
      [[[some 4, some 10], [some 3, some 30], [some 2, some 20]], [[some 2, some 20]], [[some 20], [some 10], [some 10]]] := by
  decide +kernel

/-- **Witness for the class** (what the seeded change C36-2 does): when the partition iterator
walks the stored slice, a reverse primary-key lookup returns the right rows itself and leaves the
same LOGICAL table behind, but the storage is no longer consistent — the secondary-index entries
point at positions that now hold other rows — and the secondary-index lookup `v = 20` of any session
returns the row `(3, 30)`. -/
theorem alias_reverse_scan_breaks_lookup :
    Consistent exPh ∧
    (execAlias exPh (.pkr (some 2) none true none)).1 = specEval (logical exPh) (.pkr (some 2) none true none) ∧
    logical (execAlias exPh (.pkr (some 2) none true none)).2 = logical exPh ∧
    ¬ Consistent (execAlias exPh (.pkr (some 2) none true none)).2 ∧
    implEval (execAlias exPh (.pkr (some 2) none true none)).2 (.srows 20 20) = [[some 3, some 30]] ∧
    specEval (logical (execAlias exPh (.pkr (some 2) none true none)).2) (.srows 20 20) = [[some 2, some 20]] := by
  decide +kernel

/-- Results become history dependent under the class: the same two statements, in the two orders. -/
theorem alias_history_dependent :
    (runWith execAlias exPh [.srows 20 20, .pkr none none true none]).1 =
      [.srows 20 20, .pkr none none true none].map (specEval (logical exPh)) ∧
    (runWith execAlias exPh [.pkr none none true none, .srows 20 20]).1 ≠
      [.pkr none none true none, .srows 20 20].map (specEval (logical exPh)) := by
  decide +kernel

/-- Under the class EVERY reverse primary-key lookup on a table of at least two rows changes the
storage (whatever its range and limit): a read-only statement that writes. -/
theorem alias_desc_changes_storage (ph : Phys) (hc : Consistent ph) (h2 : 2 ≤ ph.rows.length)
    (lo hi : Option Int) (lim : Option Nat) : (execAlias ph (.pkr lo hi true lim)).2 ≠ ph := by
  intro h
  exact reverse_ne_of_strict hc.1 h2 (congrArg Phys.rows ((execAlias_desc ph hc lo hi lim).symm.trans h))

/-- … and the next ascending primary-key lookup puts it back: the damage exists only between a
reverse scan and the next forward primary-key access, i.e. it depends on the schedule. -/
theorem alias_asc_repairs (ph : Phys) (hc : Consistent ph) (lo hi lo' hi' : Option Int) (lim lim' : Option Nat) :
    (execAlias (execAlias ph (.pkr lo hi true lim)).2 (.pkr lo' hi' false lim')).2 = ph :=
  Gms.SharedStore.alias_asc_repairs ph hc lo hi lo' hi' lim lim'

end SharedStore

section ProcSnap
open Gms.ProcSnap

theorem histories_wf (ops : List Op) : WF (applyAll Gms.ProcSnap.empty ops) :=
  wf_applyAll _ ops (by intro t ht; cases ht)

/-- **A `Processes()` snapshot is a value.** Taken in any well-formed registry state (every
history of registry writes from the empty registry is one: `histories_wf`), it shows the state of
that moment, and no sequence of later registry writes — partitions opened, advanced, closed, tables
added or removed — changes what a reader of the snapshot sees. -/
theorem snapshot_is_value (r : Reg) (hwf : WF r) (ops : List Op) :
    view (snapDeep r).1.cells (snapDeep r).2 = view r.cells ⟨r.tables⟩ ∧
    view (applyAll (snapDeep r).1 ops).cells (snapDeep r).2 = view r.cells ⟨r.tables⟩ :=
  ⟨deep_snapshot_stable r hwf [], deep_snapshot_stable r hwf ops⟩

/-- The registry of a statement that is analysed and registered, no partition in flight. -/
def exReg : Reg := applyAll Gms.ProcSnap.empty [.addTable "t"]

/-- Non-vacuity of `snapshot_is_value`, in the registry shape the class needs: the snapshot of
`exReg` still shows no partition after the statement opened, advanced and closed partitions. -/
example :
    view (applyAll (snapDeep exReg).1 [.addPart "t" "0", .updPart "t" "0" 3, .updTable "t" 1, .removePart "t" "0", .addPart "t" "1"]).cells
      (snapDeep exReg).2 = [("t", 0, [])] ∧
    view (applyAll (snapDeep exReg).1 [.addPart "t" "0", .updPart "t" "0" 3, .updTable "t" 1]).cells
      ⟨(applyAll (snapDeep exReg).1 [.addPart "t" "0", .updPart "t" "0" 3, .updTable "t" 1]).tables⟩ = [("t", 1, [("0", 3)])] := by
  decide +kernel

/-- **Witness for the class** (what the seeded change C36-1 does): a snapshot that keeps the
reference of an EMPTY partition map shows no partition when it is taken and a partition in flight
after the statement moved on — it changed after it was taken. With a partition in flight at the
moment of the snapshot the same code copies, and the snapshot is stable. -/
theorem shared_empty_snapshot_changes :
    view (snapShareEmpty exReg).1.cells (snapShareEmpty exReg).2 = [("t", 0, [])] ∧
    view (applyAll (snapShareEmpty exReg).1 [.addPart "t" "0"]).cells (snapShareEmpty exReg).2 = [("t", 0, [("0", 0)])] ∧
    view (applyAll (snapShareEmpty (applyAll exReg [.addPart "t" "0"])).1 [.updPart "t" "0" 5]).cells
      (snapShareEmpty (applyAll exReg [.addPart "t" "0"])).2 = [("t", 0, [("0", 0)])] := by
  decide +kernel

end ProcSnap

section Lockset

/-- The locking discipline an access of a statement of session `i` follows, location by location (`info`: the
statement resolves an information_schema table). -/
def Disciplined (i : Nat) (info : Bool) (a : Access) : Prop :=
  a.sess = i ∧
  match a.loc with
  | .owned k => k = i
  | .store => a.mode.isWrite = false
  | .infoTableCatalog => info = true
  | _ => a.mode.isPlain = false

theorem footprint_disciplined (i : Nat) (info : Bool) : ∀ a ∈ footprint i info, Disciplined i info a := by
  intro a ha
  cases info <;>
    simp only [footprint, List.cons_append, List.nil_append, List.append_nil, Bool.false_eq_true, if_false, if_true,
      List.mem_cons, List.not_mem_nil, or_false] at ha
  -- nine alternatives for the footprint with `info`; the one without has seven and leaves the last two patterns unused
  all_goals rcases ha with rfl | rfl | rfl | rfl | rfl | rfl | rfl | rfl | rfl <;> exact ⟨rfl, rfl⟩

theorem not_racy_of_disciplined {i j : Nat} {infoI infoJ : Bool} {a b : Access}
    (ha : Disciplined i infoI a) (hb : Disciplined j infoJ b) (hguard : ¬ (infoI = true ∧ infoJ = true)) :
    racy a b = false := by
  obtain ⟨sa, la, ma⟩ := a
  obtain ⟨sb, lb, mb⟩ := b
  obtain ⟨rfl, ha⟩ := ha
  obtain ⟨rfl, hb⟩ := hb
  by_cases hl : la = lb
  · subst hl
    cases la <;> simp only at ha hb
    case owned k => simp [racy, ← ha, ← hb]
    case store => simp [racy, ha, hb]
    case infoTableCatalog => exact absurd ⟨ha, hb⟩ hguard
    all_goals simp [racy, ha, hb]
  · simp [racy, hl]

/-- FULL STATEMENT (false on the unchanged tree, see `finding_infoschema_assign_catalog_race`):
  `∀ i j infoI infoJ a b, a ∈ footprint i infoI → b ∈ footprint j infoJ → racy a b = false`.
**Partial**: accesses of two statements race only if both resolve an information_schema table. -/
theorem race_free_partial (i j : Nat) (infoI infoJ : Bool) (a b : Access)
    (ha : a ∈ footprint i infoI) (hb : b ∈ footprint j infoJ) (hguard : ¬ (infoI = true ∧ infoJ = true)) :
    racy a b = false :=
  not_racy_of_disciplined (footprint_disciplined i infoI a ha) (footprint_disciplined j infoJ b hb) hguard

/-- Finding (confirmed by the race detector on the unchanged tree): two sessions that resolve an
information_schema table both execute the plain write `t.catalog = cat` on the same shared object. -/
theorem finding_infoschema_assign_catalog_race :
    ∃ a b, a ∈ footprint 0 true ∧ b ∈ footprint 1 true ∧ racy a b = true :=
  ⟨⟨0, .infoTableCatalog, .plainWrite⟩, ⟨1, .infoTableCatalog, .plainWrite⟩, by decide +kernel, by decide +kernel, by decide +kernel⟩

end Lockset

end Gms.C36
