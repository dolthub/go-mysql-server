/-
C11 — Repeated queries reflect the current data; no stale results.

Model: Gms/Model/QueryCache.lean (the executor's cache cells and who owns them; the statement fragment of
Gms/Model/Prepared.lean, the harness's reference, occurs only in `select_through_fresh_cell`); Gms/Model/TxSnapshot.lean (the
session's per-transaction working copy of the data and the marks that decide when it is dropped);
Gms/Model/TrigCache.lean (subquery cells inside a statement whose data changes while it runs: trigger bodies).
-/
import Gms.Model.QueryCache
import Gms.Model.TxSnapshot
import Gms.Model.TrigCache
import Gms.Generated.C11
open Gms.Sql Gms.QueryCache

namespace Gms.C11

/-- the cell invariant inside one statement: whatever is cached is the child's current result -/
def CellOK (c : Cell) (child : List Row) : Prop := c.finalized = true → c.cached = child

theorem iter_correct (c : Cell) (child : List Row) (d : Option Nat) (h : CellOK c child) :
    (c.iter child d).1 = served child d ∧ CellOK (c.iter child d).2 child := by
  fun_cases Cell.iter c child d
  next hfinal =>
    rw [h hfinal]
    exact ⟨by cases d <;> rfl, h⟩
  next hfresh => exact ⟨rfl, fun _ => rfl⟩
  next n hfresh heof => exact ⟨(List.take_of_length_le (Nat.le_of_lt heof)).symm, fun _ => rfl⟩
  next n hfresh hearly => exact ⟨rfl, h⟩

/-- inside one statement every iteration of a cached node serves exactly the rows the child yields
now — for any number of iterations and any demands (early close never saves a partial result) -/
theorem iters_correct (child : List Row) (ds : List (Option Nat)) :
    ∀ c : Cell, CellOK c child → (iters c child ds).1 = ds.map (served child) ∧ CellOK (iters c child ds).2 child := by
  induction ds with
  | nil => intro c h; exact ⟨rfl, h⟩
  | cons d ds ih =>
    intro c h
    have h1 := iter_correct c child d h
    have h2 := ih (c.iter child d).2 h1.2
    simp only [iters, List.map_cons]
    exact ⟨by rw [h1.1, h2.1], h2.2⟩

theorem fresh_ok (child : List Row) : CellOK {} child := by
  intro h; simp at h

/-- **cache_scoped**: with one plan per execution, every query of every history (any writes in
between, any repetition) returns the rows of the state current at that step -/
theorem cache_scoped {σ : Type} (hist : List (Step σ)) : ∀ s : σ, runFresh hist s = runSpec hist s := by
  induction hist with
  | nil => intro s; rfl
  | cons st rest ih =>
    intro s
    cases st with
    | write f => exact ih (f s)
    | query den ds =>
      simp only [runFresh, runSpec]
      rw [(iters_correct (den s) ds {} (fresh_ok _)).1, ih s]

/-- a deterministic read-only query run twice on unchanged data returns the same result -/
theorem deterministic_rerun {σ : Type} (den : σ → List Row) (ds : List (Option Nat)) (s : σ) :
    runFresh [.query den ds, .query den ds] s = [ds.map (served (den s)), ds.map (served (den s))] := by
  rw [cache_scoped]; rfl

/-- what the tie has to exclude: if a plan instance (its cell) survived across executions, a
re-run after a write would serve the old rows -/
theorem finding_shape_stale_if_shared :
    ∃ (hist : List (Step (List Row))) (s : List Row), runShared hist s {} ≠ runSpec hist s :=
  ⟨[.query id [none], .write (fun _ => [[.int 2]]), .query id [none]], [[.int 1]], by decide⟩

/-- the shared variant is still correct as long as nothing is written between the executions -/
theorem shared_ok_without_writes {σ : Type} (den : σ → List Row) (s : σ) (qs : List (List (Option Nat))) :
    ∀ c : Cell, CellOK c (den s) →
      runShared (qs.map fun ds => Step.query den ds) s c = qs.map fun ds => ds.map (served (den s)) := by
  induction qs with
  | nil => intro c _; rfl
  | cons ds rest ih =>
    intro c h
    have h1 := iters_correct (den s) ds c h
    simp only [List.map_cons, runShared]
    rw [h1.1, ih _ h1.2]

/-- `Subquery.Eval`: within one node instance the first evaluation is served for ever -/
theorem subcell_sticky (c : SubCell) (a b : List Value) :
    ((c.eval true a).2.eval true b).1 = (c.eval true a).1 := by
  unfold SubCell.eval
  by_cases h : c.resultsCached = true <;> simp [h]

example : (iters {} [[.int 1], [.int 2], [.int 3]] [some 1, none, some 2]).1
    = [[[.int 1]], [[.int 1], [.int 2], [.int 3]], [[.int 1], [.int 2]]] := by decide +kernel

/-- the histories the driver replays: statements of the Prepared fragment against one table; a
SELECT served through a fresh cell returns the reference result on the table as it is *now* -/
theorem select_through_fresh_cell (st : Gms.Prepared.Stmt) (db : Gms.Prepared.Table) (rs : List Row) (db' : Gms.Prepared.Table)
    (_h : Gms.Prepared.run [] st db = (.rows rs, db')) : (iters {} rs [none]).1.headD [] = rs := by
  have := (iters_correct rs [none] {} (fresh_ok rs)).1
  rw [this]; rfl

end Gms.C11

namespace Gms.TxSnapshot

/- fields in the order tables, txn, ignoreAC, autocommit. The three states are the Spec's `Tx` under `abs`: idle;
`active true` (explicit transaction); `active false` (implicit, open only under autocommit = 0) -/
theorem Sess.Inv.forms {σ} {s : Sess σ} (h : s.Inv) :
    (∃ tb ac, s = ⟨tb, false, false, ac⟩) ∨ (∃ tb ac, s = ⟨tb, true, true, ac⟩) ∨ ∃ tb, s = ⟨tb, true, false, false⟩ := by
  obtain ⟨tb, txn, ign, ac⟩ := s
  obtain ⟨h1, h2⟩ := h
  cases txn
  · cases ign
    · exact .inl ⟨tb, ac, rfl⟩
    · cases h1 rfl
  · cases ign
    · cases h2 rfl rfl
      exact .inr (.inr ⟨tb, rfl⟩)
    · exact .inr (.inl ⟨tb, ac, rfl⟩)

/- the invariant as a Boolean test of the marks: on a state whose marks are literals it evaluates, so `rfl`
proves `Inv` whatever the working copy is -/
theorem Sess.Inv.of_marks {σ} {s : Sess σ}
    (h : ((!s.ignoreAC || s.txn) && (!s.txn || s.ignoreAC || !s.autocommit)) = true) : s.Inv := by
  obtain ⟨tb, txn, ign, ac⟩ := s
  cases txn <;> cases ign <;> cases ac <;> simp [Sess.Inv] at h ⊢

end Gms.TxSnapshot

namespace Gms.C11

section TxSnapshot
open Gms.TxSnapshot

/-- one operation: the Go bookkeeping (`tables` left behind by a finished transaction, the marks `txn` /
`ignoreAutoCommit`, the reset at the *next* statement) yields the observation, the database and the
session state the Spec prescribes -/
theorem step_sim {σ ο} (db : σ) (s : Sess σ) (h : s.Inv) (op : Op σ ο) :
    (stepImpl db s op).1 = (stepSpec db s.abs op).1 ∧ (stepImpl db s op).2.1 = (stepSpec db s.abs op).2.1 ∧
    (stepImpl db s op).2.2.abs = (stepSpec db s.abs op).2.2 ∧ (stepImpl db s op).2.2.Inv := by
  -- in each of the three states both sides compute; the working copy is split only where it is written back
  rcases h.forms with ⟨tb, ac, rfl⟩ | ⟨tb, ac, rfl⟩ | ⟨tb, rfl⟩
  · cases op with
    | stmt f => cases ac <;> exact ⟨rfl, rfl, rfl, .of_marks rfl⟩
    | setAC b => cases b <;> exact ⟨rfl, rfl, rfl, .of_marks rfl⟩
    | _ => exact ⟨rfl, rfl, rfl, .of_marks rfl⟩
  · cases op with
    | start | commit => cases tb <;> exact ⟨rfl, rfl, rfl, .of_marks rfl⟩
    | _ => exact ⟨rfl, rfl, rfl, .of_marks rfl⟩
  · cases op with
    | start | commit => cases tb <;> exact ⟨rfl, rfl, rfl, .of_marks rfl⟩
    | setAC b => cases b <;> cases tb <;> exact ⟨rfl, rfl, rfl, .of_marks rfl⟩
    | _ => exact ⟨rfl, rfl, rfl, .of_marks rfl⟩

/-- **tx_snapshot_scoped**: for every history of statements and transaction control issued by any number of
sessions, every statement observes what the Spec prescribes — in particular the working copy a finished
transaction leaves in the session is never served again -/
theorem tx_snapshot_scoped {σ ο} (hist : Hist σ ο) : ∀ (db : σ) (ss : Nat → Sess σ), (∀ j, (ss j).Inv) →
    runImpl hist db ss = TxSnapshot.runSpec hist db (fun j => (ss j).abs) := by
  induction hist with
  | nil => intros; rfl
  | cons x rest ih =>
    intro db ss hinv
    obtain ⟨i, op⟩ := x
    obtain ⟨h1, h2, h3, h4⟩ := step_sim db (ss i) (hinv i) op
    simp only [runImpl, TxSnapshot.runSpec, runWith] at ih ⊢
    rw [h1, h2]
    congr 1
    rw [ih]
    · congr 1
      funext j
      unfold upd
      by_cases hj : j = i
      · simp [hj, h3]
      · simp [hj]
    · intro j
      unfold upd
      by_cases hj : j = i
      · simp [hj, h4]
      · simp [hj, hinv j]

/-- from new sessions -/
theorem tx_snapshot_scoped_fresh {σ ο} (hist : Hist σ ο) (db : σ) :
    runImpl hist db (fun _ => {}) = TxSnapshot.runSpec hist db (fun _ => {}) := by
  rw [tx_snapshot_scoped hist db (fun _ => {}) (fun _ => .of_marks rfl)]
  rfl

/-- how to read the Spec: a statement of a session that has no transaction open sees the current data,
whatever that session did before -/
theorem idle_statement_sees_current_data {σ ο} (db : σ) (f : σ → ο × σ) :
    (stepSpec db { tx := .idle, autocommit := true } (.stmt f)).1 = some (f db).1 := rfl

/-- … and COMMIT / ROLLBACK always lead there (under autocommit) -/
theorem commit_rollback_end_the_transaction {σ ο} (db : σ) (s : SSess σ) :
    (stepSpec (ο := ο) db s .commit).2.2.tx = .idle ∧ (stepSpec (ο := ο) db s .rollback).2.2.tx = .idle := ⟨rfl, rfl⟩

/-- what the tie has to exclude: a COMMIT that leaves the transaction marks set (any early return in front of
`SetTransaction(nil)`) makes the session serve its old working copy after another session's write -/
theorem finding_shape_stale_if_commit_keeps_txn :
    ∃ (hist : Hist (List Row) (List Row)) (db : List Row), runKeep hist db (fun _ => {}) ≠ TxSnapshot.runSpec hist db (fun _ => {}) :=
  ⟨[(0, .start), (0, .stmt fun d => (d, d)), (0, .commit), (1, .stmt fun d => ([], [.int 2] :: d)), (0, .stmt fun d => (d, d))],
   [[.int 1]], by decide +kernel⟩

/-- non-vacuity: the same history through the model as built -/
example : runImpl (σ := List Row) (ο := List Row)
    [(0, .start), (0, .stmt fun d => (d, d)), (0, .commit), (1, .stmt fun d => ([], [.int 2] :: d)), (0, .stmt fun d => (d, d))]
    [[.int 1]] (fun _ => {}) = [none, some [[.int 1]], none, some [], some [[.int 2], [.int 1]]] := by decide +kernel

end TxSnapshot

section TrigCache
open Gms.TrigCache

/-- no subquery of the body may be served from its cell -/
def Uncacheable (vol : Bool) (b : Body) : Prop :=
  (∀ q, b.setK = some q → cacheable vol q.correlated = false) ∧
  (∀ t, b.mark = some t → (t.fills && cacheable vol t.correlated) = false)

/- the flag is a variable: at the call sites it is `cacheable vol q.correlated` or `t.fills && cacheable vol t.correlated`,
known to be off only through `Uncacheable` -/
theorem eval_uncacheable {c : SubCell} (h : c.resultsCached = false) {f : Bool} (hf : f = false) (now : List Value) :
    c.eval f now = (now, c) := by
  simp [SubCell.eval, h, hf]

theorem execRow_current (vol : Bool) (b : Body) (hb : Uncacheable vol b) (cs : Cells)
    (h1 : cs.c1.resultsCached = false) (h2 : cs.c2.resultsCached = false) (log : Log) (r : NewRow) :
    execRow vol b cs log r = ((specRow b log r).1, (specRow b log r).2, cs) := by
  obtain ⟨c1, c2⟩ := cs
  obtain ⟨sk, mk, lg⟩ := b
  obtain ⟨hq, ht⟩ := hb
  cases sk with
  | none =>
    cases mk with
    | none => simp [execRow, specRow]
    | some t => simp [execRow, specRow, eval_uncacheable h2 (ht t rfl)]
  | some q =>
    cases mk with
    | none => simp [execRow, specRow, eval_uncacheable h1 (hq q rfl)]
    | some t => simp [execRow, specRow, eval_uncacheable h1 (hq q rfl), eval_uncacheable h2 (ht t rfl)]

/-- a statement none of whose body subqueries is cacheable evaluates every one of them on the data as it is
when the body runs, for every row the statement touches -/
theorem execRows_current (vol : Bool) (b : Body) (hb : Uncacheable vol b) (rows : List NewRow) :
    ∀ (cs : Cells) (log : Log), cs.c1.resultsCached = false → cs.c2.resultsCached = false →
      execRows vol b cs log rows = specRows b log rows := by
  induction rows with
  | nil => intros; rfl
  | cons r rest ih =>
    intro cs log h1 h2
    simp only [execRows, specRows, execRow_current vol b hb cs h1 h2 log r]
    rw [ih cs _ h1 h2]

theorem marked_uncacheable (b : Body) : Uncacheable true b := by
  constructor <;> intros <;> simp [cacheable]

/-- **trigger_rows_current**: with the mark the plan builder puts on the subqueries of a trigger body, a
multi-row statement gives every row the subquery results of the data current at that row -/
theorem trigger_rows_current (b : Body) (log : Log) (rows : List NewRow) : implStmt b log rows = specRows b log rows :=
  execRows_current true b (marked_uncacheable b) rows {} log rfl rfl

/-- correlated subqueries are safe without the mark (the control shapes of the generator) -/
theorem correlated_rows_current (b : Body) (hq : ∀ q, b.setK = some q → q.correlated = true)
    (ht : ∀ t, b.mark = some t → t.correlated = true) (log : Log) (rows : List NewRow) :
    implStmtUnmarked b log rows = specRows b log rows :=
  execRows_current false b ⟨fun q h => by simp [cacheable, hq q h], fun t h => by simp [cacheable, ht t h]⟩ rows {} log rfl rfl

/-- non-vacuity: a body all of whose subqueries mention the row -/
example : implStmtUnmarked { setK := some { agg := .count, below := some .newId }, mark := some (.existsEq .newK), logs := .newK } [0]
    [{ id := 1, k := 5 }, { id := 2, k := 5 }] = ([{ id := 1, k := 1 }, { id := 2, k := 2 }], [0, 1, 2]) := by decide +kernel

/-- what the tie has to exclude: if the mark is lost on the way to execution, rows 2..n of a statement get the
subquery result computed for row 1 -/
theorem finding_shape_trigger_cache_unmarked :
    ∃ (b : Body) (log : Log) (rows : List NewRow), implStmtUnmarked b log rows ≠ specRows b log rows :=
  ⟨{ setK := some { agg := .max }, logs := .newId }, [1, 2], [{ id := 3, k := -1 }, { id := 4, k := -1 }, { id := 5, k := -1 }], by decide +kernel⟩

example : implStmt { setK := some { agg := .max }, mark := some (.inLog .newK), logs := .newId } [1, 2]
    [{ id := 3, k := -1 }, { id := 4, k := -1 }] = ([{ id := 3, k := 2, seen := true }, { id := 4, k := 3, seen := true }], [1, 2, 3, 4]) := by decide +kernel

end TrigCache

/-- regenerated on every run (go/ast): the cell of `plan.CachedResults` is exactly (`cachedResults`,
`finalized`); `buildCachedResults` serves from the cell iff `IsFinalized()` and otherwise builds the
child; the iterator saves into the node only under `err != nil` ∧ `err == io.EOF`; `WithChildren`
copies the node (and its cell); the only caller of `NewCachedResults` is the analyzer rule
`cacheSubqueryAliasesInJoins`; the subquery cache is (`cache`, `hashCache`, `resultsCached`, mutex), it
is used only when `s.correlated.Empty() && !s.volatile`, and `Dispose` does *not* clear it (so the
per-execution plan is what scopes it); `HashLookup.Dispose` clears its map; `QueryWithBindings` plans
afresh (`bindQuery`, `analyzeNode`) on every call and the session's prepared cache takes a
`sqlparser.Statement`. -/
theorem facts_match :
    Gms.Generated.C11.cachedResultsFields = ["UnaryNode", "cachedResults", "finalized"] ∧
    Gms.Generated.C11.withChildrenCopiesNode = true ∧
    Gms.Generated.C11.serveFromCellWhen = ["n.IsFinalized()"] ∧
    Gms.Generated.C11.buildChildWhen = [] ∧
    Gms.Generated.C11.saveCellWhen = ["err != nil", "err == io.EOF"] ∧
    Gms.Generated.C11.saveSetsCachedResults = true ∧
    Gms.Generated.C11.subqueryCacheFields = ["cache", "cacheMu", "hashCache", "resultsCached"] ∧
    Gms.Generated.C11.subqueryDisposeClearsCache = false ∧
    Gms.Generated.C11.subqueryCacheableWhen = "s.correlated.Empty() && !s.volatile" ∧
    Gms.Generated.C11.hashLookupDisposeClears = true ∧
    Gms.Generated.C11.newCachedResultsSites = ["sql/analyzer/resolve_subqueries.go:1"] ∧
    Gms.Generated.C11.queryPlansAfresh = true ∧
    Gms.Generated.C11.sessionPrepareQueryParamTypes = ["string", "sqlparser.Statement"] :=
  ⟨rfl, rfl, rfl, rfl, rfl, rfl, rfl, rfl, rfl, rfl, rfl, rfl, rfl⟩

/-- regenerated on every run (go/ast) — the transaction marks of Gms/Model/TxSnapshot.lean: COMMIT and ROLLBACK
reach `SetIgnoreAutoCommit(false); SetTransaction(nil)` unless the session has no transaction (`Sess.beginStmt`
excludes that) or the backend call failed; START TRANSACTION commits what is pending, starts a transaction and
sets both marks; every statement begins a transaction iff there is none; after a statement the transaction is
committed and cleared unless it is explicit or `autocommit = 0`; `memory.Session.tables` is reset by
`StartTransaction` and `Rollback` only (a commit leaves it behind) and `tableData` reads the database only for
a table that is not in it. -/
theorem facts_match_tx :
    Gms.Generated.C11.commitReturnsEarlyWhen = ["!ok", "transaction == nil", "err != nil"] ∧
    Gms.Generated.C11.commitCalls = ["ts.CommitTransaction(ctx, transaction)", "ctx.SetIgnoreAutoCommit(false)", "ctx.SetTransaction(nil)"] ∧
    Gms.Generated.C11.rollbackReturnsEarlyWhen = ["!ok", "transaction == nil", "err != nil"] ∧
    Gms.Generated.C11.rollbackCalls = ["ts.Rollback(ctx, transaction)", "ctx.SetIgnoreAutoCommit(false)", "ctx.SetTransaction(nil)"] ∧
    Gms.Generated.C11.startTransactionReturnsEarlyWhen = ["!ok", "err != nil"] ∧
    Gms.Generated.C11.startTransactionCalls = ["ts.CommitTransaction(ctx, currentTx)", "ts.StartTransaction(ctx, n.TransChar)",
      "ctx.SetTransaction(transaction)", "ctx.SetIgnoreAutoCommit(true)"] ∧
    Gms.Generated.C11.startTransactionCommitsPendingWhen = ["currentTx != nil"] ∧
    Gms.Generated.C11.beginTransactionSkipsWhen = ["ctx.GetTransaction() != nil", "nested:ok"] ∧
    Gms.Generated.C11.beginTransactionCalls = ["ts.StartTransaction(ctx, sql.ReadWrite)", "ctx.SetTransaction(tx)"] ∧
    Gms.Generated.C11.beginTransactionCalledBy = ["QueryWithBindings", "PrepQueryPlanForExecution", "PrepareParsedQuery"] ∧
    Gms.Generated.C11.closeSkipsCommitWhen = ["err != nil", "tx == nil", "!t.implicitCommit && ctx.GetIgnoreAutoCommit()",
      "!t.implicitCommit && !t.autoCommit", "!ok"] ∧
    Gms.Generated.C11.closeCalls = ["ts.CommitTransaction(ctx, tx)", "ctx.SetTransaction(nil)"] ∧
    Gms.Generated.C11.sessionTablesFilledBy = ["putTable", "tableData"] ∧
    Gms.Generated.C11.sessionTablesResetBy = ["Rollback", "StartTransaction"] ∧
    Gms.Generated.C11.tableDataReadsDatabaseWhen = ["!ok"] :=
  ⟨rfl, rfl, rfl, rfl, rfl, rfl, rfl, rfl, rfl, rfl, rfl, rfl, rfl, rfl, rfl⟩

/-- regenerated on every run — the "do not cache" mark of Gms/Model/TrigCache.lean: the plan builder marks every
subquery built inside a trigger body, the `With*` rebuilders of `plan.Subquery` start from a copy of the node,
and (dumped by analyzing probe statements with the code under test) the `cacheable` flag of every subquery that
reaches execution is the model's `cacheable volatile correlated`: true for an uncorrelated subquery of a plain
SELECT, false for a correlated one and false for every subquery of a BEFORE INSERT / UPDATE trigger body. -/
theorem facts_match_subquery_mark :
    Gms.Generated.C11.triggerBodySubqueriesMarkedVolatile = true ∧
    Gms.Generated.C11.subqueryWithMethods = ["WithChildren:self", "WithCorrelated:copy", "WithExecBuilder:copy",
      "WithNodeChildren:other", "WithQuery:copy", "WithVolatile:copy"] ∧
    Gms.Generated.C11.subqueryCacheFlags =
      [("select-uncorrelated", [Gms.TrigCache.cacheable false false]),
       ("select-correlated", [Gms.TrigCache.cacheable false true]),
       ("trigger-insert", [Gms.TrigCache.cacheable true false, Gms.TrigCache.cacheable true false]),
       ("trigger-insert-select", [Gms.TrigCache.cacheable true false, Gms.TrigCache.cacheable true false]),
       ("trigger-update", [Gms.TrigCache.cacheable true false, Gms.TrigCache.cacheable true false])] :=
  ⟨rfl, rfl, rfl⟩

end Gms.C11
