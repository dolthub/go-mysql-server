/-
C43 — information_schema and SHOW reflect the catalog.

Model: Gms/Model/Catalog.lean. Facts: Gms/Generated/C43.lean (regenerated on every run).

`Step` / `Alter` say what a successful DDL statement does (`step_of_apply`); the invariants and frame
properties of `apply` are proved by cases on them, table level (`Alter.wf`) apart from catalog level
(`Step.wf`). The views are `map`s over the catalog, the ROUTINES loop is one (`routinesLoop_eq_map`).
-/
import Gms.Model.Catalog
import Gms.Lemmas.Basics
import Gms.Lemmas.InsertSort
import Gms.Generated.C43

open Gms.Catalog

namespace Gms.Catalog

theorem mem_filter_ne {α β : Type} [DecidableEq β] {f : α → β} {b : β} {l : List α} {a : α} :
    a ∈ l.filter (f · ≠ b) ↔ a ∈ l ∧ f a ≠ b := by
  simp only [List.mem_filter, decide_eq_true_eq]

theorem mem_map_filter_ne {α β : Type} [DecidableEq β] {f : α → β} {b x : β} {l : List α} :
    x ∈ (l.filter (f · ≠ b)).map f ↔ x ∈ l.map f ∧ x ≠ b := by
  simp only [List.mem_map, mem_filter_ne]
  exact ⟨fun ⟨a, ⟨ha, hb⟩, e⟩ => ⟨⟨a, ha, e⟩, e ▸ hb⟩, fun ⟨⟨a, ha, e⟩, hb⟩ => ⟨a, ⟨ha, e ▸ hb⟩, e⟩⟩

theorem hasCol_iff_mem {t : Tbl} {n : String} : t.hasCol n = true ↔ n ∈ t.cols.map (·.name) := by
  simp only [Tbl.hasCol, List.any_eq_true, decide_eq_true_eq, List.mem_map]

theorem names_setNotNull (cols : List Col) (names : List String) :
    (setNotNull cols names).map (·.name) = cols.map (·.name) := by
  simp only [setNotNull, List.map_map, Function.comp_def, apply_ite Col.name, ite_self]

theorem mem_insertCol {cols cols' : List Col} {c : Col} {pos : Pos} (h : insertCol cols c pos = some cols')
    {x : Col} : x ∈ cols' ↔ x ∈ cols ∨ x = c := by
  cases pos <;> simp only [insertCol] at h
  case last => cases h; simp only [List.mem_append, List.mem_singleton]
  case first => cases h; exact List.mem_cons.trans or_comm
  case after a =>
    split at h <;> cases h
    rename_i hany
    -- the guard: some column is named `a`, so `c` does get inserted
    obtain ⟨y, hy, hya⟩ := List.any_eq_true.mp hany
    simp only [List.mem_flatMap]
    constructor
    · rintro ⟨z, hz, hx⟩
      split at hx <;> simp only [List.mem_cons, List.not_mem_nil, or_false] at hx
      · exact hx.imp_left fun (e : x = z) => e ▸ hz
      · exact .inl (hx ▸ hz)
    · rintro (hx | rfl)
      · exact ⟨x, hx, by split <;> exact List.mem_cons_self⟩
      · exact ⟨y, hy, by simp [of_decide_eq_true hya]⟩

theorem names_insertCol {cols cols' : List Col} {c : Col} {pos : Pos} (h : insertCol cols c pos = some cols')
    {n : String} : n ∈ cols'.map (·.name) ↔ n ∈ cols.map (·.name) ∨ n = c.name := by
  simp only [List.mem_map, mem_insertCol h, or_and_right, exists_or, exists_eq_left, @eq_comm _ n]

theorem names_rename (cols : List Col) (old new : String) :
    (cols.map fun x => if x.name = old then { x with name := new } else x).map (·.name) =
      renameIn old new (cols.map (·.name)) := by
  simp only [renameIn, List.map_map, Function.comp_def, apply_ite Col.name]

def tblWF (t : Tbl) : Prop :=
  (∀ n ∈ t.pk, t.hasCol n = true) ∧ (∀ i ∈ t.idxs, ∀ n ∈ i.cols, t.hasCol n = true)

def CatWF (c : Cat) : Prop :=
  (∀ t ∈ c.tables, tblWF t) ∧ (∀ tr ∈ c.trigs, ∃ t ∈ c.tables, t.name = tr.table) ∧
  (c.tables.map (·.name)).Nodup

theorem CatWF.tables {c : Cat} (hw : CatWF c) : ∀ t ∈ c.tables, tblWF t := hw.1

theorem CatWF.trigs {c : Cat} (hw : CatWF c) : ∀ tr ∈ c.trigs, ∃ t ∈ c.tables, t.name = tr.table := hw.2.1

theorem CatWF.names {c : Cat} (hw : CatWF c) : (c.tables.map (·.name)).Nodup := hw.2.2

theorem tblWF_iff_subset {t : Tbl} :
    tblWF t ↔ t.pk ⊆ t.cols.map (·.name) ∧ ∀ i ∈ t.idxs, i.cols ⊆ t.cols.map (·.name) := by
  simp only [tblWF, hasCol_iff_mem]
  rfl

theorem table?_mem {c : Cat} {n : String} {t : Tbl} (h : c.table? n = some t) : t ∈ c.tables ∧ t.name = n := by
  unfold Cat.table? at h
  exact ⟨List.mem_of_find?_eq_some h, by simpa using List.find?_some h⟩

theorem mem_updTable {c : Cat} {n : String} {f : Tbl → Tbl} {t' : Tbl} :
    t' ∈ (updTable c n f).tables ↔ (t' ∈ c.tables ∧ t'.name ≠ n) ∨ (∃ t ∈ c.tables, t.name = n ∧ t' = f t) := by
  simp only [updTable, List.mem_map]
  constructor
  · rintro ⟨t, ht, rfl⟩
    by_cases hn : t.name = n
    · right; exact ⟨t, ht, hn, by simp [hn]⟩
    · left; simp [hn, ht]
  · rintro (⟨ht, hne⟩ | ⟨t, ht, hn, rfl⟩)
    · exact ⟨t', ht, if_neg hne⟩
    · exact ⟨t, ht, if_pos hn⟩

theorem mem_updTable_other {c : Cat} {n : String} {f : Tbl → Tbl} (hname : ∀ t, (f t).name = t.name) {t' : Tbl}
    (hne : t'.name ≠ n) : t' ∈ (updTable c n f).tables ↔ t' ∈ c.tables := by
  refine mem_updTable.trans ⟨?_, fun h => .inl ⟨h, hne⟩⟩
  rintro (⟨h, _⟩ | ⟨t, _, hn, rfl⟩)
  · exact h
  · exact absurd ((hname t).trans hn) hne

theorem updTable_map {β : Type} {c : Cat} {n : String} {f : Tbl → Tbl} (g : Tbl → β) (hg : ∀ t, g (f t) = g t) :
    (updTable c n f).tables.map g = c.tables.map g := by
  simp only [updTable, List.map_map, Function.comp_def, apply_ite g, hg, ite_self]

theorem updTable_wf {c : Cat} {n : String} {f : Tbl → Tbl} {t : Tbl} (hw : CatWF c) (hfound : c.table? n = some t)
    (hname : ∀ t, (f t).name = t.name) (hf : tblWF t → tblWF (f t)) :
    CatWF (updTable c n f) := by
  have hm := table?_mem hfound
  refine ⟨?_, ?_, ?_⟩
  · intro t' ht'
    rcases mem_updTable.mp ht' with ⟨h1, _⟩ | ⟨t1, ht1, hn, rfl⟩
    · exact hw.tables t' h1
    · have : t1 = t := Basics.eq_of_nodup_map hw.names ht1 hm.1 (hn.trans hm.2.symm)
      subst this
      exact hf (hw.tables t1 ht1)
  · intro tr htr
    refine List.mem_map.mp (?_ : tr.table ∈ (updTable c n f).tables.map (·.name))
    rw [updTable_map (·.name) hname]
    exact List.mem_map.mpr (hw.trigs tr htr)
  · rw [updTable_map (·.name) hname]; exact hw.names

theorem tblWF_of_tblOk {t : Tbl} (h : tblOk t = true) : tblWF t := by
  simp only [tblOk, Bool.and_eq_true, List.all_eq_true] at h
  exact ⟨h.1.1.1.2, fun i hi => (h.2 i hi).1.1.2⟩

theorem tblWF_setNotNull {t : Tbl} (names : List String) (hw : tblWF t) :
    tblWF { t with cols := setNotNull t.cols names } := by
  rw [tblWF_iff_subset] at hw ⊢
  simpa only [names_setNotNull] using hw

/-- The table a statement is about (`none`: views, triggers and procedures). -/
def ddlTable : Ddl → Option String
  | .createTable t => some t.name
  | .dropTable n => some n
  | .addColumn t _ _ | .dropColumn t _ | .renameColumn t _ _ | .createIndex t _ | .dropIndex t _
  | .addPk t _ | .dropPk t => some t
  | _ => none

/-- What a successful ALTER TABLE statement makes of a table of the name it gives. `apply` tests its
guards on the table `t` that `Cat.table?` finds under that name, while `updTable` maps `f` over every
table of that name: hence guards about `t` and a function of any `x`. The table name in the statement
is left free here; `Step.alter` ties it to the table altered. Of the guards of `apply`, only those an
invariant below rests on are recorded. -/
inductive Alter (t : Tbl) : Ddl → (Tbl → Tbl) → Prop
  | addColumn {tn col pos cols} (h : insertCol t.cols col pos = some cols) :
      Alter t (.addColumn tn col pos) fun x => { x with cols := cols }
  | dropColumn {tn cn} (hpk : cn ∉ t.pk) (hidx : ∀ i ∈ t.idxs, cn ∉ i.cols) :
      Alter t (.dropColumn tn cn) fun x => { x with cols := x.cols.filter (·.name ≠ cn) }
  | renameColumn {tn old new} :
      Alter t (.renameColumn tn old new) fun x =>
        { x with cols := x.cols.map (fun y => if y.name = old then { y with name := new } else y),
                 pk := renameIn old new x.pk,
                 idxs := x.idxs.map fun i => { i with cols := renameIn old new i.cols } }
  | createIndex {tn i} (h : i.cols ⊆ t.cols.map (·.name)) :
      Alter t (.createIndex tn i) fun x => { x with idxs := x.idxs ++ [i] }
  | dropIndex {tn n} : Alter t (.dropIndex tn n) fun x => { x with idxs := x.idxs.filter (·.name ≠ n) }
  | addPk {tn cols} (h : cols ⊆ t.cols.map (·.name)) :
      Alter t (.addPk tn cols) fun x => { x with pk := cols, cols := setNotNull x.cols cols }
  | dropPk {tn} : Alter t (.dropPk tn) fun x => { x with pk := [] }

/-- What a successful statement does to the catalog: an object is created or dropped, or one table
is altered (`updTable` with the function `Alter` names; `hd` says that the table altered is the one
the statement names). Guards as for `Alter`. -/
inductive Step (c : Cat) : Ddl → Cat → Prop
  | createTable {t} (hn : ∀ x ∈ c.tables, x.name ≠ t.name) (ht : tblOk t = true) :
      Step c (.createTable t) { c with tables := c.tables ++ [{ t with cols := setNotNull t.cols t.pk }] }
  | dropTable {n} :
      Step c (.dropTable n) { c with tables := c.tables.filter (·.name ≠ n), trigs := c.trigs.filter (·.table ≠ n) }
  | alter {d tn t f} (hd : ddlTable d = some tn) (ht : c.table? tn = some t) (a : Alter t d f) :
      Step c d (updTable c tn f)
  | createView {v} : Step c (.createView v) { c with views := c.views ++ [v] }
  | dropView {n} : Step c (.dropView n) { c with views := c.views.filter (·.name ≠ n) }
  | createTrigger {tr} (h : ∃ t ∈ c.tables, t.name = tr.table) :
      Step c (.createTrigger tr) { c with trigs := c.trigs ++ [tr] }
  | dropTrigger {n} : Step c (.dropTrigger n) { c with trigs := c.trigs.filter (·.name ≠ n) }
  | createProc {p} (h : ∀ q ∈ c.procs, q.name ≠ p.name) :
      Step c (.createProc p) { c with procs := c.procs ++ [p] }
  | dropProc {n} : Step c (.dropProc n) { c with procs := c.procs.filter (·.name ≠ n) }

theorem step_of_apply {c c' : Cat} {d : Ddl} (h : apply c d = some c') : Step c d c' := by
  revert h
  -- `caseN` is the N-th leaf of `apply` in source order, the rejecting (`none`) leaves counted too; those
  -- are closed by `cases h`, the fifteen accepting ones are the arms below
  fun_cases apply c d <;> intro h <;> cases h
  -- the one case whose last hypothesis is not a Boolean guard
  case case6 ht _ _ hcols => exact .alter rfl ht (.addColumn hcols)
  all_goals
    rename_i hg
    simp only [Bool.or_eq_true, not_or, Bool.not_eq_true', Bool.not_eq_true, Bool.not_eq_false, List.all_eq_true,
      List.any_eq_true, decide_eq_true_eq, Cat.hasName, Tbl.mentions, List.contains_eq_mem, hasCol_iff_mem,
      not_exists, not_and] at hg
  case case2 => exact .createTable hg.1.1 hg.2  -- no table of that name; `tblOk t`
  case case3 => exact .dropTable
  case case10 ht => exact .alter rfl ht (.dropColumn hg.1.2.1 hg.1.2.2)  -- not in the key; in no index
  case case13 ht => exact .alter rfl ht .renameColumn
  case case16 ht => exact .alter rfl ht (.createIndex hg.1.2)  -- the index columns exist
  case case18 ht => exact .alter rfl ht .dropIndex
  case case22 ht => exact .alter rfl ht (.addPk hg.1.2)  -- the key columns exist
  case case25 ht => exact .alter rfl ht .dropPk
  case case28 => exact .createView
  case case29 => exact .dropView
  case case32 => exact .createTrigger hg.2  -- the table exists
  case case33 => exact .dropTrigger
  case case36 => exact .createProc hg
  case case37 => exact .dropProc

theorem Alter.name {t : Tbl} {d : Ddl} {f : Tbl → Tbl} (a : Alter t d f) (x : Tbl) : (f x).name = x.name := by
  cases a <;> rfl

theorem Alter.wf {t : Tbl} {d : Ddl} {f : Tbl → Tbl} (a : Alter t d f) (hw : tblWF t) : tblWF (f t) := by
  rw [tblWF_iff_subset] at hw ⊢
  cases a with
  | addColumn hcols =>
    have sub : t.cols.map (·.name) ⊆ _ := fun _ hn => (names_insertCol hcols).mpr (.inl hn)
    exact ⟨hw.1.trans sub, fun i hi => (hw.2 i hi).trans sub⟩
  | @dropColumn _ cn hpk hidx =>
    have keep : ∀ {l : List String}, cn ∉ l → l ⊆ t.cols.map (·.name) →
        l ⊆ (t.cols.filter (·.name ≠ cn)).map (·.name) := by
      intro l hcn hl n hn
      exact mem_map_filter_ne.mpr ⟨hl hn, fun e => hcn (e ▸ hn)⟩
    exact ⟨keep hpk hw.1, fun i hi => keep (hidx i hi) (hw.2 i hi)⟩
  | renameColumn =>
    -- the keys follow: both sides of each inclusion are renamed by the same function
    simp only [names_rename]
    exact ⟨List.map_subset _ hw.1, List.forall_mem_map.mpr fun i hi => List.map_subset _ (hw.2 i hi)⟩
  | createIndex hc =>
    exact ⟨hw.1, List.forall_mem_append.mpr ⟨hw.2, List.forall_mem_singleton.mpr hc⟩⟩
  | dropIndex => exact ⟨hw.1, fun i hi => hw.2 i (List.mem_filter.mp hi).1⟩
  | addPk hc =>
    simp only [names_setNotNull]
    exact ⟨hc, hw.2⟩
  | dropPk => exact ⟨List.nil_subset _, hw.2⟩

theorem Step.wf {c c' : Cat} {d : Ddl} (s : Step c d c') (hw : CatWF c) : CatWF c' := by
  cases s with
  | createTable hn hok =>
    refine ⟨?_, ?_, Basics.nodup_map_concat hw.names hn⟩
    · exact List.forall_mem_append.mpr
        ⟨hw.tables, List.forall_mem_singleton.mpr (tblWF_setNotNull _ (tblWF_of_tblOk hok))⟩
    · intro tr htr
      obtain ⟨t0, ht0, hn⟩ := hw.trigs tr htr
      exact ⟨t0, List.mem_append_left _ ht0, hn⟩
  | @dropTable n =>
    refine ⟨fun t ht => hw.tables t (List.mem_filter.mp ht).1, ?_,
      (List.Sublist.map _ List.filter_sublist).nodup hw.names⟩
    intro tr htr
    have htr' := mem_filter_ne.mp htr
    obtain ⟨t0, ht0, hn⟩ := hw.trigs tr htr'.1
    exact ⟨t0, mem_filter_ne.mpr ⟨ht0, hn ▸ htr'.2⟩, hn⟩
  | alter _ ht a => exact updTable_wf hw ht a.name a.wf
  | createTrigger hex =>
    exact ⟨hw.tables, List.forall_mem_append.mpr ⟨hw.trigs, List.forall_mem_singleton.mpr hex⟩, hw.names⟩
  | dropTrigger => exact ⟨hw.tables, fun tr htr => hw.trigs tr (List.mem_filter.mp htr).1, hw.names⟩
  | createView | dropView | createProc | dropProc => exact hw

theorem apply_wf {c c' : Cat} (d : Ddl) (hw : CatWF c) (h : apply c d = some c') : CatWF c' :=
  (step_of_apply h).wf hw

theorem applyAll_invariant {P : Cat → Prop} (hstep : ∀ {c c'} d, P c → apply c d = some c' → P c')
    (h : List Ddl) {c : Cat} (hc : P c) : P (applyAll c h) := by
  induction h generalizing c with
  | nil => exact hc
  | cons d rest ih =>
    simp only [applyAll]
    cases ha : apply c d with
    | none => exact ih hc
    | some c' => exact ih (hstep d hc ha)

theorem insertIdx_inserts : InsertSort.Inserts (fun i j : Idx => decide (i.name < j.name)) insertIdx :=
  ⟨fun _ => rfl, fun _ _ _ => by simp only [insertIdx, decide_eq_true_eq]⟩

theorem mem_sortIdxs {j : Idx} {l : List Idx} : j ∈ sortIdxs l ↔ j ∈ l :=
  (insertIdx_inserts.foldr_perm l).mem_iff

/-- `GetIndexes` reports the primary key, if there is one, and the declared indexes. -/
theorem mem_allIdxs {t : Tbl} {i : Idx} :
    i ∈ t.allIdxs ↔ (i = ⟨"PRIMARY", true, t.pk⟩ ∧ t.pk ≠ []) ∨ i ∈ t.idxs := by
  simp only [Tbl.allIdxs, List.mem_append, mem_sortIdxs]
  cases t.pk <;> simp

/-- `schema[pkOrdinals[k]].Name` is the k-th key column: going through the ordinals loses nothing and
keeps the *key* order (not the column order). -/
theorem showCreatePk_eq_pk (t : Tbl) (h : ∀ n ∈ t.pk, t.hasCol n = true) : showCreatePk t = t.pk := by
  unfold showCreatePk pkOrdinals
  rw [List.filterMap_map]
  refine (Basics.filterMap_congr_mem fun n hn => ?_).trans List.filterMap_some
  simp only [Function.comp]
  rw [← List.getElem?_map]
  exact Basics.getElem?_idxOf (hasCol_iff_mem.mp (h n hn))

/-- The rows one index contributes to STATISTICS / SHOW INDEX. -/
def statRowsOf (t : Tbl) (i : Idx) : List Row :=
  i.cols.zipIdx.map fun (cn, k) =>
    [t.name, if i.unique then "0" else "1", i.name, toString (k + 1), cn, if colNullable t cn then "YES" else ""]

theorem map_zipIdx_fst {α β : Type} (f : α → β) (l : List α) (k : Nat) :
    (l.zipIdx k).map (fun x => f x.1) = l.map f :=
  (List.map_map ..).symm.trans (congrArg (List.map f) (List.zipIdx_map_fst k l))

theorem map_zipIdx_snd {α β : Type} (f : Nat → β) (l : List α) (k : Nat) :
    (l.zipIdx k).map (fun x => f x.2) = (List.range' k l.length).map f :=
  (List.map_map ..).symm.trans (congrArg (List.map f) (List.zipIdx_map_snd k l))

theorem showDefault_false (col : Col) : showDefault false col = col.dflt.getD "NULL" := by
  unfold showDefault
  cases col.dflt <;> rfl

theorem foldl_chrStep_reset (chars : List Chr) (v : RVars) :
    chars.foldl chrStep (resetVars v) = ⟨"DEFINER", detOf chars, accOf chars⟩ := by
  -- from the right: what the last characteristic sets is what stays
  rw [← List.reverse_reverse chars]
  generalize chars.reverse = l
  induction l with
  | nil => rfl
  | cons a l ih =>
    rw [List.reverse_cons, List.foldl_append, ih]
    cases a <;> simp [chrStep, detOf, accOf, List.filter_append, isDetChr, isAccChr]

/-- **The loop of `routinesRowIter` is a map**: whatever the variables hold when an iteration starts
(the initial values, or what the previous procedure left there), the row of a procedure is
`routineRow` of that procedure. -/
theorem routinesLoop_eq_map (ps : List Proc) (v : RVars) : routinesLoop v ps = ps.map routineRow := by
  induction ps generalizing v with
  | nil => rfl
  | cons p rest ih =>
    simp only [routinesLoop, List.map_cons, ih, foldl_chrStep_reset, routineRow]
    cases p.invoker <;> rfl

theorem insertProc_inserts : InsertSort.Inserts (fun p q : Proc => decide (p.name < q.name)) insertProc :=
  ⟨fun _ => rfl, fun _ _ _ => by simp only [insertProc, decide_eq_true_eq]⟩

theorem mem_sortProcs {q : Proc} {l : List Proc} : q ∈ sortProcs l ↔ q ∈ l :=
  (insertProc_inserts.foldr_perm l).mem_iff

def ProcsNodup (c : Cat) : Prop := (c.procs.map (·.name)).Nodup

theorem apply_procsNodup {c c' : Cat} (d : Ddl) (hw : ProcsNodup c) (h : apply c d = some c') : ProcsNodup c' := by
  cases step_of_apply h with
  | createProc hn => exact Basics.nodup_map_concat hw hn
  | dropProc => exact (List.Sublist.map _ List.filter_sublist).nodup hw
  | _ => exact hw

end Gms.Catalog

namespace Gms.C43

open Gms.Generated.C43

/-- The code the model follows still has the shape it assumes: the index classification chain and
the composite-UNIQUE special case of `getIndexKeyInfo`, the conditions of `getRowsFromTable`, the
nil-privilege-set early return of the TRIGGERS and VIEWS iterators, the index order of the memory
table. -/
theorem facts_match :
    keyInfoChain = ["index.ID() == \"PRIMARY\" => PRI", "index.IsUnique() => UNI", "else => MUL"] ∧
    keyInfoComposite = "idx == \"UNI\" && len(colNames) > 1 => MUL | else: all columns" ∧
    columnKeyConds = ["err != nil", "col.HiddenSystem", "col.PrimaryKey", "ok",
      "!col.Nullable && !hasPK && columnKey == \"UNI\"", "r != nil"] ∧
    triggersNilPrivSet = true ∧ viewsNilPrivSet = true ∧
    indexOrder = "return nonPrimaryIndexes[i].ID() < nonPrimaryIndexes[j].ID()" :=
  ⟨rfl, rfl, rfl, rfl, rfl, rfl⟩

/-- SHOW CREATE TABLE takes the column list of its PRIMARY KEY clause from the key ordinals
(`pkSchema.PkOrdinals`, key order; the scan of `col.PrimaryKey` in column order is only the fallback
for a table without a primary-key schema) and reads the names back from the schema — `showCreatePk`. -/
theorem facts_match_show_create_pk :
    showCreatePkSource = ["if len(pkSchema.Schema) > 0 => pkOrdinals = pkSchema.PkOrdinals",
      "if col.PrimaryKey && len(pkSchema.Schema) == 0 => pkOrdinals = append(pkOrdinals, idx)",
      "range pkOrdinals => primaryKeyCols = append(primaryKeyCols, schema[idx].Name)"] := rfl

/-- `routinesRowIter`: the three variables are declared without values, re-initialised at the top of the
body of the loop over the procedures (`resetVars`), then assigned by the if / else-if chains over the
characteristics (`chrStep`) and the security context — `routinesLoop`; a missing privilege set is
replaced by an empty one (`routinesView true`). -/
theorem facts_match_routines :
    routinesAssignments = ["range procedures => securityType = \"DEFINER\"", "range procedures => isDeterministic = \"NO\"",
      "range procedures => sqlDataAccess = \"CONTAINS SQL\"",
      "if ch == plan.Characteristic_Deterministic => isDeterministic = \"YES\"",
      "if ch == plan.Characteristic_NotDeterministic => isDeterministic = \"NO\"",
      "if ch == plan.Characteristic_ContainsSql => sqlDataAccess = \"CONTAINS SQL\"",
      "if ch == plan.Characteristic_NoSql => sqlDataAccess = \"NO SQL\"",
      "if ch == plan.Characteristic_ReadsSqlData => sqlDataAccess = \"READS SQL DATA\"",
      "if ch == plan.Characteristic_ModifiesSqlData => sqlDataAccess = \"MODIFIES SQL DATA\"",
      "if procedure.SecurityContext == plan.ProcedureSecurityContext_Invoker => securityType = \"INVOKER\""] ∧
    routinesNilPrivSetIsEmptySet = true := ⟨rfl, rfl⟩

/-- **After any history of DDL** the catalog is well-formed: every key (primary or secondary) only
names columns that exist in its table, every trigger belongs to an existing table, table names are
unique — across CREATE/DROP TABLE, ADD/DROP/RENAME COLUMN, CREATE/DROP INDEX, ADD/DROP PRIMARY KEY,
views and triggers, including rejected statements. -/
theorem catalog_wf_after_any_history (h : List Ddl) : CatWF (applyAll Cat.empty h) :=
  applyAll_invariant (P := CatWF) apply_wf h ⟨fun _ ht => (nomatch ht), fun _ ht => (nomatch ht), List.nodup_nil⟩

example : (applyAll Cat.empty [.createTable ⟨"t", [⟨"a", "int", true, none⟩, ⟨"b", "int", true, none⟩], ["a"], [⟨"i", false, ["b"]⟩]⟩,
    .renameColumn "t" "b" "c", .dropColumn "t" "c"]).tables.map (·.idxs.map (·.cols)) = [[["c"]]] := by decide +kernel

/-- **TABLES / SHOW FULL TABLES list exactly the objects that exist.** -/
theorem tables_exact (c : Cat) (r : Row) :
    r ∈ tablesView c ↔ (∃ t ∈ c.tables, r = [t.name, "BASE TABLE"]) ∨ (∃ v ∈ c.views, r = [v.name, "VIEW"]) := by
  simp only [tablesView, List.mem_append, List.mem_map, @eq_comm _ r]

/-- SHOW TABLES is the name column of information_schema.TABLES. -/
theorem show_tables_eq_infoschema (c : Cat) : showTables c = (tablesView c).map (·.take 1) := by
  simp [showTables, tablesView, List.map_append, Function.comp_def]

/-- **COLUMNS lists exactly the columns of the existing tables.** -/
theorem columns_exact (keys : Tbl → List String) (c : Cat) (r : Row) :
    r ∈ columnsView keys c ↔ ∃ t ∈ c.tables, r ∈ columnRows keys t := by
  simp [columnsView, List.mem_flatMap]

/-- **STATISTICS / SHOW INDEX never name a column that does not exist**: in a well-formed catalog
(hence after any history) every row of the key views belongs to an existing table and names an
existing column of it. -/
theorem statistics_columns_exist (c : Cat) (hw : CatWF c) (r : Row) (h : r ∈ statisticsView c) :
    ∃ t ∈ c.tables, ∃ cn, r[0]? = some t.name ∧ r[4]? = some cn ∧ t.hasCol cn = true := by
  simp only [statisticsView, List.mem_flatMap, statRows, List.mem_map] at h
  obtain ⟨t, ht, i, hi, ⟨cn, k⟩, hck, rfl⟩ := h
  refine ⟨t, ht, cn, rfl, rfl, ?_⟩
  have hcn : cn ∈ i.cols := List.fst_mem_of_mem_zipIdx hck
  rcases mem_allIdxs.mp hi with ⟨rfl, _⟩ | hi'
  · exact (hw.tables t ht).1 cn hcn
  · exact (hw.tables t ht).2 i hi' cn hcn

/-- **TRIGGERS / SHOW TRIGGERS only list triggers of existing tables.** -/
theorem triggers_tables_exist (c : Cat) (hw : CatWF c) (r : Row) (h : r ∈ showTriggers c) :
    ∃ t ∈ c.tables, r[2]? = some t.name := by
  simp only [showTriggers, List.mem_map] at h
  obtain ⟨tr, htr, rfl⟩ := h
  obtain ⟨t, ht, hn⟩ := hw.trigs tr htr
  exact ⟨t, ht, by simp [hn]⟩

/-- **A dropped table disappears from every view**: no table of that name, no trigger on it, all
other tables and all views untouched. -/
theorem drop_table_removes (c c' : Cat) (n : String) (h : apply c (.dropTable n) = some c') :
    (∀ t ∈ c'.tables, t.name ≠ n) ∧ (∀ r ∈ showTriggers c', r[2]? ≠ some n) ∧ c'.views = c.views ∧
    (∀ t, t.name ≠ n → (t ∈ c'.tables ↔ t ∈ c.tables)) := by
  cases step_of_apply h with
  | alter _ _ a => nomatch a
  | dropTable =>
    refine ⟨fun t ht => (mem_filter_ne.mp ht).2, ?_, rfl, fun t hne => mem_filter_ne.trans (and_iff_left hne)⟩
    intro r hr
    simp only [showTriggers, List.mem_map] at hr
    obtain ⟨tr, htr, rfl⟩ := hr
    simpa using (mem_filter_ne.mp htr).2

/-- **Frame**: a statement about table `n` changes nothing about any other table, and never the views;
a rejected statement changes nothing at all (`applyAll` keeps the catalog). -/
theorem ddl_frame (c c' : Cat) (d : Ddl) (n : String) (hd : ddlTable d = some n) (h : apply c d = some c')
    (t' : Tbl) (hne : t'.name ≠ n) : (t' ∈ c'.tables ↔ t' ∈ c.tables) ∧ c'.views = c.views := by
  cases step_of_apply h with
  | createTable =>
    cases hd
    refine ⟨?_, rfl⟩
    simp only [List.mem_append, List.mem_singleton]
    exact ⟨fun h => h.resolve_right fun e => hne (e ▸ rfl), .inl⟩
  | dropTable => cases hd; exact ⟨mem_filter_ne.trans (and_iff_left hne), rfl⟩
  | alter hd' _ a => cases hd.symm.trans hd'; exact ⟨mem_updTable_other a.name hne, rfl⟩
  | _ => cases hd

def projCols : Row → Row
  | [_, n, _, nl, ty, k, d] => [n, ty, nl, k, d]
  | r => r

/-- **SHOW COLUMNS agrees with information_schema.COLUMNS** (the property's semantics: same key
rule, default printed the same way): it is the projection (name, type, null, key, default). -/
theorem show_columns_eq_infoschema (keys : Tbl → List String) (t : Tbl) :
    showColumns false keys t = (columnRows keys t).map projCols := by
  simp only [showColumns, columnRows, List.map_map, showDefault_false]
  -- `projCols` of a COLUMNS row is the SHOW COLUMNS row by computation, and that row does not use the index
  exact (map_zipIdx_fst _ _ 0).symm

/-- SHOW INDEX FROM t is the part of STATISTICS about t (same rows by construction of the model:
both come from `GetIndexes`). -/
theorem show_index_eq_statistics (c : Cat) : statisticsView c = c.tables.flatMap showIndex := rfl

/-- **SHOW CREATE TABLE prints every key in key order**: in a well-formed table the PRIMARY KEY clause
(built from the ordinals of the key columns) and the secondary key clauses list exactly the columns
of `GetIndexes`, in the order the key was declared — whatever the column order of the table is. -/
theorem show_create_keys_follow_key_order (t : Tbl) (hw : tblWF t) : showCreateKeys t = t.allIdxs.map keyLine := by
  unfold showCreateKeys Tbl.allIdxs
  rw [showCreatePk_eq_pk t hw.1, List.map_append]
  congr 1
  split <;> rfl

/-- STATISTICS / SHOW INDEX are the concatenation of the rows of each index of `GetIndexes` … -/
theorem statistics_by_index (t : Tbl) : statRows t = t.allIdxs.flatMap (statRowsOf t) := rfl

/-- … and the rows of one index name its columns in key order, numbered 1..n: the same list, in
the same order, as the key clause of SHOW CREATE TABLE (`keyLine i` prints `i.cols`). -/
theorem statistics_key_order (t : Tbl) (i : Idx) :
    (statRowsOf t i).map (fun r => r.getD 4 "") = i.cols ∧
    (statRowsOf t i).map (fun r => r.getD 3 "") = (List.range' 0 i.cols.length).map (fun k => toString (k + 1)) := by
  unfold statRowsOf
  simp only [List.map_map]
  exact ⟨(map_zipIdx_fst id i.cols 0).trans (List.map_id _), map_zipIdx_snd (fun k => toString (k + 1)) i.cols 0⟩

/-- KEY_COLUMN_USAGE numbers the columns of a unique key in the same order. -/
theorem key_column_usage_key_order (t : Tbl) :
    keyColumnRows t = (t.allIdxs.filter (·.unique)).flatMap fun i => i.cols.zipIdx.map fun (cn, k) => [i.name, t.name, cn, toString (k + 1)] := rfl

/-- **The key order is the declared order**: after ADD PRIMARY KEY (cols) the table's key is `cols`, as
written (after any history, and independently of the column order). -/
theorem addPk_declares_order (c c' : Cat) (tn : String) (cols : List String) (h : apply c (.addPk tn cols) = some c')
    (t' : Tbl) (ht' : t' ∈ c'.tables) (hn : t'.name = tn) : t'.pk = cols := by
  cases step_of_apply h with
  | alter hd _ a =>
    cases a; cases hd
    rcases mem_updTable.mp ht' with ⟨_, hne⟩ | ⟨t0, _, _, rfl⟩
    · exact absurd hn hne
    · rfl

example : (applyAll Cat.empty [.createTable ⟨"t", [⟨"a", "int", true, none⟩, ⟨"b", "int", true, none⟩, ⟨"c", "int", true, none⟩], ["b", "a"], []⟩,
    .dropPk "t", .addPk "t" ["c", "a"]]).tables.map showCreateKeys = [[["PRIMARY", "1", "c,a"]]] := by decide +kernel

/-- **Frame for the column order**: ADD COLUMN at any position changes no key of any table. -/
theorem addColumn_keeps_keys (c c' : Cat) (tn : String) (col : Col) (pos : Pos) (h : apply c (.addColumn tn col pos) = some c') :
    c'.tables.map (fun t => (t.name, t.pk, t.idxs)) = c.tables.map (fun t => (t.name, t.pk, t.idxs)) := by
  cases step_of_apply h with
  | alter _ _ a => cases a; exact updTable_map _ fun _ => rfl

/-- **Each ROUTINES row is a function of its own routine**: the listing the code computes (one loop over
the procedures sorted by name, three variables declared outside the loop) is, row by row, `routineRow`
of the procedure — IS_DETERMINISTIC / SQL_DATA_ACCESS / SECURITY_TYPE of one routine do not depend on
which other routines exist, nor on where it comes in the iteration. -/
theorem routines_rows_independent (c : Cat) : routinesView false c = routinesSpec c := by
  simp [routinesView, routinesSpec, routinesLoop_eq_map]

/-- The carried state is irrelevant: the loop gives the same rows from any starting values. -/
theorem routines_loop_state_irrelevant (ps : List Proc) (v w : RVars) : routinesLoop v ps = routinesLoop w ps := by
  rw [routinesLoop_eq_map, routinesLoop_eq_map]

example : routinesLoop ⟨"", "", ""⟩ [⟨"p_audit", [.det, .readsSql], true⟩, ⟨"p_plain", [], false⟩] =
    [["p_audit", "YES", "READS SQL DATA", "INVOKER"], ["p_plain", "NO", "CONTAINS SQL", "DEFINER"]] := by decide +kernel

/-- **ROUTINES lists exactly the existing procedures, each with its own row.** -/
theorem routines_exact (c : Cat) (r : Row) : r ∈ routinesView false c ↔ ∃ p ∈ c.procs, r = routineRow p := by
  rw [routines_rows_independent]
  simp only [routinesSpec, List.mem_map, mem_sortProcs, @eq_comm _ r]

/-- **Frame**: creating or dropping another procedure (or any other statement) leaves the row of an
existing procedure in the listing unchanged. -/
theorem routine_row_frame (c c' : Cat) (d : Ddl) (h : apply c d = some c') (p : Proc) (hp : p ∈ c.procs)
    (hd : d ≠ .dropProc p.name) : routineRow p ∈ routinesView false c' := by
  rw [routines_exact]
  refine ⟨p, ?_, rfl⟩
  cases step_of_apply h with
  | createProc => exact List.mem_append_left _ hp
  | dropProc => exact mem_filter_ne.mpr ⟨hp, fun e => hd (e ▸ rfl)⟩
  | _ => exact hp

/-- Procedure names stay unique after any history (a second CREATE PROCEDURE of a name is rejected). -/
theorem procs_unique_after_any_history (h : List Ddl) : ProcsNodup (applyAll Cat.empty h) :=
  applyAll_invariant (P := ProcsNodup) apply_procsNodup h List.nodup_nil

/-- SHOW PROCEDURE STATUS is a projection of ROUTINES (name, security type). -/
theorem show_proc_status_eq_routines (c : Cat) :
    showProcStatus (routinesView false c) = (sortProcs c.procs).map fun p => [p.name, if p.invoker then "INVOKER" else "DEFINER"] := by
  rw [routines_rows_independent]
  simp [showProcStatus, routinesSpec, routineRow, List.map_map, Function.comp_def]

/-- ROUTINES without a privilege set (account management disabled): empty although procedures exist. -/
theorem finding_no_privilege_set_routines_empty :
    let c : Cat := ⟨[], [], [], [⟨"p", [.det], false⟩]⟩
    routinesView true c = [] ∧ routinesSpec c = [["p", "YES", "CONTAINS SQL", "DEFINER"]] := by decide +kernel

theorem routines_eq_spec_partial (c : Cat) (privSetMissing : Bool) (h : privSetMissing = false) :
    routinesView privSetMissing c = routinesSpec c := by
  subst h; exact routines_rows_independent c

/-- COLUMN_KEY: `information_schema.columns` marks the second column of a non-unique index MUL and lets
the alphabetically last index win; SHOW COLUMNS (and MySQL) do not. -/
theorem finding_column_key_composite_or_shared_index :
    let t1 : Tbl := ⟨"t1", [⟨"a", "int", false, none⟩, ⟨"b", "varchar(20)", false, none⟩, ⟨"c", "int", true, none⟩], ["a"], [⟨"ib", false, ["b", "c"]⟩]⟩
    let t2 : Tbl := ⟨"t1", [⟨"a", "int", true, none⟩], [], [⟨"aa", true, ["a"]⟩, ⟨"zz", false, ["a"]⟩]⟩
    columnKeysImpl t1 = ["PRI", "MUL", "MUL"] ∧ columnKeysSpec t1 = ["PRI", "MUL", ""] ∧
    columnKeysImpl t2 = ["MUL"] ∧ columnKeysSpec t2 = ["UNI"] := by decide +kernel

/- Full statement (false, see above): theorem columnKeys_agree : columnKeysImpl t = columnKeysSpec t.
   It is proved for tables without any key (the guard is much stronger than the region the driver
   computes). Single-column, non-overlapping indexes do not suffice for agreement: without a primary key
   `getRowsFromTable` promotes the first UNIQUE NOT NULL column in column order, `isPriCol` only the column
   of the first unique index in `GetIndexes` order. For (a NULL, b NOT NULL, UNIQUE i1 (a), UNIQUE i2 (b))
   COLUMNS gives b → PRI, SHOW COLUMNS b → UNI. -/
theorem columnKeys_agree_partial (t : Tbl) (hp : t.pk = []) (hi : t.idxs = []) :
    columnKeysImpl t = columnKeysSpec t := by
  have hall : t.allIdxs = [] := by simp [Tbl.allIdxs, hp, hi, sortIdxs]
  have hm : keyMapImpl t = [] := by simp [keyMapImpl, hall]
  simp only [columnKeysImpl, columnKeysSpec, hm, hp]
  have : ∀ (cols : List Col) (b : Bool), columnKeysImplAux [] [] cols b = cols.map (showKey t) := by
    intro cols
    induction cols with
    | nil => intro b; rfl
    | cons c rest ih =>
      intro b
      simp only [columnKeysImplAux, List.contains_nil, Bool.false_eq_true, if_false, lookupLast, List.foldl_nil,
        List.map_cons, ih]
      congr 1
      simp [showKey, hp, isPriCol, isUnqCol, isMulCol, hall]
  exact this t.cols _

/-- TRIGGERS / VIEWS without a cached privilege set (account management disabled, the default
engine): empty although the objects exist. -/
theorem finding_no_privilege_set_views_triggers_empty :
    let c : Cat := ⟨[⟨"t", [⟨"a", "int", true, none⟩], [], []⟩], [⟨"v", "select 1"⟩], [⟨"tr", "t", "BEFORE", "INSERT"⟩], []⟩
    triggersView true c = [] ∧ showTriggers c ≠ [] ∧ viewsView true c = [] ∧ viewsRows c ≠ [] := by decide +kernel

theorem triggers_eq_show_triggers_partial (c : Cat) : triggersView false c = showTriggers c ∧ viewsView false c = viewsRows c :=
  ⟨rfl, rfl⟩

/-- SHOW COLUMNS prints the default of a string column with its quotes. -/
theorem finding_show_columns_string_default_quoted :
    let t : Tbl := ⟨"t", [⟨"c", "varchar(5)", true, some "x"⟩], [], []⟩
    showColumns true columnKeysSpec t = [["c", "varchar(5)", "YES", "", "'x'"]] ∧
    showColumns false columnKeysSpec t = [["c", "varchar(5)", "YES", "", "x"]] := by decide +kernel

theorem show_columns_default_partial (keys : Tbl → List String) (t : Tbl)
    (h : ∀ col ∈ t.cols, col.dflt = none ∨ isStringTy col.ty = false) :
    showColumns true keys t = showColumns false keys t := by
  simp only [showColumns]
  apply List.map_congr_left
  rintro ⟨col, key⟩ hm
  have hc : col ∈ t.cols := (List.of_mem_zip hm).1
  rcases h col hc with h | h <;> simp [showDefault, h]

end Gms.C43
