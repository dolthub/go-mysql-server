/-
C47 — In-memory indexed sets behave like sets.

Refinement: for every operation sequence the concrete `IndexedSet` (a list of multimaps, one per
keyer) agrees with an insertion-ordered bag `S`: every bucket of every index holds exactly the
elements of `S` with that key, in insertion order.
-/
import Gms.Model.ISet
import Gms.Generated.C47
import Gms.Lemmas.Basics

namespace Gms.ISet
variable {K V : Type} [DecidableEq K]

def MMap.keys (m : MMap K V) : List K := m.map (fun p => p.1)

omit [DecidableEq K] in
theorem keys_cons (p : K × List V) (m : MMap K V) : MMap.keys (p :: m) = p.1 :: MMap.keys m := rfl

theorem getMany_of_not_mem (m : MMap K V) (k : K) (h : k ∉ MMap.keys m) : m.getMany k = [] := by
  fun_induction MMap.getMany m k with
  | case1 => rfl
  | case2 vs rest k => exact absurd List.mem_cons_self h
  | case3 c vs rest k hc ih => exact ih fun hk => h (List.mem_cons_of_mem _ hk)

theorem getMany_of_mem (m : MMap K V) (k : K) (vs : List V) (h : (MMap.keys m).Nodup)
    (hm : (k, vs) ∈ m) : m.getMany k = vs := by
  fun_induction MMap.getMany m k with
  | case1 => simp at hm
  | case2 ws rest k =>
    rcases List.mem_cons.1 hm with e | hr
    · cases e; rfl
    · exact absurd (List.mem_map_of_mem (f := Prod.fst) hr) (List.nodup_cons.1 h).1
  | case3 c ws rest k hc ih =>
    rcases List.mem_cons.1 hm with e | hr
    · cases e; exact absurd rfl hc
    · exact ih (List.nodup_cons.1 h).2 hr

theorem getMany_put (m : MMap K V) (k k' : K) (v : V) :
    (m.put k v).getMany k' = if k = k' then m.getMany k' ++ [v] else m.getMany k' := by
  fun_induction MMap.put m k v with
  | case1 => simp [MMap.getMany]
  | case2 vs rest k v => simp only [MMap.getMany]; split <;> rfl
  | case3 c vs rest k v hc ih =>
    simp only [MMap.getMany, ih]
    split
    · next h => rw [if_neg (h ▸ Ne.symm hc)]
    · rfl

theorem keys_put (m : MMap K V) (k : K) (v : V) :
    MMap.keys (m.put k v) = if k ∈ MMap.keys m then MMap.keys m else MMap.keys m ++ [k] := by
  fun_induction MMap.put m k v with
  | case1 => rfl
  | case2 vs rest k v => simp [keys_cons]
  | case3 c vs rest k v hc ih =>
    simp only [keys_cons, List.mem_cons, Ne.symm hc, false_or, ih]
    split <;> rfl

theorem nodup_put (m : MMap K V) (k : K) (v : V) (h : (MMap.keys m).Nodup) :
    (MMap.keys (m.put k v)).Nodup := by
  rw [keys_put]
  split
  · exact h
  · next hk =>
    exact Basics.nodup_concat h hk

theorem keys_remove_sublist (eq : V → V → Bool) (m : MMap K V) (k : K) (v : V) :
    List.Sublist (MMap.keys (m.remove eq k v).1) (MMap.keys m) := by
  fun_induction MMap.remove eq m k v with
  | case1 => exact List.Sublist.refl _
  | case2 vs rest k v newvs =>
    dsimp only
    split
    · exact List.sublist_cons_self _ _
    · exact List.Sublist.refl _
  | case3 c vs rest k v hc r ih => exact List.Sublist.cons_cons _ ih

theorem getMany_remove (eq : V → V → Bool) (m : MMap K V) (k k' : K) (v : V)
    (h : (MMap.keys m).Nodup) :
    (m.remove eq k v).1.getMany k' =
      if k = k' then (m.getMany k').filter (fun vp => !eq v vp) else m.getMany k' := by
  fun_induction MMap.remove eq m k v with
  | case1 => simp [MMap.getMany]
  | case2 vs rest k v newvs =>
    -- a bucket that becomes empty is deleted; no later entry has its key
    have hrest := getMany_of_not_mem rest k (List.nodup_cons.1 h).1
    by_cases hk : k = k'
    · subst hk
      rw [if_pos rfl, MMap.getMany, if_pos rfl]
      split
      · next hemp => rw [hrest]; exact (List.isEmpty_iff.1 hemp).symm
      · rw [MMap.getMany, if_pos rfl]
    · split <;> simp [MMap.getMany, hk]
  | case3 c vs rest k v hc r ih =>
    have := ih (List.nodup_cons.1 h).2
    by_cases hk : c = k'
    · subst hk; simp [MMap.getMany, Ne.symm hc]
    · simpa [MMap.getMany, hk, r] using this

theorem remove_found (eq : V → V → Bool) (m : MMap K V) (k : K) (v : V) :
    (m.remove eq k v).2 = (m.getMany k).any (fun vp => eq v vp) := by
  fun_induction MMap.remove eq m k v with
  | case1 => rfl
  | case2 => simp [MMap.getMany]
  | case3 c vs rest k v hc r ih => simpa [MMap.getMany, hc] using ih

theorem count_eq_length (f : V → K) (m : MMap K V) (S : List V) (hnd : (MMap.keys m).Nodup)
    (hb : ∀ k, m.getMany k = S.filter fun w => decide (f w = k)) : m.count = S.length := by
  induction m generalizing S with
  | nil =>
    cases S with
    | nil => rfl
    | cons v S => simpa [MMap.getMany] using hb (f v)
  | cons p rest ih =>
    obtain ⟨k, vs⟩ := p
    obtain ⟨hk, hnd⟩ := List.nodup_cons.1 hnd
    -- the head bucket is the class of `k`; the other entries represent the rest of `S`
    have hvs := hb k
    rw [MMap.getMany, if_pos rfl] at hvs
    have hrest : MMap.count rest = (S.filter fun w => !decide (f w = k)).length := by
      refine ih _ hnd fun k' => ?_
      rw [List.filter_filter]
      by_cases hk' : k = k'
      · subst hk'
        rw [getMany_of_not_mem rest k hk]
        exact (List.filter_eq_nil_iff.2 fun w _ => by simp).symm
      · have := hb k'
        rw [MMap.getMany, if_neg hk'] at this
        rw [this]
        exact List.filter_congr fun w _ => by
          by_cases hw : f w = k'
          · simp [hw, Ne.symm hk']
          · simp [hw]
    have := (List.filter_append_perm (fun w => decide (f w = k)) S).length_eq
    rw [List.length_append] at this
    simp only [MMap.count, List.map_cons, List.sum_cons] at hrest ⊢
    rw [hrest, hvs, this]

/-- `EqCompat`: `Equals`-equal elements have the same key under every keyer (the API's implicit
precondition: `Remove` looks an element up under *its own* keys). -/
def EqCompat (eq : V → V → Bool) (keys : List (V → K)) : Prop :=
  ∀ f ∈ keys, ∀ v w, eq v w = true → f w = f v

structure IxInv (S : List V) (ix : Ix K V) : Prop where
  nodup : (MMap.keys ix.m).Nodup
  buckets : ∀ k, ix.m.getMany k = S.filter (fun w => decide (ix.key w = k))

/-- The concrete set `s` (with keyers `keys`) represents the bag `S`. -/
structure Agree (keys : List (V → K)) (s : ISet K V) (S : List V) : Prop where
  keyers : s.map (fun ix => ix.key) = keys
  inv : ∀ ix ∈ s, IxInv S ix

theorem IxInv.empty (f : V → K) : IxInv ([] : List V) { key := f, m := [] } :=
  ⟨List.nodup_nil, fun _ => rfl⟩

theorem IxInv.put {S : List V} {ix : Ix K V} (v : V) (h : IxInv S ix) :
    IxInv (S ++ [v]) { ix with m := ix.m.put (ix.key v) v } := by
  refine ⟨nodup_put _ _ _ h.nodup, fun k => ?_⟩
  simp only [getMany_put, h.buckets, List.filter_append, List.filter_cons, List.filter_nil]
  split <;> simp [*]

theorem IxInv.remove {eq : V → V → Bool} {S : List V} {ix : Ix K V} (v : V)
    (hc : ∀ w, eq v w = true → ix.key w = ix.key v) (h : IxInv S ix) :
    IxInv (S.filter fun w => !eq v w) { ix with m := (ix.m.remove eq (ix.key v) v).1 } := by
  refine ⟨(keys_remove_sublist ..).nodup h.nodup, fun k => ?_⟩
  simp only [getMany_remove eq ix.m _ k v h.nodup, h.buckets, List.filter_filter]
  split
  · exact List.filter_congr fun w _ => Bool.and_comm ..
  · next hk =>
    refine List.filter_congr fun w _ => ?_
    -- what the removal drops has the key of `v`, not `k`
    cases hq : eq v w with
    | false => simp
    | true => simp [hc w hq, hk]

theorem IxInv.get {eq : V → V → Bool} {S : List V} {ix : Ix K V} (v : V)
    (hc : ∀ w, eq v w = true → ix.key w = ix.key v) (h : IxInv S ix) :
    ix.m.get eq (ix.key v) v = S.find? fun w => eq v w := by
  rw [MMap.get, h.buckets, List.find?_filter]
  congr 1
  funext w
  cases he : eq v w with
  | false => simp
  | true => simp [hc w he]

theorem IxInv.found {eq : V → V → Bool} {S : List V} {ix : Ix K V} (v : V)
    (hc : ∀ w, eq v w = true → ix.key w = ix.key v) (h : IxInv S ix) :
    (ix.m.remove eq (ix.key v) v).2 = S.any fun w => eq v w := by
  rw [remove_found, ← List.isSome_find?, ← MMap.get, h.get v hc, List.isSome_find?]

theorem IxInv.count {S : List V} {ix : Ix K V} (h : IxInv S ix) : ix.m.count = S.length :=
  count_eq_length ix.key ix.m S h.nodup h.buckets

theorem Agree.key_mem {keys : List (V → K)} {s : ISet K V} {S : List V} (h : Agree keys s S)
    {ix : Ix K V} (hix : ix ∈ s) : ix.key ∈ keys :=
  h.keyers ▸ List.mem_map_of_mem hix

theorem Agree.map {keys : List (V → K)} {s : ISet K V} {S S' : List V} (h : Agree keys s S)
    {g : Ix K V → MMap K V} (hg : ∀ ix ∈ s, IxInv S ix → IxInv S' { ix with m := g ix }) :
    Agree keys (s.map fun ix => { ix with m := g ix }) S' := by
  constructor
  · rw [← h.keyers, List.map_map]; rfl
  · intro ix hix
    obtain ⟨ix0, h0, rfl⟩ := List.mem_map.1 hix
    exact hg ix0 h0 (h.inv ix0 h0)

theorem Agree.head {keys : List (V → K)} {s : ISet K V} {S : List V} (h : Agree keys s S)
    (hne : keys ≠ []) : ∃ ix rest, s = ix :: rest ∧ keys[0]? = some ix.key ∧ IxInv S ix := by
  cases s with
  | nil => exact absurd h.keyers.symm hne
  | cons ix rest => exact ⟨ix, rest, rfl, h.keyers ▸ rfl, h.inv ix List.mem_cons_self⟩

theorem agree_empty (keys : List (V → K)) : Agree keys (empty keys) ([] : List V) := by
  constructor
  · simp [empty, Function.comp_def]
  · intro ix hix
    obtain ⟨f, _, rfl⟩ := List.mem_map.1 hix
    exact IxInv.empty f

theorem agree_put {keys : List (V → K)} {s : ISet K V} {S : List V} (v : V)
    (h : Agree keys s S) : Agree keys (put s v) (S ++ [v]) :=
  h.map fun _ _ => IxInv.put v

theorem agree_remove {eq : V → V → Bool} {keys : List (V → K)} {s : ISet K V} {S : List V} (v : V)
    (hc : EqCompat eq keys) (h : Agree keys s S) :
    Agree keys (remove eq s v).1 (S.filter (fun w => !eq v w)) :=
  h.map fun _ hix => IxInv.remove v (hc _ (h.key_mem hix) v)

theorem agree_clear {keys : List (V → K)} {s : ISet K V} {S : List V}
    (h : Agree keys s S) : Agree keys (clear s) [] :=
  h.map fun ix _ _ => IxInv.empty ix.key

theorem agree_remove_fold {eq : V → V → Bool} {keys : List (V → K)} (vs : List V) {s : ISet K V}
    {S : List V} (hc : EqCompat eq keys) (h : Agree keys s S) :
    Agree keys (vs.foldl (fun s v => (remove eq s v).1) s)
      (vs.foldl (fun S v => S.filter (fun w => !eq v w)) S) :=
  List.foldl_rel h fun v _ _ _ => agree_remove v hc

theorem Agree.getMany {keys : List (V → K)} {s : ISet K V} {S : List V} (i : Nat) (k : K)
    (h : Agree keys s S) :
    ISet.getMany s i k = match keys[i]? with
      | some f => S.filter (fun w => decide (f w = k))
      | none => [] := by
  unfold ISet.getMany
  have hk : keys[i]? = (s[i]?).map (fun ix => ix.key) := by
    rw [← h.keyers]; simp
  rw [hk]
  cases hs : s[i]? with
  | none => simp
  | some ix =>
    have hm : ix ∈ s := List.mem_of_getElem? hs
    simp [(h.inv ix hm).buckets k]

theorem agree_removeMany {eq : V → V → Bool} {keys : List (V → K)} {s : ISet K V} {S : List V}
    (i : Nat) (k : K) (hc : EqCompat eq keys) (h : Agree keys s S) :
    Agree keys (removeMany eq s i k) (specStep eq keys S (.removeMany i k)) := by
  simp only [specStep, removeMany]
  rw [h.getMany i k]
  cases keys[i]? with
  | none => simpa using h
  | some f => exact agree_remove_fold _ hc h

theorem agree_step {eq : V → V → Bool} {keys : List (V → K)} {s : ISet K V} {S : List V}
    (op : Op K V) (hc : EqCompat eq keys) (h : Agree keys s S) :
    Agree keys (step eq s op) (specStep eq keys S op) := by
  cases op with
  | put v => exact agree_put v h
  | remove v => exact agree_remove v hc h
  | removeMany i k => exact agree_removeMany i k hc h
  | clear => exact agree_clear h

end Gms.ISet

namespace Gms.C47
open Gms.ISet
variable {K V : Type} [DecidableEq K]

/-- Shape facts read from the source on this run: `IndexedSet.Put/Remove` loop over *all*
keyers, `Get`/`Count` use the first index, `RemoveMany` iterates a *copy* of the bucket. -/
theorem facts_match :
    Gms.Generated.C47.putLoopsOverKeyers = true ∧ Gms.Generated.C47.removeLoopsOverKeyers = true ∧
    Gms.Generated.C47.getManyCopies = true ∧ Gms.Generated.C47.removeManyUsesGetMany = true ∧
    Gms.Generated.C47.insertChecksFirstKeyer = true :=
  ⟨rfl, rfl, rfl, rfl, rfl⟩

/-- Refinement, for every operation sequence: starting from the empty set, the concrete
indexed set agrees with the bag obtained by running the same operations on the Spec. -/
theorem agree_reachable (eq : V → V → Bool) (keys : List (V → K)) (hc : EqCompat eq keys)
    (ops : List (Op K V)) :
    Agree keys (ops.foldl (step eq) (empty keys)) (ops.foldl (specStep eq keys) []) :=
  List.foldl_rel (agree_empty keys) fun op _ _ _ => agree_step op hc

/-- For every key of every index, `GetMany` returns exactly the elements currently stored under
that key (in insertion order). -/
theorem getMany_spec (keys : List (V → K)) (s : ISet K V) (S : List V) (i : Nat) (k : K)
    (f : V → K) (h : Agree keys s S) (hi : keys[i]? = some f) :
    getMany s i k = S.filter (fun w => decide (f w = k)) := by
  rw [h.getMany i k, hi]

/-- `Count` is the number of stored elements (when there is at least one index). -/
theorem count_spec (keys : List (V → K)) (s : ISet K V) (S : List V) (h : Agree keys s S)
    (hne : keys ≠ []) : count s = S.length := by
  obtain ⟨ix, rest, rfl, _, i0⟩ := h.head hne
  exact i0.count

/-- `Get` returns the first stored element `Equals`-equal to the argument, if any. -/
theorem get_spec (eq : V → V → Bool) (keys : List (V → K)) (s : ISet K V) (S : List V) (v : V)
    (hc : EqCompat eq keys) (h : Agree keys s S) (hne : keys ≠ []) :
    get eq s v = S.find? (fun w => eq v w) := by
  obtain ⟨ix, rest, rfl, hf, i0⟩ := h.head hne
  exact i0.get v (hc _ (List.mem_of_getElem? hf) v)

/-- `Remove` reports "found" iff some stored element is `Equals`-equal to the argument. -/
theorem remove_found_spec (eq : V → V → Bool) (keys : List (V → K)) (s : ISet K V) (S : List V)
    (v : V) (hc : EqCompat eq keys) (h : Agree keys s S) (hne : keys ≠ []) :
    (remove eq s v).2 = S.any (fun w => eq v w) := by
  -- every index reports the same flag; `hne` makes the list of indexes a cons, where `any` of a constant is that constant
  obtain ⟨ix, rest, rfl, -, -⟩ := h.head hne
  rw [remove, Basics.any_congr_mem fun i hi => (h.inv i hi).found v (hc _ (h.key_mem hi) v)]
  simp

/-- Editor layer: `Insert` keeps first-key buckets at size ≤ 1 (primary-key behaviour). -/
theorem edInsert_firstKey_unique (keys : List (V → K)) (s s' : ISet K V) (S : List V) (e : V)
    (f : V → K) (h : Agree keys s S) (h0 : keys[0]? = some f)
    (huniq : ∀ k, (S.filter (fun w => decide (f w = k))).length ≤ 1)
    (hins : edInsert s e = .ok s') :
    Agree keys s' (S ++ [e]) ∧ ∀ k, ((S ++ [e]).filter (fun w => decide (f w = k))).length ≤ 1 := by
  obtain ⟨ix, rest, rfl, hf, -⟩ := h.head fun hk => by simp [hk] at h0
  obtain rfl : ix.key = f := Option.some.inj (hf.symm.trans h0)
  simp only [edInsert, getMany_spec keys _ S 0 _ _ h h0, List.isEmpty_iff] at hins
  split at hins
  · next hemp =>
    cases hins
    refine ⟨agree_put e h, fun k => ?_⟩
    rw [List.filter_append]
    by_cases hk : ix.key e = k
    · subst hk; simp [hemp]
    · simpa [hk] using huniq k
  · cases hins

/-- Non-vacuity: two keyers on pairs, `Equals` = equality of pairs, a concrete history. -/
example :
    let keys : List (Nat × Nat → Nat) := [Prod.fst, Prod.snd]
    let ops : List (Op Nat (Nat × Nat)) := [.put (1, 2), .put (1, 3), .put (2, 2), .remove (1, 3), .removeMany 1 2]
    let s := ops.foldl (step (fun a b => decide (a = b))) (empty keys)
    getMany s 0 1 = [] ∧ count s = 0 ∧ ops.foldl (specStep (fun a b => decide (a = b)) keys) [] = [] := by
  decide

example : EqCompat (fun (a b : Nat × Nat) => decide (a = b)) [Prod.fst, Prod.snd] := by
  intro f _ v w h
  simp only [decide_eq_true_eq] at h
  rw [h]

end Gms.C47
