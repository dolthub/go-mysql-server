/-
C49 — Name suggestions pick a closest candidate.

The two-row DP is compared row by row with the recursive distance (`rowSpec`); `Find` through the
invariant of its loop (`FindInv`: `minDistance` is a `List.min?`), whose outcome is the closed form
`find_eq`.
-/
import Gms.Model.Similar
import Gms.Generated.C49

namespace Gms.Similar
variable {α : Type} [DecidableEq α]

/-- Values of `f` on the reversed prefixes of `t` stacked on `acc`, without the first. -/
def tailSpec (f : List α → Nat) : List α → List α → List Nat
  | _, [] => []
  | acc, b :: t => f (b :: acc) :: tailSpec f (b :: acc) t

def rowSpec (f : List α → Nat) (acc t : List α) : List Nat := f acc :: tailSpec f acc t

theorem lev_nil_right (sub : Nat) (s : List α) : lev sub s [] = s.length := by
  induction s with
  | nil => rfl
  | cons a s ih => simp [lev, levRow, ih]

theorem nextRowAux_spec (sub : Nat) (a : α) (f : List α → Nat) (t acc : List α) :
    nextRowAux sub a t (f acc :: tailSpec f acc t) (levRow sub a f acc)
      = tailSpec (levRow sub a f) acc t := by
  induction t generalizing acc with
  | nil => rfl
  | cons b t ih =>
    simp only [tailSpec, nextRowAux]
    -- the cell the inner loop computes is the `b :: acc` equation of `levRow`: the new head and the new `left`
    exact congrArg _ (ih (b :: acc))

theorem nextRow_spec (sub : Nat) (a : α) (f : List α → Nat) (t acc : List α) :
    nextRow sub a t (rowSpec f acc t) (levRow sub a f acc) = rowSpec (levRow sub a f) acc t := by
  rw [nextRow, rowSpec, nextRowAux_spec, rowSpec]

/-- The loop counter `i` is carried as column 0 of the current row, `lev sub p []` (which is
`p.length`, `lev_nil_right`), so that one outer iteration is `nextRow_spec` as it stands. -/
theorem rows_spec (sub : Nat) (t s p : List α) :
    rows sub t s (rowSpec (lev sub p) [] t) (lev sub p []) = rowSpec (lev sub (s.reverse ++ p)) [] t := by
  induction s generalizing p with
  | nil => rfl
  | cons a s ih =>
    rw [rows, List.reverse_cons, List.append_assoc]
    -- `lev sub (a :: p)` unfolds to `levRow sub a (lev sub p)`, and that at `[]` to the next counter
    exact nextRow_spec sub a (lev sub p) t [] ▸ ih (a :: p)

omit [DecidableEq α] in
theorem tailSpec_length_eq_range' (acc t : List α) :
    tailSpec (fun x => x.length) acc t = List.range' (acc.length + 1) t.length := by
  induction t generalizing acc with
  | nil => simp [tailSpec]
  | cons b t ih => simp [tailSpec, ih, List.range'_succ]

theorem range_eq_rowSpec (sub : Nat) (t : List α) :
    List.range (t.length + 1) = rowSpec (lev sub ([] : List α)) [] t := by
  have e : lev sub ([] : List α) = fun x => x.length := by funext x; simp [lev]
  rw [e, rowSpec, tailSpec_length_eq_range', List.range_eq_range', List.range'_succ]
  simp

omit [DecidableEq α] in
theorem rowSpec_getLast (f : List α → Nat) (acc t : List α) :
    (rowSpec f acc t).getLast? = some (f (t.reverse ++ acc)) := by
  unfold rowSpec
  induction t generalizing acc with
  | nil => simp [tailSpec]
  | cons b t ih =>
    simp only [tailSpec]
    rw [List.getLast?_cons_cons, ih]
    simp

theorem mapGet_mapAppend {β : Type} (m : List (Nat × List β)) (d d' : Nat) (x : β) :
    mapGet (mapAppend m d x) d' = if d = d' then mapGet m d' ++ [x] else mapGet m d' := by
  fun_induction mapAppend m d x with
  | case1 => simp [mapGet]
  | case2 xs rest => simp only [mapGet]; split <;> rfl
  | case3 c xs rest hc ih =>
    simp only [mapGet, ih]
    split
    · next h => rw [if_neg (h ▸ Ne.symm hc)]
    · rfl

theorem min?_concat (l : List Nat) (d : Nat) :
    (l ++ [d]).min? = some (l.min?.elim d (min · d)) := by
  cases l with
  | nil => rfl
  | cons x l => rw [List.cons_append, List.min?_cons', List.min?_cons', List.foldl_append]; rfl

/-- Loop invariant of `Find` after the names `q`: `minDistance` is the least distance below the
threshold, and below the threshold `matchMap[d]` holds the names at distance `d`, in input order. -/
structure FindInv {β : Type} (dist : β → Nat) (skip : Nat) (q : List β) (st : FindState β) : Prop where
  minD : st.minD = ((q.filter fun n => dist n < skip).map dist).min?
  get : ∀ d, d < skip → mapGet st.m d = q.filter fun n => decide (dist n = d)

theorem findStep_inv {β : Type} (dist : β → Nat) (skip : Nat) (q : List β) (st : FindState β)
    (n : β) (h : FindInv dist skip q st) : FindInv dist skip (q ++ [n]) (findStep dist skip st n) := by
  obtain ⟨hm, hg⟩ := h
  unfold findStep
  by_cases hs : dist n ≥ skip
  · have : ¬ dist n < skip := Nat.not_lt.2 hs
    simp only [hs, if_true]
    refine ⟨by simp [hm, List.filter_append, this], fun d hd => ?_⟩
    have : ¬ dist n = d := by omega
    simp [hg d hd, List.filter_append, this]
  · have hlt : dist n < skip := Nat.lt_of_not_le hs
    simp only [hs, if_false]
    refine ⟨?_, fun d hd => ?_⟩
    · simp only [List.filter_append, List.filter_cons, List.filter_nil, hlt, decide_true, if_true,
        List.map_append, List.map_cons, List.map_nil, min?_concat, ← hm]
      cases st.minD with
      | none => rfl
      | some m =>
        simp only [Option.elim_some]
        split
        · next hd => exact congrArg some (Nat.min_eq_right (Nat.le_of_lt hd)).symm
        · next hd => exact congrArg some (Nat.min_eq_left (Nat.not_lt.1 hd)).symm
    · rw [mapGet_mapAppend, hg d hd, List.filter_append]
      by_cases hnd : dist n = d <;> simp [hnd]

theorem foldl_prefix_inv {α β : Type} (f : β → α → β) (P : List α → β → Prop)
    (hstep : ∀ q b a, P q b → P (q ++ [a]) (f b a)) (p q : List α) (b : β) (h : P q b) :
    P (q ++ p) (p.foldl f b) := by
  induction p generalizing q b with
  | nil => simpa using h
  | cons a p ih => simpa using ih (q ++ [a]) (f b a) (hstep q b a h)

/-- `false`: the name looked up is not empty. -/
theorem find_eq {β : Type} (dist : β → Nat) (skip : Nat) (names : List β) :
    find dist skip false names = ((names.filter fun n => dist n < skip).map dist).min?.map fun d =>
      names.filter fun n => decide (dist n = d) := by
  have inv := foldl_prefix_inv _ _ (findStep_inv dist skip) names [] { minD := none, m := [] }
    ⟨rfl, fun _ _ => rfl⟩
  rw [List.nil_append] at inv
  simp only [find, Bool.false_eq_true, if_false]
  cases hm : (List.foldl (findStep dist skip) { minD := none, m := [] } names).minD with
  | none => rw [← inv.minD, hm]; rfl
  | some d =>
    -- the least distance comes from a name below the threshold
    have hd := List.min?_mem (inv.minD ▸ hm)
    simp only [List.mem_map, List.mem_filter, decide_eq_true_eq] at hd
    obtain ⟨x, ⟨_, hx⟩, rfl⟩ := hd
    rw [← inv.minD, hm]
    exact congrArg some (inv.get _ hx)

end Gms.Similar

namespace Gms.C49
open Gms.Similar

/-- The substitution cost and threshold the model is instantiated with are the ones the
extractor read from the source on this run. -/
theorem facts_match : Gms.Generated.C49.substitutionCost = 2 ∧ Gms.Generated.C49.distanceSkipped = 3
    ∧ Gms.Generated.C49.skipComparison = ">=" ∧ Gms.Generated.C49.insertDeleteCosts = [1, 1] :=
  ⟨rfl, rfl, rfl, rfl⟩

/-- `distanceForStrings` (two-row DP) computes the recursive edit distance, for all strings. -/
theorem dp_eq_rec {α : Type} [DecidableEq α] (sub : Nat) (s t : List α) :
    distDP sub s t = lev sub s.reverse t.reverse := by
  -- the initial counter `lev sub [] []` of `rows_spec` is `0` by unfolding
  have h : rows sub t s (rowSpec (lev sub []) [] t) 0 = _ := rows_spec sub t s []
  rw [distDP, range_eq_rowSpec sub t, h, rowSpec_getLast]
  simp

/-- The recursive distance is a genuine distance-like function: zero on equal strings. -/
theorem lev_self {α : Type} [DecidableEq α] (sub : Nat) (s : List α) : lev sub s s = 0 := by
  induction s with
  | nil => rfl
  | cons a s ih => simp [lev, levRow, cost, ih]

/-- `Find` suggests nothing iff the name is empty or no candidate is within the threshold. -/
theorem find_none_iff {β : Type} (dist : β → Nat) (skip : Nat) (e : Bool) (names : List β) :
    find dist skip e names = none ↔ e = true ∨ ∀ n ∈ names, skip ≤ dist n := by
  cases e with
  | true => simp [find]
  | false => simp [find_eq, List.filter_eq_nil_iff]

/-- Completeness: *all* closest candidates are suggested, in input order, and the list is
non-empty. -/
theorem find_complete {β : Type} (dist : β → Nat) (skip : Nat) (e : Bool) (names l : List β)
    (h : find dist skip e names = some l) :
    l ≠ [] ∧ ∃ d, d < skip ∧ (∀ n ∈ names, dist n < skip → d ≤ dist n) ∧
      l = names.filter (fun n => decide (dist n = d)) := by
  cases e with
  | true => simp [find] at h
  | false =>
    rw [find_eq, Option.map_eq_some_iff] at h
    obtain ⟨d, hd, rfl⟩ := h
    simp only [List.min?_eq_some_iff, List.mem_map, List.mem_filter, decide_eq_true_eq] at hd
    obtain ⟨⟨x, ⟨hx, hxs⟩, rfl⟩, hmin⟩ := hd
    exact ⟨List.ne_nil_of_mem (List.mem_filter.2 ⟨hx, decide_eq_true rfl⟩), _, hxs,
      fun n hn hns => hmin _ ⟨n, ⟨hn, hns⟩, rfl⟩, rfl⟩

/-- Soundness: every suggested name is a candidate within the threshold whose distance is
minimal among all candidates within the threshold. -/
theorem find_sound {β : Type} (dist : β → Nat) (skip : Nat) (e : Bool) (names l : List β)
    (h : find dist skip e names = some l) :
    ∀ x ∈ l, x ∈ names ∧ dist x < skip ∧ ∀ n ∈ names, dist n < skip → dist x ≤ dist n := by
  obtain ⟨_, d, hds, hmin, rfl⟩ := find_complete dist skip e names l h
  intro x hx
  simp only [List.mem_filter, decide_eq_true_eq] at hx
  obtain ⟨hxn, rfl⟩ := hx
  exact ⟨hxn, hds, hmin⟩

/-- Non-vacuity: a concrete candidate list where two names tie for the minimum. -/
example : find (fun (n : List Nat) => lev 2 n.reverse [1, 2, 3].reverse) 3 false
    [[1, 2, 3, 4], [9, 9, 9, 9, 9], [1, 2], [7]] = some [[1, 2, 3, 4], [1, 2]] := by
  decide

example : distDP 2 [1, 2, 3, 4] [1, 2, 3] = 1 ∧ distDP 2 [1, 2] [1, 3] = 2 := by decide

end Gms.C49
