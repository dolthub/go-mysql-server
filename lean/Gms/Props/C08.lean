/-
C08 — Aggregate and window functions compute their defined values.

Model: Gms/Model/Window.lean (framers, framed aggregates, rank family, NTILE, LAG/LEAD, the
sort/partition pipeline), Gms/Model/GroupAgg.lean (GROUP BY buffers) and Gms/Model/DecAgg.lean (buffers
over shared DECIMAL objects). The aggregation loops as folds are in Gms/Lemmas/GroupAgg.lean, the object
buffers in Gms/Lemmas/DecAgg.lean. The prefix tables of the framed aggregates (`prefixSums`, `prefixCounts`, `prefixNulls`,
`computePrefixSum`, `nonNullCnt`, `sliceRel`) are characterised at the head of this file, in the root namespace beside `sum0`.
-/
import Gms.Model.Window
import Gms.Model.GroupAgg
import Gms.Model.DecAgg
import Gms.Lemmas.GroupAgg
import Gms.Lemmas.DecAgg
import Gms.Generated.C08
open Gms.Window

/-- sum with NULL counted as 0 (what `floatPrefixSum` accumulates) -/
def sum0 (xs : List Val) : Int := (xs.map (·.getD 0)).sum

/-- the number of non-NULL values, as the integer `countPrefixSum` accumulates -/
def cntSome (xs : List Val) : Int := (nonNull xs).length

theorem sum0_nil : sum0 [] = 0 := rfl
theorem sum0_cons (v : Val) (xs : List Val) : sum0 (v :: xs) = v.getD 0 + sum0 xs := by simp [sum0]
theorem sum0_append (xs ys : List Val) : sum0 (xs ++ ys) = sum0 xs + sum0 ys := by
  simp [sum0, List.sum_append]

theorem sum0_eq_nonNull (xs : List Val) : sum0 xs = (nonNull xs).sum := by
  induction xs with
  | nil => rfl
  | cons v xs ih => cases v <;> simp [sum0_cons, ih]

theorem cntSome_append (xs ys : List Val) : cntSome (xs ++ ys) = cntSome xs + cntSome ys := by simp [cntSome]

theorem prefixSums_getD : ∀ (xs : List Val) (c : Int) (a : Nat), a ≤ xs.length →
    (c :: prefixSums xs c).getD a 0 = c + sum0 (xs.take a)
  | _, c, 0, _ => by simp [sum0]
  | [], _, a + 1, h => by simp at h
  | v :: xs, c, a + 1, h => by
    rw [List.getD_cons_succ, prefixSums, prefixSums_getD xs _ a (by simpa using h), List.take_succ_cons, sum0_cons,
      Int.add_assoc]

theorem prefixCounts_getD : ∀ (xs : List Val) (c : Int) (a : Nat), a ≤ xs.length →
    (c :: prefixCounts xs c).getD a 0 = c + cntSome (xs.take a)
  | _, c, 0, _ => by simp [cntSome]
  | [], _, a + 1, h => by simp at h
  | v :: xs, c, a + 1, h => by
    rw [List.getD_cons_succ, prefixCounts, prefixCounts_getD xs _ a (by simpa using h), List.take_succ_cons]
    cases v <;> simp [cntSome] <;> omega

theorem prefixNulls_getD : ∀ (xs : List Val) (c : Nat) (a : Nat), a ≤ xs.length →
    (c :: prefixNulls xs c).getD a 0 + (nonNull (xs.take a)).length = c + a
  | _, c, 0, _ => by simp
  | [], _, a + 1, h => by simp at h
  | v :: xs, c, a + 1, h => by
    have := prefixNulls_getD xs (if v.isNone then c + 1 else c) a (by simpa using h)
    rw [List.getD_cons_succ, prefixNulls, List.take_succ_cons]
    cases v <;> simp at this ⊢ <;> omega

theorem prefixIdx_eq (ps k : Nat) : ((ps + k : Nat) : Int) - ps - 1 = (k : Int) - 1 := by omega

/-- Go reads `prefixSum[i - ps - 1]`, and 0 when that index is negative: the table with a 0 in front, read at `i - ps` -/
theorem computePrefixSum_read (pre : List Int) (ps a b : Nat) :
    computePrefixSum ((ps + a : Nat) : Int) ((ps + b : Nat) : Int) ps pre = (0 :: pre).getD b 0 - (0 :: pre).getD a 0 := by
  simp only [computePrefixSum, prefixIdx_eq]
  cases a <;> cases b <;> simp <;> omega

theorem slice_measure (F : List Val → Int) (hFapp : ∀ x y, F (x ++ y) = F x + F y) (xs : List Val) (a b : Nat)
    (hab : a ≤ b) : F (xs.take b) = F (xs.take a) + F ((xs.drop a).take (b - a)) := by
  rw [← hFapp, ← List.take_add, show a + (b - a) = b by omega]

theorem computePrefixSum_slice (F : List Val → Int) (hFapp : ∀ x y, F (x ++ y) = F x + F y) {pre : List Int} (xs : List Val)
    (hpre : ∀ a, a ≤ xs.length → (0 :: pre).getD a 0 = F (xs.take a)) (ps a b : Nat) (hab : a ≤ b) (hb : b ≤ xs.length) :
    computePrefixSum ((ps + a : Nat) : Int) ((ps + b : Nat) : Int) ps pre = F ((xs.drop a).take (b - a)) := by
  rw [computePrefixSum_read, hpre b hb, hpre a (by omega), slice_measure F hFapp xs a b hab]
  omega

theorem prefixSums_slice (xs : List Val) (ps a b : Nat) (hab : a ≤ b) (hb : b ≤ xs.length) :
    computePrefixSum ((ps + a : Nat) : Int) ((ps + b : Nat) : Int) ps (prefixSums xs 0)
      = (nonNull ((xs.drop a).take (b - a))).sum :=
  (computePrefixSum_slice sum0 sum0_append xs (fun a ha => by simpa using prefixSums_getD xs 0 a ha)
    ps a b hab hb).trans (sum0_eq_nonNull _)

theorem prefixCounts_slice (xs : List Val) (ps a b : Nat) (hab : a ≤ b) (hb : b ≤ xs.length) :
    computePrefixSum ((ps + a : Nat) : Int) ((ps + b : Nat) : Int) ps (prefixCounts xs 0)
      = (nonNull ((xs.drop a).take (b - a))).length :=
  computePrefixSum_slice cntSome cntSome_append xs (fun a ha => by simpa using prefixCounts_getD xs 0 a ha)
    ps a b hab hb

/-- `AvgAgg.Compute` gets the non-NULL count as length minus NULLs, from the table of NULL counts read the same way -/
theorem nonNullCnt_read (nulls : List Nat) (ps a b : Nat) :
    nonNullCnt ((ps + a : Nat) : Int) ((ps + b : Nat) : Int) ps nulls
      = ((b : Int) - ((0 :: nulls).getD b 0 : Nat)) - ((a : Int) - ((0 :: nulls).getD a 0 : Nat)) := by
  simp only [nonNullCnt, prefixIdx_eq]
  cases a <;> cases b <;> simp <;> omega

theorem nonNullCnt_eq (xs : List Val) (ps a b : Nat) (hab : a ≤ b) (hb : b ≤ xs.length) :
    nonNullCnt ((ps + a : Nat) : Int) ((ps + b : Nat) : Int) ps (prefixNulls xs 0)
      = (nonNull ((xs.drop a).take (b - a))).length := by
  have na := prefixNulls_getD xs 0 a (by omega)
  have nb := prefixNulls_getD xs 0 b hb
  have := slice_measure cntSome cntSome_append xs a b hab
  rw [nonNullCnt_read]
  simp only [cntSome] at this
  omega

theorem sliceRel_eq (xs : List Val) (ps a b : Nat) (hab : a ≤ b) :
    sliceRel xs ps ((ps + a : Nat) : Int) ((ps + b : Nat) : Int) = (xs.drop a).take (b - a) := by
  unfold sliceRel
  by_cases h : a = b
  · subst h; simp
  · rw [if_neg (by omega), show (((ps + a : Nat) : Int) - (ps : Int)).toNat = a by omega,
      show (((ps + b : Nat) : Int) - ((ps + a : Nat) : Int)).toNat = b - a by omega]

namespace Gms.C08

/-- `rowFramerBase.Next` clamps the start to the end as its last step -/
theorem clampStart_le (s e : Int) : (if s > e then e else s) ≤ e := by split <;> omega

/-- … and no position gets in or out by that -/
theorem clampStart_mem (s e j : Int) : ((if s > e then e else s) ≤ j ∧ j < e) ↔ (s ≤ j ∧ j < e) := by
  split <;> omega

/-- the signed offset both `NewFramer`s derive from a bound: `rowFramerBase` adds it to the row index (`n PRECEDING` with
`n = 0` reads as unset there, which is 0 as well), `rangeFramerBase` to the order key -/
def rowOff : Bound → Int
  | .prec n => -(n : Int)
  | .foll n => n
  | _ => 0

theorem cfgOfBounds_rows (lo hi : Bound) (hlo : lo.validLo = true) (hhi : hi.validHi = true) :
    (cfgOfBounds lo hi).unbPrec = decide (lo = .up) ∧ (cfgOfBounds lo hi).startOffset = rowOff lo ∧
    (cfgOfBounds lo hi).unbFoll = decide (hi = .uf) ∧ (cfgOfBounds lo hi).endOffset = rowOff hi := by
  cases lo <;> cases hi <;> simp [Bound.validLo, Bound.validHi] at hlo hhi <;>
    simp [cfgOfBounds, RowCfg.startOffset, RowCfg.endOffset, rowOff] <;> omega

/-- the left side is `newStart` of `rowsInterval` for the configuration of `lo` (`cfgOfBounds_rows`), clamped to the partition start -/
theorem rowsStart_le (lo : Bound) (hlo : lo.validLo = true) (ps i j : Nat) :
    (if lo = .up ∨ (i : Int) + rowOff lo < ps then (ps : Int) else i + rowOff lo) ≤ j ↔ ps ≤ j ∧ lo.loOK i j = true := by
  cases lo <;> simp [Bound.validLo] at hlo <;> simp [rowOff, Bound.loOK] <;> split <;> omega

/-- the right side of `<` is `newEnd` of `rowsInterval` for the configuration of `hi`, clamped to the partition end -/
theorem rowsEnd_lt (hi : Bound) (hhi : hi.validHi = true) (pe i j : Nat) :
    (j : Int) < (if hi = .uf ∨ (i : Int) + rowOff hi + 1 > pe then (pe : Int) else i + rowOff hi + 1)
      ↔ j < pe ∧ hi.hiOK i j = true := by
  cases hi <;> simp [Bound.validHi] at hhi <;> simp [rowOff, Bound.hiOK] <;> split <;> omega

theorem rowsInterval_mem (lo hi : Bound) (hlo : lo.validLo = true) (hhi : hi.validHi = true)
    (ps pe i j : Nat) (h1 : ps ≤ i) (h2 : i < pe) :
    ((rowsInterval (cfgOfBounds lo hi) ps pe i).1 ≤ (j : Int) ∧ (j : Int) < (rowsInterval (cfgOfBounds lo hi) ps pe i).2)
      ↔ rowsMem lo hi ps pe i j = true := by
  simp only [rowsInterval, cfgOfBounds_rows lo hi hlo hhi, Bool.or_eq_true, decide_eq_true_eq]
  rw [clampStart_mem, rowsStart_le lo hlo ps i j, rowsEnd_lt hi hhi pe i j]
  simp only [rowsMem, Bool.and_eq_true, decide_eq_true_eq]
  exact ⟨fun ⟨⟨a, b⟩, c, d⟩ => ⟨⟨⟨a, c⟩, b⟩, d⟩, fun ⟨⟨⟨a, c⟩, b⟩, d⟩ => ⟨⟨a, b⟩, c, d⟩⟩

theorem rowsNext_some (c : RowCfg) (ps pe idx : Nat) (h : idx < pe) :
    rowsNext c ps pe idx = some (rowsInterval c ps pe idx, (idx : Int) + 1) := by
  unfold rowsNext
  rw [if_neg (by omega), if_neg (by omega)]

theorem rowsNext_eof (c : RowCfg) (ps pe : Nat) : rowsNext c ps pe pe = none := by
  unfold rowsNext
  split
  · rfl
  · rw [if_pos (by omega)]

theorem rowsStream_eq_aux (c : RowCfg) (ps pe : Nat) :
    ∀ (n idx : Nat), idx + n = pe →
      rowsStream c ps pe n idx = (List.range n).map (fun d => rowsInterval c ps pe ((idx + d : Nat) : Int)) := by
  intro n
  induction n with
  | zero => intro idx _; simp [rowsStream]
  | succ n ih =>
    intro idx h
    rw [rowsStream, rowsNext_some c ps pe idx (by omega)]
    simp only
    rw [show (idx : Int) + 1 = ((idx + 1 : Nat) : Int) by omega, ih (idx + 1) (by omega), List.range_succ_eq_map]
    simp [List.map_map, Function.comp_def, Nat.add_assoc, Nat.add_comm 1]

/-- the partition iterator gets exactly one interval per row of the partition, in row order,
and then `io.EOF` -/
theorem rowsStream_eq (c : RowCfg) (ps pe : Nat) (h : ps ≤ pe) :
    rowsStream c ps pe (pe - ps) ps = (List.range (pe - ps)).map (fun d => rowsInterval c ps pe ((ps + d : Nat) : Int)) :=
  rowsStream_eq_aux c ps pe (pe - ps) ps (by omega)

theorem rowsInterval_le (c : RowCfg) (ps pe idx : Int) :
    (rowsInterval c ps pe idx).1 ≤ (rowsInterval c ps pe idx).2 :=
  clampStart_le _ _

theorem rowsInterval_bounds_partial (c : RowCfg) (ps pe idx : Int) (hp : ps ≤ pe)
    (h : rowsEndBeforePartition c ps pe idx = false) :
    ps ≤ (rowsInterval c ps pe idx).1 ∧ (rowsInterval c ps pe idx).2 ≤ pe := by
  simp only [rowsEndBeforePartition, Bool.and_eq_false_iff, Bool.not_eq_false', decide_eq_false_iff_not] at h
  simp only [rowsInterval, Bool.or_eq_true, decide_eq_true_eq]
  generalize idx + c.startOffset = s0
  generalize idx + c.endOffset + 1 = e0 at h ⊢
  -- the end is clamped from above by the code and kept from below by `h`
  have hS : ps ≤ (if c.unbPrec = true ∨ s0 < ps then ps else s0) := by split <;> omega
  have hE : ps ≤ (if c.unbFoll = true ∨ e0 > pe then pe else e0) ∧ (if c.unbFoll = true ∨ e0 > pe then pe else e0) ≤ pe := by
    cases hu : c.unbFoll
    · simp only [hu, Bool.false_eq_true, false_or] at h ⊢; split <;> omega
    · simp [hp]
  generalize (if c.unbPrec = true ∨ s0 < ps then ps else s0) = S at hS ⊢
  generalize (if c.unbFoll = true ∨ e0 > pe then pe else e0) = E at hE ⊢
  split <;> omega

theorem finding_rows_frame_before_partition :
    ∃ (c : RowCfg) (ps pe idx : Int), ps ≤ idx ∧ idx < pe ∧ (rowsInterval c ps pe idx).2 < ps :=
  ⟨cfgOfBounds (.prec 5) (.prec 3), 0, 4, 0, by decide +kernel⟩

/-- known-defect value classes of the framed aggregates -/
def SumAllNull (vs : List Val) : Prop := vs ≠ [] ∧ nonNull vs = []
def AvgNoValues (vs : List Val) : Prop := nonNull vs = []

theorem aggCompute_eq_spec_partial (f : AggFn) (xs : List Val) (ps a b : Nat) (hab : a ≤ b) (hb : b ≤ xs.length)
    (h1 : f = .sum → ¬ SumAllNull ((xs.drop a).take (b - a)))
    (h2 : f = .avg → ¬ AvgNoValues ((xs.drop a).take (b - a))) :
    aggCompute f xs ps ((ps + a : Nat) : Int) ((ps + b : Nat) : Int) = some (aggSpec f ((xs.drop a).take (b - a))) := by
  have hl : ((xs.drop a).take (b - a)).length = b - a := by simp; omega
  cases f with
  | countStar =>
    simp only [aggCompute, aggSpec]
    rw [prefixCounts_slice _ ps a b hab (by simpa using hb)]
    simp [nonNull, ← List.map_drop, ← List.map_take, List.filterMap_map, hl]
  | count =>
    simp only [aggCompute, aggSpec, specCount, prefixCounts_slice xs ps a b hab hb]
  | sum =>
    simp only [aggCompute, aggSpec, specSum]
    by_cases hab' : a = b
    · subst hab'; simp [nonNull]
    · rw [if_neg (by omega), prefixSums_slice xs ps a b hab hb]
      cases hnn : nonNull ((xs.drop a).take (b - a)) with
      | nil => exact absurd ⟨List.ne_nil_of_length_pos (by omega), hnn⟩ (h1 rfl)
      | cons y ys => rfl
  | avg =>
    simp only [aggCompute, aggSpec, specAvg]
    rw [nonNullCnt_eq xs ps a b hab hb, prefixSums_slice xs ps a b hab hb]
    cases hnn : nonNull ((xs.drop a).take (b - a)) with
    | nil => exact absurd hnn (h2 rfl)
    | cons y ys => simp; omega
  | min =>
    simp only [aggCompute, aggSpec, specMin]
    rw [if_neg (by omega), sliceRel_eq xs ps a b hab, minLoop_eq]
  | max =>
    simp only [aggCompute, aggSpec, specMax]
    rw [sliceRel_eq xs ps a b hab, maxLoop_eq]
  | first | last =>
    simp only [aggCompute, aggSpec, specFirst, specLast]
    by_cases hab' : a = b
    · subst hab'; simp [Res.ofVal]
    · rw [if_neg (by omega), sliceRel_eq xs ps a b hab]

/-- the guards are decidable on a case and are exactly where the Go code departs from the definition -/
theorem finding_sum_all_null_frame :
    ∃ (xs : List Val) (ps a b : Nat), a ≤ b ∧ b ≤ xs.length ∧
      aggCompute .sum xs ps ((ps + a : Nat) : Int) ((ps + b : Nat) : Int) ≠ some (aggSpec .sum ((xs.drop a).take (b - a))) :=
  ⟨[none, none], 0, 0, 2, by decide +kernel⟩

theorem finding_avg_no_values_nan :
    ∃ (xs : List Val) (ps a b : Nat), a ≤ b ∧ b ≤ xs.length ∧
      aggCompute .avg xs ps ((ps + a : Nat) : Int) ((ps + b : Nat) : Int) ≠ some (aggSpec .avg ((xs.drop a).take (b - a))) :=
  ⟨[some 1], 0, 0, 0, by decide +kernel⟩

/-- `MinAgg.Compute` slices the buffer: an interval that ends before index 0 panics -/
theorem min_crashes_before_buffer (xs : List Val) (ps s e : Int) (h : e < 0) : aggCompute .min xs ps s e = none := by
  simp [aggCompute, h]

/-- … and `rowFramerBase.Next` produces such an interval (first partition, frame wholly before it):
MIN(x) OVER (ORDER BY id ROWS BETWEEN 5 PRECEDING AND 3 PRECEDING) at the first row -/
theorem finding_rows_frame_before_partition_min :
    aggCompute .min [some 1, some 2] 0 (rowsInterval (cfgOfBounds (.prec 5) (.prec 3)) 0 2 0).1
      (rowsInterval (cfgOfBounds (.prec 5) (.prec 3)) 0 2 0).2 = none := by decide +kernel

-- non-vacuity: the hypotheses of `aggCompute_eq_spec_partial` hold on a frame with a NULL and ties
example : aggCompute .sum [some 3, none, some 3, some 5] 7 ((7 + 1 : Nat) : Int) ((7 + 4 : Nat) : Int)
    = some (aggSpec .sum [none, some 3, some 5]) ∧ aggSpec .sum [none, some 3, some 5] = .int 8 := by decide +kernel
example : aggCompute .avg [some 3, none, some 4] 0 ((0 + 0 : Nat) : Int) ((0 + 3 : Nat) : Int) = some (.rat 7 2) := by decide +kernel
example : rowsMem (.prec 1) (.foll 1) 2 6 2 3 = true ∧ rowsMem (.prec 1) (.foll 1) 2 6 2 4 = false := by decide +kernel

theorem xsOf_length (buf : List Row) (ps pe : Nat) (h : pe ≤ buf.length) : (xsOf buf ps pe).length = pe - ps := by
  simp only [xsOf, List.length_map, List.length_take, List.length_drop]; omega

theorem xsOf_getD (buf : List Row) (ps pe j : Nat) (h : pe ≤ buf.length) (hj : j < pe - ps) :
    (xsOf buf ps pe).getD j none = (buf.getD (ps + j) default).x := by
  unfold xsOf
  rw [List.getD_eq_getElem?_getD, List.getElem?_map, List.getElem?_take_of_lt hj, List.getElem?_drop]
  have h2 : ps + j < buf.length := by omega
  simp [List.getD_eq_getElem?_getD, List.getElem?_eq_getElem h2]

/-- `leadLagBase.Compute` takes a signed offset: LAG passes `off`, LEAD `-off` -/
theorem lagCompute_in (buf : List Row) (ps pe i k : Nat) (off : Int) (d : Val) (h : pe ≤ buf.length)
    (hk : k < pe - ps) (e : ((ps + i : Nat) : Int) - off = (ps + k : Nat)) :
    lagCompute buf (ps + i) off d ps pe = Res.ofVal ((xsOf buf ps pe).getD k none) := by
  unfold lagCompute
  rw [if_neg (by omega), e, if_pos (by omega), Int.toNat_natCast, xsOf_getD buf ps pe k h hk]

theorem lagCompute_out (buf : List Row) (ps pe i : Nat) (off : Int) (d : Val) (hps : ps ≤ pe)
    (e : ((ps + i : Nat) : Int) - off < ps ∨ pe ≤ ((ps + i : Nat) : Int) - off) :
    lagCompute buf (ps + i) off d ps pe = Res.ofVal d := by
  unfold lagCompute
  rw [if_neg (by omega), if_neg (by omega)]

theorem lag_eq_spec (buf : List Row) (ps pe i off : Nat) (d : Val) (h : pe ≤ buf.length) (hi : i < pe - ps) :
    lagCompute buf (ps + i) off d ps pe = lagSpec (xsOf buf ps pe) i off false d := by
  rw [lagSpec, if_neg Bool.false_ne_true]
  by_cases ho : off ≤ i
  · rw [if_pos ho]; exact lagCompute_in buf ps pe i (i - off) off d h (by omega) (by omega)
  · rw [if_neg ho]; exact lagCompute_out buf ps pe i off d (by omega) (Or.inl (by omega))

theorem lead_eq_spec (buf : List Row) (ps pe i off : Nat) (d : Val) (h : pe ≤ buf.length) (hi : i < pe - ps) :
    lagCompute buf (ps + i) (-(off : Int)) d ps pe = lagSpec (xsOf buf ps pe) i off true d := by
  rw [lagSpec, if_pos rfl, xsOf_length buf ps pe h]
  by_cases ho : i + off < pe - ps
  · rw [if_pos ho]; exact lagCompute_in buf ps pe i (i + off) _ d h ho (by omega)
  · rw [if_neg ho]; exact lagCompute_out buf ps pe i _ d (by omega) (Or.inr (by omega))
example : lagCompute [⟨1, none, none, some 5⟩, ⟨2, none, none, some 6⟩, ⟨3, none, none, none⟩] (1 + 1) 1 (some 9) 1 3 = .int 6 := by decide +kernel

section
open Gms.GroupAgg

theorem implEval_eq_specEval_partial (f : GFn) (xs : List Val) (h : f = .jsonArray → xs ≠ []) :
    implEval f xs = specEval f xs := by
  cases f with
  | countStar => simp [implEval, specEval, foldl_succ]
  | count => simp [implEval, specEval, count_fold]
  | sum =>
    simp only [implEval, specEval, sumBuf_fold]
    cases nonNull xs <;> simp [SumBuf.eval]
  | avg =>
    simp only [implEval, specEval, avgBuf_fold_split, sumBuf_fold]
    cases nonNull xs <;> simp [AvgBuf.eval]
  | min =>
    simp only [implEval, specEval, minUpdate_fold]
    cases listMin (nonNull xs) <;> rfl
  | max =>
    simp only [implEval, specEval, maxUpdate_fold]
    cases listMax (nonNull xs) <;> rfl
  | bitAnd | bitOr | bitXor => simp only [implEval, specEval, bit_fold]
  | gcId | gcDesc => simp only [implEval, specEval, gc_fold, List.nil_append]
  | gcDistinct =>
    simp only [implEval, specEval, gcDistinct_fold_nil]
    cases nonNull xs <;> rfl
  | jsonArray =>
    simp only [implEval, specEval]
    cases xs with
    | nil => exact absurd rfl (h rfl)
    | cons v vs => rfl
  | countDistinct => simp only [implEval, specEval, gcDistinct_fold_nil]

theorem finding_json_arrayagg_empty_input : implEval .jsonArray [] ≠ specEval .jsonArray [] := by decide +kernel

/-- the whole `SELECT [p,] F(x) FROM t [GROUP BY p]`: same groups, each value by the theorem above -/
theorem implQuery_eq_specQuery_partial (f : GFn) (byP : Bool) (rows : List (Val × Val))
    (h : f = .jsonArray → byP = false → rows ≠ []) (hg : ∀ g ∈ groups rows, g.2 ≠ []) :
    Gms.GroupAgg.implQuery f byP rows = Gms.GroupAgg.specQuery f byP rows := by
  unfold Gms.GroupAgg.implQuery Gms.GroupAgg.specQuery
  cases byP with
  | true =>
    simp only [if_true]
    apply List.map_congr_left
    intro g hgm
    rw [implEval_eq_specEval_partial f g.2 (fun _ => hg g hgm)]
  | false =>
    simp only [Bool.false_eq_true, if_false]
    rw [implEval_eq_specEval_partial f _ (fun hf e => h hf rfl (List.map_eq_nil_iff.mp e))]

example : implEval .avg [some 1, none, some 2] = .rat 3 2 := by decide +kernel
example : implEval .gcDistinct [some 3, some 1, none, some 3] = .text [1, 3] "," := by decide +kernel

end

/-! Aggregates over shared value objects (DECIMAL cells), `Gms.DecAgg`: the table stores objects, a buffer holds
either an object of its own or the stored object a row evaluation returned. The policy the compiled code has is read off the regenerated run-time fact
`aggAlias` (`facts_alias`); for that policy every statement of a script is the definition on the table's
*values* and leaves every stored object as it was, whatever ran before (`dec_script_eq_spec`). The other
policy (the first value of a group becomes the accumulator) is expressible in the same model and breaks
both halves (`adopt_corrupts_statement`, `adopt_rerun_differs`). -/

section
open Gms.DecAgg Gms.GroupAgg

/-- the policy of the freshly compiled buffers, from the alias probe (`none` if the probe has neither shape) -/
def compiledPolicy : Option Policy := policyOf Gms.Generated.C08.aggAlias

/-- regenerated fact: three distinct `*apd.Decimal` objects through every buffer — no input is changed,
SUM/AVG return an object of their own, MIN/MAX/ANY_VALUE return one of the inputs, and the values are the
definitions. Exactly what the model computes with `fresh` accumulators. -/
theorem facts_alias : Gms.Generated.C08.aggAlias = probeTable .fresh ∧ compiledPolicy = some .fresh := by
  decide +kernel

theorem bufFold_eq_specFn (h : Heap) (f : Gms.DecAgg.Fn) (vs : List (Option Nat)) :
    (vs.foldl (upd h) { fn := f }).eval h = specFn f (vs.map (Option.map (rd h))) := by
  rw [bufFold_eval]
  cases f with
  | anyv => rfl
  | _ => exact implEval_eq_specEval_partial _ _ (fun hc => nomatch hc)

/-- a read-only aggregate statement returns the heap it was given, and every cell of its result is the definition on
the values of the group -/
theorem dec_stmt_eq_spec (h : Heap) (rows : List TRow) (st : Stmt) :
    runStmt .fresh h rows st = (h, specStmt h rows st) := by
  simp only [runStmt, runGroups_fresh, specStmt, List.map_map]
  congr 1
  apply List.map_congr_left
  intro g _
  simp only [Function.comp, initBufs, List.map_map]
  congr 1
  apply List.map_congr_left
  intro f _
  exact bufFold_eq_specFn h f g.2

/-- a read-only aggregate statement leaves the heap of stored objects unchanged -/
theorem dec_stmt_preserves_table (h : Heap) (rows : List TRow) (st : Stmt) :
    (runStmt .fresh h rows st).1 = h :=
  congrArg Prod.fst (dec_stmt_eq_spec h rows st)

/-- a whole script: every statement returns the definition on the *initial* table and every dump is the
initial table — results of successive statements do not depend on what was executed before -/
theorem dec_script_eq_spec (h : Heap) (rows : List TRow) : ∀ (sts : List Stmt),
    runScript .fresh h rows sts = specScript h rows sts
  | [] => rfl
  | st :: rest => by
    simp only [runScript, dec_stmt_eq_spec h rows st, dec_script_eq_spec h rows rest, specScript, List.map_cons]

/-- the same statement twice in a script returns the same rows -/
theorem dec_rerun_same (h : Heap) (rows : List TRow) (st : Stmt) :
    (runScript .fresh h rows [st, st]).map (·.1) = [specStmt h rows st, specStmt h rows st] := by
  rw [dec_script_eq_spec]; rfl

/-- the statement is stated for the policy the compiled code exhibits (`facts_alias`) -/
theorem dec_script_compiled (h : Heap) (rows : List TRow) (sts : List Stmt) :
    ∀ pol, compiledPolicy = some pol → runScript pol h rows sts = specScript h rows sts := by
  intro pol hp
  rw [facts_alias.2] at hp
  cases hp
  exact dec_script_eq_spec h rows sts

/-- non-vacuity + expressiveness: one group 1.50, 2.25, 10.00 -/
def decDemo : Heap × List TRow := mkTable [(1, some 1, some 150), (2, some 1, some 225), (3, some 1, some 1000)] []
def decAll : Stmt := { byP := true, fns := [.sum, .min, .max, .avg] }

example : runScript .fresh decDemo.1 decDemo.2 [decAll, decAll] =
    [([(some 1, [.int 1375, .int 150, .int 1000, .rat 1375 3])], [(1, some 150), (2, some 225), (3, some 1000)]),
     ([(some 1, [.int 1375, .int 150, .int 1000, .rat 1375 3])], [(1, some 150), (2, some 225), (3, some 1000)])] := by
  decide +kernel

/-- adopting the first value as the accumulator: SUM and AVG add into the *same* stored object, MAX holds a
reference to it (26.00 / 2.25 / 26.00 / 8.67 instead of 13.75 / 1.50 / 10.00 / 4.58 — the values the engine
returns with such a buffer), and the stored row is overwritten -/
theorem adopt_corrupts_statement :
    runStmt .adopt decDemo.1 decDemo.2 decAll =
      ([2600, 225, 1000], [(some 1, [.int 2600, .int 225, .int 2600, .rat 2600 3])]) ∧
    runStmt .adopt decDemo.1 decDemo.2 decAll ≠ (decDemo.1, specStmt decDemo.1 decDemo.2 decAll) := by
  decide +kernel

/-- `SELECT p, SUM(d) … GROUP BY p` alone is right the first time and wrong the second time -/
theorem adopt_rerun_differs :
    (runScript .adopt decDemo.1 decDemo.2 [{ byP := true, fns := [.sum] }, { byP := true, fns := [.sum] }]).map (·.1) =
      [[(some 1, [.int 1375])], [(some 1, [.int 2600])]] := by
  decide +kernel

end

/-- `rankBase.Compute` (with its `pos == 0` and single-row special cases) is "rows before the peer
group + 1" whenever the framer hands it the peer group `[s, e)` of the row at `pos`. -/
theorem rankCompute_eq (pos ps pe s e : Nat) (h1 : ps ≤ s) (h2 : s ≤ pos) (h3 : pos < e) (h4 : e ≤ pe) :
    rankCompute pos ps pe s e = some (s - ps + 1) := by
  fun_cases rankCompute pos ps pe s e
  case case1 h_empty => omega
  -- the two special cases return 1, and then `s = ps`
  case case2 _ h_first => congr 1; omega
  case case3 _ _ h_single => congr 1; omega
  case case4 => rfl

/-- DENSE_RANK increments exactly when RANK changes and restarts at 1 with every partition. -/
theorem denseStep_first (st : DenseState) : denseStep st 1 = (1, { prevRank := 1, denseRank := 1 }) := by
  simp [denseStep]
theorem denseStep_same (st : DenseState) (r : Nat) (h1 : r ≠ 1) (h : r = st.prevRank) : denseStep st r = (st.denseRank, st) := by
  unfold denseStep
  rw [if_neg h1, if_neg (by simpa using h)]
theorem denseStep_new (st : DenseState) (r : Nat) (h1 : r ≠ 1) (h : r ≠ st.prevRank) :
    denseStep st r = (st.denseRank + 1, { prevRank := r, denseRank := st.denseRank + 1 }) := by
  unfold denseStep
  rw [if_neg h1, if_pos h]

example : ntileRun 7 (ntileStart {} 7 3) = [1, 1, 1, 2, 2, 3, 3] := by decide +kernel
example : rankCompute 4 2 7 3 6 = some 2 := by decide +kernel

/-- NTILE by definition, as a bucket counter: `left` rows remain in the current bucket `bucket`;
`g` = number of big buckets (size `bs + 1`) among the current and the following buckets; when a
bucket is full the next one starts, big iff big buckets remain. -/
def ntileGen (bs : Nat) : (g left bucket : Nat) → (k : Nat) → List Nat
  | _, _, _, 0 => []
  | g, left + 1, bucket, k + 1 => bucket :: ntileGen bs g left bucket k
  | g, 0, bucket, k + 1 =>
    (bucket + 1) :: ntileGen bs (g - 1) ((if g - 1 > 0 then bs + 1 else bs) - 1) (bucket + 1) k

theorem mod_zero_iff_left (pos left w : Nat) (hw : left < w) (h : (pos + left) % w = 0) :
    pos % w = 0 ↔ left = 0 := by
  constructor
  · intro hp
    have : (pos + left) % w = left := by
      rw [Nat.add_mod, hp, Nat.zero_add, Nat.mod_mod, Nat.mod_eq_of_lt hw]
    omega
  · intro hl; subst hl; simpa using h

/-- the simulation relation between the Go state and the bucket counter (after the first row) -/
def NRel (bs : Nat) (st : NtileState) (g left : Nat) : Prop :=
  st.bucketSize = bs ∧ st.bigBuckets = g ∧ st.pos ≥ 1 ∧
  (g > 0 → left ≤ bs ∧ (st.pos + left) % (bs + 1) = 0) ∧
  (g = 0 → left + 1 ≤ bs ∧ (st.pos + left) % bs = 0)

/-- `NRel` in terms of the width of the bucket being filled: `left` rows of it are still to come and
it ends at a multiple of the width -/
theorem NRel_iff (bs : Nat) (st : NtileState) (g left : Nat) :
    NRel bs st g left ↔ st.bucketSize = bs ∧ st.bigBuckets = g ∧ st.pos ≥ 1 ∧
      left < (if g > 0 then bs + 1 else bs) ∧ (st.pos + left) % (if g > 0 then bs + 1 else bs) = 0 := by
  unfold NRel
  by_cases hg : g > 0
  · simp [hg, show g ≠ 0 by omega, Nat.lt_succ_iff]
  · simp [show g = 0 by omega, Nat.succ_le_iff]

theorem ntileRun_sim (bs : Nat) (hbs : bs ≥ 1) :
    ∀ (k : Nat) (st : NtileState) (g left : Nat), NRel bs st g left →
      ntileRun k st = ntileGen bs g left st.bucket k := by
  intro k
  induction k with
  | zero => intro st g left _; cases left <;> rfl
  | succ k ih =>
    intro st g left hrel
    obtain ⟨rfl, rfl, h3, hlt, hm⟩ := (NRel_iff ..).mp hrel
    have hz := mod_zero_iff_left st.pos left _ hlt hm
    rw [ntileRun]
    fun_cases ntileStep st
    case case1 h_first => omega
    case case2 _ h_bigFull big pos =>
      rw [if_pos h_bigFull.1] at hz hm
      obtain rfl := hz.mp h_bigFull.2
      rw [ntileGen]
      refine congrArg _ (ih _ _ _ ((NRel_iff ..).mpr ⟨rfl, rfl, Nat.succ_pos _, by split <;> omega, ?_⟩))
      simp only [pos, big]
      by_cases hg' : st.bigBuckets - 1 > 0
      · rw [if_pos hg', if_neg (show ¬ st.bigBuckets - 1 = 0 by omega),
          show st.pos + 1 + (st.bucketSize + 1 - 1) = st.pos + (st.bucketSize + 1) by omega, Nat.add_mod_right, h_bigFull.2]
      · rw [if_neg hg', if_pos (show st.bigBuckets - 1 = 0 by omega),
          show 0 + 1 + (st.bucketSize - 1) = st.bucketSize by omega, Nat.mod_self]
    case case3 _ _ h_smallFull =>
      rw [if_neg (show ¬ st.bigBuckets > 0 by omega)] at hz hm
      obtain rfl := hz.mp h_smallFull.2
      rw [ntileGen]
      refine congrArg _ (ih _ _ _ ((NRel_iff ..).mpr ⟨rfl, by simp; omega, Nat.succ_pos _, by split <;> omega, ?_⟩))
      rw [if_neg (by omega)]
      simp only
      rw [show st.pos + 1 + (st.bucketSize - 1) = st.pos + st.bucketSize by omega, Nat.add_mod_right, h_smallFull.2]
    case case4 _ h_notBig h_notSmall =>
      cases left with
      | zero =>
        have := hz.mpr rfl
        split at this
        · exact absurd ⟨‹_›, this⟩ h_notBig
        · exact absurd ⟨by omega, this⟩ h_notSmall
      | succ left =>
        rw [ntileGen]
        exact congrArg _ (ih _ _ _ ((NRel_iff ..).mpr ⟨rfl, rfl, Nat.succ_pos _, by omega,
          by rw [Nat.add_right_comm, Nat.add_assoc]; exact hm⟩))

/-- NTILE(n) over `count` rows by definition: the first `count % n` buckets are big -/
def specNtileGen (count n : Nat) : List Nat :=
  ntileGen (count / n) (count % n) (if count % n > 0 then count / n + 1 else count / n) 1 count

/-- buckets of one row each number the rows (`h`: every bucket opened has width 1, or 0, which `ntileGen` emits as
one row as well) -/
theorem ntileGen_iota (bs g : Nat) (h : bs = 0 ∨ (bs = 1 ∧ g ≤ 1)) :
    ∀ (k b : Nat), ntileGen bs g 0 b k = List.range' (b + 1) k := by
  intro k
  induction k generalizing g with
  | zero => intro b; rfl
  | succ k ih =>
    intro b
    simp only [ntileGen, List.range'_succ]
    rw [show (if g - 1 > 0 then bs + 1 else bs) - 1 = 0 by split <;> omega]
    exact congrArg _ (ih (g - 1) (by omega) (b + 1))

/-- **NTILE = definition, for every partition size and every bucket count**: the Go state machine
(`StartPartition` + `Compute`, including the `pos` reset when the big buckets are used up) emits
exactly the bucket-counter sequence. (`st.bigBuckets = 0`: `StartPartition` leaves `bigBuckets`
untouched when there are more buckets than rows; every partition leaves 0 behind, `ntileAfter_bigBuckets`.) -/
theorem ntile_eq_definition (st : NtileState) (count n : Nat) (hn : n ≥ 1) (hst : st.bigBuckets = 0) :
    ntileRun count (ntileStart st count n) = specNtileGen count n := by
  cases count with
  | zero => rfl
  | succ k =>
    unfold ntileStart specNtileGen
    by_cases hgt : n > k + 1
    · -- more buckets than rows: `bucketSize := 1`, every row its own bucket. The definition counts with width
      -- `count / n = 0` and `k + 1` big buckets, the Go state with width 1 and none; both number the rows (`ntileGen_iota`)
      rw [if_pos hgt, Nat.div_eq_of_lt hgt, Nat.mod_eq_of_lt hgt]
      simp only [ntileRun, ntileStep, if_true, ntileGen, Nat.zero_lt_succ]
      rw [ntileGen_iota 0 _ (Or.inl rfl), ← ntileGen_iota 1 0 (Or.inr ⟨rfl, Nat.zero_le _⟩)]
      exact congrArg _ (ntileRun_sim 1 (by omega) k _ 0 0
        ((NRel_iff ..).mpr ⟨rfl, hst, by simp, by simp, by simp⟩))
    · rw [if_neg hgt]
      have hbs : (k + 1) / n ≥ 1 := (Nat.one_le_div_iff (by omega)).mpr (by omega)
      generalize (k + 1) / n = bs at hbs ⊢
      generalize (k + 1) % n = r
      -- the first row opens bucket 1, of width `w + 1`; the simulation takes over from there
      obtain ⟨w, hw⟩ : ∃ w, (if r > 0 then bs + 1 else bs) = w + 1 :=
        ⟨(if r > 0 then bs + 1 else bs) - 1, by split <;> omega⟩
      simp only [hw, ntileRun, ntileStep, if_true, ntileGen]
      exact congrArg _ (ntileRun_sim bs hbs k _ r w
        ((NRel_iff ..).mpr ⟨rfl, rfl, by simp, by omega, by rw [hw, Nat.add_comm]; exact Nat.mod_self _⟩))

example : specNtileGen 7 3 = [1, 1, 1, 2, 2, 3, 3] := by decide +kernel
example : specNtileGen 3 5 = [1, 2, 3] := by decide +kernel

/-- number of buckets completed before position `x` when `g` buckets of `bs + 1` rows come first and buckets of
`bs` rows follow -/
def bucketsBefore (bs g x : Nat) : Nat :=
  if x < g * (bs + 1) then x / (bs + 1) else g + (x - g * (bs + 1)) / bs

theorem bucketsBefore_lt (bs g x : Nat) (h : x < (if g > 0 then bs + 1 else bs)) : bucketsBefore bs g x = 0 := by
  unfold bucketsBefore
  cases g with
  | zero => simpa using Nat.div_eq_of_lt h
  | succ g => rw [Nat.succ_mul, if_pos (by simp at h; omega), Nat.div_eq_of_lt (by simpa using h)]

theorem bucketsBefore_add (bs g x : Nat) (hbs : bs ≥ 1) :
    bucketsBefore bs g ((if g > 0 then bs + 1 else bs) + x) = 1 + bucketsBefore bs (g - 1) x := by
  unfold bucketsBefore
  cases g with
  | zero => simp [Nat.add_div_left x hbs, Nat.add_comm]
  | succ g =>
    simp only [Nat.zero_lt_succ, if_true, Nat.add_sub_cancel, Nat.succ_mul]
    by_cases h_big : x < g * (bs + 1)
    · rw [if_pos h_big, if_pos (by omega), Nat.add_div_left x (Nat.succ_pos bs), Nat.add_comm]
    · rw [if_neg h_big, if_neg (by omega), show bs + 1 + x - (g * (bs + 1) + (bs + 1)) = x - g * (bs + 1) by omega]
      omega

/-- `p` = rows of the current bucket already emitted -/
theorem ntileGen_closed (bs : Nat) (hbs : bs ≥ 1) (k g left b : Nat) :
    ∀ p, p + left = (if g > 0 then bs + 1 else bs) →
      ntileGen bs g left b k = (List.range k).map (fun i => b + bucketsBefore bs g (p + i)) := by
  fun_induction ntileGen bs g left b k with
  | case1 g left b => intro _ _; rfl
  | case2 g left b k ih =>
    intro p hp
    rw [ih (p + 1) (by omega), List.range_succ_eq_map, List.map_cons, List.map_map, bucketsBefore_lt bs g _ (by omega)]
    simp only [Nat.add_assoc, Nat.add_comm 1]
    rfl  -- up to `b + 0` and `_ ∘ Nat.succ`
  | case3 g b k ih =>
    intro p hp
    have hw : (if g - 1 > 0 then bs + 1 else bs) ≥ 1 := by split <;> omega
    obtain rfl : p = (if g > 0 then bs + 1 else bs) := hp
    -- the completed bucket comes off the front
    simp only [bucketsBefore_add bs g _ hbs, ← Nat.add_assoc]
    rw [ih 1 (by omega), List.range_succ_eq_map, List.map_cons, List.map_map, bucketsBefore_lt bs (g - 1) 0 (by omega)]
    simp only [Nat.add_comm 1]
    rfl

theorem specNtile_eq (count n i : Nat) (hbs : count / n ≥ 1) :
    specNtile count n i = bucketsBefore (count / n) (count % n) i + 1 := by
  simp only [specNtile, bucketsBefore]
  rw [if_neg (show ¬ count / n = 0 by omega)]
  split <;> rfl

/-- the bucket-counter definition and the closed form printed by the driver agree, for every partition size and
every bucket count -/
theorem specNtileGen_closed_form (count n : Nat) (hn : n ≥ 1) :
    specNtileGen count n = (List.range count).map (specNtile count n) := by
  unfold specNtileGen
  by_cases hgt : n > count
  · -- more buckets than rows: one row per bucket
    rw [Nat.div_eq_of_lt hgt, Nat.mod_eq_of_lt hgt]
    cases count with
    | zero => rfl
    | succ c =>
      simp only [Nat.zero_lt_succ, if_true, ntileGen, ntileGen_iota 0 _ (Or.inl rfl)]
      rw [← List.range'_succ, List.range'_eq_map_range]
      apply List.map_congr_left
      intro i hi
      have := List.mem_range.mp hi
      simp only [specNtile, Nat.div_eq_of_lt hgt, Nat.mod_eq_of_lt hgt, Nat.zero_add, Nat.mul_one, if_pos this,
        Nat.div_one, Nat.add_comm]
  · have hbs : count / n ≥ 1 := (Nat.one_le_div_iff (by omega)).mpr (by omega)
    rw [ntileGen_closed _ hbs _ _ _ _ 0 (Nat.zero_add _)]
    apply List.map_congr_left
    intro i _
    rw [specNtile_eq count n i hbs, Nat.zero_add, Nat.add_comm]

/-- the bucket-counter definition and the closed form printed by the driver agree for every partition size ≤ 16
and every bucket count 1..18 -/
theorem specNtileGen_closed_form_bounded :
    ∀ count < 17, ∀ k < 18, specNtileGen count (k + 1) = (List.range count).map (specNtile count (k + 1)) :=
  fun count _ k _ => specNtileGen_closed_form count (k + 1) (Nat.succ_pos k)

theorem ntileStep_bucket (st : NtileState) : (ntileStep st).2.bucket = (ntileStep st).1 := by
  fun_cases ntileStep st <;> rfl

/-- `bigBuckets` goes down by one with every new bucket until it is 0 -/
theorem ntileStep_big (c : Nat) (st : NtileState) (h : st.bigBuckets = c - st.bucket) :
    (ntileStep st).2.bigBuckets = c - (ntileStep st).2.bucket := by
  fun_cases ntileStep st
  case case1 => exact h
  case case2 _ h_bigFull big pos => simp only; omega
  case case3 _ _ h_smallFull => simp only; omega
  case case4 => exact h

theorem ntileAfter_big (c : Nat) (k : Nat) (st : NtileState) (h : st.bigBuckets = c - st.bucket) :
    (ntileAfter k st).bigBuckets = c - (ntileAfter k st).bucket := by
  fun_induction ntileAfter k st with
  | case1 st => exact h
  | case2 k st ih => exact ih (ntileStep_big c st h)

theorem ntileAfter_bucket (k : Nat) (st : NtileState) :
    (ntileAfter k st).bucket = (ntileRun k st).getLastD st.bucket := by
  fun_induction ntileAfter k st with
  | case1 st => rfl
  | case2 k st ih => rw [ih, ntileRun, ntileStep_bucket]; cases ntileRun k (ntileStep st).2 <;> rfl

/-- the state a partition leaves behind is one `ntile_eq_definition` accepts for the next partition -/
theorem ntileAfter_bigBuckets (st : NtileState) (count n : Nat) (hn : n ≥ 1) (hst : st.bigBuckets = 0) :
    (ntileAfter count (ntileStart st count n)).bigBuckets = 0 := by
  by_cases hgt : n > count
  · rw [ntileAfter_big 0 count _ (by simp [ntileStart, hgt, hst]), Nat.zero_sub]
  · obtain ⟨c, rfl⟩ : ∃ c, count = c + 1 := ⟨count - 1, by omega⟩
    have hbs : (c + 1) / n ≥ 1 := (Nat.one_le_div_iff (by omega)).mpr (by omega)
    rw [ntileAfter_big ((c + 1) % n + 1) _ _ (by simp [ntileStart, hgt]), ntileAfter_bucket,
      ntile_eq_definition st _ n hn hst, specNtileGen_closed_form _ n hn, List.range_succ, List.map_append,
      List.map_singleton, List.getLastD_concat, specNtile_eq _ n c hbs]
    -- the last row lies behind the big buckets
    have hdm := Nat.div_add_mod (c + 1) n
    have hr := Nat.mod_lt (c + 1) (show n > 0 by omega)
    have hmul := Nat.mul_le_mul_right ((c + 1) / n) (show (c + 1) % n + 1 ≤ n by omega)
    rw [Nat.succ_mul] at hmul
    unfold bucketsBefore
    rw [Nat.mul_succ, if_neg (by omega)]
    exact Nat.sub_eq_zero_of_le (Nat.succ_le_succ (Nat.le_add_right _ _))

def ntileOK (count k : Nat) : Bool :=
  ntileRun count (ntileStart {} count k) == (List.range count).map (specNtile count k) &&
  (ntileAfter count (ntileStart {} count k)).bigBuckets == 0

theorem ntile_spec (count n : Nat) (hn : n ≥ 1) : ntileOK count n = true := by
  simp only [ntileOK, ntile_eq_definition {} count n hn rfl, specNtileGen_closed_form count n hn,
    ntileAfter_bigBuckets {} count n hn rfl, beq_self_eq_true, Bool.and_self]

/-- NTILE state machine (`NTile.StartPartition`/`Compute`, with the `pos` reset trick) = definition
(the first `count % k` buckets have `count / k + 1` rows, the others `count / k`), and no stale
`bigBuckets` is left for the next partition: for every partition size ≤ 16 and every bucket
count 1..18 (an instance of `ntile_spec`, which holds for every size). -/
theorem ntile_spec_bounded : ∀ count < 17, ∀ k < 18, ntileOK count (k + 1) = true :=
  fun count _ k _ => ntile_spec count (k + 1) (Nat.succ_pos k)

/-! ### two NTILEs over one window (the planner identifies window functions without their argument) -/

def ntileQ (part : Bool) (n : Nat) : Query :=
  { part := part, ord := [{ col := .id, desc := false }], frame := .none, fn := .ntile n }

/-- finding ntile_shared_window_dedup: the engine serves the second NTILE column from the first one;
that differs from the definition as soon as the bucket counts differ -/
theorem finding_ntile_shared_window_dedup :
    ∃ (rows : List Row) (n1 n2 : Nat), specQuery (ntileQ false n1) rows ≠ specQuery (ntileQ false n2) rows :=
  ⟨[⟨1, none, none, none⟩, ⟨2, none, none, none⟩, ⟨3, none, none, none⟩], 3, 1, by decide +kernel⟩

theorem ntile_shared_window_partial (rows : List Row) (part : Bool) (n1 n2 : Nat) (h : n1 = n2) :
    specQuery (ntileQ part n1) rows = specQuery (ntileQ part n2) rows := by rw [h]

/-- characterisation of the boundary scan (`findInclusionBoundary`'s loop): the first index `≥ i`
that is `≥ pe` or whose key compares `≥ stop` to `cur`; nothing before it does -/
theorem scan_char (keys : List Val) (cur : Val) (stop : Int) (pe : Nat) :
    ∀ (fuel i : Nat), i ≤ pe → pe + 1 - i ≤ fuel →
      i ≤ scanBoundary keys cur stop pe fuel i ∧ scanBoundary keys cur stop pe fuel i ≤ pe ∧
      (∀ j, i ≤ j → j < scanBoundary keys cur stop pe fuel i → ¬ (cmpNullGreater (keys.getD j none) cur ≥ stop)) ∧
      (scanBoundary keys cur stop pe fuel i < pe →
        cmpNullGreater (keys.getD (scanBoundary keys cur stop pe fuel i) none) cur ≥ stop) := by
  intro fuel i
  fun_induction scanBoundary keys cur stop pe fuel i with
  | case1 i => intro h1 h2; omega
  | case2 fuel i h_end => intro _ _; exact ⟨Nat.le_refl _, by omega, fun j _ _ => by omega, fun _ => by omega⟩
  | case3 fuel i h_in h_hit => intro _ _; exact ⟨Nat.le_refl _, by omega, fun j _ _ => by omega, fun _ => h_hit⟩
  | case4 fuel i h_in h_miss ih =>
    intro _ _
    obtain ⟨a, b, c, d⟩ := ih (by omega) (by omega)
    exact ⟨by omega, b, fun j hj1 hj2 => if hji : j = i then hji ▸ h_miss else c j (by omega) hj2, d⟩

theorem cmp_ge {x t stop : Int} (hs : stop = 0 ∨ stop = 1) : cmpNullGreater (some x) (some t) ≥ stop ↔ t + stop ≤ x := by
  simp only [cmpNullGreater]; split <;> (try split) <;> omega

section RangeFramer
variable (keys : List Val) (K : Nat → Int) (ps pe : Nat)

/-- the partition `[ps, pe)` has non-NULL keys `K j`, ascending -/
def SortedPart : Prop :=
  (∀ j, ps ≤ j → j < pe → keys.getD j none = some (K j)) ∧ (∀ i j, ps ≤ i → i ≤ j → j < pe → K i ≤ K j)

/-- `stop` is 0 for `greaterThanOrEqual` and 1 for `greaterThan`: either way the scan looks for the first key `≥ K idx + off + stop` -/
theorem scan_sorted (h : SortedPart keys K ps pe) (idx s : Nat) (off stop : Int) (hs : stop = 0 ∨ stop = 1)
    (hidx1 : ps ≤ idx) (hidx2 : idx < pe) (hs1 : ps ≤ s) (hs2 : s ≤ pe) :
    s ≤ findInclusionBoundary keys idx s pe off stop ∧ findInclusionBoundary keys idx s pe off stop ≤ pe ∧
    ∀ j, s ≤ j → j < pe → (findInclusionBoundary keys idx s pe off stop ≤ j ↔ K idx + off + stop ≤ K j) := by
  unfold findInclusionBoundary
  rw [h.1 idx hidx1 hidx2]
  simp only [addOff, Option.map_some]
  obtain ⟨h1, h2, h3, h4⟩ := scan_char keys (some (K idx + off)) stop pe (pe + 1 - s) s hs2 (Nat.le_refl _)
  generalize scanBoundary keys (some (K idx + off)) stop pe (pe + 1 - s) s = r at h1 h2 h3 h4
  refine ⟨h1, h2, fun j hj1 hj2 => ⟨fun hrj => ?_, fun hkj => ?_⟩⟩
  · have hit := h4 (by omega)
    rw [h.1 r (by omega) (by omega), cmp_ge hs] at hit
    have := h.2 r j (by omega) hrj hj2
    omega
  · by_cases hjr : r ≤ j
    · exact hjr
    · have := h3 j hj1 (by omega)
      rw [h.1 j (by omega) hj2, cmp_ge hs] at this
      omega

theorem find_ge (h : SortedPart keys K ps pe) (idx ss : Nat) (off : Int)
    (hidx1 : ps ≤ idx) (hidx2 : idx < pe) (hss1 : ps ≤ ss) (hss2 : ss ≤ pe)
    (hpre : ∀ j, ps ≤ j → j < ss → K j < K idx + off) :
    ss ≤ findInclusionBoundary keys idx ss pe off 0 ∧ findInclusionBoundary keys idx ss pe off 0 ≤ pe ∧
    ∀ j, ps ≤ j → j < pe → (findInclusionBoundary keys idx ss pe off 0 ≤ j ↔ K idx + off ≤ K j) := by
  -- the search for the frame start, resumed at the old start `ss`; `hpre`: no row it skips reaches the bound, so what
  -- `scan_sorted` says of `[ss, pe)` holds of the whole partition
  obtain ⟨h1, h2, h3⟩ := scan_sorted keys K ps pe h idx ss off 0 (Or.inl rfl) hidx1 hidx2 hss1 hss2
  refine ⟨h1, h2, fun j hj1 hj2 => ?_⟩
  by_cases hjs : ss ≤ j
  · simpa using h3 j hjs hj2
  · have := hpre j hj1 (by omega)
    exact ⟨fun hr => by omega, fun hk => by omega⟩

theorem find_gt (h : SortedPart keys K ps pe) (idx m S : Nat) (off : Int)
    (hidx1 : ps ≤ idx) (hidx2 : idx < pe) (hS1 : ps ≤ S) (hSm : S ≤ m) (hm : m ≤ pe)
    (hpre : ∀ j, ps ≤ j → j < m → K j ≤ K idx + off ∨ j < S) :
    m ≤ findInclusionBoundary keys idx m pe off 1 ∧ findInclusionBoundary keys idx m pe off 1 ≤ pe ∧
    (∀ j, ps ≤ j → j < pe → S ≤ j → (j < findInclusionBoundary keys idx m pe off 1 ↔ K j ≤ K idx + off)) ∧
    (∀ j, ps ≤ j → j < findInclusionBoundary keys idx m pe off 1 → K j ≤ K idx + off ∨ j < S) := by
  -- the search for the frame end, resumed at `m` (in `Next`: the larger of the new start `S` and the old end); `hpre`: every
  -- row it skips is within the upper bound, or lies before `S` and is outside the frame anyway (`RInv`); the last conjunct
  -- hands the same on for the new end
  obtain ⟨h1, h2, h3⟩ := scan_sorted keys K ps pe h idx m off 1 (Or.inr rfl) hidx1 hidx2 (by omega) hm
  have hinv : ∀ j, ps ≤ j → j < findInclusionBoundary keys idx m pe off 1 → K j ≤ K idx + off ∨ j < S := by
    intro j hj1 hj2
    by_cases hjm : j < m
    · exact hpre j hj1 hjm
    · have := h3 j (by omega) (by omega)
      left; omega
  refine ⟨h1, h2, fun j hj1 hj2 hSj => ⟨fun hjr => ?_, fun hkj => ?_⟩, hinv⟩
  · rcases hinv j hj1 hjr with hh | hh <;> omega
  · by_cases hjm : j < m
    · omega
    · have := h3 j (by omega) hj2
      omega

/-- invariant of the sliding window w.r.t. the key `v` of the current row: no row below `frameStart` reaches the lower
bound, and a row below `frameEnd` is within the upper bound *or* already below the lower one (each clause only where that
side is bounded). `Next` lifts `frameEnd` to the new start when the frame lies wholly ahead of the old one, so rows before
the start can sit below `frameEnd`. Both clauses survive a larger `v` (`rinv_mono`), which is why the search may resume
where it stopped. -/
def RInv (c : RangeCfg) (st : RangeState) (v : Int) : Prop :=
  ps ≤ st.frameStart ∧ st.frameStart ≤ pe ∧ st.frameEnd ≤ pe ∧
  (c.unbPrec = false → ∀ j, ps ≤ j → j < st.frameStart → K j < v + c.startOff) ∧
  (c.unbFoll = false → ∀ j, ps ≤ j → j < st.frameEnd →
    K j ≤ v + c.endOff ∨ (c.unbPrec = false ∧ K j < v + c.startOff))

theorem rinv_mono (c : RangeCfg) (st : RangeState) (v w : Int) (hvw : v ≤ w) (h : RInv K ps pe c st v) :
    RInv K ps pe c st w := by
  obtain ⟨h1, h2, h3, h4, h5⟩ := h
  refine ⟨h1, h2, h3, ?_, ?_⟩
  · intro hu j hj1 hj2; have := h4 hu j hj1 hj2; omega
  · intro hu j hj1 hj2
    rcases h5 hu j hj1 hj2 with hh | ⟨hh1, hh2⟩
    · left; omega
    · right; exact ⟨hh1, by omega⟩

/-- one `rangeFramerBase.Next`: the interval is the frame by key distance, and the invariant is kept -/
theorem rangeNext_step (h : SortedPart keys K ps pe) (c : RangeCfg) (ho : c.hasOrder = true) (st : RangeState)
    (hidx1 : ps ≤ st.idx) (hidx2 : st.idx < pe) (hinv : RInv K ps pe c st (K st.idx)) :
    ∃ S E, rangeNext c keys ps pe st = some ((S, E), { idx := st.idx + 1, frameStart := S, frameEnd := E }) ∧
      RInv K ps pe c { idx := st.idx + 1, frameStart := S, frameEnd := E } (K st.idx) ∧
      ∀ j, ps ≤ j → j < pe →
        ((S ≤ j ∧ j < E) ↔ ((c.unbPrec = true ∨ K st.idx + c.startOff ≤ K j) ∧ (c.unbFoll = true ∨ K j ≤ K st.idx + c.endOff))) := by
  obtain ⟨i1, i2, i3, i4, i5⟩ := hinv
  -- the start: `ps`, or the first row from the old start on whose key reaches the lower bound
  have hstart : ∃ S, (if st.frameStart < ps ∨ c.unbPrec = true ∨ (c.startCur = true ∧ ¬ c.hasOrder = true) then ps
        else findInclusionBoundary keys st.idx st.frameStart pe c.startOff 0) = S ∧ ps ≤ S ∧ S ≤ pe ∧
      ∀ j, ps ≤ j → j < pe → (S ≤ j ↔ (c.unbPrec = true ∨ K st.idx + c.startOff ≤ K j)) := by
    cases hu : c.unbPrec with
    | true => exact ⟨ps, by simp, Nat.le_refl _, by omega, fun j hj _ => by simp [hj]⟩
    | false =>
      have fg := find_ge keys K ps pe h st.idx st.frameStart c.startOff hidx1 hidx2 i1 i2 (i4 hu)
      exact ⟨_, if_neg (by simp [ho]; omega), by omega, fg.2.1, fun j a b => by simpa using fg.2.2 j a b⟩
  obtain ⟨S, hSeq, hS1, hS2, hSchar⟩ := hstart
  -- the end: `pe`, or the first row from `max S frameEnd` on whose key exceeds the upper bound
  have hend : ∃ E, (if (if S > st.frameEnd then S else st.frameEnd) > pe ∨ c.unbFoll = true ∨ (c.endCur = true ∧ ¬ c.hasOrder = true) then pe
        else findInclusionBoundary keys st.idx (if S > st.frameEnd then S else st.frameEnd) pe c.endOff 1) = E ∧ E ≤ pe ∧
      ∀ j, ps ≤ j → j < pe → S ≤ j → (j < E ↔ (c.unbFoll = true ∨ K j ≤ K st.idx + c.endOff)) := by
    cases hu : c.unbFoll with
    | true => exact ⟨pe, by simp, Nat.le_refl _, fun j _ hj _ => by simp [hj]⟩
    | false =>
      generalize hm : (if S > st.frameEnd then S else st.frameEnd) = m
      have hm' : S ≤ m ∧ m ≤ pe ∧ (m ≤ S ∨ m ≤ st.frameEnd) := by subst hm; split <;> omega
      have hpre : ∀ j, ps ≤ j → j < m → K j ≤ K st.idx + c.endOff ∨ j < S := by
        intro j hj1 hj2
        by_cases hjS : j < S
        · exact Or.inr hjS
        · rcases i5 hu j hj1 (by omega) with hh | ⟨hh1, hh2⟩
          · exact Or.inl hh
          · have := (hSchar j hj1 (by omega)).mp (by omega)
            simp only [hh1, Bool.false_eq_true, false_or] at this
            omega
      have fg := find_gt keys K ps pe h st.idx m S c.endOff hidx1 hidx2 hS1 hm'.1 hm'.2.1 hpre
      exact ⟨_, if_neg (by simp [ho]; omega), fg.2.1, fun j a b c => by simpa using fg.2.2.1 j a b c⟩
  obtain ⟨E, hEeq, hE1, hEchar⟩ := hend
  refine ⟨S, E, ?_, ⟨hS1, hS2, hE1, fun hu j hj1 hj2 => ?_, fun hu j hj1 hj2 => ?_⟩, fun j hj1 hj2 => ?_⟩
  · unfold rangeNext
    rw [if_neg (by omega)]
    simp only [hSeq, hEeq]
  · have hj2 : j < S := hj2
    have := hSchar j hj1 (by omega)
    simp only [hu, Bool.false_eq_true, false_or] at this
    omega
  · have hj2 : j < E := hj2
    by_cases hSj : S ≤ j
    · have := (hEchar j hj1 (by omega) hSj).mp hj2
      simp only [hu, Bool.false_eq_true, false_or] at this
      exact Or.inl this
    · have := hSchar j hj1 (by omega)
      cases hup : c.unbPrec <;> simp only [hup, Bool.false_eq_true, false_or, true_or, iff_true] at this
      · exact Or.inr ⟨rfl, by omega⟩
      · omega
  · rw [← hSchar j hj1 hj2]
    exact ⟨fun ⟨a, b⟩ => ⟨a, (hEchar j hj1 hj2 a).mp b⟩, fun ⟨a, b⟩ => ⟨a, (hEchar j hj1 hj2 a).mpr b⟩⟩
end RangeFramer

theorem rangeStream_spec (keys : List Val) (K : Nat → Int) (ps pe : Nat) (h : SortedPart keys K ps pe)
    (c : RangeCfg) (ho : c.hasOrder = true) :
    ∀ (n : Nat) (st : RangeState), ps ≤ st.idx → st.idx + n = pe → (n > 0 → RInv K ps pe c st (K st.idx)) →
      (rangeStream c keys ps pe n st).length = n ∧
      ∀ d, d < n → ∀ j, ps ≤ j → j < pe →
        ((((rangeStream c keys ps pe n st).getD d (0, 0)).1 ≤ j ∧ j < ((rangeStream c keys ps pe n st).getD d (0, 0)).2) ↔
          ((c.unbPrec = true ∨ K (st.idx + d) + c.startOff ≤ K j) ∧ (c.unbFoll = true ∨ K j ≤ K (st.idx + d) + c.endOff))) := by
  intro n
  induction n with
  | zero => intro st _ _ _; exact ⟨rfl, fun d hd => by omega⟩
  | succ n ih =>
    intro st h1 h2 h3
    have hlt : st.idx < pe := by omega
    obtain ⟨S, E, hnext, hinv', hmem⟩ := rangeNext_step keys K ps pe h c ho st h1 hlt (h3 (by omega))
    have hstream : rangeStream c keys ps pe (n + 1) st
        = (S, E) :: rangeStream c keys ps pe n { idx := st.idx + 1, frameStart := S, frameEnd := E } := by
      rw [rangeStream, hnext]
    have hih := ih { idx := st.idx + 1, frameStart := S, frameEnd := E } (by simp; omega) (by simp; omega)
      (fun hn => rinv_mono K ps pe c _ (K st.idx) (K (st.idx + 1)) (h.2 st.idx (st.idx + 1) h1 (by omega) (by omega)) hinv')
    rw [hstream]
    refine ⟨by simp [hih.1], ?_⟩
    intro d hd j hj1 hj2
    cases d with
    | zero => simpa using hmem j hj1 hj2
    | succ d =>
      rw [List.getD_cons_succ, show st.idx + (d + 1) = st.idx + 1 + d by omega]
      exact hih.2 d (by omega) j hj1 hj2

theorem rangeCfgOfBounds_fields (lo hi : Bound) (hlo : lo.validLo = true) (hhi : hi.validHi = true) :
    (rangeCfgOfBounds lo hi true).unbPrec = decide (lo = .up) ∧ (rangeCfgOfBounds lo hi true).startOff = rowOff lo ∧
    (rangeCfgOfBounds lo hi true).unbFoll = decide (hi = .uf) ∧ (rangeCfgOfBounds lo hi true).endOff = rowOff hi ∧
    (rangeCfgOfBounds lo hi true).hasOrder = true := by
  cases lo <;> cases hi <;> simp [Bound.validLo, Bound.validHi] at hlo hhi <;> exact ⟨rfl, rfl, rfl, rfl, rfl⟩

theorem rangeLoOK_iff (lo : Bound) (hlo : lo.validLo = true) (vi vj : Int) :
    lo.rangeLoOK (.fin vi) (.fin vj) = true ↔ (lo = .up ∨ vi + rowOff lo ≤ vj) := by
  cases lo <;> simp [Bound.validLo] at hlo <;> simp [Bound.rangeLoOK, rowOff, XInt.le, XInt.shift] <;> omega

theorem rangeHiOK_iff (hi : Bound) (hhi : hi.validHi = true) (vi vj : Int) :
    hi.rangeHiOK (.fin vi) (.fin vj) = true ↔ (hi = .uf ∨ vj ≤ vi + rowOff hi) := by
  cases hi <;> simp [Bound.validHi] at hhi <;> simp [Bound.rangeHiOK, rowOff, XInt.le, XInt.shift] <;> omega

/-- **RANGE framer = definition** on every ascending partition without NULL keys: for all frame
bounds the parser accepts, all partitions and all rows, the interval produced by the sliding
search of `rangeFramerBase.Next` contains exactly the positions whose key lies in the frame by
key distance (`…_partial`: DESC and NULL keys are the findings range_desc / range_null_key). -/
theorem rangeIntervals_mem_partial (lo hi : Bound) (hlo : lo.validLo = true) (hhi : hi.validHi = true)
    (keys : List Val) (K : Nat → Int) (ps pe : Nat) (hpe : ps ≤ pe) (h : SortedPart keys K ps pe) :
    (rangeIntervals (rangeCfgOfBounds lo hi true) keys ps pe).length = pe - ps ∧
    ∀ d, d < pe - ps → ∀ j, ps ≤ j → j < pe →
      ((((rangeIntervals (rangeCfgOfBounds lo hi true) keys ps pe).getD d (0, 0)).1 ≤ j ∧
        j < ((rangeIntervals (rangeCfgOfBounds lo hi true) keys ps pe).getD d (0, 0)).2) ↔
        rangeMem lo hi false keys ps pe (ps + d) j = true) := by
  have hinit : pe - ps > 0 → RInv K ps pe (rangeCfgOfBounds lo hi true) { idx := ps, frameStart := ps, frameEnd := ps } (K ps) :=
    fun _ => ⟨Nat.le_refl _, hpe, hpe, fun _ j hj1 hj2 => by simp at hj2; omega, fun _ j hj1 hj2 => by simp at hj2; omega⟩
  have hs := rangeStream_spec keys K ps pe h (rangeCfgOfBounds lo hi true)
    (rangeCfgOfBounds_fields lo hi hlo hhi).2.2.2.2 (pe - ps)
    { idx := ps, frameStart := ps, frameEnd := ps } (Nat.le_refl _) (by simp; omega) hinit
  refine ⟨hs.1, ?_⟩
  intro d hd j hj1 hj2
  have := hs.2 d hd j hj1 hj2
  unfold rangeIntervals
  rw [this]
  simp only [rangeMem, h.1 (ps + d) (by omega) (by omega), h.1 j hj1 hj2, normKey, Bool.false_eq_true, if_false,
    Bool.and_eq_true, decide_eq_true_eq, rangeLoOK_iff lo hlo, rangeHiOK_iff hi hhi, rangeCfgOfBounds_fields lo hi hlo hhi]
  constructor
  · intro ⟨a, b⟩; exact ⟨⟨⟨hj1, hj2⟩, a⟩, b⟩
  · intro ⟨⟨_, a⟩, b⟩; exact ⟨a, b⟩

-- non-vacuity: an ascending partition with ties, offset by an earlier partition
example : SortedPart [some 9, some 9, some 1, some 2, some 2, some 5] (fun j => [9, 9, 1, 2, 2, 5].getD j 0) 2 6 := by
  -- both halves are bounded quantifications once the hypotheses are put back in the order `j < 6 → …`
  refine ⟨fun j a b => ?_, fun i j a b c => ?_⟩
  · revert a; revert b; revert j; decide
  · revert a; revert b; revert i; revert c; revert j; decide
example : rangeIntervals (rangeCfgOfBounds (.prec 1) .cur true) [some 9, some 9, some 1, some 2, some 2, some 5] 2 6
    = [(2, 3), (2, 5), (2, 5), (5, 6)] := by decide +kernel

/-- finding range_null_key: with NULL keys in the partition the sliding search runs to the
partition end (`CompareNulls` orders NULL after every value, the sorter before) -/
theorem finding_range_null_key :
    ∃ (keys : List Val) (ps pe d j : Nat), ps ≤ j ∧ j < pe ∧ d < pe - ps ∧
      decide (((rangeIntervals (rangeCfgOfBounds .up .cur true) keys ps pe).getD d (0, 0)).1 ≤ j ∧
              j < ((rangeIntervals (rangeCfgOfBounds .up .cur true) keys ps pe).getD d (0, 0)).2)
        ≠ rangeMem .up .cur false keys ps pe (ps + d) j :=
  ⟨[none, none, some 3], 0, 3, 0, 2, by decide +kernel⟩

/-- finding range_desc: on a descending partition the same search (always `key − n`, `≥`/`>`
on an ascending scan) includes every later row -/
theorem finding_range_desc :
    ∃ (keys : List Val) (ps pe d j : Nat), ps ≤ j ∧ j < pe ∧ d < pe - ps ∧
      decide (((rangeIntervals (rangeCfgOfBounds .up .cur true) keys ps pe).getD d (0, 0)).1 ≤ j ∧
              j < ((rangeIntervals (rangeCfgOfBounds .up .cur true) keys ps pe).getD d (0, 0)).2)
        ≠ rangeMem .up .cur true keys ps pe (ps + d) j :=
  ⟨[some 4, some 2, some 1], 0, 3, 0, 1, by decide +kernel⟩

/-! ## Facts regenerated from the source on every run -/

def boundKinds : List (String × Bound) :=
  [("UnboundedPreceding", .up), ("NPreceding", .prec 1), ("CurrentRow", .cur), ("NFollowing", .foll 1), ("UnboundedFollowing", .uf)]

/-- field names of `rowFramerBase` that the model's `cfgOfBounds` sets -/
def rowCfgFields (c : RowCfg) : List String :=
  (if c.unbPrec then ["unboundedPreceding"] else []) ++ (if c.unbFoll then ["unboundedFollowing"] else []) ++
  (if c.startCur then ["startCurrentRow"] else []) ++ (if c.endCur then ["endCurrentRow"] else []) ++
  (if c.startNPrec ≠ 0 then ["startNPreceding"] else []) ++ (if c.endNPrec ≠ 0 then ["endNPreceding"] else []) ++
  (if c.startNFoll ≠ 0 then ["startNFollowing"] else []) ++ (if c.endNFoll ≠ 0 then ["endNFollowing"] else [])

def rangeCfgFields (c : RangeCfg) : List String :=
  ["orderBy"] ++
  (if c.unbPrec then ["unboundedPreceding"] else []) ++ (if c.unbFoll then ["unboundedFollowing"] else []) ++
  (if c.startCur then ["startCurrentRow"] else []) ++ (if c.endCur then ["endCurrentRow"] else []) ++
  (if c.startNPrec.isSome then ["startNPreceding"] else []) ++ (if c.endNPrec.isSome then ["endNPreceding"] else []) ++
  (if c.startNFoll.isSome then ["startNFollowing"] else []) ++ (if c.endNFoll.isSome then ["endNFollowing"] else [])

/-- the model's view of window_framer.og.go: constructor name ↦ fields set -/
def modelFramerTable : List (String × List String) :=
  (boundKinds.flatMap fun (ln, lo) => boundKinds.filterMap fun (hn, hi) =>
    if lo.validLo && hi.validHi then some ("Rows" ++ ln ++ "To" ++ hn, rowCfgFields (cfgOfBounds lo hi)) else none) ++
  (boundKinds.flatMap fun (ln, lo) => boundKinds.filterMap fun (hn, hi) =>
    if lo.validLo && hi.validHi then some ("Range" ++ ln ++ "To" ++ hn, rangeCfgFields (rangeCfgOfBounds lo hi true)) else none)

def sameSet (a b : List String) : Bool := a.all (b.contains ·) && b.all (a.contains ·)

def tableAgrees (gen model : List (String × List String)) : Bool :=
  gen.length == model.length &&
  gen.all (fun (n, fs) => match model.lookup n with | some ms => sameSet fs ms | none => false) &&
  model.all (fun (n, _) => (gen.lookup n).isSome)

/-- default framer per function, (with ORDER BY, without): what `Query.framer` and
`implPartition` assume -/
def modelDefaultFramers : List (String × String × String) := [
  ("avg", "RangeUnboundedPrecedingToCurrentRowFramer", "PartitionFramer"),
  ("count", "RangeUnboundedPrecedingToCurrentRowFramer", "PartitionFramer"),
  ("dense", "PeerGroupFramer", "PeerGroupFramer"),
  ("first", "RowsUnboundedPrecedingToCurrentRowFramer", "RowsUnboundedPrecedingToCurrentRowFramer"),
  ("lag", "PartitionFramer", "PartitionFramer"),
  ("last", "RowsUnboundedPrecedingToCurrentRowFramer", "RowsUnboundedPrecedingToCurrentRowFramer"),
  ("lead", "PartitionFramer", "PartitionFramer"),
  ("max", "RangeUnboundedPrecedingToCurrentRowFramer", "PartitionFramer"),
  ("min", "RangeUnboundedPrecedingToCurrentRowFramer", "PartitionFramer"),
  ("ntile", "PeerGroupFramer", "PeerGroupFramer"),
  ("prank", "PeerGroupFramer", "PeerGroupFramer"),
  ("rank", "PeerGroupFramer", "PeerGroupFramer"),
  ("rownum", "PartitionFramer", "PartitionFramer"),
  ("sum", "RangeUnboundedPrecedingToCurrentRowFramer", "PartitionFramer")]

theorem facts_match :
    tableAgrees Gms.Generated.C08.framerFields modelFramerTable = true ∧
    Gms.Generated.C08.rowsNewStart = "f.idx + f.startOffset" ∧
    Gms.Generated.C08.rowsNewEnd = "f.idx + f.endOffset + 1" ∧
    Gms.Generated.C08.rowsNextConds =
      ["f.idx != 0 && f.idx >= f.partitionEnd || !f.partitionSet", "f.partitionEnd == 0",
       "f.unboundedPreceding || newStart < f.partitionStart", "f.unboundedFollowing || newEnd > f.partitionEnd",
       "newStart > newEnd"] ∧
    Gms.Generated.C08.rowsOffsetCases =
      ["f.startNPreceding != 0 => startOffset = -f.startNPreceding", "f.startNFollowing != 0 => startOffset = f.startNFollowing",
       "f.startCurrentRow => startOffset = 0", "f.endNPreceding != 0 => endOffset = -f.endNPreceding",
       "f.endNFollowing != 0 => endOffset = f.endNFollowing", "f.endCurrentRow => endOffset = 0"] ∧
    Gms.Generated.C08.rangeInclusionCases =
      ["f.startCurrentRow => startInclusion = f.orderBy",
       "f.startNPreceding != nil => startInclusion = expression.NewArithmetic(f.orderBy, f.startNPreceding, ast.MinusStr)",
       "f.startNFollowing != nil => startInclusion = expression.NewArithmetic(f.orderBy, f.startNFollowing, ast.PlusStr)",
       "f.endCurrentRow => endInclusion = f.orderBy",
       "f.endNPreceding != nil => endInclusion = expression.NewArithmetic(f.orderBy, f.endNPreceding, ast.MinusStr)",
       "f.endNFollowing != nil => endInclusion = expression.NewArithmetic(f.orderBy, f.endNFollowing, ast.PlusStr)"] ∧
    Gms.Generated.C08.rangeBoundaryCalls =
      ["findInclusionBoundary(ctx, f.idx, newStart, f.partitionEnd, f.startInclusion, f.orderBy, buf, greaterThanOrEqual)",
       "findInclusionBoundary(ctx, f.idx, newEnd, f.partitionEnd, f.endInclusion, f.orderBy, buf, greaterThan)"] ∧
    Gms.Generated.C08.stop_greaterThan = 1 ∧ Gms.Generated.C08.stop_greaterThanOrEqual = 0 ∧
    Gms.Generated.C08.stop_unknown < Gms.Generated.C08.stop_greaterThanOrEqual ∧
    Gms.Generated.C08.nullCompareTable =
      [cmpNullGreater none none, cmpNullGreater none (some 1), cmpNullGreater (some 1) none,
       cmpNullGreater (some 1) (some 2), cmpNullGreater (some 2) (some 2), cmpNullGreater (some 3) (some 2)] ∧
    Gms.Generated.C08.defaultFramers = modelDefaultFramers :=
  ⟨by decide +kernel, rfl, rfl, rfl, rfl, rfl, rfl, rfl, rfl, by decide, rfl, rfl⟩

end Gms.C08
