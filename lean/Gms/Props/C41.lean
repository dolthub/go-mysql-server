/-
C41 — Persisted accounts and grants reload identically.

Model: Gms/Model/PrivSerial.lean (`serialize` = MySQLDb.Persist + mysql_db_serialize.go, `load` =
MySQLDb.LoadData + mysql_db_load.go, with switches that select the repaired loader = the Spec).
Lemmas: Gms/Lemmas/PrivSerial.lean. The property theorems are in `namespace Gms.C41` below.

Shape of the result. "Reload is the identity on the access-control state" splits into four parts; 1 and 3 are
stated for all states, 2 for every privilege set whose entries are the entries of Go maps filed under their
lower-cased names (`Keyed`, `KeysOK true`), 4 for every duplicate-free list of account keys:
  1. every non-ephemeral account comes back (`reload_accounts`) with the same credentials and flags
     (`reload_account_fields`)
  2. every account's privilege set holds exactly the same grants             (`reload_privileges_spec`,
     hence answers every question of the authorization code alike: `reload_view_spec`); for the code
     as it is, under the guard "no persisted entry has a name that differs from its key":
     `reload_privileges_partial`; the unguarded statement is false: `finding_reload_loses_mixed_case_names`
  3. the role edges are the same                                             (`reload_edges_spec`); as it
     is, under the guard "no edge has the admin option": `reload_edges_partial`; the unguarded statement
     is false: `finding_reload_drops_admin_option`
  4. a session runs as the same account                                      (`reload_same_account_partial`,
     under the guard "the session is not ambiguous"); unguarded it is false, because the reload
     re-inserts the accounts sorted by (Host, User) and `GetUser` takes the first match:
     `finding_reload_reorders_matching_accounts`.
The composition of 1–4 into whole decision grids (`UserActivePrivilegeSet` over the role edges, then
`UserHasPrivileges`/`HandleAuth`) is C39's machine, executed by the driver on every generated state and
compared with the real engine; it is not re-proved here.
Last, `remRtnRaw_eq`: the model of `RemoveRoutine` on arbitrary keys (`remRtnRaw`, Model/PrivSerial.lean; after a
reload the keys are the stored names) agrees with C39's `remRtn` on sets whose routine keys are lower-case.
-/
import Gms.Lemmas.PrivSerial
import Gms.Generated.C41

namespace Gms.C41
open Gms.Priv Gms.PrivSerial

/-- The in-memory structs, the fields `serializeUser`/`serializeRoleEdge` read and the fields
`LoadUser`/`LoadRoleEdge` set are the ones the model is written for. (`WithAdminOption` is written but
not read back; the reloaded maps are keyed by the stored names, not by their lower-cased form.) -/
theorem facts_match :
    Generated.C41.userFields = ["Attributes", "AuthString", "Host", "Identity", "IsEphemeral", "IsRole", "IsSuperUser",
      "Locked", "PasswordLastChanged", "Plugin", "PrivilegeSet", "SslCipher", "SslType", "User", "X509Issuer", "X509Subject"] ∧
    Generated.C41.roleEdgeFields = ["FromHost", "FromUser", "ToHost", "ToUser", "WithAdminOption"] ∧
    Generated.C41.serializeRoleEdgeReads = Generated.C41.roleEdgeFields ∧
    Generated.C41.loadRoleEdgeSets = ["FromHost", "FromUser", "ToHost", "ToUser"] ∧
    Generated.C41.serializePrivilegeSetReads = ["ToSlice", "getDatabases", "globalDynamic"] ∧
    Generated.C41.loadPrivilegeSetSets = ["databases", "globalDynamic", "globalStatic"] ∧
    Generated.C41.loadDatabaseSets = ["name", "privs", "routines", "tables"] ∧
    Generated.C41.loaderMapKeys = ["databases[database.Name()]", "globalDynamic[string(serialPrivilegeSet.GlobalDynamic(i))]",
      "tables[table.Name()]", "routines[key]", "key=routineKey{routine.RoutineName(), routine.isProc}"] :=
  ⟨rfl, rfl, rfl, rfl, rfl, rfl, rfl, rfl⟩

/-- Every field of `User` is persisted and restored, except the three run-time flags the model resets
(`IsSuperUser`, `IsEphemeral`) or does not carry (`IsRole`). -/
theorem all_fields_covered :
    (∀ f ∈ Generated.C41.userFields, f ∈ Generated.C41.serializeUserReads ∨ f ∈ ["IsEphemeral", "IsRole", "IsSuperUser"]) ∧
    (∀ f ∈ Generated.C41.serializeUserReads, f ∈ Generated.C41.loadUserSets) ∧
    (∀ f ∈ Generated.C41.loadUserSets, f ∈ Generated.C41.serializeUserReads) ∧
    (∀ f ∈ ["IsEphemeral", "IsRole", "IsSuperUser"], f ∉ Generated.C41.serializeUserReads) := by
  decide +kernel

/-- What the loader makes of one persisted account: every credential field and flag is the persisted one,
the run-time flags are reset, the privilege set is the persisted-and-reloaded set. -/
theorem reload_account_fields (fk : Bool) (u : NUser) :
    let u' := loadUser fk (serUser u)
    u'.name = u.name ∧ u'.host = u.host ∧ u'.plugin = u.plugin ∧ u'.auth = u.auth ∧ u'.locked = u.locked ∧
      u'.extra = u.extra ∧ u'.isSuper = false ∧ u'.isEphemeral = false ∧
      u'.privs = loadPrivSet fk (serPrivSet u.privs) :=
  ⟨rfl, rfl, rfl, rfl, rfl, rfl, rfl, rfl, rfl⟩

theorem reload_users_perm (fk fa : Bool) (s : NState) :
    (reload fk fa s).users.Perm ((s.users.filter (fun u => !u.isEphemeral)).map (fun u => loadUser fk (serUser u))) := by
  simp only [reload, load, serialize, sortUsers, ← List.map_append, List.map_map]
  apply List.Perm.map
  refine ((List.mergeSort_perm _ _).append (List.mergeSort_perm _ _)).trans ?_
  exact List.perm_append_comm.trans (List.filter_append_perm (fun u : NUser => u.isSuper) _)

/-- **Accounts.** The accounts of the reloaded state are exactly the images of the non-ephemeral accounts
(super users included), each once. -/
theorem reload_accounts (fk fa : Bool) (s : NState) (u' : NUser) :
    u' ∈ (reload fk fa s).users ↔ ∃ u ∈ s.users, u.isEphemeral = false ∧ u' = loadUser fk (serUser u) := by
  rw [(reload_users_perm fk fa s).mem_iff]
  simp only [List.mem_map, List.mem_filter, Bool.not_eq_true', and_assoc, eq_comm (a := u')]

/-- **Privileges (Spec loader).** For every privilege set whose entries are the entries of Go maps filed
under their lower-cased names — the invariant of every live set — persisting and reloading with the
repaired loader keeps exactly the grants the set holds, at every level. -/
theorem reload_privileges_spec (ps : NPrivSet) (hk : Keyed ps) (h : KeysOK true ps) (g : Grant) :
    (erase (loadPrivSet true (serPrivSet ps))).holds g = (erase ps).holds g :=
  reload_holds true ps hk h g

/-- … hence every question the authorization code asks the set (`Has`, `HasDynamic`, `Database(d).Has`,
`Table(t).Has`, `Routine(r).Has`, `Count() == 0`, `HasPrivileges()`) has the same answer, and with it
`UserHasPrivileges`, `RoutineAdminCheck` and `HandleAuth` (C39 `allow_iff`, `decisions_refine`). -/
theorem reload_view_spec (ps : NPrivSet) (hk : Keyed ps) (h : KeysOK true ps) :
    (erase (loadPrivSet true (serPrivSet ps))).view = (erase ps).view :=
  view_congr _ _ (reload_privileges_spec ps hk h)

theorem reload_decisions_spec (ps : NPrivSet) (hk : Keyed ps) (h : KeysOK true ps) (cur : String) (ops : List Op) :
    userHasPrivileges (erase (loadPrivSet true (serPrivSet ps))).view cur ops = userHasPrivileges (erase ps).view cur ops ∧
    routineAdminCheck (erase (loadPrivSet true (serPrivSet ps))).view cur ops = routineAdminCheck (erase ps).view cur ops := by
  rw [reload_view_spec ps hk h]; exact ⟨rfl, rfl⟩

/- Full statement for the code as it is — FALSE (see `finding_reload_loses_mixed_case_names`):
   theorem reload_privileges (ps) (hk : Keyed ps) (h : KeysOK true ps) (g) :
     (erase (loadPrivSet false (serPrivSet ps))).holds g = (erase ps).holds g -/

/-- **Privileges (code as it is), guarded.** If every persisted entry sits under its own name (no name
differs from its key), the reloaded set holds exactly the same grants under the same keys. -/
theorem reload_privileges_partial (ps : NPrivSet) (hk : Keyed ps) (h : KeysOK false ps) (g : Grant) :
    (erase (loadPrivSet false (serPrivSet ps))).holds g = (erase ps).holds g :=
  reload_holds false ps hk h g

/-- The guard of `reload_privileges_partial` is exactly the complement of the region predicate the driver
evaluates (`NDb.mixedCase`). -/
theorem keysOK_false_iff_not_mixedCase (ps : NPrivSet) :
    KeysOK false ps ↔ ps.dbs.all (fun d => !d.mixedCase) = true := by
  simp only [KeysOK, List.all_eq_true, Bool.not_eq_true']
  refine forall_congr' fun d => forall_congr' fun _ => ?_
  cases hp : d.hasPrivileges with
  | false => simp [NDb.mixedCase, hp]
  | true =>
    simp only [NDb.mixedCase, hp, Bool.true_and, Bool.or_eq_false_iff, List.any_eq_false, Bool.and_eq_true,
      bne_eq_false_iff_eq, bne_iff_ne, ne_eq, not_and, Decidable.not_not, forall_const]
    -- `keyOf false n` is `n`
    exact ⟨fun h => ⟨⟨h.key, h.tkey⟩, h.rkey⟩, fun h => ⟨h.1.1, h.1.2, h.2⟩⟩

/-- A live set with one database-level grant on a database named `n`. -/
def liveDb (n : String) (p : Priv) : NPrivSet :=
  { dbs := [{ key := lower n, name := n, privs := [p], tables := [], routines := [] }] }

theorem liveDb_ok (n : String) (p : Priv) : Keyed (liveDb n p) ∧ KeysOK true (liveDb n p) := by
  refine ⟨⟨by simp [liveDb], by simp [liveDb], by simp [liveDb]⟩, ?_⟩
  intro d hd _
  simp only [liveDb, List.mem_singleton] at hd
  subst hd
  exact ⟨rfl, by simp, by simp⟩

theorem reloaded_liveDb (n : String) (p : Priv) :
    erase (loadPrivSet false (serPrivSet (liveDb n p))) =
      { global := [], dynamic := [], dbs := [(n, { privs := [p], tables := [], routines := [] })] } := by
  simp [erase, loadPrivSet, serPrivSet, liveDb, serDbs, sortBy, NDb.hasPrivileges, loadDb, serTables, serRoutines,
    toSlice_singleton, putKey, eraseDb]
  -- what is left is `toSlice []` of the global list
  simp [toSlice, sortNats]

/-- **Finding F-C41-a (`reload_loses_mixed_case_names`).** For every database name `n` that is not
lower-case and every privilege `p`: on the engine that persisted, `REVOKE p ON n.*` removes the grant;
on the reloaded engine the same statement changes nothing (the entry sits under key `n`, the statement
looks under `lower n`), and the grant is still there for every decision (`Copy()` re-files it under
`lower n`). The same holds for table and routine names (harness corpus). -/
theorem finding_reload_loses_mixed_case_names (n : String) (p : Priv) (hn : lower n ≠ n) :
    ((erase (liveDb n p)).remDb n [p]).holds (.db (lower n) p) = false ∧
    (erase (loadPrivSet false (serPrivSet (liveDb n p)))).remDb n [p] = erase (loadPrivSet false (serPrivSet (liveDb n p))) ∧
    (normalizePs (erase (loadPrivSet false (serPrivSet (liveDb n p))))).holds (.db (lower n) p) = true := by
  rw [reloaded_liveDb]
  refine ⟨?_, ?_, ?_⟩
  · simp [erase, liveDb, eraseDb, PrivSet.remDb, mget, premAll, prem, merase, PrivSet.holds]
  · simp [PrivSet.remDb, mget, Ne.symm hn]
  · simp [normalizePs, mfold, mget, mset, merase, PrivSet.unionDb, normDb, pinsAll, pins, PrivSet.holds]

theorem lower_D_ne : lower "D" ≠ "D" := by decide +kernel

/-- The finding is not vacuous (`D` is such a name) and it refutes the unguarded statement: the reloaded
set does not hold the grant under the key the live set holds it under. -/
theorem finding_reload_loses_mixed_case_names_witness :
    ∃ ps : NPrivSet, Keyed ps ∧ KeysOK true ps ∧
      ∃ g, (erase (loadPrivSet false (serPrivSet ps))).holds g ≠ (erase ps).holds g := by
  refine ⟨liveDb "D" 0, (liveDb_ok "D" 0).1, (liveDb_ok "D" 0).2, .db (lower "D") 0, ?_⟩
  rw [reloaded_liveDb]
  simp [erase, liveDb, eraseDb, PrivSet.holds, mget, Ne.symm lower_D_ne]

/-- Non-vacuity of `reload_privileges_spec` / `reload_view_spec`: the same set satisfies their hypotheses. -/
example : Keyed (liveDb "D" 0) ∧ KeysOK true (liveDb "D" 0) := liveDb_ok "D" 0

/-- Non-vacuity of `reload_privileges_partial`: a lower-case-named set with a table grant. -/
example : Keyed { dbs := [{ key := "d", name := "d", privs := [], tables := [{ key := "t", name := "t", privs := [0] }], routines := [] }] } ∧
    KeysOK false { dbs := [{ key := "d", name := "d", privs := [], tables := [{ key := "t", name := "t", privs := [0] }], routines := [] }] } := by
  refine ⟨⟨by simp, by simp, by simp⟩, ?_⟩
  intro d hd _
  simp only [List.mem_singleton] at hd
  subst hd
  exact ⟨rfl, by simp [keyOf], by simp⟩

/-- The role edges after a reload are the images of the persisted ones under the loader. -/
theorem reload_edges (fk fa : Bool) (s : NState) (e : Edge) :
    e ∈ (reload fk fa s).edges ↔ ∃ e0 ∈ s.edges, e = loadEdge fa e0 := by
  simp only [reload, load, serialize, mem_foldl_putEdge, List.mem_map, List.mem_mergeSort, List.not_mem_nil, false_or,
    eq_comm]

theorem reload_edges_of_unchanged (fk fa : Bool) (s : NState) (hf : ∀ e0 ∈ s.edges, loadEdge fa e0 = e0) (e : Edge) :
    e ∈ (reload fk fa s).edges ↔ e ∈ s.edges := by
  rw [reload_edges]
  exact ⟨fun ⟨e0, h0, he⟩ => he ▸ (hf e0 h0).symm ▸ h0, fun h0 => ⟨e, h0, (hf e h0).symm⟩⟩

/-- **Role edges (Spec loader).** The reloaded state has exactly the persisted edges. -/
theorem reload_edges_spec (fk : Bool) (s : NState) (e : Edge) : e ∈ (reload fk true s).edges ↔ e ∈ s.edges :=
  reload_edges_of_unchanged fk true s (fun _ _ => rfl) e

/- Full statement for the code as it is — FALSE (see `finding_reload_drops_admin_option`):
   theorem reload_edges_actual (s) (e) : e ∈ (reload fk false s).edges ↔ e ∈ s.edges -/

/-- **Role edges (code as it is), guarded**: without an ADMIN OPTION edge the edges are exactly the
persisted ones. -/
theorem reload_edges_partial (fk : Bool) (s : NState) (h : hasAdminEdge s = false) (e : Edge) :
    e ∈ (reload fk false s).edges ↔ e ∈ s.edges := by
  refine reload_edges_of_unchanged fk false s (fun e0 h0 => ?_) e
  have := (List.any_eq_false.1 h) e0 h0
  cases e0 with
  | mk a b c d adm =>
    simp only [Bool.not_eq_true] at this
    simp only [loadEdge, Bool.false_eq_true, if_false]
    simp_all

/-- **Finding F-C41-b (`reload_drops_admin_option`).** Whatever the state: after a reload by the code as
it is no edge carries the admin option — every `WITH ADMIN OPTION` edge of the persisted state is missing
from the reloaded one (its holder can no longer grant the role). -/
theorem finding_reload_drops_admin_option (fk : Bool) (s : NState) :
    (∀ e ∈ (reload fk false s).edges, e.admin = false) ∧
    (∀ e ∈ s.edges, e.admin = true → e ∉ (reload fk false s).edges) := by
  have h1 : ∀ e ∈ (reload fk false s).edges, e.admin = false := by
    intro e he
    obtain ⟨e0, _, rfl⟩ := (reload_edges fk false s e).1 he
    simp [loadEdge]
  exact ⟨h1, fun e _ ha he => by simp [h1 e he] at ha⟩

/-- The finding is not vacuous: a state with such an edge. -/
example : ∃ s : NState, ∃ e ∈ s.edges, e.admin = true :=
  ⟨{ edges := [⟨"%", "r1", "localhost", "u1", true⟩] }, ⟨"%", "r1", "localhost", "u1", true⟩, by simp, rfl⟩

example : hasAdminEdge { edges := [⟨"%", "r1", "localhost", "u1", false⟩] } = false := by decide +kernel

/-- The (name, host) keys `GetUser` searches. -/
def keysOf (s : NState) : List (String × String) := s.users.map (fun u => (u.name, u.host))

theorem reload_keys_perm (fk fa : Bool) (s : NState) :
    (keysOf { users := s.users.filter (fun u => !u.isEphemeral) }).Perm (keysOf (reload fk fa s)) := by
  have h := ((reload_users_perm fk fa s).map (fun u => (u.name, u.host))).symm
  simpa [keysOf, List.map_map, Function.comp_def, loadUser, serUser] using h

/-- The underlying fact about `GetUser`: the result is a function of the *set* of accounts unless the
session is ambiguous. -/
theorem account_lookup_order_independent (keys keys' : List (String × String)) (hp : keys.Perm keys') (hn : keys.Nodup)
    (user host : String) (rs : Bool) (ha : ambiguous keys user host rs = false) :
    getUserKey keys' user host rs = getUserKey keys user host rs := by
  rw [getUserKey_eq, getUserKey_eq]
  -- Each search of the cascade is reached only when the searches before it found nothing, and then
  -- `ambiguous … = false` leaves at most one entry that qualifies.
  refine (or_congr_of_none (find?_perm _ hp (filter_exact_le_one keys hn (user, normHost host))) fun h1 => ?_).symm
  have hex : keys.any (fun k => decide (k.2 = normHost host ∧ k.1 = user)) = false :=
    List.any_eq_false.2 (List.find?_eq_none.1 h1)
  simp only [ambiguous, hex, Bool.not_false, Bool.true_and, Bool.or_eq_false_iff, decide_eq_false_iff_not,
    Bool.and_eq_false_iff, Nat.not_le] at ha
  simp only [matchCount] at ha
  refine or_congr_of_none (find?_perm _ hp (by omega)) fun h2 => find?_perm _ hp ?_
  rcases ha.2 with h | h
  · exact absurd (List.length_eq_zero_iff.2 (List.filter_eq_nil_iff.2 (List.find?_eq_none.1 h2))) h
  · omega

/- Full statement — FALSE (see `finding_reload_reorders_matching_accounts`):
   theorem reload_same_account (s) (user host) :
     getUserKey (keysOf (reload fk fa s)) user host rs = getUserKey (keysOf {users := live s}) user host rs -/

/-- **Account lookup, guarded.** A session that is not ambiguous (it is the primary key of an account, or
at most one account of its name — else at most one anonymous account — accepts its host) runs as the same
account after the reload, although the reload re-inserts the accounts in another order. -/
theorem reload_same_account_partial (fk fa : Bool) (s : NState)
    (hn : (keysOf { users := s.users.filter (fun u => !u.isEphemeral) }).Nodup)
    (user host : String) (rs : Bool)
    (ha : ambiguous (keysOf { users := s.users.filter (fun u => !u.isEphemeral) }) user host rs = false) :
    getUserKey (keysOf (reload fk fa s)) user host rs =
      getUserKey (keysOf { users := s.users.filter (fun u => !u.isEphemeral) }) user host rs :=
  account_lookup_order_independent _ _ (reload_keys_perm fk fa s) hn user host rs ha

def wU (h : String) (g : List Priv) : NUser :=
  { name := "u", host := h, plugin := "", auth := "", locked := false, isSuper := false, isEphemeral := false,
    extra := [], privs := { global := g } }
/-- Two accounts `u@127.0.0.1` (created first) and `u@%`. -/
def wOrder : NState := { users := [wU "127.0.0.1" [0], wU "%" []] }

theorem wOrder_reloaded (fk fa : Bool) : keysOf (reload fk fa wOrder) = [("u", "%"), ("u", "127.0.0.1")] := by
  -- `List.mergeSort` is defined by well-founded recursion, on which kernel evaluation gets stuck: the two-element sort is
  -- unfolded by `simp` here, and `decide +kernel` in the finding below runs on the result
  simp [keysOf, reload, load, serialize, wOrder, sortUsers, List.mergeSort, List.MergeSort.Internal.splitInTwo, pairLe,
    strLe, wU, loadUser, serUser]

/-- **Finding F-C41-c (`reload_reorders_matching_accounts`).** `Persist` writes the accounts sorted by
(Host, User), `LoadData` inserts them in that order, and `GetUser` returns the first account of the name
whose host pattern accepts the client: a session from the loopback address runs as `u@127.0.0.1` (which
holds SELECT) on the engine that persisted and as `u@%` (which holds nothing) on the reloaded one. -/
theorem finding_reload_reorders_matching_accounts (fk fa : Bool) :
    getUserKey (keysOf wOrder) "u" "localhost" false = some ("u", "127.0.0.1") ∧
    getUserKey (keysOf (reload fk fa wOrder)) "u" "localhost" false = some ("u", "%") ∧
    ambiguous (keysOf wOrder) "u" "localhost" false = true := by
  rw [wOrder_reloaded]
  decide +kernel

/-- Non-vacuity of `reload_same_account_partial`: the same two accounts and a session from elsewhere. -/
example : (keysOf { users := wOrder.users.filter (fun u => !u.isEphemeral) }).Nodup ∧
    ambiguous (keysOf { users := wOrder.users.filter (fun u => !u.isEphemeral) }) "u" "elsewhere" false = false := by
  decide +kernel

/-- On a set whose routine keys are lower-case (every live set), the follow-up model `remRtnRaw` is C39's
`remRtn`. -/
theorem remRtnRaw_eq (ps : PrivSet) (d r : String) (b : Bool) (privs : List Priv)
    (h : ∀ e ∈ (ps.dbOrNew d).routines, lower e.1.1 = e.1.1) :
    remRtnRaw ps d r b privs = ps.remRtn d r b privs := by
  by_cases hr : r = lower r
  · simp only [remRtnRaw, PrivSet.remRtn, ← hr, and_true]
  · simp only [remRtnRaw, PrivSet.remRtn]
    have hno : ∀ rp, merase (mset (ps.dbOrNew d).routines (lower r, b) rp) (r, b) = mset (ps.dbOrNew d).routines (lower r, b) rp := by
      intro rp
      apply merase_of_not_mem
      intro e he hk
      simp only [mset, List.mem_cons] at he
      rcases he with rfl | he
      · exact hr (Prod.mk.inj hk).1.symm
      · have hm : e ∈ (ps.dbOrNew d).routines := (List.mem_filter.1 he).1
        have := h e hm
        rw [hk] at this
        exact hr this.symm
    simp only [hr, and_false, if_false]
    split
    · rw [hno]
    · rfl

end Gms.C41
