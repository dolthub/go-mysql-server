/-
Insertion sort over an interface. Several models define their own ordered insertion (`insertBy`,
`insertSorted`, `insertIdx`, `insertProc`) and sort with it by recursion, `foldr` or `foldl`. `Inserts le ins` holds the
two defining equations; every model supplies them by unfolding its insertion (`rfl`, or one `simp only` where
the model branches on a proposition and `le` is its `decide`). What follows from them is proved here once: where
the new element lands, that insertion and the sorts permute, and that for a transitive total `le` the sort
is core's stable `mergeSort` (whose lemmas give sortedness and uniqueness).
-/

namespace Gms.InsertSort
open List

variable {α : Type} {le : α → α → Bool} {ins : α → List α → List α}

structure Inserts (le : α → α → Bool) (ins : α → List α → List α) : Prop where
  nil (x : α) : ins x [] = [x]
  cons (x y : α) (ys : List α) : ins x (y :: ys) = if le x y then x :: y :: ys else y :: ins x ys

/-- A sort written by recursion (`sort (x :: xs) = ins x (sort xs)`) is the right fold. -/
theorem eq_foldr {sort : List α → List α} (nil : sort [] = []) (cons : ∀ x xs, sort (x :: xs) = ins x (sort xs))
    (l : List α) : sort l = l.foldr ins [] := by
  induction l with
  | nil => exact nil
  | cons x xs ih => rw [cons, ih, foldr_cons]

namespace Inserts
variable (h : Inserts le ins)
include h

/-- `x` goes behind the elements it is not `le` to and in front of the first one it is `le` to. -/
theorem eq_span (x : α) (l : List α) : ins x l = l.takeWhile (!le x ·) ++ x :: l.dropWhile (!le x ·) := by
  induction l with
  | nil => exact h.nil x
  | cons y ys ih => rw [h.cons]; cases hxy : le x y <;> simp [hxy, ih]

theorem perm (x : α) (l : List α) : (ins x l).Perm (x :: l) := by
  rw [h.eq_span]
  exact perm_middle.trans (.cons x (by rw [takeWhile_append_dropWhile]))

theorem mem {x y : α} {l : List α} : y ∈ ins x l ↔ y = x ∨ y ∈ l := (h.perm x l).mem_iff.trans mem_cons

/-- Where `x` lands when the split is given. Read off `eq_span` it is no shorter: `h₁` and `h₂` have to be turned into
facts about `(!le x ·)` for core's `takeWhile_append_of_pos` and `dropWhile_append_of_pos`, and `l₂` is split all the same. -/
theorem append (x : α) (l₁ l₂ : List α) (h₁ : ∀ y ∈ l₁, le x y = false) (h₂ : ∀ y ∈ l₂.head?, le x y = true) :
    ins x (l₁ ++ l₂) = l₁ ++ x :: l₂ := by
  induction l₁ with
  | nil =>
    cases l₂ with
    | nil => exact h.nil x
    | cons y ys => rw [nil_append, h.cons, if_pos (h₂ y rfl)]; rfl
  | cons y ys ih =>
    rw [cons_append, h.cons, h₁ y mem_cons_self, if_neg nofun, ih fun z hz => h₁ z (mem_cons_of_mem _ hz)]; rfl

theorem foldr_perm (l : List α) : (l.foldr ins []).Perm l := by
  induction l with
  | nil => exact .nil
  | cons x xs ih => exact (h.perm x _).trans (.cons x ih)

theorem foldl_perm (l s : List α) : (l.foldl (fun s x => ins x s) s).Perm (s ++ l) := by
  induction l generalizing s with
  | nil => rw [append_nil]; exact .refl _
  | cons x l ih => exact (ih _).trans (((h.perm x s).append_right _).trans perm_middle.symm)

theorem foldr_of_pairwise {l : List α} (hl : l.Pairwise (fun a b => le a b = true)) : l.foldr ins [] = l := by
  induction l with
  | nil => rfl
  | cons x xs ih =>
    rw [foldr_cons, ih (pairwise_cons.1 hl).2]
    exact h.append x [] xs nofun fun y hy => rel_of_pairwise_cons hl (mem_of_mem_head? hy)

variable (tr : ∀ a b c, le a b → le b c → le a c) (tot : ∀ a b, le a b || le b a)
include tr tot

/-- By `mergeSort_cons` core's stable merge sort, too, puts a new head behind exactly the elements the head
is not `le` to. -/
theorem foldr_eq_mergeSort (l : List α) : l.foldr ins [] = mergeSort l le := by
  induction l with
  | nil => exact mergeSort_nil.symm
  | cons x xs ih =>
    obtain ⟨l₁, l₂, hx, hxs, hlt⟩ := mergeSort_cons tr tot x xs
    have hs := pairwise_mergeSort tr tot (x :: xs)
    rw [hx] at hs ⊢
    rw [foldr_cons, ih, hxs]
    refine h.append x l₁ l₂ (fun y hy => by simpa using hlt y hy) fun y hy => ?_
    exact rel_of_pairwise_cons (pairwise_append.1 hs).2.1 (mem_of_mem_head? hy)

theorem pairwise_foldr (l : List α) : (l.foldr ins []).Pairwise (fun a b => le a b = true) :=
  h.foldr_eq_mergeSort tr tot l ▸ pairwise_mergeSort tr tot l

/-- An order that is antisymmetric on `s` has one sorted arrangement of `s`. -/
theorem foldr_eq_of_perm {l s : List α} (hp : l.Perm s) (hs : s.Pairwise (fun a b => le a b))
    (anti : ∀ a b, a ∈ s → b ∈ s → le a b → le b a → a = b) : l.foldr ins [] = s := by
  have hps := (h.foldr_perm l).trans hp
  exact hps.eq_of_pairwise (fun a b ha hb => anti a b (hps.mem_iff.1 ha) hb) (h.pairwise_foldr tr tot l) hs

end Inserts
end Gms.InsertSort
