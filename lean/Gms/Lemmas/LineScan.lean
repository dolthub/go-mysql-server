/-
C50 — chunking independence of the LOAD DATA line scanner (`Gms.Outfile.scan`): for every way the
reader cuts the file into chunks, the tokens `bufio.Scanner` + `LoadData.SplitLines` produce are the
whole-file split `splitLines`. From `NoOcc` on: a split function that remembers how far it has searched
(`splitFnResume back`) drives the scanner to the same tokens as the stateless one, provided it resumes at least
`len(terminator) - 1` bytes before the end of what it searched (`scanResume_of_le`). `index_first` and
`splitLines_line` (the whole-file split of a line as the writer produces it) serve the round trip in Gms/Props/C50.lean.
-/
import Gms.Model.Outfile

namespace Gms.Outfile

theorem isPrefixOf_append_of_le (p d e : Bytes) (h : p.length ≤ d.length) :
    p.isPrefixOf (d ++ e) = p.isPrefixOf d := by
  rw [Bool.eq_iff_iff, List.isPrefixOf_iff_prefix, List.isPrefixOf_iff_prefix]
  exact ⟨fun hp => List.prefix_of_prefix_length_le hp (List.prefix_append d e) h, List.prefix_append_of_prefix⟩

theorem isPrefixOf_append_self (a b : Bytes) : a.isPrefixOf (a ++ b) = true :=
  List.isPrefixOf_iff_prefix.mpr (List.prefix_append a b)

theorem isPrefixOf_cons_false {p rest : Bytes} {ch : UInt8} (hp : p ≠ []) (h : p.headD 0 ≠ ch) :
    p.isPrefixOf (ch :: rest) = false := by
  obtain ⟨f, fs, rfl⟩ := List.exists_cons_of_ne_nil hp
  exact Bool.and_eq_false_imp.mpr fun e => absurd (beq_iff_eq.mp e) h

theorem splitLines_skip (lt l rest cur : Bytes) :
    splitLines lt l.length (l ++ rest) cur = splitLines lt 0 rest cur := by
  induction l with
  | nil => rfl
  | cons c cs ih => simpa [splitLines] using ih

theorem index_bound {p d : Bytes} {i : Nat} (h : index p d = some i) : i + p.length ≤ d.length := by
  fun_induction index p d generalizing i with
  | case1 => cases h
  | case2 c cs hp =>
    cases h
    rw [Nat.zero_add]; exact (List.isPrefixOf_iff_prefix.mp hp).length_le
  | case3 c cs hp ih =>
    obtain ⟨j, hj, rfl⟩ := Option.map_eq_some_iff.mp h
    have := ih hj
    rw [List.length_cons]; omega

/-- The first occurrence of the terminator does not move when more bytes arrive. -/
theorem index_append (p e : Bytes) : ∀ (d : Bytes) (i : Nat), index p d = some i → index p (d ++ e) = some i := by
  intro d i h
  have hl : p.length ≤ d.length := Nat.le_trans (Nat.le_add_left _ i) (index_bound h)
  fun_induction index p d generalizing i with
  | case1 => cases h
  | case2 c cs hp =>
    rw [List.cons_append, index, ← List.cons_append, isPrefixOf_append_of_le p (c :: cs) e hl, if_pos hp]
    exact h
  | case3 c cs hp ih =>
    obtain ⟨j, hj, rfl⟩ := Option.map_eq_some_iff.mp h
    rw [List.cons_append, index, ← List.cons_append, isPrefixOf_append_of_le p (c :: cs) e hl, if_neg hp,
      ih j hj (Nat.le_trans (Nat.le_add_left _ j) (index_bound hj))]
    rfl

theorem splitLines_some {lt data : Bytes} {i : Nat} (hl : lt ≠ []) (cur : Bytes) (h : index lt data = some i) :
    splitLines lt 0 data cur
      = (cur.reverse ++ data.take (i + lt.length)) :: splitLines lt 0 (data.drop (i + lt.length)) [] := by
  fun_induction index lt data generalizing cur i with
  | case1 => cases h
  | case2 c cs hp =>
    -- the buffer is `lt ++ rest`; the loop skips the remaining `lt.length - 1` bytes of `lt`
    cases h
    obtain ⟨l0, lt', rfl⟩ := List.exists_cons_of_ne_nil hl
    obtain ⟨rest, hr⟩ := List.isPrefixOf_iff_prefix.mp hp
    rw [List.cons_append] at hr
    obtain ⟨rfl, rfl⟩ := List.cons.inj hr
    rw [splitLines, if_pos hp, Nat.zero_add, List.length_cons, Nat.add_sub_cancel, splitLines_skip,
      ← List.cons_append, List.take_left', List.drop_left']
    · rfl
    · rfl
  | case3 c cs hp ih =>
    obtain ⟨j, hj, rfl⟩ := Option.map_eq_some_iff.mp h
    rw [splitLines, if_neg hp, ih (c :: cur) hj,
      show j + 1 + lt.length = (j + lt.length) + 1 by omega, List.take_succ_cons, List.drop_succ_cons,
      List.reverse_cons, List.append_assoc]
    rfl

theorem splitLines_none (lt data cur : Bytes) (h : index lt data = none) :
    splitLines lt 0 data cur = if (cur.reverse ++ data).isEmpty then [] else [cur.reverse ++ data] := by
  fun_induction index lt data generalizing cur with
  | case1 => simp [splitLines]
  | case2 c cs hp => cases h
  | case3 c cs hp ih =>
    rw [splitLines, if_neg hp, ih (c :: cur) (Option.map_eq_none_iff.mp h), List.reverse_cons, List.append_assoc]
    rfl

theorem index_first (p content rest : Bytes) (hp : p ≠ []) (hc : p.headD 0 ∉ content) :
    index p (content ++ p ++ rest) = some content.length := by
  induction content with
  | nil =>
    obtain ⟨x, xs, rfl⟩ := List.exists_cons_of_ne_nil hp
    rw [List.nil_append, List.cons_append, index, ← List.cons_append, if_pos (isPrefixOf_append_self _ rest)]
    rfl
  | cons c cs ih =>
    rw [List.cons_append, List.cons_append, index, isPrefixOf_cons_false hp (List.ne_of_not_mem_cons hc),
      if_neg Bool.false_ne_true, ih (List.not_mem_of_not_mem_cons hc)]
    rfl

theorem splitLines_line (lt content rest cur : Bytes) (hl : lt ≠ []) (hc : lt.headD 0 ∉ content) :
    splitLines lt 0 (content ++ lt ++ rest) cur = (cur.reverse ++ content ++ lt) :: splitLines lt 0 rest [] := by
  rw [splitLines_some hl cur (index_first lt content rest hl hc), ← List.length_append,
    List.take_left', List.drop_left', List.append_assoc]
  · rfl
  · rfl

theorem splitFn_of_index_some {lt d : Bytes} {i : Nat} (atEOF : Bool) (hi : index lt d = some i) :
    splitFn lt d atEOF = (i + lt.length, some (d.take (i + lt.length))) := by
  cases d with
  | nil => cases hi
  | cons c cs => rw [splitFn, List.isEmpty_cons, Bool.and_false, if_neg Bool.false_ne_true, hi]

/-- Both users give `atEOF` as a literal (and, at EOF, a buffer `c :: cs`), so that the `if` reduces to the pair
`drain_succ_some` / `drain_succ_none` ask for. -/
theorem splitFn_of_index_none {lt d : Bytes} (atEOF : Bool) (hi : index lt d = none) :
    splitFn lt d atEOF = if atEOF && !d.isEmpty then (d.length, some d) else (0, none) := by
  rw [splitFn, hi]
  cases atEOF <;> cases d <;> rfl

theorem drain_succ_some {lt buf tok : Bytes} {atEOF : Bool} {adv : Nat} (fuel : Nat)
    (h : splitFn lt buf atEOF = (adv, some tok)) (ha : adv ≠ 0) :
    drain lt atEOF (fuel + 1) buf
      = (tok :: (drain lt atEOF fuel (buf.drop adv)).1, (drain lt atEOF fuel (buf.drop adv)).2) := by
  rw [drain, h]; exact if_neg ha

theorem drain_succ_none {lt buf : Bytes} {atEOF : Bool} {adv : Nat} (fuel : Nat)
    (h : splitFn lt buf atEOF = (adv, none)) : drain lt atEOF (fuel + 1) buf = ([], buf) := by
  rw [drain, h]

theorem drain_of_index_some {lt d : Bytes} {i : Nat} (hl : lt ≠ []) (atEOF : Bool) (fuel : Nat)
    (hi : index lt d = some i) :
    drain lt atEOF (fuel + 1) d
      = (d.take (i + lt.length) :: (drain lt atEOF fuel (d.drop (i + lt.length))).1,
          (drain lt atEOF fuel (d.drop (i + lt.length))).2) :=
  drain_succ_some fuel (splitFn_of_index_some atEOF hi)
    (Nat.ne_of_gt (Nat.lt_of_lt_of_le (List.length_pos_iff.mpr hl) (Nat.le_add_left _ i)))

theorem length_drop_lt_of_index {lt d : Bytes} {i fuel : Nat} (hl : lt ≠ []) (hi : index lt d = some i)
    (h : d.length < fuel + 1) : (d.drop (i + lt.length)).length < fuel := by
  have := index_bound hi
  have := List.length_pos_iff.mpr hl
  rw [List.length_drop]; omega

/-- At EOF the scanner loop yields exactly the whole-file split of the pending bytes. -/
theorem drain_eof (lt : Bytes) (hl : lt ≠ []) :
    ∀ (fuel : Nat) (data : Bytes), data.length < fuel → drain lt true fuel data = (splitLines lt 0 data [], []) := by
  intro fuel
  induction fuel with
  | zero => intro data h; omega
  | succ fuel ih =>
    intro data h
    cases data with
    | nil => rfl
    | cons c cs =>
      cases hi : index lt (c :: cs) with
      | some i =>
        rw [drain_of_index_some hl true fuel hi, ih _ (length_drop_lt_of_index hl hi h),
          splitLines_some hl [] hi]
        rfl
      | none =>
        rw [drain_succ_some fuel (splitFn_of_index_none true hi) (Nat.succ_ne_zero _), List.drop_length,
          ih [] (Nat.lt_of_le_of_lt (Nat.zero_le _) (Nat.lt_of_succ_lt_succ h)), splitLines_none lt (c :: cs) [] hi]
        rfl

/-- Before EOF: the tokens the scanner loop emits from the buffered bytes `d`, followed by the
whole-file split of (what it left pending ++ the bytes still to come), are the whole-file split of
`d ++ e` — whatever `e` is. -/
theorem drain_more (lt : Bytes) (hl : lt ≠ []) (e : Bytes) :
    ∀ (fuel : Nat) (d : Bytes), d.length < fuel →
      splitLines lt 0 (d ++ e) []
        = (drain lt false fuel d).1 ++ splitLines lt 0 ((drain lt false fuel d).2 ++ e) [] := by
  intro fuel
  induction fuel with
  | zero => intro d h; omega
  | succ fuel ih =>
    intro d h
    cases hi : index lt d with
    | none => rw [drain_succ_none fuel (splitFn_of_index_none false hi)]; rfl
    | some i =>
      have hb := index_bound hi
      rw [drain_of_index_some hl false fuel hi, splitLines_some hl [] (index_append lt e d i hi),
        List.take_append_of_le_length hb, List.drop_append_of_le_length hb, ih _ (length_drop_lt_of_index hl hi h)]
      rfl

/-- The streaming scanner equals the whole-file split of everything it is given. -/
theorem scan_eq (lt : Bytes) (hl : lt ≠ []) :
    ∀ (chunks : List Bytes) (buf : Bytes), scan lt buf chunks = splitLines lt 0 (buf ++ chunks.flatten) [] := by
  intro chunks
  induction chunks with
  | nil => intro buf; simp [scan, drain_eof lt hl (buf.length + 1) buf (by omega)]
  | cons c cs ih =>
    intro buf
    have := drain_more lt hl cs.flatten (buf.length + c.length + 1) (buf ++ c) (by simp only [List.length_append]; omega)
    simp only [scan, ih, List.flatten_cons]
    rw [← List.append_assoc, this]

def NoOcc (p d : Bytes) (k : Nat) : Prop := ∀ j, j < k → p.isPrefixOf (d.drop j) = false

theorem index_skip (p : Bytes) : ∀ (k : Nat) (d : Bytes), NoOcc p d k →
    index p d = (index p (d.drop k)).map (· + k) := by
  intro k
  induction k with
  | zero => intro d _; simp
  | succ k ih =>
    intro d h
    cases d with
    | nil => rfl
    | cons c cs =>
      have h0 : p.isPrefixOf (c :: cs) = false := h 0 (Nat.zero_lt_succ k)
      rw [index, h0, if_neg Bool.false_ne_true, ih cs (fun j hj => h (j + 1) (Nat.succ_lt_succ hj)), Option.map_map]
      rfl

theorem index_none_noOcc {p d : Bytes} (hp : p ≠ []) (h : index p d = none) (k : Nat) : NoOcc p d k := by
  rintro j -
  fun_induction index p d generalizing j with
  | case1 =>
    obtain ⟨x, xs, rfl⟩ := List.exists_cons_of_ne_nil hp
    rw [List.drop_nil]; rfl
  | case2 c cs hpre => cases h
  | case3 c cs hpre ih =>
    cases j with
    | zero => exact Bool.eq_false_iff.mpr hpre
    | succ j => exact ih (Option.map_eq_none_iff.mp h) j

/-- What the simulation needs of the remembered offset: no terminator starts before it, and it is far
enough from the end of the pending bytes that bytes arriving later cannot complete a terminator that
starts before it. -/
def Resumable (lt buf : Bytes) (s : Nat) : Prop :=
  NoOcc lt buf s ∧ (0 < s → s + lt.length ≤ buf.length + 1)

theorem resumable_zero (lt buf : Bytes) : Resumable lt buf 0 :=
  ⟨fun j hj => absurd hj (Nat.not_lt_zero j), fun h => absurd h (Nat.lt_irrefl 0)⟩

theorem resumable_append (lt buf e : Bytes) (s : Nat) (h : Resumable lt buf s) : Resumable lt (buf ++ e) s := by
  refine ⟨fun j hj => ?_, fun hs => ?_⟩
  · -- a terminator starting at `j < s` would end inside `buf`
    have := h.2 (Nat.zero_lt_of_lt hj)
    rw [List.drop_append_of_le_length (by omega),
      isPrefixOf_append_of_le lt (buf.drop j) e (by rw [List.length_drop]; omega)]
    exact h.1 j hj
  · have := h.2 hs
    simp only [List.length_append]; omega

/-- Third clause: after a token the loop drops `adv` bytes, and `Resumable` of the old buffer says something of the
new one only for the offset 0. -/
theorem splitFnResume_ok {lt buf : Bytes} {back s : Nat} {atEOF : Bool} (hl : lt ≠ []) (hb : lt.length - 1 ≤ back)
    (hinv : Resumable lt buf s) {adv : Nat} {tok : Option Bytes} {s' : Nat}
    (hr : splitFnResume back lt buf atEOF s = (adv, tok, s')) :
    splitFn lt buf atEOF = (adv, tok) ∧ Resumable lt buf s' ∧ (tok ≠ none → s' = 0) := by
  have hidx := index_skip lt s buf hinv.1
  rw [splitFn, hidx]
  revert hr
  fun_cases splitFnResume back lt buf atEOF s with
  | case1 hempty =>
    rintro ⟨⟩
    exact ⟨if_pos hempty, hinv, fun h => absurd rfl h⟩
  | case2 hempty i hi =>
    rintro ⟨⟩
    rw [if_neg hempty, hi, Option.map_some, Nat.add_comm i s]
    exact ⟨rfl, resumable_zero lt buf, fun _ => rfl⟩
  | case3 hempty hi hEOF =>
    rintro ⟨⟩
    rw [if_neg hempty, hi, Option.map_none]
    exact ⟨if_pos hEOF, resumable_zero lt buf, fun _ => rfl⟩
  | case4 hempty hi hEOF =>
    rintro ⟨⟩
    rw [hi, Option.map_none] at hidx
    rw [if_neg hempty, hi, Option.map_none]
    exact ⟨if_neg hEOF, ⟨index_none_noOcc hl hidx _, fun h => by omega⟩, fun h => absurd rfl h⟩

theorem drainResume_ok {lt buf : Bytes} {back s : Nat} (hl : lt ≠ []) (hb : lt.length - 1 ≤ back) (atEOF : Bool) (fuel : Nat)
    (h : Resumable lt buf s) :
    drain lt atEOF fuel buf = ((drainResume back lt atEOF fuel buf s).1, (drainResume back lt atEOF fuel buf s).2.1)
      ∧ Resumable lt (drainResume back lt atEOF fuel buf s).2.1 (drainResume back lt atEOF fuel buf s).2.2 := by
  fun_induction drainResume back lt atEOF fuel buf s with
  | case1 buf s => exact ⟨rfl, h⟩
  | case2 fuel buf s tok s' hr =>
    obtain ⟨h1, h2, _⟩ := splitFnResume_ok hl hb h hr
    rw [drain, h1]
    exact ⟨rfl, h2⟩
  | case3 fuel buf s adv tok s' hr ha r ih =>
    obtain ⟨h1, _, h3⟩ := splitFnResume_ok hl hb h hr
    obtain ⟨i1, i2⟩ := ih (h3 (Option.some_ne_none _) ▸ resumable_zero lt _)
    rw [drain_succ_some fuel h1 ha, i1]
    exact ⟨rfl, i2⟩
  | case4 fuel buf s adv s' hr =>
    obtain ⟨h1, h2, _⟩ := splitFnResume_ok hl hb h hr
    rw [drain_succ_none fuel h1]
    exact ⟨rfl, h2⟩

/-- Resuming at least `len(terminator) - 1` bytes before the end of the searched bytes is as good as
searching from the start. -/
theorem scanResume_of_le {lt buf : Bytes} {back s : Nat} (hl : lt ≠ []) (hb : lt.length - 1 ≤ back) (chunks : List Bytes)
    (h : Resumable lt buf s) : scanResume back lt buf s chunks = scan lt buf chunks := by
  induction chunks generalizing buf s with
  | nil =>
    have := (drainResume_ok hl hb true (buf.length + 1) h).1
    simp only [scanResume, scan, this]
  | cons c cs ih =>
    obtain ⟨h1, h2⟩ := drainResume_ok hl hb false (buf.length + c.length + 1) (resumable_append lt buf c s h)
    simp only [scanResume, scan, h1]
    rw [ih h2]

/-- Soundness of the remembered offset as the split function maintains it: `s ≤ buf.length ∧ Resumable lt buf s`.
The first clause (the offset lies inside the pending bytes) is true of every run but the simulation does not
need it: `inv_zero` and `scanResume_ok` go through `Resumable`, the remaining two clauses. -/
def Inv (lt buf : Bytes) (s : Nat) : Prop :=
  s ≤ buf.length ∧ NoOcc lt buf s ∧ (0 < s → s + lt.length ≤ buf.length + 1)

theorem inv_zero (lt buf : Bytes) : Inv lt buf 0 := ⟨Nat.zero_le _, resumable_zero lt buf⟩

/-- The scanner driven by the resuming split function with the correct resume point produces the
same tokens as the scanner driven by the stateless `SplitLines`, for every chunking. -/
theorem scanResume_ok (lt : Bytes) (hl : lt ≠ []) :
    ∀ (chunks : List Bytes) (buf : Bytes) (s : Nat), Inv lt buf s →
      scanResume (lt.length - 1) lt buf s chunks = scan lt buf chunks :=
  fun chunks _ _ h => scanResume_of_le hl (Nat.le_refl _) chunks h.2

end Gms.Outfile
