/-
Join conditions on keys whose equality is not byte equality, compared through a NORMAL FORM of the
key: a pair on which such a condition is TRUE has the same normal form on both sides.
-/
import Gms.Lemmas.Rel

namespace Gms.Phys
open Gms.Sql Gms.Rel List

/-- A join condition on keys compared through a normal form `n` (collation fold, numeric value…):
`n(l.ci) = n(r.cj) AND residual`. -/
def keyedCond (n : Value → Value) (i j : Nat) (res : Row → Row → Tri) (a b : Row) : Tri :=
  Tri.and (cmpTri .eq (n (a.getD i .null)) (n (b.getD j .null))) (res a b)

theorem keyedCond_t {n : Value → Value} {i j : Nat} {res : Row → Row → Tri} {a b : Row}
    (h : keyedCond n i j res a b = .t) : n (b.getD j .null) = n (a.getD i .null) :=
  cmpTri_eq_t _ _ ((Tri.and_eq_t _ _).mp h).1

end Gms.Phys
