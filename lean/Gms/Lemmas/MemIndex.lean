/-
Equations of the storage model (Gms/Model/MemIndex.lean) shared by C15 and C16. `modifyAt` is core's `List.modify`,
so what `getE` reads after `setLoc` and what `rowAt` reads after an append, an overwrite and a swap come from core's
`getElem?` lemmas (the equation for `removeAt`, `rowAt_removeAt`, is in Props/C16 beside `unrenum`, through which it is stated).
-/
import Gms.Model.MemIndex

namespace Gms.MemIndex
open Gms.MemTable

theorem count_map_of_inv {α β : Type} [DecidableEq α] [DecidableEq β] {f : α → β} {g : β → α} {L : List α} {l' : β}
    (h : ∀ l ∈ L, f l = l' ↔ l = g l') : (L.map f).count l' = L.count (g l') := by
  rw [List.count_eq_countP, List.countP_map, List.count_eq_countP]
  exact List.countP_congr fun l hl => by simpa using h l hl

theorem map_getElem?_range {α : Type} (q : List α) : (List.range q.length).map (fun i => q[i]?) = q.map some := by
  apply List.ext_getElem?
  intro i
  by_cases h : i < q.length
  · simp [h]
  · simp [h]

theorem modifyAt_eq_modify {α : Type} (f : α → α) (n : Nat) (l : List α) : modifyAt f n l = l.modify n f := by
  fun_induction modifyAt f n l <;> simp [*]

theorem getElem?_modifyAt {α : Type} (f : α → α) (n m : Nat) (l : List α) :
    (modifyAt f n l)[m]? = if m = n then l[m]?.map f else l[m]? := by
  rw [modifyAt_eq_modify, List.getElem?_modify]
  by_cases h : n = m
  · subst h; simp
  · have : ¬ m = n := fun e => h e.symm
    simp [h, this]

theorem length_modifyAt {α : Type} (f : α → α) (n : Nat) (l : List α) : (modifyAt f n l).length = l.length := by
  rw [modifyAt_eq_modify, List.length_modify]

theorem setLoc_length (h : Heap) (n : Nat) (l : Loc) : (setLoc h n l).length = h.length := length_modifyAt _ n h

theorem getE_setLoc (h : Heap) (a id : Nat) (l : Loc) :
    getE (setLoc h a l) id = if id = a ∧ a < h.length then { getE h a with loc := l } else getE h id := by
  simp only [getE, setLoc, List.getD_eq_getElem?_getD, getElem?_modifyAt]
  by_cases h1 : id = a
  · subst h1
    by_cases h2 : id < h.length
    · simp [h2]
    · simp [h2]
  · simp [h1]

/-- Lets a conditional re-pointing `if c then setLoc h id l else h` be read as an unconditional one (`delFromIndex_locs`). -/
theorem setLoc_self (h : Heap) (a : Nat) : setLoc h a (getE h a).loc = h := by
  apply List.ext_getElem?
  intro m
  rw [setLoc, getElem?_modifyAt]
  split
  · rename_i hm
    subst hm
    simp only [getE, List.getD_eq_getElem?_getD]
    cases h[m]? <;> rfl
  · rfl

/-- The loops of `deleteRowFromIndexes` (`delFromIndex`, whose body `if … then setLoc … else h` is this one at
`f = renum p i` by `setLoc_self`: `f` moves the later rows of a partition up) and `partitionssort.Swap` (`relocate`,
`f = swapLoc la lb`). The ids are distinct: a row object listed twice
would be re-pointed twice. -/
theorem getE_foldl_setLoc (f : Loc → Loc) (ids : List Nat) (h : Heap) (hnd : ids.Nodup) (id : Nat) :
    getE (ids.foldl (fun h id => setLoc h id (f (getE h id).loc)) h) id =
      if id ∈ ids ∧ id < h.length then { getE h id with loc := f (getE h id).loc } else getE h id := by
  induction ids generalizing h with
  | nil => simp
  | cons a as ih =>
    obtain ⟨hna, hnd'⟩ := List.nodup_cons.1 hnd
    rw [List.foldl_cons, ih _ hnd']
    simp only [getE_setLoc, setLoc_length, List.mem_cons]
    by_cases hm : id ∈ as
    · have hne : id ≠ a := fun e => hna (e ▸ hm)
      simp [hm, hne]
    · by_cases hx : id = a
      · subst hx; simp [hm]
      · simp [hm, hx]

theorem rowAt_cons_zero (q : List Row) (qs : List (List Row)) (i : Nat) : rowAt (q :: qs) ⟨0, i⟩ = q[i]? := rfl

theorem rowAt_cons_succ (q : List Row) (qs : List (List Row)) (n i : Nat) : rowAt (q :: qs) ⟨n + 1, i⟩ = rowAt qs ⟨n, i⟩ := by
  simp [rowAt]

theorem rowAt_replicate_nil (n : Nat) (l : Loc) : rowAt (List.replicate n ([] : List Row)) l = none := by
  simp only [rowAt]
  cases h : (List.replicate n ([] : List Row))[l.part]? with
  | none => rfl
  | some q =>
    have := List.mem_replicate.1 (List.mem_of_getElem? h)
    simp [this.2]

theorem rowAt_modifyAt (f : List Row → List Row) (p : Nat) (parts : List (List Row)) (l : Loc) :
    rowAt (modifyAt f p parts) l =
      if l.part = p then (parts[p]?.map f).bind (·[l.idx]?) else rowAt parts l := by
  unfold rowAt
  rw [getElem?_modifyAt]
  by_cases h : l.part = p
  · subst h
    rw [if_pos rfl, if_pos rfl]
    cases parts[l.part]? <;> rfl
  · rw [if_neg h, if_neg h]

theorem rowAt_append {parts : List (List Row)} {p : Nat} {r : Row} {q : List Row} (hq : parts[p]? = some q) (l : Loc) :
    rowAt (modifyAt (fun q => q ++ [r]) p parts) l = if l = ⟨p, q.length⟩ then some r else rowAt parts l := by
  rw [rowAt_modifyAt]
  cases l with | mk lp li =>
  simp only [Loc.mk.injEq]
  by_cases h1 : lp = p
  · subst h1
    simp only [if_true, true_and, hq, Option.map_some, Option.bind_some, rowAt]
    rcases Nat.lt_trichotomy li q.length with h | h | h
    · simp [List.getElem?_append_left h, Nat.ne_of_lt h]
    · simp [h]
    · rw [if_neg (Nat.ne_of_gt h), List.getElem?_eq_none (by simp; omega), List.getElem?_eq_none (by omega)]
  · simp [h1]

theorem rowAt_setRow (parts : List (List Row)) (la : Loc) (r : Row) (l : Loc) :
    rowAt (setRow parts la r) l = if l = la then (rowAt parts la).map fun _ => r else rowAt parts l := by
  obtain ⟨lp, li⟩ := l
  obtain ⟨ap, ai⟩ := la
  simp only [setRow, rowAt_modifyAt, Loc.mk.injEq]
  by_cases h1 : lp = ap
  · subst h1
    simp only [rowAt, if_true, true_and]
    cases parts[lp]? with
    | none => simp
    | some q =>
      simp only [Option.map_some, Option.bind_some, List.getElem?_set]
      by_cases h2 : ai = li
      · subst h2
        by_cases h3 : ai < q.length
        · simp [h3]
        · simp [h3]
      · have : ¬ li = ai := fun e => h2 e.symm
        simp [h2, this]
  · simp [h1]

theorem swapLoc_invol (la lb l : Loc) : swapLoc la lb (swapLoc la lb l) = l := by
  simp only [swapLoc]
  by_cases h1 : l = la
  · subst h1
    by_cases h2 : lb = l <;> simp [h2]
  · by_cases h2 : l = lb
    · subst h2; simp [h1]
    · simp [h1, h2]

theorem swapLoc_iff (la lb l l' : Loc) : swapLoc la lb l = l' ↔ l = swapLoc la lb l' := by
  constructor
  · intro h; rw [← h, swapLoc_invol]
  · intro h; rw [h, swapLoc_invol]

theorem rowAt_swap (parts : List (List Row)) (la lb : Loc) (ra rb : Row)
    (ha : rowAt parts la = some ra) (hb : rowAt parts lb = some rb) (l : Loc) :
    rowAt (setRow (setRow parts la rb) lb ra) l = rowAt parts (swapLoc la lb l) := by
  simp only [rowAt_setRow, swapLoc]
  by_cases h1 : l = lb
  · subst h1
    by_cases h2 : l = la
    · subst h2; simp [ha]
    · simp [h2, ha, hb]
  · by_cases h2 : l = la
    · subst h2; simp [h1, hb, ha]
    · simp [h1, h2]

theorem setLoc_vals (h : Heap) (n : Nat) (l : Loc) (id : Nat) : (getE (setLoc h n l) id).vals = (getE h id).vals := by
  rw [getE_setLoc]
  split
  · next hc => rw [hc.1]
  · rfl

end Gms.MemIndex
