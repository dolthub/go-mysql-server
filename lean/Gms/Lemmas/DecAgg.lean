/-
C08 — lemmas about `Gms.DecAgg` (aggregation buffers over shared value objects).

With the `fresh` policy a buffer never writes the heap (its accumulator is an object of its own), so the
buffers of a statement are independent of each other, the heap is the same after every statement, and each
buffer simulates the value-level buffer of `Gms.GroupAgg` on the dereferenced values (`fold_abs`).
-/
import Gms.Model.DecAgg
import Gms.Lemmas.GroupAgg
namespace Gms.DecAgg
open Gms.Window Gms.GroupAgg

/-- a SUM/AVG buffer never holds a stored object as its accumulator -/
def WF (b : Buf) : Prop :=
  (b.fn = .sum ∨ b.fn = .avg) → ∀ r, b.obj ≠ some (.cell r)

def upd (h : Heap) (b : Buf) (v : Option Nat) : Buf := (b.update .fresh h v).2

theorem upd_fn (h : Heap) (b : Buf) (v : Option Nat) : (upd h b v).fn = b.fn := by
  obtain ⟨fn, obj, cnt⟩ := b
  cases v with
  | none => rfl
  | some r =>
    -- by computation, except MIN/MAX against a present extremum, where `Update` branches on the comparison
    rcases obj with _ | _ | c <;> cases fn <;> first | rfl | (simp only [upd, Buf.update]; split <;> rfl)

theorem update_fresh (h : Heap) (b : Buf) (v : Option Nat) (hb : WF b) :
    b.update .fresh h v = (h, upd h b v) ∧ WF (upd h b v) := by
  obtain ⟨fn, obj, cnt⟩ := b
  cases v with
  | none => exact ⟨rfl, hb⟩
  | some r =>
    by_cases hf : fn = .sum ∨ fn = .avg
    · -- SUM/AVG: the accumulator is absent or the buffer's own (a stored cell is excluded by `hb`),
      -- so the heap is not written and the new accumulator is again the buffer's own
      match obj, hb hf with
      | some (.cell c), hc => exact absurd rfl (hc c)
      | none, _ | some (.own _), _ =>
        rcases hf with rfl | rfl <;> exact ⟨rfl, fun _ _ => by simp [upd, Buf.update, sumStep, addInto]⟩
    · -- the other buffers never write, and `WF` asks nothing of them
      refine ⟨?_, fun hf' => absurd (by rwa [upd_fn] at hf') hf⟩
      cases fn <;> first | rfl | exact absurd (by simp) hf

theorem stepBufs_fresh (h : Heap) (v : Option Nat) : ∀ (bufs : List Buf), (∀ b ∈ bufs, WF b) →
    stepBufs .fresh h bufs v = (h, bufs.map fun b => upd h b v)
  | [], _ => rfl
  | b :: bs, hw => by
    have ih := stepBufs_fresh h v bs (fun x hx => hw x (by simp [hx]))
    simp only [stepBufs, (update_fresh h b v (hw b (by simp))).1, ih, List.map_cons]

theorem runGroup_fresh (h : Heap) : ∀ (vs : List (Option Nat)) (bufs : List Buf), (∀ b ∈ bufs, WF b) →
    runGroup .fresh h bufs vs = (h, bufs.map fun b => vs.foldl (upd h) b)
  | [], bufs, _ => by simp [runGroup]
  | v :: vs, bufs, hw => by
    have hw' : ∀ b ∈ bufs.map (fun b => upd h b v), WF b := by
      intro b hb
      obtain ⟨a, ha, rfl⟩ := List.mem_map.mp hb
      exact (update_fresh h a v (hw a ha)).2
    simp only [runGroup, stepBufs_fresh h v bufs hw, runGroup_fresh h vs _ hw', List.map_map, List.foldl_cons]
    rfl

theorem initBufs_wf (fns : List Fn) : ∀ b ∈ initBufs fns, WF b := by
  intro b hb
  obtain ⟨f, _, rfl⟩ := List.mem_map.mp hb
  intro _ r
  simp

theorem runGroups_fresh (h : Heap) (fns : List Fn) : ∀ (gs : List (Val × List (Option Nat))),
    runGroups .fresh h fns gs = (h, gs.map fun g => (g.1, (initBufs fns).map fun b => g.2.foldl (upd h) b))
  | [] => rfl
  | (k, vs) :: rest => by
    simp only [runGroups, runGroup_fresh h vs _ (initBufs_wf fns), runGroups_fresh h fns rest, List.map_cons]

/-- the values of a group; `specStmt` writes `vs.map (Option.map (rd h))` out, the same by `rfl` -/
def deref (h : Heap) (vs : List (Option Nat)) : List Val := vs.map (Option.map (rd h))

/-- an abstraction of the buffers `P` selects that commutes with one `Update` commutes with the `Update`s of a group -/
theorem fold_abs {τ : Type} (h : Heap) (P : Fn → Prop) (abs : Buf → τ) (g : τ → Val → τ)
    (hs : ∀ b v, P b.fn → WF b → abs (upd h b v) = g (abs b) (v.map (rd h))) :
    ∀ (vs : List (Option Nat)) (b : Buf), P b.fn → WF b → abs (vs.foldl (upd h) b) = (deref h vs).foldl g (abs b)
  | [], _, _, _ => rfl
  | v :: vs, b, hf, hb => by
    rw [List.foldl_cons, fold_abs h P abs g hs vs _ (by rwa [upd_fn]) (update_fresh h b v hb).2, hs b v hf hb]
    rfl

theorem fold_fn (h : Heap) : ∀ (vs : List (Option Nat)) (b : Buf), (vs.foldl (upd h) b).fn = b.fn
  | [], _ => rfl
  | v :: vs, b => by rw [List.foldl_cons, fold_fn h vs, upd_fn]

def sumAbs (h : Heap) (b : Buf) : SumBuf :=
  match b.obj with
  | none => {}
  | some o => { sum := o.val h, isnil := false }

theorem cnt_upd (h : Heap) (b : Buf) (v : Option Nat) (hf : b.fn = .count ∨ b.fn = .sum ∨ b.fn = .avg) :
    ((upd h b v).cnt : Int) = if (v.map (rd h)).isSome then (b.cnt : Int) + 1 else b.cnt := by
  obtain ⟨fn, obj, cnt⟩ := b
  cases v with
  | none => rfl
  | some r => rcases hf with hf | hf | hf <;> cases hf <;> simp [upd, Buf.update]

theorem cnt_fold (h : Heap) (vs : List (Option Nat)) (b : Buf) (hf : b.fn = .count ∨ b.fn = .sum ∨ b.fn = .avg) (hb : WF b) :
    ((vs.foldl (upd h) b).cnt : Int) = (deref h vs).foldl (fun (c : Int) v => if v.isSome then c + 1 else c) (b.cnt : Int) :=
  fold_abs h (fun f => f = .count ∨ f = .sum ∨ f = .avg) (fun b => (b.cnt : Int)) _ (fun b v hf _ => cnt_upd h b v hf) vs b hf hb

theorem sumAbs_upd (h : Heap) (b : Buf) (v : Option Nat) (hf : b.fn = .sum ∨ b.fn = .avg) (hb : WF b) :
    sumAbs h (upd h b v) = (sumAbs h b).update (v.map (rd h)) := by
  obtain ⟨fn, obj, cnt⟩ := b
  cases v with
  | none => rfl
  | some r =>
    rcases hf with hf | hf <;> cases hf <;> cases obj with
    | none => simp [upd, Buf.update, sumStep, sumAbs, SumBuf.update, Obj.val]
    | some o =>
      cases o with
      | own x => simp [upd, Buf.update, sumStep, addInto, sumAbs, SumBuf.update, Obj.val]
      | cell c => exact absurd rfl (hb (by simp) c)

theorem sum_fold (h : Heap) : ∀ (vs : List (Option Nat)) (b : Buf), (b.fn = .sum ∨ b.fn = .avg) → WF b →
    sumAbs h (vs.foldl (upd h) b) = (deref h vs).foldl SumBuf.update (sumAbs h b) ∧
    ((vs.foldl (upd h) b).cnt : Int) = (deref h vs).foldl (fun (c : Int) v => if v.isSome then c + 1 else c) (b.cnt : Int) := by
  intro vs b hf hb
  exact ⟨fold_abs h (fun f => f = .sum ∨ f = .avg) (sumAbs h) _ (sumAbs_upd h) vs b hf hb, cnt_fold h vs b (Or.inr hf) hb⟩

def valAbs (h : Heap) (b : Buf) : Val := b.obj.map (Obj.val h)

theorem valAbs_upd_min (h : Heap) (b : Buf) (v : Option Nat) (hf : b.fn = .min) :
    valAbs h (upd h b v) = minUpdate (valAbs h b) (v.map (rd h)) := by
  obtain ⟨fn, obj, cnt⟩ := b
  cases hf
  cases v with
  | none => rfl
  | some r =>
    cases obj with
    | none => rfl
    | some o =>
      simp only [upd, Buf.update, valAbs, minUpdate, Option.map_some]
      split <;> simp [Obj.val, *]

theorem valAbs_upd_max (h : Heap) (b : Buf) (v : Option Nat) (hf : b.fn = .max) :
    valAbs h (upd h b v) = maxUpdate (valAbs h b) (v.map (rd h)) := by
  obtain ⟨fn, obj, cnt⟩ := b
  cases hf
  cases v with
  | none => rfl
  | some r =>
    cases obj with
    | none => rfl
    | some o =>
      simp only [upd, Buf.update, valAbs, maxUpdate, Option.map_some]
      split <;> simp [Obj.val, *]

theorem valAbs_upd_anyv (h : Heap) (b : Buf) (v : Option Nat) (hf : b.fn = .anyv) :
    valAbs h (upd h b v) = (valAbs h b).or (v.map (rd h)) := by
  obtain ⟨fn, obj, cnt⟩ := b
  cases hf
  cases v <;> cases obj <;> rfl

theorem foldl_or_firstNonNull (xs : List Val) (m : Val) : xs.foldl Option.or m = m.or (firstNonNull xs) := by
  induction xs generalizing m with
  | nil => cases m <;> rfl
  | cons v xs ih => rw [List.foldl_cons, ih]; cases m <;> cases v <;> rfl

-- `Option.elim` in the last arm, not a `match`: Lean would reuse that matcher, under this lemma's name, for the `match` in
-- the statement of `bufFold_eval`
theorem eval_abs (h : Heap) (b : Buf) : b.eval h = match b.fn with
    | .count => .int b.cnt
    | .sum => (sumAbs h b).eval
    | .avg => AvgBuf.eval { sum := sumAbs h b, rows := b.cnt }
    | _ => (valAbs h b).elim .null .int := by
  obtain ⟨fn, obj, cnt⟩ := b
  cases fn <;> cases obj <;> rfl

/-- one buffer over the rows of a group = `GroupAgg.implEval` on the dereferenced values -/
theorem bufFold_eval (h : Heap) (f : Fn) (vs : List (Option Nat)) :
    (vs.foldl (upd h) { fn := f }).eval h =
      match f with
      | .anyv => (match firstNonNull (deref h vs) with | none => .null | some v => .int v)
      | f => implEval (toG f) (deref h vs) := by
  have hwf : WF { fn := f } := fun _ r => by simp
  -- from the `Option.elim` of `eval_abs` to the `match` of `implEval`
  have out : ∀ v w : Val, v = w → v.elim GOut.null GOut.int = match w with | none => .null | some x => .int x :=
    fun v w e => by subst e; cases v <;> rfl
  rw [eval_abs, fold_fn]
  cases f <;> simp only [implEval, toG]
  case count => exact congrArg _ (cnt_fold h vs { fn := .count } (Or.inl rfl) hwf)
  case sum => exact congrArg _ (sum_fold h vs { fn := .sum } (Or.inl rfl) hwf).1
  case avg =>
    -- `0 +`: the `rows` of the empty `AvgBuf`, as `avgBuf_fold_split` has them
    have hc : (vs.foldl (upd h) { fn := .avg }).cnt = 0 + (nonNull (deref h vs)).length := by
      have : ((vs.foldl (upd h) { fn := .avg }).cnt : Int) = (0 : Nat) + (nonNull (deref h vs)).length :=
        (cnt_fold h vs _ (Or.inr (Or.inr rfl)) hwf).trans (count_fold ..)
      omega
    rw [avgBuf_fold_split, (sum_fold h vs { fn := .avg } (Or.inr rfl) hwf).1, hc]
    rfl
  case min =>
    exact out _ _ (fold_abs h (· = .min) (valAbs h) minUpdate (fun b v hf _ => valAbs_upd_min h b v hf) vs { fn := .min } rfl hwf)
  case max =>
    exact out _ _ (fold_abs h (· = .max) (valAbs h) maxUpdate (fun b v hf _ => valAbs_upd_max h b v hf) vs { fn := .max } rfl hwf)
  case anyv =>
    exact out _ _ ((fold_abs h (· = .anyv) (valAbs h) Option.or (fun b v hf _ => valAbs_upd_anyv h b v hf) vs { fn := .anyv } rfl hwf).trans
      (foldl_or_firstNonNull _ none))

end Gms.DecAgg
