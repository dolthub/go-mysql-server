/-
Lemmas about schema changes of the in-memory table (Gms/Model/MemTableDdl.lean): resolving the
columns of a unique index BY NAME commutes with every modelled schema change, so the editor created
after the change guards the same values as the editor before it (`ddl_remap`, proved in
Gms/Lemmas/MemTableDdlWf.lean from the position lemmas and `indexCols_moved` here). Used by
Gms/Props/C14.lean.

`indexOf` is core's `List.idxOf` wherever the name occurs, so on a well-formed definition the
resolution is a `map` (`indexCols_eq`). A schema change edits the names, the column descriptors and
every stored row by the same list operation; where that operation sends position `i` is stated once
per operation, and distinctness of the names turns it into a statement about `idxOf`
(`idxOf_of_getElem?`). `Remap` relates the editor's schema before and after.
-/
import Gms.Model.MemTableDdl
import Gms.Lemmas.Basics
import Gms.Lemmas.MemTableStmt
namespace Gms.MemTable

theorem insAt_eq_insertIdx {α : Type} {a : α} :
    ∀ {p : Nat} {l : List α}, p ≤ l.length → insAt p a l = l.insertIdx p a
  | 0, _, _ => rfl
  | p + 1, [], h => absurd h (Nat.not_succ_le_zero p)
  | _ + 1, x :: _, h => congrArg (x :: ·) (insAt_eq_insertIdx (Nat.le_of_succ_le_succ h))

theorem getElem?_insAt_bump {α : Type} {p : Nat} {a : α} {l : List α} {i : Nat} (hp : p ≤ l.length) :
    (insAt p a l)[bump p i]? = l[i]? := by
  rw [insAt_eq_insertIdx hp, bump]
  split
  · next h => exact List.getElem?_insertIdx_of_gt (Nat.lt_succ_of_le h)
  · next h => exact List.getElem?_insertIdx_of_lt (Nat.lt_of_not_le h)

theorem getElem?_eraseIdx_unbump {α : Type} {c : Nat} {l : List α} {i : Nat} (hne : i ≠ c) :
    (l.eraseIdx c)[unbump c i]? = l[i]? := by
  rw [unbump]
  split
  · next h =>
    rw [List.getElem?_eraseIdx_of_ge (Nat.le_sub_one_of_lt h), Nat.sub_add_cancel (Nat.zero_lt_of_lt h)]
  · next h => exact List.getElem?_eraseIdx_of_lt (Nat.lt_of_le_of_ne (Nat.le_of_not_lt h) hne)

theorem getD_of_getElem? {α : Type} {l : List α} {i : Nat} {a : α} (h : l[i]? = some a) (d : α) :
    l.getD i d = a := by
  rw [List.getD_eq_getElem?_getD, h]; rfl

theorem getD_congr {α : Type} {l l' : List α} {i j : Nat} (h : l'[j]? = l[i]?) (d : α) :
    l'.getD j d = l.getD i d := by
  rw [List.getD_eq_getElem?_getD, List.getD_eq_getElem?_getD, h]

theorem getElem?_set_rename {l : List Nat} (hnd : l.Nodup) {c : Nat} (hc : c < l.length) (new : Nat) {i n : Nat}
    (h : l[i]? = some n) : (l.set c new)[i]? = some (if n = l.getD c 0 then new else n) := by
  have hi := (List.getElem?_eq_some_iff.mp h).1
  have hn : n = l.getD c 0 ↔ i = c := getD_of_getElem? h 0 ▸ List.getD_inj hi hc hnd
  by_cases hci : i = c
  · rw [if_pos (hn.mpr hci), hci, List.getElem?_set_self hc]
  · rw [if_neg (mt hn.mp hci), List.getElem?_set_ne (Ne.symm hci), h]

theorem nodup_set (l : List Nat) (c new : Nat) (h : l.Nodup) (hnew : new ∉ l) : (l.set c new).Nodup := by
  induction l generalizing c with
  | nil => simp
  | cons x l ih =>
    have hx := List.nodup_cons.mp h
    have hnl : new ∉ l := fun hh => hnew (List.mem_cons_of_mem _ hh)
    cases c with
    | zero => simp only [List.set_cons_zero, List.nodup_cons]; exact ⟨hnl, hx.2⟩
    | succ c =>
      simp only [List.set_cons_succ, List.nodup_cons]
      refine ⟨?_, ih c hx.2 hnl⟩
      intro hm
      rcases List.mem_or_eq_of_mem_set hm with h1 | h1
      · exact hx.1 h1
      · exact hnew (by simp [h1])

theorem idxOf_of_getElem? {l : List Nat} (hnd : l.Nodup) {i a : Nat} (h : l[i]? = some a) : l.idxOf a = i :=
  let ⟨hi, e⟩ := List.getElem?_eq_some_iff.mp h
  e ▸ hnd.idxOf_getElem i hi

theorem indexOf_eq (names : List Nat) (n : Nat) :
    indexOf names n = if n ∈ names then some (names.idxOf n) else none := by
  induction names with
  | nil => rfl
  | cons m ms ih =>
    rw [indexOf, ih, List.idxOf_cons]
    by_cases hm : m = n
    · rw [if_pos hm, if_pos (hm ▸ List.mem_cons_self), beq_iff_eq.mpr hm]; rfl
    · rw [if_neg hm, beq_eq_false_iff_ne.mpr hm]
      simp only [List.mem_cons, show n ≠ m from fun e => hm e.symm, false_or]
      split <;> rfl

theorem columnIndexes_eq (names cs : List Nat) :
    columnIndexes names cs = if ∀ n ∈ cs, n ∈ names then some (cs.map (names.idxOf ·)) else none := by
  induction cs with
  | nil => rfl
  | cons n cs ih =>
    rw [columnIndexes, ih, indexOf_eq]
    by_cases hn : n ∈ names
    · by_cases hcs : ∀ m ∈ cs, m ∈ names
      · rw [if_pos hn, if_pos hcs, if_pos (List.forall_mem_cons.mpr ⟨hn, hcs⟩)]; rfl
      · rw [if_pos hn, if_neg hcs, if_neg (fun h => hcs (List.forall_mem_cons.mp h).2)]
    · rw [if_neg hn, if_neg (fun h => hn (List.forall_mem_cons.mp h).1)]

theorem columnIndexes_lt (names cs os : List Nat) (h : columnIndexes names cs = some os) :
    ∀ o ∈ os, o < names.length := by
  rw [columnIndexes_eq] at h
  split at h
  · next hsub =>
    cases h
    intro o ho
    obtain ⟨n, hn, rfl⟩ := List.mem_map.mp ho
    exact List.idxOf_lt_length_of_mem (hsub n hn)
  · cases h

theorem indexCols_eq {ns : NSchema} (h : ∀ ix ∈ ns.idx, ∀ n ∈ ix.1, n ∈ ns.names) :
    indexColsForTableEditor ns = ns.idx.map (fun ix => (ix.1.map (ns.names.idxOf ·), ix.2)) := by
  unfold indexColsForTableEditor
  generalize ns.idx = idx at h
  induction idx with
  | nil => rfl
  | cons ix idx ih =>
    rw [List.filterMap_cons, columnIndexes_eq, if_pos (h ix List.mem_cons_self),
      ih (fun ix' h' => h ix' (List.mem_cons_of_mem _ h'))]
    rfl

theorem indexCols_moved {ns ns' : NSchema} {f ren : Nat → Nat} (hsub : ∀ ix ∈ ns.idx, ∀ n ∈ ix.1, n ∈ ns.names)
    (hsub' : ∀ ix ∈ ns'.idx, ∀ n ∈ ix.1, n ∈ ns'.names) (hnd' : ns'.names.Nodup)
    (hidx : ns'.idx = ns.idx.map (fun ix => (ix.1.map ren, ix.2)))
    (hn : ∀ ix ∈ ns.idx, ∀ n ∈ ix.1, ns'.names[f (ns.names.idxOf n)]? = some (ren n)) :
    indexColsForTableEditor ns' = (indexColsForTableEditor ns).map (fun u => (u.1.map f, u.2)) := by
  rw [indexCols_eq hsub, indexCols_eq hsub', hidx, List.map_map, List.map_map]
  refine List.map_congr_left fun ix hix => ?_
  simp only [Function.comp, List.map_map]
  exact congrArg (·, ix.2) (List.map_congr_left fun n h => idxOf_of_getElem? hnd' (hn ix hix n h))

def Schema.KeyCol (sch : Schema) (c : Nat) : Prop := c ∈ sch.pk ∨ ∃ u ∈ sch.uniques, c ∈ u.1

theorem keyCol_pk (sch : Schema) : ∀ c ∈ sch.pk, sch.KeyCol c := fun _ => .inl

theorem keyCol_uq {sch : Schema} {u : List Nat × List Nat} (hu : u ∈ sch.uniques) : ∀ c ∈ u.1, sch.KeyCol c :=
  fun _ hc => .inr ⟨u, hu, hc⟩

theorem keyCol_resolve {ns : NSchema} (hsub : ∀ ix ∈ ns.idx, ∀ n ∈ ix.1, n ∈ ns.names) {i : Nat} :
    ns.resolve.KeyCol i ↔ i ∈ ns.pk ∨ ∃ ix ∈ ns.idx, ∃ n ∈ ix.1, ns.names.idxOf n = i := by
  rw [Schema.KeyCol, NSchema.resolve, indexCols_eq hsub]
  refine or_congr_right ⟨?_, fun ⟨ix, hix, hi⟩ => ⟨_, List.mem_map_of_mem hix, List.mem_map.mpr hi⟩⟩
  rintro ⟨_, hu, hi⟩
  obtain ⟨ix, hix, rfl⟩ := List.mem_map.mp hu
  exact ⟨ix, hix, List.mem_map.mp hi⟩

/-- `sch'` / `g r` is `sch` / `r` with the ordinals re-numbered by `f`, as far as the key columns
and the rows in `R` are concerned. -/
structure Remap (sch sch' : Schema) (f : Nat → Nat) (g : Row → Row) (R : Row → Prop) : Prop where
  pk : sch'.pk = sch.pk.map f
  uq : sch'.uniques = sch.uniques.map (fun u => (u.1.map f, u.2))
  val : ∀ r, R r → ∀ c, sch.KeyCol c → (g r).at (f c) = r.at c
  col : ∀ c, sch.KeyCol c → sch'.cols.getD (f c) {} = sch.cols.getD c {}

variable {sch sch' : Schema} {f : Nat → Nat} {g : Row → Row} {R : Row → Prop}

theorem specKeyEq_remap (m : Remap sch sch' f g R) (cs pls : List Nat) (hk : ∀ c ∈ cs, sch.KeyCol c)
    (r1 r2 : Row) (h1 : R r1) (h2 : R r2) :
    specKeyEq sch' (cs.map f) pls (g r1) (g r2) = specKeyEq sch cs pls r1 r2 := by
  induction cs generalizing pls with
  | nil => rfl
  | cons c cs ih =>
    simp only [List.map_cons, specKeyEq]
    rw [m.val r1 h1 c (hk c (by simp)), m.val r2 h2 c (hk c (by simp)), m.col c (hk c (by simp)),
      ih pls.tail (fun c' hc' => hk c' (List.mem_cons_of_mem _ hc'))]

theorem columnsMatch_remap (m : Remap sch sch' f g R) (cs pls : List Nat) (hk : ∀ c ∈ cs, sch.KeyCol c)
    (r1 r2 : Row) (h1 : R r1) (h2 : R r2) :
    columnsMatch (cs.map f) pls (g r1) (g r2) = columnsMatch cs pls r1 r2 := by
  induction cs generalizing pls with
  | nil => rfl
  | cons c cs ih =>
    simp only [List.map_cons, columnsMatch]
    rw [m.val r1 h1 c (hk c (by simp)), m.val r2 h2 c (hk c (by simp)),
      ih pls.tail (fun c' hc' => hk c' (List.mem_cons_of_mem _ hc'))]

theorem hasNull_remap (m : Remap sch sch' f g R) (cs : List Nat) (hk : ∀ c ∈ cs, sch.KeyCol c) (r : Row) (h : R r) :
    hasNullForAnyCols (g r) (cs.map f) = hasNullForAnyCols r cs := by
  simp only [hasNullForAnyCols, List.any_map]
  apply Basics.any_congr_mem
  intro c hc
  simp only [Function.comp]
  rw [m.val r h c (hk c hc)]

theorem proj_remap (m : Remap sch sch' f g R) (r : Row) (h : R r) : proj sch'.pk (g r) = proj sch.pk r := by
  rw [m.pk]
  simp only [proj, List.map_map]
  apply List.map_congr_left
  intro c hc
  exact m.val r h c (keyCol_pk sch c hc)

theorem noDupPk_remap (m : Remap sch sch' f g R) (t : List Row) (ht : ∀ r ∈ t, R r) (h : NoDupPk sch.pk t) :
    NoDupPk sch'.pk (t.map g) := by
  unfold NoDupPk at h ⊢
  have : (t.map g).map (proj sch'.pk) = t.map (proj sch.pk) := by
    rw [List.map_map]
    exact List.map_congr_left fun r hr => proj_remap m r (ht r hr)
  rw [this]
  exact h

theorem listOK_remap (m : Remap sch sch' f g R) (t : List Row) (ht : ∀ r ∈ t, R r) (h : ListOK sch t) :
    ListOK sch' (t.map g) := by
  intro r1' h1 r2' h2 hne u' hu' hnull
  obtain ⟨r1, hr1, rfl⟩ := List.mem_map.mp h1
  obtain ⟨r2, hr2, rfl⟩ := List.mem_map.mp h2
  rw [m.uq] at hu'
  obtain ⟨u, hu, rfl⟩ := List.mem_map.mp hu'
  rw [proj_remap m r1 (ht r1 hr1), proj_remap m r2 (ht r2 hr2)] at hne
  rw [hasNull_remap m u.1 (keyCol_uq hu) r2 (ht r2 hr2)] at hnull
  rw [columnsMatch_remap m u.1 u.2 (keyCol_uq hu) r1 r2 (ht r1 hr1) (ht r2 hr2)]
  exact h r1 hr1 r2 hr2 hne u hu hnull

theorem specConflict_remap (m : Remap sch sch' f g R) (r1 r2 : Row) (h1 : R r1) (h2 : R r2) :
    specConflict sch' (g r1) (g r2) = specConflict sch r1 r2 := by
  have hkl : sch'.keyless = sch.keyless := by rw [Schema.keyless, m.pk, List.isEmpty_map]; rfl
  simp only [specConflict, Schema.keys, hkl, m.pk, m.uq, List.any_append, List.any_map]
  congr 1
  · cases sch.keyless
    · -- `[(pk, [])].any p` reduces to `p (pk, []) || false`
      exact congrArg (· || false) (specKeyEq_remap m sch.pk [] (keyCol_pk sch) r1 r2 h1 h2)
    · rfl
  · exact Basics.any_congr_mem fun u hu => specKeyEq_remap m u.1 u.2 (keyCol_uq hu) r1 r2 h1 h2

theorem specNoDup_remap (m : Remap sch sch' f g R) (t : List Row) (ht : ∀ r ∈ t, R r) :
    specNoDup sch' (t.map g) = specNoDup sch t := by
  rw [Bool.eq_iff_iff, specNoDup_iff, specNoDup_iff, List.pairwise_map]
  exact List.Pairwise.iff_of_mem fun {a b} ha hb => by rw [specConflict_remap m a b (ht a ha) (ht b hb)]

theorem NSchema.wf_iff {ns : NSchema} :
    ns.wf = true ↔ ns.names.Nodup ∧ ns.cols.length = ns.names.length ∧ (∀ ix ∈ ns.idx, ∀ n ∈ ix.1, n ∈ ns.names)
      ∧ (∀ o ∈ ns.pk, o < ns.names.length) := by
  simp only [NSchema.wf, Bool.and_eq_true, decide_eq_true_eq, List.all_eq_true, List.contains_iff_mem, and_assoc]

theorem ddlOk_addCol {ns : NSchema} {p name : Nat} {c : Col} (h : ddlOk ns (.addCol p name c) = true) :
    p ≤ ns.names.length ∧ name ∉ ns.names := by
  simpa only [ddlOk, Bool.and_eq_true, decide_eq_true_eq, Bool.not_eq_true', List.contains_eq_mem,
    decide_eq_false_iff_not] using h

theorem ddlOk_dropCol {ns : NSchema} {c : Nat} (h : ddlOk ns (.dropCol c) = true) :
    c < ns.names.length ∧ c ∉ ns.pk ∧ ∀ ix ∈ ns.idx, ns.names.getD c 0 ∉ ix.1 := by
  simpa only [ddlOk, Bool.and_eq_true, decide_eq_true_eq, Bool.not_eq_true', List.contains_eq_mem,
    decide_eq_false_iff_not, List.all_eq_true, and_assoc] using h

theorem ddlOk_renCol {ns : NSchema} {c name : Nat} (h : ddlOk ns (.renCol c name) = true) :
    c < ns.names.length ∧ name ∉ ns.names := by
  simpa only [ddlOk, Bool.and_eq_true, decide_eq_true_eq, Bool.not_eq_true', List.contains_eq_mem,
    decide_eq_false_iff_not] using h

end Gms.MemTable
