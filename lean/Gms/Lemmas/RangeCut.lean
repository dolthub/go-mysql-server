/-
Cuts (M4 `Range`): the Go comparison of cuts is the lexicographic order of their positions, which is
the inclusion order of the up-sets of points.
-/
import Gms.Model.Range

namespace Gms.Range

theorem cmpKey_lt {a b : Int} (h : a < b) : cmpKey a b = -1 := if_pos h

theorem cmpKey_gt {a b : Int} (h : b < a) : cmpKey a b = 1 := by
  unfold cmpKey; rw [if_neg (Int.lt_asymm h), if_neg (Int.ne_of_gt h)]

theorem cmpKey_spec (a b : Int) :
    (cmpKey a b = -1 ∧ a < b) ∨ (cmpKey a b = 0 ∧ a = b) ∨ (cmpKey a b = 1 ∧ b < a) := by
  fun_cases cmpKey a b with
  | case1 hlt => exact .inl ⟨rfl, hlt⟩
  | case2 hnlt heq => exact .inr (.inl ⟨rfl, heq⟩)
  | case3 hnlt hne => exact .inr (.inr ⟨rfl, Int.lt_iff_le_and_ne.mpr ⟨Int.not_lt.mp hnlt, Ne.symm hne⟩⟩)

theorem cmpKey_congr {a b c d : Int} (hlt : c < d ↔ a < b) (heq : c = d ↔ a = b) :
    cmpKey a b = cmpKey c d := by
  unfold cmpKey; simp only [hlt, heq]

/-- Three-way lexicographic comparison of two positions `(t, o)`: tier and offset of a cut, `Cut.tier`, `Cut.off` below. -/
def cmpPos (t₁ o₁ t₂ o₂ : Int) : Int :=
  if t₁ < t₂ then -1 else if t₂ < t₁ then 1 else cmpKey o₁ o₂

theorem cmpPos_spec (t₁ o₁ t₂ o₂ : Int) :
    (cmpPos t₁ o₁ t₂ o₂ = -1 ∧ (t₁ < t₂ ∨ t₁ = t₂ ∧ o₁ < o₂)) ∨
    (cmpPos t₁ o₁ t₂ o₂ = 0 ∧ t₁ = t₂ ∧ o₁ = o₂) ∨
    (cmpPos t₁ o₁ t₂ o₂ = 1 ∧ (t₂ < t₁ ∨ t₂ = t₁ ∧ o₂ < o₁)) := by
  fun_cases cmpPos t₁ o₁ t₂ o₂ with
  | case1 hlt => exact .inl ⟨rfl, .inl hlt⟩
  | case2 hnlt hgt => exact .inr (.inr ⟨rfl, .inl hgt⟩)
  | case3 hnlt hngt =>
    have e : t₁ = t₂ := Int.le_antisymm (Int.not_lt.mp hngt) (Int.not_lt.mp hnlt)
    rcases cmpKey_spec o₁ o₂ with ⟨c, h⟩ | ⟨c, h⟩ | ⟨c, h⟩
    · exact .inl ⟨c, .inr ⟨e, h⟩⟩
    · exact .inr (.inl ⟨c, e, h⟩)
    · exact .inr (.inr ⟨c, .inr ⟨e.symm, h⟩⟩)

theorem two_mul_succ_lt {a b : Int} (h : a < b) : 2 * a + 1 < 2 * b := by omega

theorem two_mul_lt_succ {a b : Int} (h : a ≤ b) : 2 * a < 2 * b + 1 := by omega

namespace Cut

/-- The position of a cut is `(tier, off)`: the tier orders the kinds of cut, `off` places the key
cuts on the scale of points (`keyPt k = some (2 * k)`), `below k` at the point of `k`, `above k` at
the odd point just after it. -/
def tier : Cut → Int
  | .belowNull => 0 | .aboveNull => 1 | .below _ => 2 | .above _ => 2 | .aboveAll => 3

def off : Cut → Int
  | .below k => 2 * k | .above k => 2 * k + 1 | _ => 0

/-- What `omega` needs to know of positions: tiers are 0..3 and only tier 2 has an offset. -/
theorem tier_off (c : Cut) : c.tier = 2 ∨ (c.off = 0 ∧ 0 ≤ c.tier ∧ c.tier ≤ 3) := by
  cases c <;> simp [tier, off]

theorem pos_inj {a b : Cut} (ht : a.tier = b.tier) (ho : a.off = b.off) : a = b := by
  cases a <;> cases b <;> simp [tier, off] at ht ho ⊢ <;> omega

/-- Every line of the five Go `Compare` methods that does not look at the keys compares tiers. -/
theorem compare_eq_cmpPos (a b : Cut) : a.compare b = cmpPos a.tier a.off b.tier b.off := by
  cases a <;> cases b
  case below.below j k =>
    exact cmpKey_congr (Int.mul_lt_mul_left (by decide)) (Int.mul_eq_mul_left_iff (by decide))
  case above.above j k =>
    exact cmpKey_congr ((Int.add_lt_add_iff_right 1).trans (Int.mul_lt_mul_left (by decide)))
      ((Int.add_left_inj 1).trans (Int.mul_eq_mul_left_iff (by decide)))
  case below.above j k =>
    show (if cmpKey k j = -1 then 1 else -1) = cmpKey (2 * j) (2 * k + 1)
    rcases cmpKey_spec k j with ⟨c, h⟩ | ⟨c, h⟩ | ⟨c, h⟩ <;> rw [c]
    · exact (cmpKey_gt (two_mul_succ_lt h)).symm
    · exact (cmpKey_lt (two_mul_lt_succ (Int.le_of_eq h.symm))).symm
    · exact (cmpKey_lt (two_mul_lt_succ (Int.le_of_lt h))).symm
  case above.below j k =>
    show (if cmpKey j k = -1 then -1 else 1) = cmpKey (2 * j + 1) (2 * k)
    rcases cmpKey_spec j k with ⟨c, h⟩ | ⟨c, h⟩ | ⟨c, h⟩ <;> rw [c]
    · exact (cmpKey_lt (two_mul_succ_lt h)).symm
    · exact (cmpKey_gt (two_mul_lt_succ (Int.le_of_eq h.symm))).symm
    · exact (cmpKey_gt (two_mul_lt_succ (Int.le_of_lt h))).symm
  all_goals rfl

theorem compare_spec (a b : Cut) :
    (a.compare b = -1 ∧ (a.tier < b.tier ∨ a.tier = b.tier ∧ a.off < b.off)) ∨
    (a.compare b = 0 ∧ a.tier = b.tier ∧ a.off = b.off) ∨
    (a.compare b = 1 ∧ (b.tier < a.tier ∨ b.tier = a.tier ∧ b.off < a.off)) :=
  compare_eq_cmpPos a b ▸ cmpPos_spec ..

theorem compare_range (a b : Cut) : a.compare b = -1 ∨ a.compare b = 0 ∨ a.compare b = 1 := by
  rcases compare_spec a b with h | h | h
  · exact .inl h.1
  · exact .inr (.inl h.1)
  · exact .inr (.inr h.1)

theorem compare_antisymm (a b : Cut) : a.compare b = -(b.compare a) := by
  have := compare_spec a b
  have := compare_spec b a
  omega

theorem compare_eq_zero_iff (a b : Cut) : a.compare b = 0 ↔ a = b := by
  constructor
  · intro h
    rcases compare_spec a b with c | c | c
    · omega
    · exact pos_inj c.2.1 c.2.2
    · omega
  · rintro rfl
    have := compare_spec a a; omega

theorem compare_self (a : Cut) : a.compare a = 0 := (compare_eq_zero_iff a a).mpr rfl

theorem not_le {a b : Cut} : ¬a.compare b ≤ 0 ↔ b.compare a < 0 := by
  have := compare_antisymm a b; omega

theorem compare_le_iff {a b : Cut} :
    a.compare b ≤ 0 ↔ a.tier < b.tier ∨ a.tier = b.tier ∧ a.off ≤ b.off := by
  have := compare_spec a b; omega

theorem compare_lt_iff {a b : Cut} :
    a.compare b < 0 ↔ a.tier < b.tier ∨ a.tier = b.tier ∧ a.off < b.off := by
  have := compare_spec a b; omega

theorem isBelow_none_iff {c : Cut} : c.isBelow none = true ↔ c.tier = 0 := by
  cases c <;> simp [isBelow, tier]

theorem isBelow_none (c : Cut) : c.isBelow none = true ↔ c = .belowNull := by
  cases c <;> simp [isBelow]

/-- NULL sits at the position of `belowNull`, the point `x` at offset `x` among the keys. -/
theorem isBelow_some_iff {c : Cut} {x : Int} :
    c.isBelow (some x) = true ↔ c.tier < 2 ∨ c.tier = 2 ∧ c.off ≤ x := by
  cases c <;> simp [isBelow, tier, off]; omega

theorem le_sound (a b : Cut) (h : a.compare b ≤ 0) (v : Option Int) (hb : b.isBelow v = true) :
    a.isBelow v = true := by
  have h := compare_le_iff.mp h
  cases v with
  | none =>
    have hb := isBelow_none_iff.mp hb
    have := tier_off a
    exact isBelow_none_iff.mpr (by omega)
  | some x =>
    have hb := isBelow_some_iff.mp hb
    exact isBelow_some_iff.mpr (by omega)

theorem ge_sound {a b : Cut} (h : 0 ≤ a.compare b) (v : Option Int) :
    a.isBelow v = true → b.isBelow v = true :=
  le_sound b a (by have := compare_antisymm a b; omega) v

/-- The witness: NULL for `belowNull`, the point just before `b`'s position for `aboveNull`, the
point at `a`'s own position for a key cut. -/
theorem lt_witness (a b : Cut) (h : a.compare b < 0) :
    ∃ v, a.isBelow v = true ∧ b.isBelow v = false := by
  have h := compare_lt_iff.mp h
  have ha := tier_off a
  have hb := tier_off b
  have some_wit : ∀ x, (a.tier < 2 ∨ a.tier = 2 ∧ a.off ≤ x) → ¬(b.tier < 2 ∨ b.tier = 2 ∧ b.off ≤ x) →
      ∃ v, a.isBelow v = true ∧ b.isBelow v = false := fun x h₁ h₂ =>
    ⟨some x, isBelow_some_iff.mpr h₁, Bool.eq_false_iff.mpr (mt isBelow_some_iff.mp h₂)⟩
  by_cases h0 : a.tier = 0
  · exact ⟨none, isBelow_none_iff.mpr h0, Bool.eq_false_iff.mpr (mt isBelow_none_iff.mp (by omega))⟩
  · by_cases h1 : a.tier = 1
    · exact some_wit (b.off - 1) (by omega) (by omega)
    · exact some_wit a.off (by omega) (by omega)

theorem le_iff (a b : Cut) :
    a.compare b ≤ 0 ↔ ∀ v, b.isBelow v = true → a.isBelow v = true :=
  ⟨le_sound a b, fun h => Decidable.by_contra fun hn =>
    let ⟨v, hv1, hv2⟩ := lt_witness b a (not_le.mp hn)
    Bool.false_ne_true (hv2.symm.trans (h v hv1))⟩

theorem lt_iff (a b : Cut) :
    a.compare b < 0 ↔ ∃ v, a.isBelow v = true ∧ b.isBelow v = false := by
  rw [← not_le, le_iff]
  simp

theorem le_trans {a b c : Cut} (h1 : a.compare b ≤ 0) (h2 : b.compare c ≤ 0) : a.compare c ≤ 0 :=
  (le_iff a c).mpr fun v hv => le_sound a b h1 v (le_sound b c h2 v hv)

theorem lt_of_lt_of_le {a b c : Cut} (h1 : a.compare b < 0) (h2 : b.compare c ≤ 0) : a.compare c < 0 :=
  not_le.mp fun h => not_le.mpr h1 (le_trans h2 h)

theorem lt_of_le_of_lt {a b c : Cut} (h1 : a.compare b ≤ 0) (h2 : b.compare c < 0) : a.compare c < 0 :=
  not_le.mp fun h => not_le.mpr h2 (le_trans h h1)

theorem le_of_not_le {a b : Cut} (h : ¬a.compare b ≤ 0) : b.compare a ≤ 0 :=
  Int.le_of_lt (not_le.mp h)

theorem le_total (a b : Cut) : a.compare b ≤ 0 ∨ b.compare a ≤ 0 :=
  Decidable.or_iff_not_imp_left.mpr le_of_not_le

theorem belowNull_le (c : Cut) : Cut.belowNull.compare c ≤ 0 := by
  cases c <;> simp [compare]

theorem le_aboveAll (c : Cut) : c.compare .aboveAll ≤ 0 := by
  cases c <;> simp [compare]

theorem isBelow_keyPt_below (k x : Int) : (Cut.below k).isBelow (keyPt x) = decide (k ≤ x) := by
  simp [isBelow, keyPt]

theorem isBelow_keyPt_above (k x : Int) : (Cut.above k).isBelow (keyPt x) = decide (k < x) := by
  simp [isBelow, keyPt]

end Cut

theorem isBelow_ordered (a b : Cut) (v : Option Int) :
    (orderedCuts a b).1.isBelow v = (a.isBelow v || b.isBelow v) ∧
    (orderedCuts a b).2.isBelow v = (a.isBelow v && b.isBelow v) := by
  unfold orderedCuts
  by_cases h : a.compare b ≤ 0
  · have i := Cut.le_sound a b h v
    rw [if_pos h]
    generalize a.isBelow v = x, b.isBelow v = y at i
    decide +revert
  · have i := Cut.le_sound b a (Cut.le_of_not_le h) v
    rw [if_neg h]
    generalize a.isBelow v = x, b.isBelow v = y at i
    decide +revert

/-- `GetMySQLRangeCutMax` / `Min` pick the same cuts as `OrderedCuts` (they differ in the branch
taken on equal cuts only). -/
theorem cutMax_eq_ordered (a b : Cut) : cutMax a b = (orderedCuts a b).2 := by
  unfold cutMax orderedCuts
  rcases Cut.compare_range a b with c | c | c <;> rw [c]
  · rfl
  · exact (Cut.compare_eq_zero_iff a b).mp c
  · rfl

theorem cutMin_eq_ordered (a b : Cut) : cutMin a b = (orderedCuts a b).1 := by
  unfold cutMin orderedCuts
  rcases Cut.compare_range a b with c | c | c <;> rw [c] <;> rfl

theorem isBelow_cutMax (a b : Cut) (v : Option Int) :
    (cutMax a b).isBelow v = (a.isBelow v && b.isBelow v) := by
  rw [cutMax_eq_ordered, (isBelow_ordered a b v).2]

theorem isBelow_cutMin (a b : Cut) (v : Option Int) :
    (cutMin a b).isBelow v = (a.isBelow v || b.isBelow v) := by
  rw [cutMin_eq_ordered, (isBelow_ordered a b v).1]

theorem cutMax_mem (a b : Cut) : cutMax a b = a ∨ cutMax a b = b := by
  unfold cutMax; split
  · exact .inr rfl
  · exact .inl rfl

theorem cutMin_mem (a b : Cut) : cutMin a b = a ∨ cutMin a b = b := by
  unfold cutMin; split
  · exact .inr rfl
  · exact .inl rfl

end Gms.Range
