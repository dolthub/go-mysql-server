/-
Lemmas about the interleaving model `Gms.NonInterf` (C36). For a session that exists `step` is unfolded once,
into the relation `Moved` ("session `i` alone moved, every registry by what that session's own counter moved"); a
schedule is then read session by session (`foldl_sess`) from an arbitrary start state, and the registries are
recovered from the sessions (`Reg`, `reg_ext`). A session by itself is followed with the invariant `SoloInv`; the
`lsteps_*` lemmas at the end are the progress argument (four steps per statement, then nothing moves).
-/
import Gms.Model.NonInterf
namespace Gms.NonInterf
variable {Db : Type}

theorem step_ge {n : Nat} {progs : Nat → List (Stmt Db)} {g : St Db} {i : Nat} (h : ¬ i < n) :
    step n progs g i = g := by
  unfold step; simp [h]

theorem sem_questions (st : Stmt Db) (db : Db) (l : Local) : (sem st db l).2.questions = l.questions := by
  cases st with
  | read f sel w => cases w <;> rfl
  | _ => rfl

theorem sem_comSelect (st : Stmt Db) (db : Db) (l : Local) :
    (sem st db l).2.comSelect = l.comSelect + (if st.isSelect then 1 else 0) := by
  cases st with
  | read f sel w => cases w <;> rfl
  | _ => rfl

/-- What one global step does: only session `i` moves (to `v`), and each registry moves by what that
session's own counter moved. `running` has a premise because `step` decrements it with truncation, `command`
because the steps out of `began` and `counted` copy the process-list entry. -/
structure Moved (g : St Db) (i : Nat) (v : Sess) (g' : St Db) : Prop where
  db : g'.db = g.db
  sess : g'.sess = upd g.sess i v
  questions : g'.questions + (g.sess i).loc.questions = g.questions + v.loc.questions
  comSelect : g'.comSelect + (g.sess i).loc.comSelect = g.comSelect + v.loc.comSelect
  running : busy (g.sess i) ≤ g.running → g'.running + busy (g.sess i) = g.running + busy v
  command : (g.sess i).command = decide ((g.sess i).phase ≠ .idle) → v.command = decide (v.phase ≠ .idle)

theorem step_lt {n : Nat} {progs : Nat → List (Stmt Db)} {g : St Db} {i : Nat} (hi : i < n) :
    Moved g i (lstep g.db (progs i) (g.sess i)) (step n progs g i) := by
  unfold step lstep
  simp only [hi, if_true]
  cases (progs i)[(g.sess i).pc]? with
  | none =>
    exact { db := rfl, sess := funext fun j => by simp only [upd]; split <;> simp [*], questions := rfl, comSelect := rfl,
            running := fun _ => rfl, command := id }
  | some st =>
    cases hph : (g.sess i).phase with
    | idle =>
      exact { db := rfl, sess := rfl, questions := rfl, comSelect := rfl, running := fun _ => by simp [busy, hph],
              command := fun _ => rfl }
    | began =>
      exact { db := rfl, sess := rfl, comSelect := rfl
              questions := (Nat.add_right_comm ..).trans (Nat.add_assoc ..)
              running := fun _ => by simp [busy, hph]
              command := fun h => h.trans (by rw [hph]; rfl) }
    | counted =>
      exact { db := rfl, sess := rfl
              questions := by rw [sem_questions]
              comSelect := by rw [sem_comSelect]; exact (Nat.add_right_comm ..).trans (Nat.add_assoc ..)
              running := fun _ => by simp [busy, hph]
              command := fun h => h.trans (by rw [hph]; rfl) }
    | evaluated =>
      exact { db := rfl, sess := rfl, questions := rfl, comSelect := rfl, command := fun _ => rfl
              running := fun h => by simp only [busy, hph] at h ⊢; exact Nat.sub_add_cancel h }

theorem step_db (n : Nat) (progs : Nat → List (Stmt Db)) (g : St Db) (i : Nat) :
    (step n progs g i).db = g.db := by
  by_cases hi : i < n
  · exact (step_lt hi).db
  · rw [step_ge hi]

theorem step_sess_self {n : Nat} {progs : Nat → List (Stmt Db)} {g : St Db} {i : Nat} (hi : i < n) :
    (step n progs g i).sess i = lstep g.db (progs i) (g.sess i) := by
  rw [(step_lt hi).sess]; exact if_pos rfl

theorem step_sess_other {n : Nat} {progs : Nat → List (Stmt Db)} {g : St Db} {i j : Nat} (h : i ≠ j) :
    (step n progs g i).sess j = g.sess j := by
  by_cases hi : i < n
  · rw [(step_lt hi).sess]; exact if_neg h.symm
  · rw [step_ge hi]

/-- Head first, as `foldl` consumes a schedule. -/
def lsteps (db : Db) (prog : List (Stmt Db)) : Nat → Sess → Sess
  | 0, s => s
  | k + 1, s => lsteps db prog k (lstep db prog s)

theorem lsteps_add (db : Db) (prog : List (Stmt Db)) (a b : Nat) (s : Sess) :
    lsteps db prog (a + b) s = lsteps db prog b (lsteps db prog a s) := by
  induction a generalizing s with
  | zero => simp [lsteps]
  | succ a ih => rw [Nat.succ_add, lsteps, ih, lsteps]

theorem solo_eq_lsteps (db : Db) (prog : List (Stmt Db)) (k : Nat) :
    solo db prog k = lsteps db prog k initSess := by
  induction k with
  | zero => rfl
  | succ k ih => rw [solo, ih, lsteps_add]; rfl

theorem foldl_db (n : Nat) (progs : Nat → List (Stmt Db)) (evs : List Nat) (g : St Db) :
    (evs.foldl (step n progs) g).db = g.db := by
  induction evs generalizing g with
  | nil => rfl
  | cons e evs ih => rw [List.foldl_cons, ih, step_db]

theorem foldl_sess (n : Nat) (progs : Nat → List (Stmt Db)) (evs : List Nat) (g : St Db) (i : Nat) :
    (evs.foldl (step n progs) g).sess i = if i < n then lsteps g.db (progs i) (occ i evs) (g.sess i) else g.sess i := by
  induction evs generalizing g with
  | nil => exact (ite_self _).symm
  | cons e evs ih =>
    rw [List.foldl_cons, ih, step_db]
    by_cases he : e = i
    · subst he
      simp only [occ, if_true, Nat.add_comm 1]
      split
      · next hi => rw [lsteps, step_sess_self hi]
      · next hi => rw [step_ge hi]
    · simp only [occ, he, if_false, Nat.zero_add]
      rw [step_sess_other he]

theorem sumN_congr (f g : Nat → Nat) (n : Nat) (h : ∀ i, i < n → f i = g i) : sumN f n = sumN g n := by
  induction n with
  | zero => rfl
  | succ n ih => simp only [sumN]; rw [ih (fun i hi => h i (Nat.lt_succ_of_lt hi)), h n (Nat.lt_succ_self n)]

theorem sumN_zero (f : Nat → Nat) (n : Nat) (h : ∀ i, i < n → f i = 0) : sumN f n = 0 := by
  induction n with
  | zero => rfl
  | succ n ih => simp only [sumN]; rw [ih (fun i hi => h i (Nat.lt_succ_of_lt hi)), h n (Nat.lt_succ_self n)]

theorem sumN_ge (f : Nat → Nat) (n i : Nat) (hi : i < n) : f i ≤ sumN f n := by
  induction n with
  | zero => exact absurd hi (Nat.not_lt_zero _)
  | succ m ih =>
    rcases Nat.lt_succ_iff_lt_or_eq.mp hi with h | rfl
    · exact Nat.le_trans (ih h) (Nat.le_add_right ..)
    · exact Nat.le_add_left ..

theorem sumN_upd (f : Sess → Nat) (ss : Nat → Sess) {i n : Nat} (v : Sess) (hi : i < n) :
    sumN (fun j => f (upd ss i v j)) n + f (ss i) = sumN (fun j => f (ss j)) n + f v := by
  induction n with
  | zero => exact absurd hi (Nat.not_lt_zero _)
  | succ n ih =>
    simp only [sumN]
    rcases Nat.lt_succ_iff_lt_or_eq.mp hi with h | rfl
    · rw [Nat.add_right_comm, ih h, Nat.add_right_comm]
      simp only [upd, Nat.ne_of_gt h, if_false]
    · rw [sumN_congr _ (fun j => f (ss j)) i fun j hj => by simp only [upd, Nat.ne_of_lt hj, if_false]]
      simp only [upd, if_true]
      exact Nat.add_right_comm ..

structure Reg (n : Nat) (g : St Db) : Prop where
  questions : g.questions = sumN (fun i => (g.sess i).loc.questions) n
  comSelect : g.comSelect = sumN (fun i => (g.sess i).loc.comSelect) n
  running : g.running = sumN (fun i => busy (g.sess i)) n
  command : ∀ i, (g.sess i).command = decide ((g.sess i).phase ≠ .idle)

theorem reg_init (n : Nat) (db : Db) : Reg n (init db) :=
  ⟨(sumN_zero _ n fun _ _ => rfl).symm, (sumN_zero _ n fun _ _ => rfl).symm, (sumN_zero _ n fun _ _ => rfl).symm,
    fun _ => rfl⟩

theorem reg_upd {n : Nat} {g g' : St Db} {i : Nat} {v : Sess} (h : Reg n g) (hi : i < n) (m : Moved g i v g') :
    Reg n g' :=
  -- a registry that is the sum of `f` over the sessions, and moves as `f` of session `i` does, is the sum afterwards
  have track (f : Sess → Nat) {r r' : Nat} (hr : r' + f (g.sess i) = r + f v) (hs : r = sumN (fun j => f (g.sess j)) n) :
      r' = sumN (fun j => f (g'.sess j)) n :=
    m.sess ▸ Nat.add_right_cancel (hr.trans (hs ▸ (sumN_upd f g.sess v hi).symm))
  -- the session is counted in `running`, so a decrement is exact
  have hpos : busy (g.sess i) ≤ g.running := h.running ▸ sumN_ge (fun j => busy (g.sess j)) n i hi
  { questions := track (·.loc.questions) m.questions h.questions
    comSelect := track (·.loc.comSelect) m.comSelect h.comSelect
    running := track busy (m.running hpos) h.running
    command := fun j => by
      rw [m.sess]; simp only [upd]; split
      · exact m.command (h.command i)
      · exact h.command j }

theorem reg_step (n : Nat) (progs : Nat → List (Stmt Db)) (g : St Db) (i : Nat) (h : Reg n g) :
    Reg n (step n progs g i) := by
  by_cases hi : i < n
  · exact reg_upd h hi (step_lt hi)
  · rw [step_ge hi]; exact h

theorem reg_foldl (n : Nat) (progs : Nat → List (Stmt Db)) (evs : List Nat) (g : St Db) (h : Reg n g) :
    Reg n (evs.foldl (step n progs) g) := by
  induction evs generalizing g with
  | nil => exact h
  | cons e evs ih => exact ih _ (reg_step n progs g e h)

theorem reg_ext {n : Nat} {g g' : St Db} (h : Reg n g) (h' : Reg n g') (hdb : g.db = g'.db) (hs : g.sess = g'.sess) :
    g = g' := by
  obtain ⟨db, q, c, r, ss⟩ := g
  obtain ⟨db', q', c', r', ss'⟩ := g'
  obtain ⟨hq, hc, hr, _⟩ := h
  obtain ⟨hq', hc', hr', _⟩ := h'
  simp only at hdb hs hq hc hr hq' hc' hr'
  subst hdb hs hq hc hr hq' hc' hr'
  rfl

theorem seqRun_append (db : Db) (p q : List (Stmt Db)) (l : Local) :
    seqRun db (p ++ q) l = ((seqRun db p l).1 ++ (seqRun db q (seqRun db p l).2).1, (seqRun db q (seqRun db p l).2).2) := by
  induction p generalizing l with
  | nil => rfl
  | cons a rest ih => simp only [List.cons_append, seqRun]; rw [ih]

theorem seqRun_questions (db : Db) (prog : List (Stmt Db)) (l : Local) :
    (seqRun db prog l).2.questions = l.questions + prog.length := by
  induction prog generalizing l with
  | nil => simp [seqRun]
  | cons a rest ih =>
    simp only [seqRun, List.length_cons]
    rw [ih, sem_questions, Nat.add_assoc, Nat.add_comm 1]

-- By phase, the prefix of `prog` whose `seqRun` the session holds: `take pc` before the evaluation step, `take (pc + 1)` after it.
structure SoloInv (db : Db) (prog : List (Stmt Db)) (s : Sess) : Prop where
  pc_le : s.pc ≤ prog.length
  idle : s.phase = .idle ∨ s.phase = .began →
    s.results.reverse = (seqRun db (prog.take s.pc) initLocal).1 ∧ s.loc = (seqRun db (prog.take s.pc) initLocal).2
  counted : s.phase = .counted →
    s.results.reverse = (seqRun db (prog.take s.pc) initLocal).1 ∧
    s.loc = { (seqRun db (prog.take s.pc) initLocal).2 with questions := (seqRun db (prog.take s.pc) initLocal).2.questions + 1 }
  evaluated : s.phase = .evaluated → s.pc < prog.length ∧
    s.results.reverse = (seqRun db (prog.take (s.pc + 1)) initLocal).1 ∧ s.loc = (seqRun db (prog.take (s.pc + 1)) initLocal).2

theorem soloInv_init (db : Db) (prog : List (Stmt Db)) : SoloInv db prog initSess :=
  ⟨Nat.zero_le _, fun _ => ⟨rfl, rfl⟩, nofun, nofun⟩

theorem soloInv_lstep (db : Db) (prog : List (Stmt Db)) (s : Sess) (h : SoloInv db prog s) :
    SoloInv db prog (lstep db prog s) := by
  unfold lstep
  cases hst : prog[s.pc]? with
  | none => exact h
  | some st =>
    have hlt : s.pc < prog.length := (List.getElem?_eq_some_iff.mp hst).1
    cases hph : s.phase with
    | idle =>
      exact { pc_le := h.pc_le, idle := fun _ => h.idle (Or.inl hph), counted := Phase.noConfusion, evaluated := Phase.noConfusion }
    | began =>
      have hi := h.idle (Or.inr hph)
      exact { pc_le := h.pc_le, idle := (·.elim Phase.noConfusion Phase.noConfusion), counted := fun _ => ⟨hi.1, by rw [hi.2]⟩,
              evaluated := Phase.noConfusion }
    | counted =>
      have hc := h.counted hph
      refine { pc_le := h.pc_le, idle := (·.elim Phase.noConfusion Phase.noConfusion), counted := Phase.noConfusion,
               evaluated := fun _ => ⟨hlt, ?_, ?_⟩ }
      · simp only [List.reverse_cons]
        rw [List.take_add_one, hst, Option.toList_some, seqRun_append, hc.1, hc.2]; rfl
      · simp only
        rw [List.take_add_one, hst, Option.toList_some, seqRun_append, hc.2]; rfl
    | evaluated =>
      have he := h.evaluated hph
      exact { pc_le := he.1, idle := fun _ => he.2, counted := Phase.noConfusion, evaluated := Phase.noConfusion }

theorem soloInv_lsteps (db : Db) (prog : List (Stmt Db)) (k : Nat) (s : Sess) (h : SoloInv db prog s) :
    SoloInv db prog (lsteps db prog k s) := by
  induction k generalizing s with
  | zero => exact h
  | succ k ih => exact ih _ (soloInv_lstep db prog s h)

theorem soloInv_run (n : Nat) (progs : Nat → List (Stmt Db)) (db : Db) (evs : List Nat) (i : Nat) (hi : i < n) :
    SoloInv db (progs i) ((run n progs db evs).sess i) := by
  rw [run, foldl_sess, if_pos hi]
  exact soloInv_lsteps db (progs i) _ _ (soloInv_init db (progs i))

theorem lstep_done (db : Db) (prog : List (Stmt Db)) (s : Sess) (h : prog.length ≤ s.pc) : lstep db prog s = s := by
  unfold lstep
  have : prog[s.pc]? = none := List.getElem?_eq_none_iff.mpr h
  rw [this]

theorem lsteps_done (db : Db) (prog : List (Stmt Db)) (k : Nat) (s : Sess) (h : prog.length ≤ s.pc) :
    lsteps db prog k s = s := by
  induction k with
  | zero => rfl
  | succ k ih => rw [lsteps, lstep_done db prog s h, ih]

theorem lsteps_four (db : Db) (prog : List (Stmt Db)) {s : Sess} {j : Nat} (hpc : s.pc = j) (hph : s.phase = .idle)
    (hlt : j < prog.length) : (lsteps db prog 4 s).pc = j + 1 ∧ (lsteps db prog 4 s).phase = .idle := by
  subst hpc
  have hget : prog[s.pc]? = some prog[s.pc] := List.getElem?_eq_getElem hlt
  simp [lsteps, lstep, hget, hph]

theorem lsteps_statements (db : Db) (prog : List (Stmt Db)) (j : Nat) (hj : j ≤ prog.length) :
    (lsteps db prog (4 * j) initSess).pc = j ∧ (lsteps db prog (4 * j) initSess).phase = .idle := by
  induction j with
  | zero => exact ⟨rfl, rfl⟩
  | succ j ih =>
    have ihj := ih (Nat.le_of_succ_le hj)
    rw [Nat.mul_succ, lsteps_add]
    exact lsteps_four db prog ihj.1 ihj.2 hj

theorem lsteps_enough (db : Db) (prog : List (Stmt Db)) (k : Nat) (hk : 4 * prog.length ≤ k) :
    (lsteps db prog k initSess).pc = prog.length ∧ (lsteps db prog k initSess).phase = .idle := by
  have e : k = 4 * prog.length + (k - 4 * prog.length) := (Nat.add_sub_of_le hk).symm
  have h0 := lsteps_statements db prog prog.length (Nat.le_refl _)
  rw [e, lsteps_add, lsteps_done _ _ _ _ (by rw [h0.1]; exact Nat.le_refl _)]
  exact h0
end Gms.NonInterf
