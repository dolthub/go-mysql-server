/-
C28 — the texts of the wire form (Gms/Model/Wire.lean). The decimal numerals come first: `natText n` is
`Digits.digits 10 n` with `'0' + d` for the digit `d`, and `digitsVal` is `Digits.value 10` of the bytes less `'0'`, so
length, digits and value are those of Lemmas/Digits. Then the integer text and what `Type.Convert` reads from it, the
length of each text builder, and what the Spec readers make of the numeral fields and of the temporal texts.
-/
import Gms.Model.Wire
import Gms.Lemmas.StrScan
import Gms.Lemmas.Digits

namespace Gms.Wire
open Gms.Num Gms.Conv

theorem isDigit_iff (b : UInt8) : isDigit b = true ↔ 48 ≤ b.toNat ∧ b.toNat ≤ 57 := by
  simp [isDigit, UInt8.le_iff_toNat_le]

theorem digit_toNat (d : Nat) (h : d < 10) : (UInt8.ofNat (48 + d)).toNat = 48 + d := by
  rw [UInt8.toNat_ofNat']
  exact Nat.mod_eq_of_lt (Nat.lt_of_lt_of_le (Nat.add_lt_add_left h 48) (by decide))

theorem isDigit_ofNat (d : Nat) (h : d < 10) : isDigit (UInt8.ofNat (48 + d)) = true := by
  rw [isDigit_iff, digit_toNat d h]
  exact ⟨Nat.le_add_right 48 d, Nat.add_le_add_left (Nat.le_of_lt_succ h) 48⟩

theorem digit_ne {b : UInt8} (h : isDigit b = true) {c : UInt8} (hc : c.toNat < 48) : b ≠ c := by
  rintro rfl
  exact absurd ((isDigit_iff _).1 h).1 (Nat.not_le.2 hc)

theorem digitsRev_eq : ∀ (f n : Nat), n < f →
    digitsRev f n = ((Digits.digits 10 n).map fun d => UInt8.ofNat (48 + d)).reverse
  | 0, _, h => nomatch h
  | f + 1, n, h => by
    rw [digitsRev]
    split
    · next h10 => rw [Digits.digits_of_lt h10]; rfl
    · next h10 =>
      have h10 := Nat.le_of_not_lt h10
      rw [digitsRev_eq f _ (Nat.lt_of_lt_of_le (Nat.div_lt_self (by omega) (by decide)) (Nat.le_of_lt_succ h)),
        Digits.digits_of_ge (by decide) h10, List.map_append, List.reverse_append]
      rfl

theorem natText_eq (n : Nat) : natText n = (Digits.digits 10 n).map fun d => UInt8.ofNat (48 + d) := by
  rw [natText, digitsRev_eq _ n (Nat.lt_succ_self n), List.reverse_reverse]

theorem natText_lt {n : Nat} (h : n < 10) : natText n = [UInt8.ofNat (48 + n)] := by
  rw [natText_eq, Digits.digits_of_lt h, List.map_singleton]

theorem natText_ge {n : Nat} (h : 10 ≤ n) : natText n = natText (n / 10) ++ [UInt8.ofNat (48 + n % 10)] := by
  rw [natText_eq, Digits.digits_of_ge (by decide) h, List.map_append, List.map_singleton, natText_eq]

theorem natText_ne_nil (n : Nat) : natText n ≠ [] :=
  natText_eq n ▸ Digits.map_digits_ne_nil

theorem natText_length_le_iff (n k : Nat) (hk : 0 < k) : (natText n).length ≤ k ↔ n < 10 ^ k := by
  rw [natText_eq, List.length_map, Digits.length_digits_le_iff (by decide) n hk]

theorem natText_length_le (n k : Nat) (hk : 1 ≤ k) (h : n < 10 ^ k) : (natText n).length ≤ k :=
  (natText_length_le_iff n k hk).2 h

theorem natText_length_le_max (n k : Nat) (h : n < 10 ^ k) : (natText n).length ≤ max 1 k :=
  natText_length_le n _ (Nat.le_max_left 1 k)
    (Nat.lt_of_lt_of_le h (Nat.pow_le_pow_right (by decide) (Nat.le_max_right 1 k)))

theorem natText_length_mono {a b : Nat} (h : a ≤ b) : (natText a).length ≤ (natText b).length := by
  rw [natText_eq, natText_eq, List.length_map, List.length_map]
  exact Digits.length_digits_mono (by decide) h

theorem intText_length_le_max {lo v hi : Int} (h1 : lo ≤ v) (h2 : v ≤ hi) :
    (intText v).length ≤ max (intText lo).length (intText hi).length := by
  unfold intText
  by_cases hv : v < 0
  · rw [if_pos hv, if_pos (Int.lt_of_le_of_lt h1 hv)]
    exact Nat.le_trans (Nat.succ_le_succ (natText_length_mono (by omega))) (Nat.le_max_left _ _)
  · rw [if_neg hv, if_neg (fun h => hv (Int.lt_of_le_of_lt h2 h))]
    exact Nat.le_trans (natText_length_mono (by omega)) (Nat.le_max_right _ _)

theorem padNat_length (w n : Nat) (hw : w ≠ 0) (h : n < 10 ^ w) : (padNat w n).length = w := by
  rw [padNat, List.length_append, List.length_replicate,
    Nat.sub_add_cancel (natText_length_le n w (Nat.pos_of_ne_zero hw) h)]

theorem padNat_zero (p : Nat) (hp : p ≠ 0) : padNat p 0 = List.replicate p 48 := by
  obtain ⟨q, rfl⟩ := Nat.exists_eq_add_one_of_ne_zero hp
  rw [padNat, natText_lt (by decide : 0 < 10), List.length_singleton, Nat.add_sub_cancel, List.replicate_succ']
  rfl

theorem natText_all_digits (n : Nat) : ∀ b ∈ natText n, isDigit b = true := by
  rw [natText_eq, List.forall_mem_map]
  exact fun d hd => isDigit_ofNat d (Digits.digits_lt (by decide) n d hd)

theorem digitsVal_eq (l : Bytes) : digitsVal l 0 = Digits.value 10 (l.map fun b => b.toNat - 48) := by
  have : ∀ (l : Bytes) (acc : Nat),
      digitsVal l acc = (l.map fun b => b.toNat - 48).foldl (fun a d => a * 10 + d) acc := by
    intro l
    induction l with
    | nil => exact fun _ => rfl
    | cons _ l ih => exact fun _ => ih _
  exact this l 0

theorem digitsVal_natText (n : Nat) : digitsVal (natText n) 0 = n := by
  rw [digitsVal_eq, natText_eq]
  exact Digits.value_map_digits (by decide) (fun d hd => by rw [digit_toNat d hd, Nat.add_sub_cancel_left]) n

theorem not_cut_of_digit (b : UInt8) (h : isDigit b = true) : isIntCut b = false := by
  simp [isIntCut, digit_ne h (c := 32) (by decide), digit_ne h (c := 9) (by decide)]

theorem trimLeft_of_not {p : UInt8 → Bool} {l : Bytes} (h : ∀ b ∈ l, p b = false) : trimLeft p l = l := by
  cases l with
  | nil => rfl
  | cons b t => rw [trimLeft, h b (List.mem_cons_self ..)]; rfl

theorem trim_of_not {p : UInt8 → Bool} {l : Bytes} (h : ∀ b ∈ l, p b = false) : trim p l = l := by
  rw [trim, trimLeft_of_not h, trimLeft_of_not (fun b hb => h b (List.mem_reverse.1 hb)), List.reverse_reverse]

theorem no_sign_of_digits {l : Bytes} (h : ∀ b ∈ l, isDigit b = true) :
    signedVal l = digitsVal l 0 ∧ splitSign l = (false, l) := by
  have hne (c : UInt8) (hc : c.toNat < 48) (ds : Bytes) (he : l = c :: ds) : False :=
    digit_ne (h c (he ▸ List.mem_cons_self ..)) hc rfl
  -- `eq_3` is the last clause of each function (no sign); its hypotheses are that `l` matches neither sign clause
  exact ⟨signedVal.eq_3 l (hne 45 (by decide)) (hne 43 (by decide)),
    splitSign.eq_3 l (hne 43 (by decide)) (hne 45 (by decide))⟩

theorem isIntBody_digits {l : Bytes} (hne : l ≠ []) (h : ∀ b ∈ l, isDigit b = true) : isIntBody l = true := by
  cases l with
  | nil => exact absurd rfl hne
  | cons d t =>
    have hd := h d (List.mem_cons_self ..)
    rw [isIntBody_not_sign (fun hc => hc.elim (digit_ne hd (by decide)) (digit_ne hd (by decide)))]
    exact List.all_eq_true.2 h

theorem truncate_intText (v : Int) : truncateStringToInt (intText v) = (intText v, false) := by
  have hdig := natText_all_digits v.natAbs
  have hne := natText_ne_nil v.natAbs
  have hcut : ∀ b ∈ natText v.natAbs, isIntCut b = false := fun b hb => not_cut_of_digit b (hdig b hb)
  have key : trim isIntCut (intText v) = intText v ∧ isIntBody (intText v) = true := by
    unfold intText
    split
    · refine ⟨trim_of_not (List.forall_mem_cons.2 ⟨rfl, hcut⟩), ?_⟩
      rw [isIntBody_sign (.inl rfl), List.all_eq_true.2 hdig, List.isEmpty_eq_false_iff.2 hne]
      rfl
    · exact ⟨trim_of_not hcut, isIntBody_digits hne hdig⟩
  rw [truncate_intBody _ (key.1.symm ▸ key.2), key.1]

theorem signedVal_intText (v : Int) : signedVal (intText v) = v := by
  unfold intText
  split
  · next h => rw [signedVal, digitsVal_natText, Int.ofNat_natAbs_of_nonpos (Int.le_of_lt h), Int.neg_neg]
  · next h => rw [(no_sign_of_digits (natText_all_digits _)).1, digitsVal_natText, Int.natAbs_of_nonneg (Int.not_lt.1 h)]

theorem convertToInt64_intText {v : Int} (h1 : minI64 ≤ v) (h2 : v ≤ maxI64) :
    convertToInt64 (.s (intText v)) = ⟨v, .inRange, .none⟩ := by
  simp only [convertToInt64, truncate_intText, signedVal_intText]
  rw [if_neg (not_or.2 ⟨Int.not_lt.2 h1, Int.not_lt.2 h2⟩)]
  rfl

theorem convertToUint64_intText {v : Int} (h0 : 0 ≤ v) (hm : v ≤ maxU64) :
    convertToUint64 (.s (intText v)) = ⟨v, .inRange, .none⟩ := by
  simp only [convertToUint64, truncate_intText]
  simp only [intText, if_neg (Int.not_lt.2 h0), (no_sign_of_digits (natText_all_digits _)).2,
    digitsVal_natText, Int.natAbs_of_nonneg h0]
  rw [if_neg (Int.not_lt.2 hm)]
  rfl

/-! The clamp of `SQLIntN` and the range test of `Convert` are written in terms of the bounds of the type, so
`t.InRange v` settles them as it stands; of the ten types it is only needed that all ranges but BIGINT
UNSIGNED's lie inside int64. -/

theorem range_in_i64 (t : ITy) (h : t ≠ .u64) : minI64 ≤ t.lo ∧ t.hi ≤ maxI64 := by
  cases t <;> first | exact absurd rfl h | decide

theorem sqlInt_of_inRange (t : ITy) (v : Int) (h : t.InRange v) : sqlInt t v = intText v := by
  obtain ⟨hlo, hhi⟩ := h
  have h1 : (!t.unsigned && decide (v > maxI64)) = false := by
    cases hu : t.unsigned
    · exact decide_eq_false (Int.not_lt.2 (Int.le_trans hhi (range_in_i64 t (by rintro rfl; cases hu)).2))
    · rfl
  rw [sqlInt, h1, if_neg Bool.false_ne_true]
  congr 1
  unfold clampInt
  split
  · rw [if_neg (Int.not_lt.2 (Int.le_trans hhi (by decide)))]
  · rfl
  · rfl
  · rw [if_neg (Int.not_lt.2 hhi), if_neg (Int.not_lt.2 hlo)]

theorem decText_length_eq (s : Nat) (c : Int) : (decText s c).length =
    (if c < 0 then 1 else 0) + ((natText (c.natAbs / 10 ^ s)).length + (if s = 0 then 0 else 1 + s)) := by
  unfold decText
  by_cases h0 : s = 0
  · simp only [h0, if_true]
    split
    · exact Nat.add_comm _ 1
    · exact (Nat.zero_add _).symm
  · have hfr := padNat_length s (c.natAbs % 10 ^ s) h0 (Nat.mod_lt _ (Nat.pow_pos (by decide)))
    simp only [h0, if_false]
    split
    · rw [List.length_cons, List.length_append, List.length_cons, hfr, Nat.add_comm 1 s, Nat.add_comm]
    · rw [List.length_append, List.length_cons, hfr, Nat.add_comm 1 s, Nat.zero_add]

/-- the integer part of a storable coefficient has at most `p - s` digits (one, the `0`, when `p = s`) -/
theorem decText_length_le (p s : Nat) (c : Int) (hs : s ≤ p) (hc : c.natAbs < 10 ^ p) :
    (decText s c).length ≤ (if c < 0 then 1 else 0) + (max 1 (p - s) + (if s = 0 then 0 else 1 + s)) := by
  rw [decText_length_eq]
  refine Nat.add_le_add_left (Nat.add_le_add_right (natText_length_le_max _ _ ?_) _) _
  rw [Nat.div_lt_iff_lt_mul (Nat.pow_pos (by decide)), ← Nat.pow_add, Nat.sub_add_cancel hs]
  exact hc

theorem validDate_year_le {y m d : Nat} (h : validDate y m d) : y ≤ 9999 := by
  rcases h with ⟨rfl, _, _⟩ | ⟨_, h, _⟩
  · decide
  · exact h

theorem dateText_length_le (y m d : Nat) (hy : y ≤ 9999) : (dateText y m d).length ≤ 10 := by
  unfold dateText
  split
  · exact Nat.le_refl 10
  · have hyear : (if y = 0 then [48, 48, 48, 48] else natText y : Bytes).length ≤ 4 := by
      split
      · exact Nat.le_refl 4
      · exact natText_length_le y 4 (by decide) (Nat.lt_succ_of_le hy)
    simp only [List.length_append, List.length_cons, List.length_nil, two]
    exact Nat.add_le_add (Nat.add_le_add hyear (Nat.le_refl 3)) (Nat.le_refl 3)

theorem fracDigits_lt (p us : Nat) (hp : p ≤ 6) (hus : us < 1000000) : us / 10 ^ (6 - p) < 10 ^ p := by
  rw [Nat.div_lt_iff_lt_mul (Nat.pow_pos (by decide)), ← Nat.pow_add, Nat.add_sub_cancel' hp]
  exact hus

theorem fracText_length_le (p us : Nat) (hp : p ≤ 6) (hus : us < 1000000) : (fracText p us).length ≤ 1 + p := by
  unfold fracText
  split
  · exact Nat.zero_le _
  · next h0 =>
    rw [List.length_cons, padNat_length p _ h0 (fracDigits_lt p us hp hus), Nat.add_comm]
    exact Nat.le_refl _

/-- `k`: digits of the hour field, 2 for DATETIME, 3 for TIME (up to 838) -/
theorem timeOfDayText_length_le (h mi s us p k : Nat) (hk : 2 ≤ k) (hh : h < 10 ^ k) (hp : p ≤ 6) (hus : us < 1000000) :
    (timeOfDayText h mi s us p).length ≤ k + 6 + (1 + p) := by
  have hour : (if h < 10 then [48] else [] : Bytes).length + (natText h).length ≤ k := by
    split
    · next hlt => exact Nat.le_trans (Nat.add_le_add_left (natText_length_le h 1 (Nat.le_refl 1) hlt) 1) hk
    · rw [List.length_nil, Nat.zero_add]
      exact natText_length_le h k (Nat.le_trans (by decide) hk) hh
  simp only [timeOfDayText, List.length_append, List.length_cons, List.length_nil, two]
  show _ ≤ k + 3 + 3 + (1 + p)
  exact Nat.add_le_add (Nat.add_le_add (Nat.add_le_add hour (Nat.le_refl 3)) (Nat.le_refl 3))
    (fracText_length_le p us hp hus)

theorem zeroDatetimeText_eq (p : Nat) : zeroDatetimeText p = dateText 0 0 0 ++ 32 :: timeOfDayText 0 0 0 0 p := by
  have : fracText p 0 = if p = 0 then [] else 46 :: List.replicate p 48 := by
    unfold fracText
    split
    · rfl
    · next h => rw [Nat.zero_div, padNat_zero p h]
  rw [timeOfDayText, this]
  rfl

/-- `appendDatetimeFormat` treats the zero time apart (`ZeroTimestampDatetimeStrs`), but writes what its general
branch would; `hz` is the last clause of `Valid (.datetime p)`. -/
theorem datetimeText_eq {p y m d h mi s us : Nat} (hz : y = 0 → h = 0 ∧ mi = 0 ∧ s = 0 ∧ us = 0) :
    datetimeText p y m d h mi s us = dateText y m d ++ 32 :: timeOfDayText h mi s us p := by
  unfold datetimeText
  split
  · next h0 =>
    obtain ⟨rfl, rfl, rfl⟩ := h0
    obtain ⟨rfl, rfl, rfl, rfl⟩ := hz rfl
    exact zeroDatetimeText_eq p
  · rfl

theorem leBytes_length : ∀ (k v : Nat), (leBytes k v).length = k
  | 0, _ => rfl
  | k + 1, v => by rw [leBytes, List.length_cons, leBytes_length k]

/-- the big-endian value of the bytes, accumulated in `Int` as `BitType_.Convert` does -/
theorem foldl_leBytes_reverse : ∀ (k v : Nat),
    (leBytes k v).reverse.foldl (fun (acc : Int) b => acc * 256 + (b.toNat : Int)) ((0 : Nat) : Int) =
      ((v % 256 ^ k : Nat) : Int)
  | 0, v => by simp [leBytes, Nat.mod_one]
  | k + 1, v => by
    have hb : (UInt8.ofNat (v % 256)).toNat = v % 256 := by
      simp only [UInt8.toNat_ofNat']
      exact Nat.mod_eq_of_lt (Nat.mod_lt _ (by decide))
    rw [leBytes, List.reverse_cons, List.foldl_append, foldl_leBytes_reverse k (v / 256), List.foldl_cons, List.foldl_nil,
      hb, Nat.pow_succ', Nat.mod_mul, Nat.mul_comm, Nat.add_comm, Int.natCast_add, Int.natCast_mul]
    rfl

theorem parseNat_digits {l : Bytes} (hne : l ≠ []) (h : ∀ b ∈ l, isDigit b = true) :
    parseNat? l = some (digitsVal l 0) := by
  rw [parseNat?, List.all_eq_true.2 h, List.isEmpty_eq_false_iff.2 hne]
  rfl

theorem parseNat_natText (n : Nat) : parseNat? (natText n) = some n := by
  rw [parseNat_digits (natText_ne_nil n) (natText_all_digits n), digitsVal_natText]

theorem digitsVal_zeros (k : Nat) (l : Bytes) : digitsVal (List.replicate k 48 ++ l) 0 = digitsVal l 0 := by
  rw [digitsVal_eq, digitsVal_eq, List.map_append, List.map_replicate]
  exact Digits.value_zeros 10 k _  -- `(48 : UInt8).toNat - 48` evaluates to `0`

theorem parseNat_padNat (w n : Nat) : parseNat? (padNat w n) = some n := by
  rw [padNat, parseNat_digits (by simp [natText_ne_nil]), digitsVal_zeros, digitsVal_natText]
  exact List.forall_mem_append.2 ⟨fun b hb => List.eq_of_mem_replicate hb ▸ rfl, natText_all_digits n⟩

/-- four bytes by name: `parseDate` matches a literal list, and for `parseYear` the length of the text has to evaluate to 4 -/
theorem year4 (y : Nat) (h1 : 1000 ≤ y) (h2 : y ≤ 9999) :
    ∃ a b c d, natText y = [a, b, c, d] ∧ parseNat? [a, b, c, d] = some y := by
  have g1 : 10 ≤ y / 10 / 10 := by
    rw [Nat.div_div_eq_div_mul]
    exact (Nat.le_div_iff_mul_le (by decide)).2 h1
  have g2 : 10 ≤ y / 10 := Nat.le_trans g1 (Nat.div_le_self _ _)
  have g3 : 10 ≤ y := Nat.le_trans g2 (Nat.div_le_self _ _)
  have g4 : y / 10 / 10 / 10 < 10 := by
    rw [Nat.div_div_eq_div_mul, Nat.div_div_eq_div_mul]
    exact Nat.div_lt_of_lt_mul (Nat.lt_succ_of_le h2)
  have hp := parseNat_natText y
  rw [natText_ge g3, natText_ge g2, natText_ge g1, natText_lt g4] at hp ⊢
  exact ⟨_, _, _, _, rfl, hp⟩

theorem parse2_digits (a b : Nat) (ha : a < 10) (hb : b < 10) :
    parse2 (UInt8.ofNat (48 + a)) (UInt8.ofNat (48 + b)) = some (a * 10 + b) := by
  rw [parse2, isDigit_ofNat a ha, isDigit_ofNat b hb, digit_toNat a ha, digit_toNat b hb]
  simp only [Bool.and_self, if_true, Nat.add_sub_cancel_left]

theorem two_parse (m : Nat) (h : m < 100) :
    parse2 (UInt8.ofNat (48 + m / 10)) (UInt8.ofNat (48 + m % 10)) = some m := by
  rw [parse2_digits _ _ (Nat.div_lt_of_lt_mul h) (Nat.mod_lt _ (by decide)), Nat.div_add_mod']

theorem hour_two (h : Nat) (hh : h < 100) : ((if h < 10 then [48] else []) ++ natText h : Bytes) = two h := by
  by_cases h10 : h < 10
  · rw [if_pos h10, natText_lt h10, two, Nat.div_eq_of_lt h10, Nat.mod_eq_of_lt h10]
    rfl
  · rw [if_neg h10, natText_ge (Nat.le_of_not_lt h10), natText_lt (Nat.div_lt_of_lt_mul hh)]
    rfl

/-- the length is what `parseDatetime` cuts the date off by (`take 10`, `drop 10`) -/
theorem parseDate_dateText (y m d : Nat) (hy1 : 1000 ≤ y) (hy2 : y ≤ 9999) (hm : m < 100) (hd : d < 100) :
    (dateText y m d).length = 10 ∧ parseDate (dateText y m d) = some (y, m, d) := by
  obtain ⟨a, b, c, e, hnt, hparse⟩ := year4 y hy1 hy2
  have hy0 : y ≠ 0 := fun h => absurd (h ▸ hy1) (by decide)
  rw [dateText, if_neg (fun h => hy0 h.1), if_neg hy0, hnt]
  refine ⟨rfl, ?_⟩
  simp only [two, List.cons_append, List.nil_append, parseDate, hparse, two_parse m hm, two_parse d hd]

theorem dim_le (y m : Nat) : dim y m ≤ 31 := by
  unfold dim
  split
  · split <;> decide
  · split <;> decide

theorem parseDate_of_valid {y m d : Nat} (hv : validDate y m d) (hr : ¬ (1 ≤ y ∧ y < 1000)) :
    (dateText y m d).length = 10 ∧ parseDate (dateText y m d) = some (y, m, d) := by
  rcases hv with ⟨rfl, rfl, rfl⟩ | ⟨hy1, hy2, _, hm2, _, hd2⟩
  · decide
  · exact parseDate_dateText y m d (Nat.le_of_not_lt fun hlt => hr ⟨hy1, hlt⟩) hy2 (Nat.lt_of_le_of_lt hm2 (by decide))
      (Nat.lt_of_le_of_lt (Nat.le_trans hd2 (dim_le y m)) (by decide))

theorem parseFrac_point (f : Bytes) : parseFrac (46 :: f) =
    if 1 ≤ f.length ∧ f.length ≤ 6 then (parseNat? f).map (· * 10 ^ (6 - f.length)) else none := rfl

theorem parseFrac_fracText (p us : Nat) (hp : p ≤ 6) (hus : us < 1000000) (hmod : us % 10 ^ (6 - p) = 0) :
    parseFrac (fracText p us) = some us := by
  unfold fracText
  by_cases h0 : p = 0
  · subst h0
    have : us = 0 := by
      rw [Nat.sub_zero] at hmod
      omega
    rw [if_pos rfl, this]
    rfl
  · rw [if_neg h0, parseFrac_point, padNat_length p _ h0 (fracDigits_lt p us hp hus), if_pos ⟨Nat.pos_of_ne_zero h0, hp⟩,
      parseNat_padNat, Option.map_some, Nat.div_mul_cancel (Nat.dvd_of_mod_eq_zero hmod)]

theorem parseClock_timeOfDayText (h mi s us p : Nat) (hh : h < 100) (hmi : mi < 100) (hs : s < 100)
    (hfrac : parseFrac (fracText p us) = some us) :
    parseClock (timeOfDayText h mi s us p) = some (h, mi, s, us) := by
  rw [timeOfDayText, hour_two h hh]
  simp only [two, List.cons_append, List.nil_append, parseClock, two_parse h hh, two_parse mi hmi, two_parse s hs, hfrac]

end Gms.Wire
