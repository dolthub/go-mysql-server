/-
C27: the Spec (`acceptableConvert` / `acceptableOutcome`, Bool-valued, evaluated by the driver) in Prop
form, with the three ways a conversion result can meet it, and what the insert policy makes of a result
that meets it. The numeric part of the Spec (`acceptNum`, `acceptNumOutcome`) and `policy` are defined in
Gms/Model/StoreStr.lean.
-/
import Gms.Model.StoreStr
import Gms.Lemmas.Round
namespace Gms.Store
open Gms.Num Gms.Conv

theorem convert_null (t : Ty) : convert t .null = ⟨.null, .inRange, .none⟩ := by cases t <;> rfl

theorem conversionOk_iff (r : CRes) : conversionOk r = true ↔ r.err = .none ∧ r.flag = .inRange := by
  simp [conversionOk]

theorem conversionOk_of_err {r : CRes} (h : r.err ≠ .none) : conversionOk r = false := by
  simp [conversionOk, h]

theorem numOf_cases {v : Val} {c : Int} {s : Nat} (h : numOf v = some (c, s)) :
    (v = .i c ∧ s = 0) ∨ (v = .u c ∧ s = 0) ∨ v = .d c s := by
  cases v <;> simp_all [numOf]

theorem numOf_ne_null {v : Val} {x} (h : numOf v = some x) : v ≠ .null := by
  intro e; subst e; simp [numOf] at h

theorem negative_of_num {v : Val} (hwf : v.WF) {c : Int} {s : Nat} (hx : numOf v = some (c, s)) (hc : c < 0) :
    v.negative = true := by
  obtain ⟨rfl, _⟩ | ⟨rfl, _⟩ | rfl := numOf_cases hx
  · simp [Val.negative, hc]
  · exact absurd hwf.1 (by omega)
  · simp [Val.negative, hc]

theorem target_of_scale_zero {t : Ty} (h : t.scale = 0) (c : Int) (s : Nat) :
    target t (c, s) = roundHalfAway c s := by
  simp only [target, h, roundToScale_zero]

@[simp] theorem target_int (it : ITy) (c : Int) (s : Nat) : target (.int it) (c, s) = roundHalfAway c s :=
  target_of_scale_zero rfl c s

@[simp] theorem target_year (c : Int) (s : Nat) : target .year (c, s) = roundHalfAway c s :=
  target_of_scale_zero rfl c s

@[simp] theorem target_bit (n : Nat) (c : Int) (s : Nat) : target (.bit n) (c, s) = roundHalfAway c s :=
  target_of_scale_zero rfl c s

theorem storable_int (it : ITy) (x : Int) : Ty.storable (.int it) x = true ↔ it.lo ≤ x ∧ x ≤ it.hi := by
  simp only [Ty.storable, Bool.and_eq_true, decide_eq_true_eq]; rfl

theorem storable_bit (n : Nat) (x : Int) : Ty.storable (.bit n) x = true ↔ 0 ≤ x ∧ x ≤ 2 ^ n - 1 := by
  simp only [Ty.storable, Bool.and_eq_true, decide_eq_true_eq]; rfl

theorem storable_year (x : Int) : Ty.storable .year x = true ↔ x = 0 ∨ (1901 ≤ x ∧ x ≤ 2155) := by
  simp [Ty.storable]

theorem exactInBounds_int (it : ITy) (c : Int) (s : Nat) :
    exactInBounds (.int it) (c, s) = true ↔ it.lo * 10 ^ s ≤ c ∧ c ≤ it.hi * 10 ^ s := by
  simp only [exactInBounds, decide_eq_true_eq]; rfl

/-- Prop form of the Spec `acceptableConvert` for a numeric value `x = c / 10^s` -/
def Acceptable (t : Ty) (x : Int × Nat) (r : CRes) : Prop :=
  (t.storable (target t x) = true → exactInBounds t x = true →
      r.err = .none ∧ r.flag = .inRange ∧ storedCoeff t r.val = some (target t x)) ∧
  (t.storable (target t x) = true → exactInBounds t x = false →
      r.err = .fatal ∨ storedCoeff t r.val = some (target t x)) ∧
  (t.storable (target t x) = false →
      conversionOk r = false ∧ (r.err = .fatal ∨ storedCoeff t r.val = some (nearest t (target t x))))

theorem Acceptable.exact {t : Ty} {x : Int × Nat} {r : CRes} {tg : Int} (htg : target t x = tg)
    (hs : t.storable tg = true) (he : r.err = .none) (hf : r.flag = .inRange) (hv : storedCoeff t r.val = some tg) :
    Acceptable t x r := by
  subst htg
  exact ⟨fun _ _ => ⟨he, hf, hv⟩, fun _ _ => Or.inr hv, fun h => (by rw [hs] at h; cases h)⟩

theorem Acceptable.refused {t : Ty} {x : Int × Nat} {r : CRes} {tg : Int} (htg : target t x = tg)
    (hs : ¬ t.storable tg = true) (he : r.err = .fatal) : Acceptable t x r := by
  subst htg
  exact ⟨fun h => absurd h hs, fun h => absurd h hs, fun _ => ⟨conversionOk_of_err (by rw [he]; simp), Or.inl he⟩⟩

theorem Acceptable.exact_or_refused {t : Ty} {x : Int × Nat} {tg : Int} (htg : target t x = tg) {st : Stored}
    {f : Flag} (hv : storedCoeff t st = some tg) :
    Acceptable t x (if t.storable tg = true then ⟨st, .inRange, .none⟩ else ⟨.null, f, .fatal⟩) := by
  split
  · next hs => exact .exact htg hs rfl rfl hv
  · next hs => exact .refused htg hs rfl

/-- `hb`: where the nearest value is the target itself, the exact value lay beyond a bound and rounded
onto it (`MaxInt64 + 0.3`) -/
theorem Acceptable.nearest {t : Ty} {x : Int × Nat} {r : CRes} {tg nr : Int} (htg : target t x = tg)
    (hnr : nearest t tg = nr) (hok : conversionOk r = false) (hv : storedCoeff t r.val = some nr)
    (hb : t.storable tg = true → nr = tg ∧ exactInBounds t x = false) : Acceptable t x r := by
  subst htg hnr
  exact ⟨fun hs hb' => (by rw [(hb hs).2] at hb'; cases hb'),
    fun hs _ => Or.inr (by rw [← (hb hs).1]; exact hv), fun _ => ⟨hok, Or.inr hv⟩⟩

theorem Acceptable.of_exact {t : Ty} {x : Int × Nat} {r : CRes} (h : Acceptable t x r)
    (hs : t.storable (target t x) = true) (hb : exactInBounds t x = true) :
    r.err = .none ∧ r.flag = .inRange ∧ storedCoeff t r.val = some (target t x) :=
  h.1 hs hb

theorem Acceptable.of_not_storable {t : Ty} {x : Int × Nat} {r : CRes} (h : Acceptable t x r)
    (hs : t.storable (target t x) = false) :
    conversionOk r = false ∧ (r.err = .fatal ∨ storedCoeff t r.val = some (Store.nearest t (target t x))) :=
  h.2.2 hs

theorem Acceptable.ok_of_exact {t : Ty} {x : Int × Nat} {r : CRes} (h : Acceptable t x r)
    (hs : t.storable (target t x) = true) (hb : exactInBounds t x = true) : conversionOk r = true :=
  (conversionOk_iff r).2 ⟨(h.of_exact hs hb).1, (h.of_exact hs hb).2.1⟩

theorem Acceptable.coeff_of_storable {t : Ty} {x : Int × Nat} {r : CRes} (h : Acceptable t x r)
    (hs : t.storable (target t x) = true) : r.err = .fatal ∨ storedCoeff t r.val = some (target t x) := by
  cases hb : exactInBounds t x
  · exact h.2.1 hs hb
  · exact Or.inr (h.of_exact hs hb).2.2

theorem storedCoeff_ne_null {t : Ty} {st : Stored} {c : Int} (h : storedCoeff t st = some c) : st ≠ .null := by
  rintro rfl; cases h

theorem Acceptable.val_ne_null {t : Ty} {x : Int × Nat} {r : CRes} (h : Acceptable t x r)
    (he : r.err ≠ .fatal) : r.val ≠ .null := by
  cases hs : t.storable (target t x)
  · exact storedCoeff_ne_null ((h.of_not_storable hs).2.resolve_left he)
  · exact storedCoeff_ne_null ((h.coeff_of_storable hs).resolve_left he)

theorem acceptableConvert_eq (t : Ty) {v : Val} (hn : v ≠ .null) (r : CRes) :
    acceptableConvert t v r = (numOf v).bind fun x => acceptNum t x r := by
  cases v <;> first | exact absurd rfl hn | rfl

theorem acceptNum_of {t : Ty} {x : Int × Nat} {r : CRes}
    (hy : ¬ (t = .year ∧ 1 ≤ target t x ∧ target t x ≤ 99)) (h : Acceptable t x r) :
    acceptNum t x r = some true := by
  obtain ⟨h1, h2, h3⟩ := h
  simp only [acceptNum, if_neg hy]
  cases hs : t.storable (target t x)
  · obtain ⟨a, b⟩ := h3 hs
    rcases b with b | b <;> simp [a, b]
  · cases he : exactInBounds t x
    · rcases h2 hs he with a | a <;> simp [a]
    · obtain ⟨a, b, c⟩ := h1 hs he
      simp [a, b, c]

theorem acceptableOutcome_eq (ignore : Bool) (t : Ty) {v : Val} (hn : v ≠ .null) (o : Outcome) :
    acceptableOutcome ignore t v o = (numOf v).bind fun x =>
      if t = .year ∧ 1 ≤ target t x ∧ target t x ≤ 99 then none else some (acceptNumOutcome ignore t x o) := by
  cases v with
  | null => exact absurd rfl hn
  | s bs => rfl
  | _ => cases o <;> simp only [acceptableOutcome, numOf, acceptNumOutcome, Option.bind, apply_ite some]

theorem acceptNumOutcome_rejected {ignore : Bool} {t : Ty} {x : Int × Nat} :
    acceptNumOutcome ignore t x .rejected = true ↔
      ignore = false ∧ (t.storable (target t x) = true → exactInBounds t x = false) := by
  simp [acceptNumOutcome, Decidable.imp_iff_not_or]

theorem acceptNumOutcome_stored {ignore : Bool} {t : Ty} {x : Int × Nat} {st : Stored} {w : Bool} :
    acceptNumOutcome ignore t x (.stored st w) = true ↔
      if t.storable (target t x) = true then storedCoeff t st = some (target t x)
      else ignore = true ∧ w = true ∧ storedCoeff t st = some (nearest t (target t x)) := by
  simp only [acceptNumOutcome]
  split <;> simp [Bool.and_assoc]

/-- `hf`: after a fatal error there is no value for IGNORE to keep; `insert_of_acceptable` covers that case -/
theorem policy_acceptable (ignore : Bool) {t : Ty} {x : Int × Nat} {r : CRes} (hA : Acceptable t x r)
    (hf : ignore = true → r.err ≠ .fatal) : acceptNumOutcome ignore t x (policy ignore r) = true := by
  fun_cases policy ignore r
  case case1 h_ok =>
    refine acceptNumOutcome_stored.2 ?_
    split
    · next hs => exact (hA.coeff_of_storable hs).resolve_left (by rw [((conversionOk_iff r).1 h_ok).1]; nofun)
    · next hs => rw [(hA.of_not_storable (Bool.eq_false_iff.2 hs)).1] at h_ok; cases h_ok
  case case2 h_bad h_ignore =>
    refine acceptNumOutcome_stored.2 ?_
    split
    · next hs => exact (hA.coeff_of_storable hs).resolve_left (hf h_ignore)
    · next hs => exact ⟨h_ignore, rfl, (hA.of_not_storable (Bool.eq_false_iff.2 hs)).2.resolve_left (hf h_ignore)⟩
  case case3 h_bad h_strict =>
    -- strict, reported: rejected; a storable value within bounds would have converted cleanly
    exact acceptNumOutcome_rejected.2 ⟨Bool.eq_false_iff.2 h_strict, fun hs => Bool.eq_false_iff.2 fun hb =>
      h_bad (hA.ok_of_exact hs hb)⟩

/-- `insertIgnore` replaces nil by the type's zero; with a value in hand it is `policy` -/
theorem policy_eq_insert (ignore : Bool) (t : Ty) (v : Val) (hnn : ignore = true → (convert t v).val ≠ .null) :
    policy ignore (convert t v) = (if ignore then insertIgnore t v else insertStrict t v) := by
  cases ignore <;> cases hc : conversionOk (convert t v) <;>
    simp [policy, insertStrict, insertIgnore, hc, hnn]

/-- Under IGNORE a fatal error (no value) leaves the type's zero behind: right only where YEAR refuses. -/
theorem insert_of_acceptable (ignore : Bool) (t : Ty) (v : Val) (hnn : v ≠ .null) (x : Int × Nat)
    (hA : Acceptable t x (convert t v))
    (hf : ignore = true → (convert t v).err = .fatal →
      t = .year ∧ (convert t v).val = .null ∧ t.storable (target t x) = false) :
    acceptNumOutcome ignore t x (if ignore then insertIgnore t v else insertStrict t v) = true := by
  by_cases he : ignore = true ∧ (convert t v).err = .fatal
  · obtain ⟨rfl, hv, hs⟩ := hf he.1 he.2
    simp [he.1, insertIgnore, conversionOk, he.2, hv, hnn, acceptNumOutcome_stored, hs, zeroOf, storedCoeff, nearest]
  · rw [← policy_eq_insert ignore t v fun hi => hA.val_ne_null fun h => he ⟨hi, h⟩]
    exact policy_acceptable ignore hA fun hi h => he ⟨hi, h⟩

end Gms.Store
