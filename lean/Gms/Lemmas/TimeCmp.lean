/-
C26 — lemmas about the temporal comparison model `Gms.Model.TimeCmp` (core Lean only).

* `datetimeType.Compare` is a comparison through an integer key, NULL greatest (laws: `Lemmas/CmpKey.lean`)
* `roundTo` / `truncDay` (Go `Round`, `Truncate`): monotone, onto multiples; `roundTo` is the identity on multiples
* the calendar: `goDate` is strictly monotone in the lexicographic order of the civil fields (as `dfc` is:
  `Cal.dfc_strictMono`), i.e. the order of the instants IS the calendar order (`cmpInt_goDate_eq_lexCmp`)
-/
import Gms.Model.TimeCmp
import Gms.Lemmas.Cal
import Gms.Lemmas.CmpKey
namespace Gms.TimeCmp
open Gms.Cal
open Gms.Conv (Cmp cmpInt)

theorem ci_eq (a b : Int) : cmpInt a b = .eq ↔ a = b := Conv.cmpInt_eq a b

def cmpViaKey (k : TVal → Option Int) (a b : TVal) : Cmp :=
  match compareNulls a b with
  | some r => r
  | none =>
    match k a, k b with
    | some x, some y => cmpInt x y
    | _, _ => .err

/-- `datetimeType.Compare` is a comparison through the key `operand ty` (an exact instant). -/
theorem implCompare_eq_viaKey (ty : TTy) (a b : TVal) : implCompare ty a b = cmpViaKey (operand ty) a b := rfl

theorem cmpViaKey_viaKey (k : TVal → Option Int) : Conv.ViaKey (cmpViaKey k) .null cmpInt k where
  null_null := rfl
  null_left {b} hb := by cases b <;> first | rfl | exact absurd rfl hb
  null_right {a} ha := by cases a <;> first | rfl | exact absurd rfl ha
  nonnull {a b} ha hb := by
    have hn : compareNulls a b = none := by
      unfold compareNulls; split <;> first | rfl | exact absurd rfl ha | exact absurd rfl hb
    unfold cmpViaKey; rw [hn]
    cases k a <;> cases k b <;> rfl

theorem implCompare_viaKey (ty : TTy) : Conv.ViaKey (implCompare ty) .null cmpInt (operand ty) :=
  cmpViaKey_viaKey (operand ty)

theorem implCompare_lawful (ty : TTy) : Conv.Lawful (implCompare ty) :=
  (implCompare_viaKey ty).lawful Conv.cmpInt_lawful

theorem specCompare_nullFirst (ty : TTy) : Conv.NullFirst (specCompare ty) .null cmpInt (convertToTime ty) where
  null_null := rfl
  null_left {b} hb := by cases b <;> first | rfl | exact absurd rfl hb
  null_right {a} ha := by cases a <;> first | rfl | exact absurd rfl ha
  nonnull {a b} ha hb := by
    unfold specCompare
    split
    · exact absurd rfl ha
    · exact absurd rfl ha
    · exact absurd rfl hb
    · cases convertToTime ty a <;> cases convertToTime ty b <;> rfl

theorem validStr_iff (f : Fields) : validStr f = true ↔ validFields f ∧ 0 ≤ f.y ∧ f.y ≤ 9999 := by
  simp only [validStr, Bool.and_eq_true, decide_eq_true_eq, and_assoc]

theorem unit_eq_pow (ty : TTy) : ∃ e, e ≤ 9 ∧ ty.unit = ((10 ^ e : Nat) : Int) := by
  unfold TTy.unit
  split
  · rename_i h
    refine ⟨9 - ty.precision, Nat.sub_le _ _, ?_⟩
    rw [← Nat.pow_div (by omega : ty.precision ≤ 9) (by decide : 0 < 10)]; rfl
  · exact ⟨3, by decide, rfl⟩

theorem unit_pos (ty : TTy) : 0 < ty.unit := by
  obtain ⟨e, _, hu⟩ := unit_eq_pow ty
  rw [hu]; exact Int.natCast_pos.mpr (Nat.pow_pos (by decide))

theorem emod_unit_of_sec (ty : TTy) (x : Int) (h : x % nsSec = 0) : x % ty.unit = 0 := by
  obtain ⟨e, he, hu⟩ := unit_eq_pow ty
  rw [hu]
  exact Int.emod_eq_zero_of_dvd
    (Int.dvd_trans (Int.natCast_dvd_natCast.mpr (Nat.pow_dvd_pow 10 he)) (Int.dvd_of_emod_eq_zero h))

theorem roundTo_of_multiple {d t : Int} (hd : 0 < d) (h : t % d = 0) : roundTo d t = t := by
  simp only [roundTo, h]
  rw [if_pos (by omega)]; omega

theorem roundTo_multiple (d t : Int) : roundTo d t % d = 0 := by
  simp only [roundTo]
  have h1 : (t - t % d) % d = 0 := by
    have := Int.emod_emod_of_dvd t (Int.dvd_refl d)
    rw [Int.sub_emod, this]; simp
  split
  · exact h1
  · have e : t + (d - t % d) = (t - t % d) + d := by omega
    rw [e, Int.add_emod, h1]; simp

theorem roundTo_near (d t : Int) (hd : 0 < d) : 2 * (roundTo d t - t) ≤ d ∧ -d < 2 * (roundTo d t - t) := by
  have h0 := Int.emod_nonneg t (Int.ne_of_gt hd)
  have h1 := Int.emod_lt_of_pos t hd
  simp only [roundTo]
  split <;> omega

theorem roundTo_mono (d a b : Int) (hd : 0 < d) (h : a ≤ b) : roundTo d a ≤ roundTo d b := by
  have na := roundTo_near d a hd
  have nb := roundTo_near d b hd
  -- two multiples of `d` in the wrong order are at least `d` apart; each is within `d / 2` of its argument
  by_cases hle : roundTo d a ≤ roundTo d b
  · exact hle
  · have hdiff : (roundTo d a - roundTo d b) % d = 0 := by
      rw [Int.sub_emod, roundTo_multiple d a, roundTo_multiple d b]; rfl
    have := Int.le_of_dvd (by omega) (Int.dvd_of_emod_eq_zero hdiff)
    omega

theorem truncDay_mono (a b : Int) (h : a ≤ b) : truncDay a ≤ truncDay b := by
  simp only [truncDay, nsDay]; omega

theorem truncDay_multiple (t : Int) : truncDay t % nsDay = 0 := by
  simp only [truncDay, nsDay]; omega

/-- a day boundary is a multiple of every rounding unit -/
theorem truncDay_unit (ty : TTy) (t : Int) : truncDay t % ty.unit = 0 := by
  apply emod_unit_of_sec
  have := truncDay_multiple t
  simp only [nsDay, nsSec] at *; omega

theorem zeroTime_eq : zeroTime = -62169984000 * nsSec := by decide

theorem zeroTime_unit (ty : TTy) : zeroTime % ty.unit = 0 :=
  emod_unit_of_sec ty _ (by rw [zeroTime_eq]; exact Int.mul_emod_left _ _)

/-- the day number is strictly monotone in (year, month, day) on valid civil dates -/
theorem dfc_lt_of_lex (y m d y' m' d' : Int) (h : validCivil y m d) (h' : validCivil y' m' d')
    (hl : y < y' ∨ (y = y' ∧ (m < m' ∨ (m = m' ∧ d < d')))) : dfc y m d < dfc y' m' d' :=
  dfc_strictMono y m d y' m' d' h h' hl    -- `Cal.dfc_strictMono`, under the name C26's documents cite

theorem clock_digits (f : Fields) (hf : validFields f) :
    0 ≤ f.ns ∧ f.ns < nsSec ∧ 0 ≤ f.s * nsSec + f.ns ∧ f.s * nsSec + f.ns < nsMin ∧
    0 ≤ f.mi * nsMin + (f.s * nsSec + f.ns) ∧ f.mi * nsMin + (f.s * nsSec + f.ns) < nsHour := by
  obtain ⟨_, _, _, _, _, _, a7, a8, a9, a10, a11, a12⟩ := hf
  simp only [nsHour, nsMin, nsSec]; omega

/-- the time of day is a number with the digits (hour, minute, second, nanosecond) -/
theorem cmpInt_tod (f g : Fields) (hf : validFields f) (hg : validFields g) (base : Int) :
    cmpInt (base + (f.h * nsHour + f.mi * nsMin + f.s * nsSec + f.ns))
      (base + (g.h * nsHour + g.mi * nsMin + g.s * nsSec + g.ns)) =
    if f.h ≠ g.h then cmpInt f.h g.h else if f.mi ≠ g.mi then cmpInt f.mi g.mi
    else if f.s ≠ g.s then cmpInt f.s g.s else cmpInt f.ns g.ns := by
  obtain ⟨a0, a1, a2, a3, a4, a5⟩ := clock_digits f hf
  obtain ⟨b0, b1, b2, b3, b4, b5⟩ := clock_digits g hg
  rw [Conv.cmpInt_add_left]
  simp only [Int.add_assoc]
  rw [Conv.cmpInt_lex nsHour a4 a5 b4 b5, Conv.cmpInt_lex nsMin a2 a3 b2 b3,
    Conv.cmpInt_lex nsSec a0 a1 b0 b1]

theorem goDate_lt_of_day_lt (f g : Fields) (hf : validFields f) (hg : validFields g)
    (hl : f.y < g.y ∨ (f.y = g.y ∧ (f.mo < g.mo ∨ (f.mo = g.mo ∧ f.d < g.d)))) : goDate f < goDate g := by
  obtain ⟨f0, f1, _⟩ := tod_valid f hf _ rfl
  obtain ⟨g0, _, _⟩ := tod_valid g hg _ rfl
  rw [goDate_of_valid f hf, goDate_of_valid g hg]
  exact Conv.lex_lt nsDay
    (dfc_strictMono _ _ _ _ _ _ (validFields_civil f hf) (validFields_civil g hg) hl) f0 f1 g0

/-- **The order of the instants is the calendar order**: on valid civil fields, comparing the exact
instants is the lexicographic comparison of (year, month, day, hour, minute, second, nanosecond). -/
theorem cmpInt_goDate_eq_lexCmp (f g : Fields) (hf : validFields f) (hg : validFields g) :
    cmpInt (goDate f) (goDate g) = lexCmp f g := by
  have lt := goDate_lt_of_day_lt f g hf hg
  have gt := goDate_lt_of_day_lt g f hg hf
  unfold lexCmp
  refine Conv.lex_step (fun h => lt (.inl h)) (fun h => gt (.inl h)) fun hy => ?_
  refine Conv.lex_step (fun h => lt (.inr ⟨hy, .inl h⟩)) (fun h => gt (.inr ⟨hy.symm, .inl h⟩)) fun hmo => ?_
  refine Conv.lex_step (fun h => lt (.inr ⟨hy, .inr ⟨hmo, h⟩⟩)) (fun h => gt (.inr ⟨hy.symm, .inr ⟨hmo.symm, h⟩⟩))
    fun hd => ?_
  -- same day: the time of day decides
  rw [goDate_of_valid f hf, goDate_of_valid g hg, hy, hmo, hd]
  exact cmpInt_tod f g hf hg _

end Gms.TimeCmp
