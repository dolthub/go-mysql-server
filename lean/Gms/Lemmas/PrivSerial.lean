/-
Lemmas for C41 (persist / reload of the access-control state): keyed collections with pairwise different
keys survive `sort → write → read → m[k] = v`, and statements about the entry under a key survive with them;
what an erased privilege set holds, by membership; `find?` under permutation, for the independence of
`GetUser` of the account order (Props/C41).
-/
import Gms.Model.PrivSerial
import Gms.Lemmas.Priv

namespace Gms.PrivSerial
open Gms.Priv

section Generic
variable {α β : Type}

theorem putKey_fresh (key : β → String × Bool) (acc : List β) (v : β)
    (h : ∀ x ∈ acc, key x ≠ key v) : putKey key acc v = acc ++ [v] := by
  unfold putKey
  congr 1
  apply List.filter_eq_self.2
  intro x hx
  simpa using h x hx

theorem foldl_putKey_append (key : β → String × Bool) (l acc : List β)
    (h : ((acc ++ l).map key).Nodup) : l.foldl (putKey key) acc = acc ++ l := by
  induction l generalizing acc with
  | nil => simp
  | cons v l ih =>
    have hv : putKey key acc v = acc ++ [v] := by
      apply putKey_fresh
      intro x hx heq
      simp only [List.map_append, List.map_cons] at h
      have := (List.nodup_append.1 h).2.2 (key x) (List.mem_map_of_mem hx) (key v) (by simp)
      exact this heq
    simp only [List.foldl_cons, hv]
    rw [ih]
    · simp
    · simpa using h

theorem nodup_map_of_imp {κ κ' : Type} {f : α → κ} {g : α → κ'} {l : List α} (hfg : ∀ a b, g a = g b → f a = f b)
    (h : (l.map f).Nodup) : (l.map g).Nodup := by
  rw [List.Nodup, List.pairwise_map] at h ⊢
  exact h.imp fun hne e => hne (hfg _ _ e)

/-- `l'` is what `sort → write → read → m[k] = v` makes of the keyed collection `l`: the entries that are kept, each
as `tr` returns it and under the key it had; keys stay pairwise different. -/
structure RoundTrip {κ : Type} (key : α → κ) (key' : β → κ) (keep : α → Bool) (tr : α → β) (l : List α) (l' : List β) :
    Prop where
  nodup : (l'.map key').Nodup
  mem : ∀ b, b ∈ l' ↔ ∃ a ∈ l, keep a = true ∧ b = tr a
  key_eq : ∀ a ∈ l, keep a = true → key' (tr a) = key a

/-- `m`: the kept entries in the order in which they are written, whatever it is. `emb` is how the loader's map key is
made of the entry's key (`(·, false)` where only a name is the key). -/
theorem roundtrip {κ : Type} {key : α → κ} {key' : β → κ} {keep : α → Bool} {tr : α → β} {l m : List α}
    (emb : κ → String × Bool) (hemb : ∀ x y, emb x = emb y → x = y) (hm : m.Perm (l.filter keep))
    (hn : (l.map key).Nodup) (hk : ∀ a ∈ l, keep a = true → key' (tr a) = key a) :
    RoundTrip key key' keep tr l ((m.map tr).foldl (putKey fun b => emb (key' b)) []) := by
  have hkeys : (m.map tr).map key' = m.map key := by
    rw [List.map_map]
    apply List.map_congr_left
    intro a ha
    have := List.mem_filter.1 (hm.mem_iff.1 ha)
    exact hk a this.1 this.2
  have hnd : ((m.map tr).map key').Nodup := by
    rw [hkeys]
    exact ((hm.map key).nodup_iff).2 ((List.filter_sublist.map key).nodup hn)
  rw [foldl_putKey_append _ _ [] (nodup_map_of_imp (fun _ _ => hemb _ _) hnd), List.nil_append]
  refine ⟨hnd, fun b => ?_, hk⟩
  simp only [List.mem_map, hm.mem_iff, List.mem_filter, and_assoc, eq_comm]

/-- Statements "some entry under key `k` satisfies …" carry over along a round trip: entries correspond one to one
with equal keys, as long as what is asked of an entry implies that it was kept. -/
theorem RoundTrip.exists_iff {κ : Type} {key : α → κ} {key' : β → κ} {keep : α → Bool} {tr : α → β} {l : List α} {l' : List β}
    {P : β → Prop} {Q : α → Prop} (h : RoundTrip key key' keep tr l l') (k : κ)
    (hPQ : ∀ a ∈ l, keep a = true → (P (tr a) ↔ Q a)) (hQ : ∀ a ∈ l, Q a → keep a = true) :
    (∃ b ∈ l', key' b = k ∧ P b) ↔ ∃ a ∈ l, key a = k ∧ Q a := by
  constructor
  · rintro ⟨b, hb, hkb, hp⟩
    obtain ⟨a, ha, hka, rfl⟩ := (h.mem b).1 hb
    exact ⟨a, ha, (h.key_eq a ha hka).symm.trans hkb, (hPQ a ha hka).1 hp⟩
  · rintro ⟨a, ha, hka, hq⟩
    have hkeep := hQ a ha hq
    exact ⟨tr a, (h.mem _).2 ⟨a, ha, hkeep, rfl⟩, (h.key_eq a ha hkeep).trans hka, (hPQ a ha hkeep).2 hq⟩

/-- Looking up `k` among entries with pairwise different keys, seen through an observation `obs` of the entry found and
read as the caller's `Q`: `memOpt · p` with membership at the table and routine level, the `match` of `holds_atDb` with
`NDb.has` at the database level. -/
theorem mget_map_iff {κ γ : Type} [DecidableEq κ] (key : α → κ) (f : α → γ) (obs : Option γ → Bool) (h0 : obs none = false)
    (l : List α) (hn : (l.map key).Nodup) (k : κ) {Q : α → Prop} (hQ : ∀ x ∈ l, obs (some (f x)) = true ↔ Q x) :
    obs (mget (l.map (fun x => (key x, f x))) k) = true ↔ ∃ x ∈ l, key x = k ∧ Q x := by
  induction l with
  | nil => simp [mget, h0]
  | cons a l ih =>
    rw [List.map_cons, List.nodup_cons] at hn
    simp only [List.map_cons, mget, List.mem_cons, exists_eq_or_imp]
    by_cases hk : key a = k
    · simp only [hk, if_true, true_and, hQ a List.mem_cons_self]
      -- no later entry carries the key of `a`
      exact ⟨Or.inl, fun h => h.elim id fun ⟨x, hx, hkx, _⟩ =>
        absurd (List.mem_map.2 ⟨x, hx, hkx.trans hk.symm⟩) hn.1⟩
    · simp only [hk, if_false, false_and, false_or]
      exact ih hn.2 fun x hx => hQ x (List.mem_cons_of_mem _ hx)

end Generic

theorem mem_toSlice (l : List Priv) (p : Priv) : p ∈ toSlice l ↔ p ∈ l := by
  simp [toSlice, sortNats, List.mem_mergeSort, List.mem_eraseDups]

theorem toSlice_singleton (p : Priv) : toSlice [p] = [p] := by
  simp [toSlice, sortNats, List.eraseDups_cons]

theorem nonempty_of_mem {p : Priv} {l : List Priv} (h : p ∈ l) : (!l.isEmpty) = true :=
  (nonempty_iff_exists l).2 ⟨p, h⟩

/-- The key under which the loader files an entry with this name (`fixKeys` = the repaired loader). -/
def keyOf (fk : Bool) (name : String) : String := if fk then lower name else name

/-- The entries are the entries of Go maps: pairwise different keys at every level. -/
structure Keyed (ps : NPrivSet) : Prop where
  dbs : (ps.dbs.map NDb.key).Nodup
  tables : ∀ d ∈ ps.dbs, (d.tables.map NTbl.key).Nodup
  routines : ∀ d ∈ ps.dbs, (d.routines.map (fun r => (r.key, r.isProc))).Nodup

/-- Every entry that gets persisted sits under the key the loader will give it. -/
structure DbKeysOK (fk : Bool) (d : NDb) : Prop where
  key : keyOf fk d.name = d.key
  tkey : ∀ t ∈ d.tables, t.hasPrivileges = true → keyOf fk t.name = t.key
  rkey : ∀ r ∈ d.routines, keyOf fk r.name = r.key

def KeysOK (fk : Bool) (ps : NPrivSet) : Prop := ∀ d ∈ ps.dbs, d.hasPrivileges = true → DbKeysOK fk d

/-- One entry as `Persist` writes it and `LoadData` reads it back. -/
def rtTbl (fk : Bool) (t : NTbl) : NTbl := loadTbl fk { name := t.name, privs := toSlice t.privs }
def rtRtn (fk : Bool) (r : NRtn) : NRtn := loadRtn fk { name := r.name, isProc := r.isProc, privs := toSlice r.privs }
def rtDb (fk : Bool) (d : NDb) : NDb :=
  loadDb fk { name := d.name, privs := toSlice d.privs, tables := serTables d.tables, routines := serRoutines d.routines }

theorem rtDb_tables (fk : Bool) (d : NDb) (hn : (d.tables.map NTbl.key).Nodup) (h : DbKeysOK fk d) :
    RoundTrip NTbl.key NTbl.key NTbl.hasPrivileges (rtTbl fk) d.tables (rtDb fk d).tables := by
  simp only [rtDb, loadDb, serTables, sortBy, List.map_map]
  -- `(rtTbl fk t).key` is `keyOf fk t.name` by definition (`loadTbl`), so the field of `DbKeysOK` is the key equation asked
  -- for; likewise for routines and databases below
  exact roundtrip (·, false) (fun _ _ e => (Prod.mk.inj e).1) (List.mergeSort_perm _ _) hn h.tkey

theorem rtDb_routines (fk : Bool) (d : NDb) (hn : (d.routines.map (fun r => (r.key, r.isProc))).Nodup) (h : DbKeysOK fk d) :
    RoundTrip (fun r : NRtn => (r.key, r.isProc)) (fun r => (r.key, r.isProc)) (fun _ => true) (rtRtn fk) d.routines
      (rtDb fk d).routines := by
  simp only [rtDb, loadDb, serRoutines, sortBy, List.map_map]
  exact roundtrip id (fun _ _ e => e) ((List.mergeSort_perm _ _).trans (.of_eq (List.filter_eq_self.2 fun _ _ => rfl).symm)) hn
    fun x hx _ => congrArg (·, x.isProc) (h.rkey x hx)

theorem rt_dbs (fk : Bool) (ps : NPrivSet) (hk : Keyed ps) (h : KeysOK fk ps) :
    RoundTrip NDb.key NDb.key NDb.hasPrivileges (rtDb fk) ps.dbs (loadPrivSet fk (serPrivSet ps)).dbs := by
  simp only [loadPrivSet, serPrivSet, serDbs, sortBy, List.map_map]
  exact roundtrip (·, false) (fun _ _ e => (Prod.mk.inj e).1) (List.mergeSort_perm _ _) hk.dbs fun d hd hp => (h d hd hp).key

theorem keyed_reload (fk : Bool) (ps : NPrivSet) (hk : Keyed ps) (h : KeysOK fk ps) :
    Keyed (loadPrivSet fk (serPrivSet ps)) := by
  have hr := rt_dbs fk ps hk h
  refine ⟨hr.nodup, fun d' hd' => ?_, fun d' hd' => ?_⟩
  · obtain ⟨d, hd, hpd, rfl⟩ := (hr.mem d').1 hd'
    exact (rtDb_tables fk d (hk.tables d hd) (h d hd hpd)).nodup
  · obtain ⟨d, hd, hpd, rfl⟩ := (hr.mem d').1 hd'
    exact (rtDb_routines fk d (hk.routines d hd) (h d hd hpd)).nodup

def NDb.has (d : NDb) : Slot → Priv → Prop
  | .db, p => p ∈ d.privs
  | .tbl t, p => ∃ x ∈ d.tables, x.key = t ∧ p ∈ x.privs
  | .rtn r b, p => ∃ x ∈ d.routines, (x.key, x.isProc) = (r, b) ∧ p ∈ x.privs

theorem NDb.hasPrivileges_of_has {d : NDb} {sl : Slot} {p : Priv} (h : d.has sl p) : d.hasPrivileges = true := by
  simp only [NDb.hasPrivileges, Bool.or_eq_true, List.any_eq_true]
  cases sl with
  | db => exact Or.inl (Or.inl (nonempty_of_mem h))
  | tbl t => obtain ⟨x, hx, _, hp⟩ := h; exact Or.inl (Or.inr ⟨x, hx, nonempty_of_mem hp⟩)
  | rtn r b => obtain ⟨x, hx, _, hp⟩ := h; exact Or.inr ⟨x, hx, nonempty_of_mem hp⟩

theorem rtDb_has (fk : Bool) (d : NDb) (ht : (d.tables.map NTbl.key).Nodup)
    (hr : (d.routines.map (fun r => (r.key, r.isProc))).Nodup) (h : DbKeysOK fk d) (sl : Slot) (p : Priv) :
    (rtDb fk d).has sl p ↔ d.has sl p := by
  cases sl with
  | db => exact mem_toSlice d.privs p
  | tbl t =>
    exact (rtDb_tables fk d ht h).exists_iff t (fun x _ _ => mem_toSlice _ _) (fun x _ hp => nonempty_of_mem hp)
  | rtn r b =>
    exact (rtDb_routines fk d hr h).exists_iff (r, b) (fun x _ _ => mem_toSlice _ _) (fun _ _ _ => rfl)

theorem memOpt_cell_eraseDb (d : NDb) (ht : (d.tables.map NTbl.key).Nodup)
    (hr : (d.routines.map (fun r => (r.key, r.isProc))).Nodup) (sl : Slot) (p : Priv) :
    memOpt ((eraseDb d).cell sl) p = true ↔ d.has sl p := by
  cases sl with
  | db => exact decide_eq_true_iff
  | tbl t => exact mget_map_iff NTbl.key NTbl.privs (memOpt · p) rfl d.tables ht t fun _ _ => decide_eq_true_iff
  | rtn r b =>
    exact mget_map_iff (fun x : NRtn => (x.key, x.isProc)) NRtn.privs (memOpt · p) rfl d.routines hr (r, b)
      fun _ _ => decide_eq_true_iff

theorem holds_erase_iff (ps : NPrivSet) (hk : Keyed ps) (k : String) (sl : Slot) (p : Priv) :
    (erase ps).holds (sl.grant k p) = true ↔ ∃ d ∈ ps.dbs, d.key = k ∧ d.has sl p := by
  rw [PrivSet.holds_atDb]
  exact mget_map_iff NDb.key eraseDb (fun o => match o with | some s => memOpt (s.cell sl) p | none => false) rfl
    ps.dbs hk.dbs k fun d hd => memOpt_cell_eraseDb d (hk.tables d hd) (hk.routines d hd) sl p

theorem reload_holds (fk : Bool) (ps : NPrivSet) (hk : Keyed ps) (h : KeysOK fk ps) (g : Grant) :
    (erase (loadPrivSet fk (serPrivSet ps))).holds g = (erase ps).holds g := by
  induction g using Grant.slotRec with
  | none g hg =>
    cases g with
    | glob p =>
      apply Bool.eq_iff_iff.2
      simp only [PrivSet.holds, erase, loadPrivSet, serPrivSet, mem_toSlice]
      exact Iff.rfl
    | dyn n => rfl
    | _ => cases hg
  | grant k sl p =>
    apply Bool.eq_iff_iff.2
    rw [holds_erase_iff _ (keyed_reload fk ps hk h), holds_erase_iff _ hk]
    exact (rt_dbs fk ps hk h).exists_iff k
      (fun d hd hp => rtDb_has fk d (hk.tables d hd) (hk.routines d hd) (h d hd hp) sl p)
      (fun d _ hh => NDb.hasPrivileges_of_has hh)

/-- The account `GetUser` returns (rather than its position). -/
def getUserKey (keys : List (String × String)) (user host : String) (roleSearch : Bool) : Option (String × String) :=
  (getUserIdx keys user host roleSearch).bind (fun i => keys[i]?)

/-- `find?` as a cascade: this is what `GetUser` computes. -/
theorem getUserKey_eq (keys : List (String × String)) (user host : String) (rs : Bool) :
    getUserKey keys user host rs =
      ((keys.find? (fun k => decide (k.2 = normHost host ∧ k.1 = user))).or
        ((keys.find? (fun k => k.1 = user && hostMatches (normHost host) host k.2 rs)).or
          (keys.find? (fun k => k.1 = "" && hostMatches (normHost host) host k.2 rs)))) := by
  have h := getUserIdx_bind (fun k => k) keys user host rs
  rwa [List.map_id'] at h

theorem perm_eq_of_length_le_one {α : Type} {l l' : List α} (h : l.Perm l') (hl : l.length ≤ 1) : l = l' := by
  match l, hl with
  | [], _ => exact (List.Perm.nil_eq h)
  | [a], _ => exact List.singleton_perm.1 h

theorem find?_perm {α : Type} (P : α → Bool) {l l' : List α} (h : l.Perm l') (hc : (l.filter P).length ≤ 1) :
    l.find? P = l'.find? P := by
  rw [← List.head?_filter, ← List.head?_filter, perm_eq_of_length_le_one (h.filter P) hc]

theorem filter_exact_le_one (keys : List (String × String)) (hn : keys.Nodup) (k0 : String × String) :
    (keys.filter (fun k => decide (k.2 = k0.2 ∧ k.1 = k0.1))).length ≤ 1 := by
  have e : (fun k : String × String => decide (k.2 = k0.2 ∧ k.1 = k0.1)) = (· == k0) := by
    funext k; apply Bool.eq_iff_iff.2; simp [Prod.ext_iff, and_comm]
  rw [e, ← List.countP_eq_length_filter]
  exact List.nodup_iff_count.1 hn k0

theorem or_congr_of_none {α : Type} {a a' b b' : Option α} (ha : a = a') (hb : a = none → b = b') : a.or b = a'.or b' := by
  subst ha
  cases a with
  | none => simp [hb rfl]
  | some x => rfl

end Gms.PrivSerial
