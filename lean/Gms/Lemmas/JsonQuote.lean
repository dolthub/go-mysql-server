/-
The two modes of the escape loop of `Unquote` (Gms/Model/JsonQuote.lean): the Spec (`strict = true`)
is the code with the panic replaced by the error.
-/
import Gms.Model.JsonQuote

namespace Gms.JsonQuote

theorem unescape_plain (st : Bool) {b : UInt8} {rest : Bytes} (h : b ≠ 92) :
    unescape st (b :: rest) = (unescape st rest).cons b := by
  rw [unescape.eq_def]
  split <;> simp_all

theorem unescape_simple (st : Bool) (c : UInt8) (rest : Bytes) (h : c ≠ 117) :
    unescape st (92 :: c :: rest) =
      (unescape st rest).cons (if c = 98 then 8 else if c = 102 then 12 else if c = 110 then 10
        else if c = 114 then 13 else if c = 116 then 9 else c) :=
  unescape.eq_6 st c rest h

theorem unescape_u (st : Bool) {a b c d : UInt8} (rest : Bytes) {bs : Bytes}
    (h : decodeEscaped a b c d = .bytes bs) :
    unescape st (92 :: 117 :: a :: b :: c :: d :: rest) = (unescape st rest).app bs := by
  rw [unescape.eq_def]
  simp [h]

/-- The two `.crash` results sit behind `if strict`; every other branch hands a result up unchanged. -/
theorem unescape_strict (s : Bytes) :
    unescape true s = if unescape false s = .crash then .errUnicode else unescape false s := by
  fun_induction unescape false s with
  | case1 | case2 | case8 => rfl   -- `[]`; a lone `\`; `\u` and exactly three bytes (`.crash` ↦ `.errUnicode`)
  | case3 a b c d rest' bs hd ih =>   -- `\uXXXX` decoded
    rw [unescape_u true rest' hd, ih]
    cases unescape false rest' <;> rfl
  | case4 a b c d rest' hd | case6 a b c d rest' hd _ => rw [unescape.eq_def]; simp [hd]   -- hex error; surrogate
  | case5 | case7 => contradiction   -- the `strict = true` arms of `if strict`
  | case9 rest h_not_four h_not_three =>   -- `\u` and fewer than three bytes
    rw [unescape.eq_5 true rest h_not_four h_not_three]; rfl
  | case10 c rest hc o ih =>   -- two-byte escape
    rw [unescape_simple true c rest hc, ih]
    cases unescape false rest <;> rfl
  | case11 b rest h_not_lone _ h_not_escape ih =>   -- any other byte
    have hb : b ≠ 92 := fun e => by
      cases rest with
      | nil => exact h_not_lone e rfl
      | cons c r => exact h_not_escape c r e rfl
    rw [unescape_plain true hb, ih]
    cases unescape false rest <;> rfl

theorem unescape_strict_never_crashes (s : Bytes) : unescape true s ≠ .crash := by
  rw [unescape_strict]
  split
  · exact nofun
  · assumption

theorem unquoteWith_eq_crash (strict : Bool) (s : Bytes) :
    unquoteWith strict s = .crash ↔ unescape strict s = .crash := by
  unfold unquoteWith
  cases unescape strict s <;> simp

theorem unquoteWith_strict_never_crashes (s : Bytes) : unquoteWith true s ≠ .crash :=
  fun h => unescape_strict_never_crashes s ((unquoteWith_eq_crash true s).1 h)

end Gms.JsonQuote
