/-
C31 — lemmas about the integer calendar model `Gms.Model.Cal` (core Lean only).

The civil calendar is handled through the March-based year: a date is a year number `marchYear y m`, with
`yearDays` days before it, and a day of that year `mOff (mpOf m) + (d - 1)` (`dfc_split`); a well-formed `Stage`
is the same pair with the year number written in the digits (era, century, 4-year group, year).
`dfc ∘ cfd = id` is computed through the stages; `cfd ∘ dfc = id` on valid dates follows because `dfc` is strictly
monotone in (year, month, day). Then `goDate` / `fieldsOf` are mutually inverse on valid fields.
-/
import Gms.Model.Cal

namespace Gms.Cal

def marchYear (y m : Int) : Int := if m ≤ 2 then y - 1 else y

/-- days before month `mp` (0 = March) inside a March-based year -/
def mOff (mp : Int) : Int := (153 * mp + 2) / 5

/-- days before the March-based year `Y` (up to the constant 719468) -/
def yearDays (Y : Int) : Int := (Y / 400) * 146097 + (Y % 400) * 365 + (Y % 400) / 4 - (Y % 400) / 100

theorem isLeap_iff (y : Int) : isLeap y = true ↔ (y % 4 = 0 ∧ (y % 100 ≠ 0 ∨ y % 400 = 0)) := by
  simp [isLeap]

theorem dfc_split (y m d : Int) :
    dfc y m d = yearDays (marchYear y m) + (mOff (mpOf m) + (d - 1)) - 719468 := by
  simp only [dfc, yearDays, mOff, marchYear]; omega

theorem yearDays_eq (Y : Int) : yearDays Y = 365 * Y + Y / 4 - Y / 100 + Y / 400 := by
  unfold yearDays; omega

/-- `Y + 1`: the February that ends the March-based year `Y` lies in the civil year `Y + 1` -/
theorem yearDays_succ_ge (Y : Int) :
    yearDays Y + 365 + (if isLeap (Y + 1) then 1 else 0) ≤ yearDays (Y + 1) := by
  simp only [yearDays_eq, isLeap_iff]
  split <;> omega

theorem yearDays_mono (Y Y' : Int) (h : Y ≤ Y') : yearDays Y ≤ yearDays Y' := by
  rw [yearDays_eq, yearDays_eq]; omega

theorem yearDays_digits (era c q r : Int) (hc : 0 ≤ c ∧ c ≤ 3) (hq : 0 ≤ q ∧ q ≤ 24) (hr : 0 ≤ r ∧ r ≤ 3) :
    yearDays (400 * era + 100 * c + 4 * q + r) = era * 146097 + 36524 * c + 1461 * q + 365 * r := by
  rw [yearDays_eq]; omega

theorem mOff_mono (a b : Int) (h : a ≤ b) : mOff a ≤ mOff b := by
  simp only [mOff]; omega

/-- `(5 * doy + 2) / 153` is the month a day of the March-based year falls in -/
theorem mOff_bracket (doy : Int) :
    mOff ((5 * doy + 2) / 153) ≤ doy ∧ doy < mOff ((5 * doy + 2) / 153 + 1) := by
  simp only [mOff]; omega

theorem dim_feb (y : Int) : dim y 2 = if isLeap y then 29 else 28 := rfl

theorem dim_ne_feb (y y' m : Int) (h : m ≠ 2) : dim y m = dim y' m := by
  simp [dim, h]

theorem dim_bounds (y m : Int) : 28 ≤ dim y m ∧ dim y m ≤ 31 := by
  unfold dim
  split
  · split <;> omega
  · split <;> omega

theorem dim_eq_mOff (y m : Int) (h1 : 1 ≤ m) (h2 : m ≤ 12) (hm : m ≠ 2) :
    dim y m = mOff (mpOf m + 1) - mOff (mpOf m) := by
  have : m = 1 ∨ m = 3 ∨ m = 4 ∨ m = 5 ∨ m = 6 ∨ m = 7 ∨ m = 8 ∨ m = 9 ∨ m = 10 ∨ m = 11 ∨ m = 12 := by omega
  rcases this with rfl | rfl | rfl | rfl | rfl | rfl | rfl | rfl | rfl | rfl | rfl <;> rfl

/-- `mpOf` is a month number 0..11, and February is the last month of the March-based year -/
theorem mpOf_bounds (m : Int) (h1 : 1 ≤ m) (h2 : m ≤ 12) :
    0 ≤ mpOf m ∧ mpOf m ≤ 11 ∧ (m = 2 ↔ mpOf m = 11) := by
  unfold mpOf; split <;> omega

theorem mpOf_month (mp : Int) (h1 : 0 ≤ mp) (h2 : mp ≤ 11) :
    mpOf (if mp < 10 then mp + 3 else mp - 9) = mp := by
  unfold mpOf; split <;> split <;> omega

def validCivil (y m d : Int) : Prop := 1 ≤ m ∧ m ≤ 12 ∧ 1 ≤ d ∧ d ≤ dim y m

/-- validity in March coordinates: the day lies inside its month and inside the March-based year, whose 366th
day is 29 February -/
theorem validCivil_iff (y m d : Int) (h1 : 1 ≤ m) (h2 : m ≤ 12) :
    validCivil y m d ↔ 0 ≤ d - 1 ∧ mOff (mpOf m) + (d - 1) < mOff (mpOf m + 1) ∧
      mOff (mpOf m) + (d - 1) ≤ 364 + (if isLeap (marchYear y m + 1) then 1 else 0) := by
  obtain ⟨p0, p1, p2⟩ := mpOf_bounds m h1 h2
  simp only [validCivil, h1, h2, true_and]
  by_cases hm : m = 2
  · subst hm
    have e : marchYear y 2 + 1 = y := by simp only [marchYear]; omega
    rw [dim_feb, e, show mpOf 2 = 11 from rfl, show mOff 11 = 337 from rfl, show mOff (11 + 1) = 367 from rfl]
    split <;> omega
  · rw [dim_eq_mOff y m h1 h2 hm]
    have := mOff_mono (mpOf m + 1) 11 (by omega)
    rw [show mOff 11 = 337 from rfl] at this
    split <;> omega

/-- the stages `stage` produces: digits in range, and a 366th day only in a year before a leap year's March -/
def Stage.WF (s : Stage) : Prop :=
  0 ≤ s.c ∧ s.c ≤ 3 ∧ 0 ≤ s.q ∧ s.q ≤ 24 ∧ 0 ≤ s.r ∧ s.r ≤ 3 ∧ 0 ≤ s.doy ∧ s.doy ≤ 365 ∧
  (s.doy = 365 → s.r = 3 ∧ (s.q < 24 ∨ s.c = 3))

theorem stage_spec (z : Int) : (stage z).WF ∧ (stage z).days = z := by
  simp only [stage, Stage.WF, Stage.days]
  omega

theorem days_of_wf (s : Stage) (h : s.WF) :
    s.days = yearDays (400 * s.era + 100 * s.c + 4 * s.q + s.r) + s.doy - 719468 := by
  obtain ⟨c0, c1, q0, q1, r0, r1, _⟩ := h
  rw [yearDays_digits _ _ _ _ ⟨c0, c1⟩ ⟨q0, q1⟩ ⟨r0, r1⟩, Stage.days]

theorem cfdOf_march (s : Stage) (h : s.WF) (y m d : Int) (e : cfdOf s = (y, m, d)) :
    1 ≤ m ∧ m ≤ 12 ∧ marchYear y m = 400 * s.era + 100 * s.c + 4 * s.q + s.r ∧
    mpOf m = (5 * s.doy + 2) / 153 ∧ mOff (mpOf m) + (d - 1) = s.doy := by
  obtain ⟨_, _, _, _, _, _, d0, d1, _⟩ := h
  have hmp : 0 ≤ (5 * s.doy + 2) / 153 ∧ (5 * s.doy + 2) / 153 ≤ 11 := by omega
  simp only [cfdOf, Prod.mk.injEq] at e
  obtain ⟨rfl, hM, rfl⟩ := e
  generalize (5 * s.doy + 2) / 153 = mp at *
  rw [← hM, mpOf_month mp hmp.1 hmp.2, hM]
  have m12 : 1 ≤ m ∧ m ≤ 12 := by split at hM <;> omega
  refine ⟨m12.1, m12.2, ?_, rfl, by simp only [mOff]; omega⟩
  simp only [marchYear]
  split <;> omega

theorem dfc_cfdOf (s : Stage) (h : s.WF) (y m d : Int) (e : cfdOf s = (y, m, d)) : dfc y m d = s.days := by
  obtain ⟨_, _, hY, _, hd⟩ := cfdOf_march s h y m d e
  rw [days_of_wf s h, dfc_split, hY, hd]

theorem cfdOf_valid (s : Stage) (h : s.WF) (y m d : Int) (e : cfdOf s = (y, m, d)) : validCivil y m d := by
  obtain ⟨m1, m12, hY, hmp, hd⟩ := cfdOf_march s h y m d e
  obtain ⟨c0, c1, q0, q1, r0, r1, d0, d1, hleap⟩ := h
  have hb := mOff_bracket s.doy
  rw [hmp] at hd
  rw [validCivil_iff y m d m1 m12, hmp, hd, hY]
  refine ⟨by omega, hb.2, ?_⟩
  -- day 365 exists only where the digits spell the year before a leap year
  simp only [isLeap_iff]
  split <;> omega

theorem days_roundtrip (z : Int) : dfc (cfd z).1 (cfd z).2.1 (cfd z).2.2 = z :=
  (dfc_cfdOf (stage z) (stage_spec z).1 _ _ _ rfl).trans (stage_spec z).2

theorem cfd_valid (z : Int) : validCivil (cfd z).1 (cfd z).2.1 (cfd z).2.2 :=
  cfdOf_valid (stage z) (stage_spec z).1 _ _ _ rfl

theorem day_in_year (y m d : Int) (h : validCivil y m d) :
    yearDays (marchYear y m) + (mOff (mpOf m) + (d - 1)) < yearDays (marchYear y m + 1) := by
  have := ((validCivil_iff y m d h.1 h.2.1).mp h).2.2
  have := yearDays_succ_ge (marchYear y m)
  omega

theorem march_lex (y m y' m' d d' : Int) (h1 : 1 ≤ m) (h2 : m ≤ 12) (h1' : 1 ≤ m') (h2' : m' ≤ 12)
    (hl : y < y' ∨ (y = y' ∧ (m < m' ∨ (m = m' ∧ d < d')))) :
    marchYear y m < marchYear y' m' ∨
      (marchYear y m = marchYear y' m' ∧ (mpOf m < mpOf m' ∨ (mpOf m = mpOf m' ∧ d < d'))) := by
  simp only [marchYear, mpOf]
  omega

theorem dfc_strictMono (y m d y' m' d' : Int) (h : validCivil y m d) (h' : validCivil y' m' d')
    (hl : y < y' ∨ (y = y' ∧ (m < m' ∨ (m = m' ∧ d < d')))) : dfc y m d < dfc y' m' d' := by
  rw [dfc_split y m d, dfc_split y' m' d']
  have hy := day_in_year y m d h
  obtain ⟨_, hin, _⟩ := (validCivil_iff y m d h.1 h.2.1).mp h
  obtain ⟨hd', _, _⟩ := (validCivil_iff y' m' d' h'.1 h'.2.1).mp h'
  have hp' : 0 ≤ mOff (mpOf m') := mOff_mono 0 _ (mpOf_bounds m' h'.1 h'.2.1).1
  rcases march_lex y m y' m' d d' h.1 h.2.1 h'.1 h'.2.1 hl with hY | ⟨hY, hm | ⟨hm, hd⟩⟩
  · have := yearDays_mono (marchYear y m + 1) (marchYear y' m') (by omega)
    omega
  · have := mOff_mono (mpOf m + 1) (mpOf m') (by omega)
    rw [hY]; omega
  · rw [hY, hm]; omega

theorem dfc_inj (y m d y' m' d' : Int) (h : validCivil y m d) (h' : validCivil y' m' d')
    (e : dfc y m d = dfc y' m' d') : (y, m, d) = (y', m', d') := by
  have lt := dfc_strictMono y m d y' m' d' h h'
  have gt := dfc_strictMono y' m' d' y m d h' h
  by_cases l : y < y' ∨ (y = y' ∧ (m < m' ∨ (m = m' ∧ d < d')))
  · have := lt l; omega
  · by_cases g : y' < y ∨ (y' = y ∧ (m' < m ∨ (m' = m ∧ d' < d)))
    · have := gt g; omega
    · obtain ⟨rfl, rfl, rfl⟩ : y = y' ∧ m = m' ∧ d = d' := by omega
      rfl

/-- `cfd (dfc y m d)` is a valid date with the day number of `(y, m, d)` -/
theorem civil_roundtrip (y m d : Int) (h : validCivil y m d) : cfd (dfc y m d) = (y, m, d) :=
  dfc_inj _ _ _ y m d (cfd_valid _) h (days_roundtrip _)

theorem dfc_day (y m d : Int) : dfc y m 1 + (d - 1) = dfc y m d := by
  simp only [dfc]; omega

theorem validFields_civil (f : Fields) (h : validFields f) : validCivil f.y f.mo f.d :=
  ⟨h.1, h.2.1, h.2.2.1, h.2.2.2.1⟩

theorem goDate_month_ok (f : Fields) (h1 : 1 ≤ f.mo) (h2 : f.mo ≤ 12) :
    goDate f = (dfc f.y f.mo 1 + (f.d - 1)) * nsDay + f.h * nsHour + f.mi * nsMin + f.s * nsSec + f.ns := by
  have e1 : (f.mo - 1) / 12 = 0 := by omega
  have e2 : (f.mo - 1) % 12 + 1 = f.mo := by omega
  simp only [goDate, e1, e2, Int.add_zero]

/-- `r` stands for the time of day, so that the sum is written once; callers pass `_ rfl` -/
theorem tod_valid (f : Fields) (h : validFields f) (r : Int)
    (hr : r = f.h * nsHour + f.mi * nsMin + f.s * nsSec + f.ns) :
    0 ≤ r ∧ r < nsDay ∧ r / nsHour = f.h ∧ r % nsHour / nsMin = f.mi ∧ r % nsMin / nsSec = f.s ∧ r % nsSec = f.ns := by
  obtain ⟨_, _, _, _, h5, h6, h7, h8, h9, h10, h11, h12⟩ := h
  simp only [nsDay, nsHour, nsMin, nsSec] at *
  omega

theorem goDate_of_valid (f : Fields) (h : validFields f) :
    goDate f = dfc f.y f.mo f.d * nsDay + (f.h * nsHour + f.mi * nsMin + f.s * nsSec + f.ns) := by
  rw [goDate_month_ok f h.1 h.2.1, dfc_day]; omega

theorem goDate_divMod (f : Fields) (h : validFields f) :
    goDate f / nsDay = dfc f.y f.mo f.d ∧
    goDate f % nsDay = f.h * nsHour + f.mi * nsMin + f.s * nsSec + f.ns := by
  obtain ⟨r0, r1, _⟩ := tod_valid f h _ rfl
  rw [goDate_of_valid f h]
  simp only [nsDay] at *; omega

theorem fieldsOf_goDate (f : Fields) (h : validFields f) : fieldsOf (goDate f) = f := by
  obtain ⟨ed, er⟩ := goDate_divMod f h
  have hc := civil_roundtrip f.y f.mo f.d (validFields_civil f h)
  obtain ⟨_, _, eh, emi, es, ens⟩ := tod_valid f h _ rfl
  simp only [fieldsOf, ed, er, hc, eh, emi, es, ens]

/-- `clock_eq` with the time of day `t % nsDay` as a variable `r`: `omega` is cheaper on the variable -/
theorem tod_split (r : Int) (h0 : 0 ≤ r) (h1 : r < nsDay) :
    r = r / nsHour * nsHour + r % nsHour / nsMin * nsMin + r % nsMin / nsSec * nsSec + r % nsSec ∧
    0 ≤ r / nsHour ∧ r / nsHour ≤ 23 ∧ 0 ≤ r % nsHour / nsMin ∧ r % nsHour / nsMin ≤ 59 ∧
    0 ≤ r % nsMin / nsSec ∧ r % nsMin / nsSec ≤ 59 ∧ 0 ≤ r % nsSec ∧ r % nsSec ≤ 999999999 := by
  simp only [nsDay, nsHour, nsMin, nsSec] at *
  omega

theorem clock_eq (t : Int) :
    t % nsDay = (fieldsOf t).h * nsHour + (fieldsOf t).mi * nsMin + (fieldsOf t).s * nsSec + (fieldsOf t).ns ∧
    0 ≤ (fieldsOf t).h ∧ (fieldsOf t).h ≤ 23 ∧ 0 ≤ (fieldsOf t).mi ∧ (fieldsOf t).mi ≤ 59 ∧
    0 ≤ (fieldsOf t).s ∧ (fieldsOf t).s ≤ 59 ∧ 0 ≤ (fieldsOf t).ns ∧ (fieldsOf t).ns ≤ 999999999 :=
  tod_split (t % nsDay) (by simp only [nsDay]; omega) (by simp only [nsDay]; omega)

theorem fieldsOf_valid (t : Int) : validFields (fieldsOf t) := by
  obtain ⟨h1, h2, h3, h4⟩ := cfd_valid (t / nsDay)
  exact ⟨h1, h2, h3, h4, (clock_eq t).2⟩

theorem goDate_fieldsOf (t : Int) : goDate (fieldsOf t) = t := by
  rw [goDate_of_valid _ (fieldsOf_valid t), ← (clock_eq t).1]
  simp only [fieldsOf]
  rw [days_roundtrip]
  simp only [nsDay]; omega

end Gms.Cal
