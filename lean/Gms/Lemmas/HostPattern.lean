/-
C40 — lemmas about the host-pattern matcher (`Gms/Model/HostPattern.lean`): the structural matcher `glob`
decides the Spec `Matches`; the C39 model `Gms.Priv.globMatch` is the same function; a match is the
pattern's segments interleaved with gaps; a host shorter than the pattern's literals never matches; on a host
without newline the `.*` loop is LIKE's `%` loop.
-/
import Gms.Model.HostPattern
import Gms.Model.Priv

namespace Gms.HostPattern

theorem gapOk_nil : gapOk [] := by intro x hx; cases hx

theorem gapOk_cons {c : Char} {g : List Char} : gapOk (c :: g) ↔ c ≠ '\n' ∧ gapOk g :=
  List.forall_mem_cons

theorem anyTail_iff {f : List Char → Bool} {h : List Char} :
    anyTail f h = true ↔ ∃ g t, h = g ++ t ∧ gapOk g ∧ f t = true := by
  induction h with
  | nil =>
    simp only [anyTail]
    constructor
    · intro hf; exact ⟨[], [], rfl, gapOk_nil, hf⟩
    · rintro ⟨g, t, hgt, _, hf⟩
      obtain ⟨_, rfl⟩ := List.append_eq_nil_iff.1 hgt.symm
      exact hf
  | cons c hs ih =>
    simp only [anyTail, Bool.or_eq_true, Bool.and_eq_true, bne_iff_ne, ne_eq]
    constructor
    · rintro (hf | ⟨hc, ht⟩)
      · exact ⟨[], c :: hs, rfl, gapOk_nil, hf⟩
      · obtain ⟨g, t, hgt, hg, hf⟩ := ih.1 ht
        exact ⟨c :: g, t, by simp [hgt], gapOk_cons.2 ⟨hc, hg⟩, hf⟩
    · rintro ⟨g, t, hgt, hg, hf⟩
      cases g with
      | nil =>
        obtain rfl : c :: hs = t := hgt
        exact Or.inl hf
      | cons d g =>
        obtain ⟨rfl, rfl⟩ := List.cons.inj hgt
        obtain ⟨hc, hg⟩ := gapOk_cons.1 hg
        exact Or.inr ⟨hc, ih.2 ⟨g, t, rfl, hg, hf⟩⟩

theorem glob_sound : ∀ (p h : List Char), glob p h = true → Matches p h
  | [], h, hg => by
    cases h with
    | nil => exact .nil
    | cons _ _ => simp [glob] at hg
  | p :: ps, h, hg => by
    simp only [glob] at hg
    split at hg
    · rename_i hp
      subst hp
      obtain ⟨g, t, rfl, hgo, hf⟩ := anyTail_iff.1 hg
      exact .wild g ps t hgo (glob_sound ps t hf)
    · rename_i hp
      cases h with
      | nil => simp at hg
      | cons c hs =>
        simp only [Bool.and_eq_true, beq_iff_eq] at hg
        obtain ⟨rfl, h2⟩ := hg
        exact .lit p ps hs hp (glob_sound ps hs h2)

theorem glob_complete {p h : List Char} (m : Matches p h) : glob p h = true := by
  induction m with
  | nil => rfl
  | lit c ps hs hc _ ih => simp [glob, hc, ih]
  | wild g ps hs hg _ ih =>
    simp only [glob, if_true]
    exact anyTail_iff.2 ⟨g, hs, rfl, hg, ih⟩

/-- The C39 model of the matcher (well-founded recursion) is `glob`. -/
theorem globMatch_eq_glob : ∀ (p h : List Char), Gms.Priv.globMatch p h = glob p h := by
  intro p h
  fun_induction Gms.Priv.globMatch p h with
  | case1 => rfl
  | case2 => rfl
  | case3 ps ih => rw [ih]; rfl
  | case4 p ps hp => simp only [glob, hp, if_false]
  | case5 ps c hs ih_here ih_skip =>
    -- the two sides differ only in how the comparison with '\n' is spelt (`decide (c ≠ _)` / `c != _`)
    rw [ih_here, ih_skip]
    simp only [glob, anyTail, if_true, ne_eq, decide_not]
    rfl
  | case6 p ps c hs hp ih =>
    rw [ih]
    simp only [glob, hp, if_false]
    rfl

/-- The branch `[] => [[c]]` of `segs` is never taken. -/
theorem segs_eq_cons (p : List Char) : ∃ s ss, segs p = s :: ss := by
  fun_cases segs p <;> exact ⟨_, _, rfl⟩

theorem segs_cons_wild (ps : List Char) : segs ('%' :: ps) = [] :: segs ps := by
  simp only [segs, if_true]

theorem segs_cons_lit {c : Char} (hc : c ≠ '%') {ps s : List Char} {ss : List (List Char)} (h : segs ps = s :: ss) :
    segs (c :: ps) = (c :: s) :: ss := by
  simp only [segs, hc, if_false, h]

theorem length_segs_cons_lit {c : Char} (hc : c ≠ '%') (ps : List Char) :
    (segs (c :: ps)).length = (segs ps).length := by
  obtain ⟨s, ss, h⟩ := segs_eq_cons ps
  rw [segs_cons_lit hc h, h]
  rfl

theorem segs_nowild (a : List Char) (ha : '%' ∉ a) : segs a = [a] := by
  induction a with
  | nil => rfl
  | cons c a ih =>
    obtain ⟨hc, ha'⟩ := List.ne_and_not_mem_of_not_mem_cons ha
    exact segs_cons_lit hc.symm (ih ha')

theorem segs_append_wild (a p : List Char) (ha : '%' ∉ a) : segs (a ++ '%' :: p) = a :: segs p := by
  induction a with
  | nil => exact segs_cons_wild p
  | cons c a ih =>
    obtain ⟨hc, ha'⟩ := List.ne_and_not_mem_of_not_mem_cons ha
    exact segs_cons_lit hc.symm (ih ha')

theorem interleave_cons_head (c : Char) (s : List Char) (ss gs : List (List Char)) :
    interleave ((c :: s) :: ss) gs = c :: interleave (s :: ss) gs := by
  cases gs <;> simp [interleave]

theorem interleave_segs_cons_lit {c : Char} (hc : c ≠ '%') (ps : List Char) (gs : List (List Char)) :
    interleave (segs (c :: ps)) gs = c :: interleave (segs ps) gs := by
  obtain ⟨s, ss, h⟩ := segs_eq_cons ps
  rw [segs_cons_lit hc h, h, interleave_cons_head]

theorem matches_interleave {p h : List Char} (m : Matches p h) :
    ∃ gs, gs.length + 1 = (segs p).length ∧ (∀ g ∈ gs, gapOk g) ∧ h = interleave (segs p) gs := by
  induction m with
  | nil => exact ⟨[], rfl, by simp, rfl⟩
  | lit c ps hs hc _ ih =>
    obtain ⟨gs, hl, hg, rfl⟩ := ih
    exact ⟨gs, hl.trans (length_segs_cons_lit hc ps).symm, hg, (interleave_segs_cons_lit hc ps gs).symm⟩
  | wild g ps hs hgo _ ih =>
    obtain ⟨gs, hl, hg, rfl⟩ := ih
    exact ⟨g :: gs, by simp [segs_cons_wild, hl], List.forall_mem_cons.2 ⟨hgo, hg⟩,
      by simp [segs_cons_wild, interleave]⟩

theorem interleave_matches : ∀ (p : List Char) (gs : List (List Char)),
    gs.length + 1 = (segs p).length → (∀ g ∈ gs, gapOk g) → Matches p (interleave (segs p) gs)
  | [], [], _, _ => .nil
  | [], _ :: _, hl, _ => by simp [segs] at hl
  | c :: ps, gs, hl, hg => by
    by_cases hc : c = '%'
    · subst hc
      rw [segs_cons_wild] at hl ⊢
      cases gs with
      | nil =>
        obtain ⟨s, ss, h⟩ := segs_eq_cons ps
        simp [h] at hl
      | cons g gs =>
        obtain ⟨hg1, hg2⟩ := List.forall_mem_cons.1 hg
        exact .wild g ps _ hg1 (interleave_matches ps gs (Nat.succ.inj hl) hg2)
    · rw [length_segs_cons_lit hc] at hl
      rw [interleave_segs_cons_lit hc]
      exact .lit c ps _ hc (interleave_matches ps gs hl hg)

theorem litLen_cons_lit (c : Char) (ps : List Char) (hc : c ≠ '%') : litLen (c :: ps) = litLen ps + 1 := by
  simp [litLen, List.filter, hc]

theorem litLen_cons_wild (ps : List Char) : litLen ('%' :: ps) = litLen ps := by
  simp [litLen, List.filter]

theorem matches_litLen {p h : List Char} (m : Matches p h) : litLen p ≤ h.length := by
  induction m with
  | nil => simp [litLen]
  | lit c ps hs hc _ ih => rw [litLen_cons_lit c ps hc]; simp; exact ih
  | wild g ps hs _ _ ih => rw [litLen_cons_wild]; simp; omega

/-- `gapOk h` is said of the rest of the host: it has no newline, so each of its prefixes is a gap `.*` may skip. -/
theorem anyTail_eq_anyTailAll {f f' : List Char → Bool} :
    ∀ (h : List Char), gapOk h → (∀ t, gapOk t → f t = f' t) → anyTail f h = anyTailAll f' h
  | [], _, hf => by simp [anyTail, anyTailAll, hf [] gapOk_nil]
  | c :: hs, hh, hf => by
    obtain ⟨hc, hs'⟩ := gapOk_cons.1 hh
    have hb : (c != '\n') = true := by simp [hc]
    simp only [anyTail, anyTailAll, hf (c :: hs) hh, hb, Bool.true_and, anyTail_eq_anyTailAll hs hs' hf]

end Gms.HostPattern
