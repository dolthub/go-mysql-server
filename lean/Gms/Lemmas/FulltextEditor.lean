/-
C51 — the Full-Text editor keeps the pseudo-index tables in sync with the parent table:
lemmas about the Impl model Gms/Model/FulltextEditor.lean.

ROW_COUNT and GLOBAL_COUNT count rows; DOC_COUNT (given `KeysOK`) and POSITION depend only on which rows
the table has (`dcSpec_congr`, `posSpec_congr`). So all four depend on the rows only as a multiset
(`sync_perm`), and `Delete` is checked on `r :: rows` with the equations `Insert` uses (`sync_delete_cons`).
-/
import Gms.Model.FulltextEditor
import Gms.Lemmas.Basics
namespace Gms.Fulltext

section
variable {κ : Type} [DecidableEq κ] {ρ : Type} [DecidableEq ρ]
variable (key : Word → κ) (rk : Row → ρ) (minLen maxLen : Nat)

/-! Histories of row-level editor calls: what `sync_hist` and `C51.ft_index_inv` are stated in. -/

/-- Every call of the history is admissible on the table it meets and deletes no row with an
over-long word. -/
def histOK (rows : List Row) : List EdOp → Prop
  | [] => True
  | op :: ops => opOK rk rows op ∧ opNoLong minLen maxLen op ∧ histOK (tblStep rows op) ops

def runEd (ix : Idx κ ρ) : List EdOp → Option (Idx κ ρ)
  | [] => some ix
  | op :: ops =>
    match edStep key rk minLen maxLen ix op with
    | some ix' => runEd ix' ops
    | none => none

end

theorem keysOK_subset {ρ : Type} {rk : Row → ρ} {rows rows' : List Row} (h : KeysOK rk rows) (hs : rows' ⊆ rows) :
    KeysOK rk rows' :=
  fun a ha b hb e => h a (hs ha) b (hs hb) e

theorem key_ne_of_not_mem {ρ : Type} {rk : Row → ρ} {r : Row} {rows : List Row} (hk : KeysOK rk (r :: rows))
    (hin : r ∉ rows) : ∀ a ∈ rows, rk a ≠ rk r :=
  fun a ha e => hin (hk a (List.mem_cons_of_mem _ ha) r (List.mem_cons_self ..) e ▸ ha)

section
variable {κ : Type} [DecidableEq κ] {ρ : Type} [DecidableEq ρ]
variable {key : Word → κ} {rk : Row → ρ} {minLen maxLen : Nat}

theorem find_key {rows : List Row} (hk : KeysOK rk rows) {q : ρ} {r : Row} :
    rows.find? (fun r => rk r = q) = some r ↔ r ∈ rows ∧ rk r = q := by
  constructor
  · intro h; exact ⟨List.mem_of_find?_eq_some h, by simpa using List.find?_some h⟩
  · rintro ⟨hr, rfl⟩
    exact Basics.find?_eq_some_of_unique hr (decide_eq_true rfl) fun x hx hp => hk x hx r hr (of_decide_eq_true hp)

theorem dcSpec_cons (r : Row) (rows : List Row) (k : κ) (q : ρ) :
    dcSpec key rk minLen maxLen (r :: rows) k q =
      if q = rk r then (if hasClass (stor key minLen maxLen r) k then cntOf k (stor key minLen maxLen r) else 0)
      else dcSpec key rk minLen maxLen rows k q := by
  rw [dcSpec, dcSpec, List.find?_cons]
  by_cases h : rk r = q <;> simp [h, eq_comm (a := q)]

theorem dcSpec_congr {rows rows' : List Row} (hk : KeysOK rk rows) (h : ∀ r, r ∈ rows ↔ r ∈ rows') (k : κ) (q : ρ) :
    dcSpec key rk minLen maxLen rows k q = dcSpec key rk minLen maxLen rows' k q := by
  rw [dcSpec, dcSpec, show rows.find? (fun r => rk r = q) = rows'.find? (fun r => rk r = q) from
    Option.ext fun r => by rw [find_key hk, find_key (keysOK_subset hk fun x => (h x).mpr), h]]

theorem dcSpec_of_not_mem {r : Row} {rows : List Row} (hk : KeysOK rk (r :: rows)) (hin : r ∉ rows) (k : κ) :
    dcSpec key rk minLen maxLen rows k (rk r) = 0 := by
  rw [dcSpec, List.find?_eq_none.mpr fun a ha => by simpa using key_ne_of_not_mem hk hin a ha]

theorem posSpec_cons (r : Row) (rows : List Row) (w : Word) (q : ρ) (p : Nat) :
    posSpec rk minLen maxLen (r :: rows) w q p
      = (posSpec rk minLen maxLen rows w q p || decide (q = rk r) && hasPos minLen maxLen r w p) := by
  simp only [posSpec, List.any_cons, Bool.or_comm, eq_comm]

theorem posSpec_congr {rows rows' : List Row} (h : ∀ r, r ∈ rows ↔ r ∈ rows') (w : Word) (q : ρ) (p : Nat) :
    posSpec rk minLen maxLen rows w q p = posSpec rk minLen maxLen rows' w q p :=
  Basics.any_congr_of_mem_iff h _

theorem posSpec_of_not_mem {r : Row} {rows : List Row} (hk : KeysOK rk (r :: rows)) (hin : r ∉ rows) (w : Word) (p : Nat) :
    posSpec rk minLen maxLen rows w (rk r) p = false :=
  List.any_eq_false.mpr fun a ha => by simp [key_ne_of_not_mem hk hin a ha]

theorem rcSpec_cons (r x : Row) (rows : List Row) :
    rcSpec (r :: rows) x = if x = r then rcSpec rows r + 1 else rcSpec rows x := by
  rw [rcSpec, rcSpec, rcSpec, List.count_cons]
  by_cases h : x = r
  · rw [if_pos h, h, beq_self_eq_true, if_pos rfl]
  · rw [if_neg h, beq_eq_false_iff_ne.mpr (Ne.symm h), if_neg Bool.false_ne_true]; rfl

theorem gcSpec_cons (r : Row) (rows : List Row) (k : κ) :
    gcSpec key minLen maxLen (r :: rows) k
      = gcSpec key minLen maxLen rows k + (if hasClass (stor key minLen maxLen r) k then 1 else 0) := by
  rw [gcSpec, gcSpec, List.filter_cons]
  split <;> rfl

theorem forall_bump {P : Word → Prop} (k : κ) {w : Word} (hw : P w) {acc : List (Word × κ × Nat)}
    (h : ∀ e ∈ acc, P e.1) : ∀ e ∈ bump k w acc, P e.1 := by
  induction acc with
  | nil => exact fun e he => List.mem_singleton.mp he ▸ hw
  | cons a acc ih =>
    obtain ⟨ha, hacc⟩ := List.forall_mem_cons.mp h
    rw [bump]
    split
    · exact List.forall_mem_cons.mpr ⟨ha, hacc⟩
    · exact List.forall_mem_cons.mpr ⟨ha, ih hacc⟩

variable (key)

theorem uniq_forall {P : Word → Prop} (r : Row) (h : ∀ t ∈ tokenize minLen (docOf r), P t.1) :
    ∀ e ∈ uniq key minLen r, P e.1 :=
  List.foldlRecOn (motive := fun (acc : List (Word × κ × Nat)) => ∀ e ∈ acc, P e.1) _ _ (fun _ he => nomatch he)
    fun acc ih w hw => forall_bump (key w) (by obtain ⟨t, ht, rfl⟩ := List.mem_map.mp hw; exact h t ht) ih

theorem noLong_uniq (r : Row) (h : noLong minLen maxLen r) :
    (uniq key minLen r).any (fun e => bytes e.1 > maxLen) = false ∧ stor key minLen maxLen r = uniq key minLen r := by
  have hall : ∀ e ∈ uniq key minLen r, bytes e.1 ≤ maxLen :=
    uniq_forall key (P := (bytes · ≤ maxLen)) r fun t ht => by simpa using List.any_eq_false.mp h t ht
  constructor
  · rw [List.any_eq_false]
    intro e he
    have := hall e he
    simp; omega
  · simp only [stor]
    rw [List.filter_eq_self]
    intro e he
    simp [hall e he]

variable (rk) (minLen) (maxLen)

theorem sync_perm {rows rows' : List Row} {ix : Idx κ ρ} (hs : Sync key rk minLen maxLen rows ix)
    (hk : KeysOK rk rows) (p : rows.Perm rows') : Sync key rk minLen maxLen rows' ix :=
  ⟨fun r => (hs.1 r).trans (p.count_eq r),
    fun k q => (hs.2.1 k q).trans (dcSpec_congr hk (fun _ => p.mem_iff) k q),
    fun k => (hs.2.2.1 k).trans (p.filter _).length_eq,
    fun w q n => (hs.2.2.2 w q n).trans (posSpec_congr (fun _ => p.mem_iff) w q n)⟩

theorem sync_insert (rows : List Row) (ix : Idx κ ρ) (r : Row)
    (hs : Sync key rk minLen maxLen rows ix) (hk : KeysOK rk (r :: rows)) :
    Sync key rk minLen maxLen (r :: rows) (edInsert key rk minLen maxLen ix r) := by
  obtain ⟨hrc, hdc, hgc, hpos⟩ := hs
  have hgc' : ∀ k, ix.gc k + (if hasClass (stor key minLen maxLen r) k then 1 else 0)
      = gcSpec key minLen maxLen (r :: rows) k := fun k => by rw [gcSpec_cons, hgc]
  rw [edInsert]
  by_cases hin : r ∈ rows
  · -- an identical row exists: only ROW_COUNT and GLOBAL_COUNT change
    have hm : ∀ x, x ∈ r :: rows ↔ x ∈ rows := fun x => List.mem_cons.trans (or_iff_right_of_imp (· ▸ hin))
    rw [if_pos (show ix.rc r ≥ 1 by rw [hrc r]; exact List.count_pos_iff.mpr hin)]
    exact ⟨fun x => by simp only [rcSpec_cons, hrc], fun k q => (hdc k q).trans (dcSpec_congr hk hm k q).symm, hgc',
      fun w q p => (hpos w q p).trans (posSpec_congr hm w q p).symm⟩
  · -- a new row: nothing was stored under its key
    have hc0 : rcSpec rows r = 0 := List.count_eq_zero.mpr hin
    rw [if_neg (show ¬ ix.rc r ≥ 1 by rw [hrc r, hc0]; exact Nat.not_succ_le_zero 0)]
    refine ⟨fun x => ?_, fun k q => ?_, hgc', fun w q p => ?_⟩
    · simp only [rcSpec_cons, hrc, hc0]
    · simp only [hdc, dcSpec_cons]
      by_cases h : q = rk r
      · rw [h, if_pos rfl, dcSpec_of_not_mem hk hin]
        by_cases hc : hasClass (stor key minLen maxLen r) k = true <;> simp [hc]
      · rw [if_neg (fun hh => h hh.1), if_neg h]
    · simp only [hpos, posSpec_cons]

theorem sync_delete_cons (rows : List Row) (ix : Idx κ ρ) (r : Row)
    (hs : Sync key rk minLen maxLen (r :: rows) ix) (hk : KeysOK rk (r :: rows)) (hl : noLong minLen maxLen r) :
    ∃ ix', edDelete key rk minLen maxLen ix r = some ix' ∧ Sync key rk minLen maxLen rows ix' := by
  obtain ⟨hrc, hdc, hgc, hpos⟩ := hs
  obtain ⟨hany, hst⟩ := noLong_uniq key r hl
  have hr : ix.rc r = rcSpec rows r + 1 := by rw [hrc, rcSpec_cons, if_pos rfl]
  have hne : ∀ x, x ≠ r → ix.rc x = rcSpec rows x := fun x hx => by rw [hrc, rcSpec_cons, if_neg hx]
  have hgc' : ∀ k, ix.gc k - (if hasClass (uniq key minLen r) k then 1 else 0) = gcSpec key minLen maxLen rows k :=
    fun k => by rw [hgc, gcSpec_cons, hst, Nat.add_sub_cancel]
  rw [edDelete, if_neg (show ¬ ix.rc r = 0 by omega)]
  by_cases hin : r ∈ rows
  · -- another copy stays: every key still leads to the same row
    have hm : ∀ x, x ∈ r :: rows ↔ x ∈ rows := fun x => List.mem_cons.trans (or_iff_right_of_imp (· ▸ hin))
    have hcopy : 0 < rcSpec rows r := List.count_pos_iff.mpr hin
    rw [if_pos (show ix.rc r > 1 by omega)]
    refine ⟨_, rfl, fun x => ?_, fun k q => (hdc k q).trans (dcSpec_congr hk hm k q), hgc',
      fun w q p => (hpos w q p).trans (posSpec_congr hm w q p)⟩
    show (if x = r then _ else _) = _
    split
    · next hx => rw [hx, hr]; rfl
    · next hx => exact hne x hx
  · -- the last copy: its key leaves the table
    have hc0 : rcSpec rows r = 0 := List.count_eq_zero.mpr hin
    rw [if_neg (show ¬ ix.rc r > 1 by omega), hany, if_neg Bool.false_ne_true]
    refine ⟨_, rfl, fun x => ?_, fun k q => ?_, hgc', fun w q p => ?_⟩
    · show (if x = r then _ else _) = _
      split
      · next hx => rw [hx, hc0]
      · next hx => exact hne x hx
    · simp only [hdc, dcSpec_cons]
      by_cases h : q = rk r
      · rw [h, if_pos rfl, dcSpec_of_not_mem hk hin]
        by_cases hc : hasClass (uniq key minLen r) k = true <;> simp [hc, hst]
      · rw [if_neg (fun hh => h hh.1), if_neg h]
    · simp only [hpos, posSpec_cons]
      by_cases h : q = rk r
      · rw [h, posSpec_of_not_mem hk hin]; simp
      · rw [decide_eq_false h]; simp

theorem sync_delete (rows : List Row) (ix : Idx κ ρ) (r : Row)
    (hs : Sync key rk minLen maxLen rows ix) (hk : KeysOK rk rows) (hr : r ∈ rows) (hl : noLong minLen maxLen r) :
    ∃ ix', edDelete key rk minLen maxLen ix r = some ix' ∧ Sync key rk minLen maxLen (rows.erase r) ix' :=
  have p := List.perm_cons_erase hr
  sync_delete_cons key rk minLen maxLen _ ix r (sync_perm key rk minLen maxLen hs hk p) (keysOK_subset hk p.symm.subset) hl

theorem delete_fails_iff (rows : List Row) (ix : Idx κ ρ) (r : Row) (hs : Sync key rk minLen maxLen rows ix) :
    edDelete key rk minLen maxLen ix r = none ↔
      rows.count r = 1 ∧ (uniq key minLen r).any (fun e => bytes e.1 > maxLen) = true := by
  have hc : ix.rc r = rows.count r := hs.1 r
  rw [edDelete]
  by_cases h0 : ix.rc r = 0
  · rw [if_pos h0]; exact iff_of_false (Option.some_ne_none _) fun h => absurd h.1 (by omega)
  · rw [if_neg h0]
    by_cases h1 : ix.rc r > 1
    · rw [if_pos h1]; exact iff_of_false (Option.some_ne_none _) fun h => absurd h.1 (by omega)
    · -- the last copy: only here does the DOC_COUNT loop run, with no length guard
      rw [if_neg h1]
      by_cases hl : (uniq key minLen r).any (fun e => bytes e.1 > maxLen) = true
      · rw [if_pos hl]; exact iff_of_true rfl ⟨by omega, hl⟩
      · rw [if_neg hl]; exact iff_of_false (Option.some_ne_none _) fun h => hl h.2

theorem sync_empty : Sync key rk minLen maxLen [] (Idx.empty : Idx κ ρ) :=
  ⟨fun _ => rfl, fun _ _ => rfl, fun _ => rfl, fun _ _ _ => rfl⟩

theorem sync_step (rows : List Row) (ix : Idx κ ρ) (op : EdOp)
    (hs : Sync key rk minLen maxLen rows ix) (hk : KeysOK rk rows) (hok : opOK rk rows op)
    (hl : opNoLong minLen maxLen op) :
    ∃ ix', edStep key rk minLen maxLen ix op = some ix' ∧ Sync key rk minLen maxLen (tblStep rows op) ix' ∧
      KeysOK rk (tblStep rows op) := by
  cases op with
  | ins r => exact ⟨_, rfl, sync_insert key rk minLen maxLen rows ix r hs hok, hok⟩
  | del r =>
    obtain ⟨ix', h1, h2⟩ := sync_delete key rk minLen maxLen rows ix r hs hk hok hl
    exact ⟨ix', h1, h2, keysOK_subset hk List.erase_subset⟩
  | upd o n =>
    obtain ⟨ix', h1, h2⟩ := sync_delete key rk minLen maxLen rows ix o hs hk hok.1 hl
    refine ⟨edInsert key rk minLen maxLen ix' n, ?_, sync_insert key rk minLen maxLen _ ix' n h2 hok.2, hok.2⟩
    simp [edStep, edUpdate, h1]

theorem sync_hist (ops : List EdOp) (rows : List Row) (ix : Idx κ ρ)
    (hs : Sync key rk minLen maxLen rows ix) (hk : KeysOK rk rows) (hh : histOK rk minLen maxLen rows ops) :
    ∃ ix', runEd key rk minLen maxLen ix ops = some ix' ∧ Sync key rk minLen maxLen (ops.foldl tblStep rows) ix' := by
  induction ops generalizing rows ix with
  | nil => exact ⟨ix, rfl, hs⟩
  | cons op ops ih =>
    obtain ⟨hok, hl, hrest⟩ := hh
    obtain ⟨ix1, h1, h2, h3⟩ := sync_step key rk minLen maxLen rows ix op hs hk hok hl
    obtain ⟨ix2, h4, h5⟩ := ih (tblStep rows op) ix1 h2 h3 hrest
    exact ⟨ix2, by simp [runEd, h1, h4], by simpa using h5⟩

end
end Gms.Fulltext
