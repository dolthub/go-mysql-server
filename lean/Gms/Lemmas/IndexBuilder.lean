/-
Lemmas for C03: exact arithmetic of literal rounding, the ranges each builder call produces,
`updateCol`, the odometer of `Ranges`, the backend's filter expression.
-/
import Gms.Lemmas.Basics
import Gms.Lemmas.RangeSimplify
import Gms.Lemmas.RangeROR
import Gms.Model.IndexBuilder

namespace Gms.IndexBuilder
open Gms.Range

theorem pow10_pos (s : Nat) : 0 < pow10 s := Int.pow_pos (by decide)

theorem den_pos (k : Lit) : 0 < k.den := by
  cases k with
  | int v => simp [Lit.den]
  | dec c s => exact pow10_pos s

theorem floor_lt_iff (k : Lit) (x : Int) : k.num < x * k.den ↔ k.floor < x :=
  (Int.ediv_lt_iff_lt_mul (den_pos k)).symm

theorem le_floor_iff (k : Lit) (x : Int) : x * k.den ≤ k.num ↔ x ≤ k.floor :=
  (Int.le_ediv_iff_mul_le (den_pos k)).symm

theorem lt_ceil_iff (k : Lit) (x : Int) : x * k.den < k.num ↔ x < k.ceil := by
  unfold Lit.ceil
  have h := Int.ediv_lt_iff_lt_mul (a := -k.num) (b := -x) (den_pos k)
  rw [Int.neg_mul] at h
  omega

theorem ceil_le_iff (k : Lit) (x : Int) : k.num ≤ x * k.den ↔ k.ceil ≤ x := by
  rw [← Int.not_lt, lt_ceil_iff, Int.not_lt]

theorem ceil_eq (k : Lit) : k.ceil = if k.integral then k.floor else k.floor + 1 := by
  unfold Lit.ceil Lit.floor Lit.integral
  rw [Int.neg_ediv, Int.sign_eq_one_of_pos (den_pos k)]
  by_cases h : k.num % k.den = 0
  · rw [if_pos (Int.dvd_of_emod_eq_zero h), if_pos (beq_iff_eq.mpr h)]; omega
  · rw [if_neg (fun d => h (Int.emod_eq_zero_of_dvd d)), if_neg (fun e => h (beq_iff_eq.mp e))]; omega

theorem floor_le_ceil (k : Lit) : k.floor ≤ k.ceil := by
  have := ceil_eq k; split at this <;> omega

theorem ceil_le_floor_succ (k : Lit) : k.ceil ≤ k.floor + 1 := by
  have := ceil_eq k; split at this <;> omega

theorem eq_floor_iff (k : Lit) (x : Int) : x * k.den = k.num ↔ (k.integral = true ∧ x = k.floor) := by
  constructor
  · intro h
    have hd : k.num % k.den = 0 := by rw [← h]; exact Int.mul_emod_left x k.den
    refine ⟨by simp [Lit.integral, hd], ?_⟩
    unfold Lit.floor
    rw [← h, Int.mul_ediv_cancel _ (by have := den_pos k; omega)]
  · intro ⟨hi, hx⟩
    have hd : k.num % k.den = 0 := by simpa [Lit.integral] using hi
    rw [hx]
    exact Int.ediv_mul_cancel (Int.dvd_of_emod_eq_zero hd)

theorem beq_floor (k : Lit) (v : Int) : (v * k.den == k.num) = (k.integral && decide (v = k.floor)) := by
  rw [Bool.eq_iff_iff, beq_iff_eq, Bool.and_eq_true, decide_eq_true_iff]; exact eq_floor_iff k v

theorem mem_pt_greaterThan (c : Int) (x : Option Int) :
    (ColRange.greaterThan c).mem (pt x) = match x with | none => false | some v => decide (c < v) := by
  cases x <;> simp [ColRange.greaterThan, ColRange.mem, pt, Cut.isBelow, keyPt]

theorem mem_pt_greaterOrEqual (c : Int) (x : Option Int) :
    (ColRange.greaterOrEqual c).mem (pt x) = match x with | none => false | some v => decide (c ≤ v) := by
  cases x <;> simp [ColRange.greaterOrEqual, ColRange.mem, pt, Cut.isBelow, keyPt]

theorem mem_pt_lessThan (c : Int) (x : Option Int) :
    (ColRange.lessThan c).mem (pt x) = match x with | none => false | some v => decide (v < c) := by
  cases x with
  | none => simp [ColRange.lessThan, ColRange.mem, pt, Cut.isBelow]
  | some v =>
    simp only [ColRange.lessThan, ColRange.mem, pt, Cut.isBelow, keyPt]
    apply Bool.eq_iff_iff.mpr; simp

theorem mem_pt_lessOrEqual (c : Int) (x : Option Int) :
    (ColRange.lessOrEqual c).mem (pt x) = match x with | none => false | some v => decide (v ≤ c) := by
  cases x with
  | none => simp [ColRange.lessOrEqual, ColRange.mem, pt, Cut.isBelow]
  | some v =>
    simp only [ColRange.lessOrEqual, ColRange.mem, pt, Cut.isBelow, keyPt]
    apply Bool.eq_iff_iff.mpr; simp

theorem mem_pt_point (c : Int) (x : Option Int) :
    (ColRange.closed c c).mem (pt x) = match x with | none => false | some v => decide (v = c) := by
  cases x with
  | none => simp [ColRange.closed, ColRange.mem, pt, Cut.isBelow]
  | some v =>
    simp only [ColRange.closed, ColRange.mem, pt, Cut.isBelow, keyPt]
    apply Bool.eq_iff_iff.mpr; simp; omega

theorem mem_pt_notNull (x : Option Int) : ColRange.notNull.mem (pt x) = x.isSome := by
  cases x <;> simp [ColRange.notNull, ColRange.mem, pt, Cut.isBelow, keyPt]

theorem mem_pt_null (x : Option Int) : ColRange.null.mem (pt x) = x.isNone := by
  cases x <;> simp [ColRange.null, ColRange.mem, pt, Cut.isBelow, keyPt]

/-- The column value is NULL or lies in the column type's range. -/
def InType (t : IntType) : Option Int → Prop
  | none => True
  | some v => t.min ≤ v ∧ v ≤ t.max

/-- What `GreaterThan` and `GreaterOrEqual` share: the key is rounded to an integer `c` with
`c < v → P` and `P → c ≤ v`, where `P` says the predicate holds of the column value `v`; so a `c`
above the column type excludes every column value and a `c` below it admits every non-NULL one. -/
theorem lower_spec (t : IntType) (c : Int) (R : Int → ColRange) (P : Prop) [Decidable P] (v : Int)
    (hlo : c < v → P) (hhi : P → c ≤ v) (hR : (R c).mem (pt (some v)) = decide P) (hv : InType t (some v)) :
    (match (convert t c).2 with
      | .overflow => ColRange.empty | .underflow => ColRange.notNull
      | .inRange => R (convert t c).1).mem (pt (some v)) = decide P := by
  fun_cases convert t c
  next h_over =>
    have hP : ¬ P := fun hp => by
      have := hhi hp
      have := hv.2
      omega
    exact (ColRange.mem_empty _).trans (decide_eq_false hP).symm
  next _ h_under => exact (mem_pt_notNull _).trans (decide_eq_true (hlo (by have := hv.1; omega))).symm
  next => exact hR

/-- The mirror image, for `LessThan` and `LessOrEqual`. -/
theorem upper_spec (t : IntType) (c : Int) (R : Int → ColRange) (P : Prop) [Decidable P] (v : Int)
    (hlo : v < c → P) (hhi : P → v ≤ c) (hR : (R c).mem (pt (some v)) = decide P) (hv : InType t (some v)) :
    (match (convert t c).2 with
      | .overflow => ColRange.notNull | .underflow => ColRange.empty
      | .inRange => R (convert t c).1).mem (pt (some v)) = decide P := by
  fun_cases convert t c
  next h_over => exact (mem_pt_notNull _).trans (decide_eq_true (hlo (by have := hv.2; omega))).symm
  next _ h_under =>
    have hP : ¬ P := fun hp => by
      have := hhi hp
      have := hv.1
      omega
    exact (ColRange.mem_empty _).trans (decide_eq_false hP).symm
  next => exact hR

theorem potGreaterThan_spec (t : IntType) (k : Lit) (x : Option Int) (hx : InType t x) :
    (potGreaterThan t k).mem (pt x) = (Pred.gt k).holds x := by
  cases x with
  | none => fun_cases potGreaterThan t k <;> rfl
  | some v =>
    exact (lower_spec t k.floor ColRange.greaterThan (k.floor < v) v id Int.le_of_lt
      (mem_pt_greaterThan _ (some v)) hx).trans (decide_eq_decide.mpr (floor_lt_iff k v).symm)

theorem potLessThan_spec (t : IntType) (k : Lit) (x : Option Int) (hx : InType t x) :
    (potLessThan t k).mem (pt x) = (Pred.lt k).holds x := by
  cases x with
  | none => fun_cases potLessThan t k <;> rfl
  | some v =>
    exact (upper_spec t k.ceil ColRange.lessThan (v < k.ceil) v id Int.le_of_lt
      (mem_pt_lessThan _ (some v)) hx).trans (decide_eq_decide.mpr (lt_ceil_iff k v).symm)

theorem potGreaterOrEqual_spec (t : IntType) (k : Lit) (x : Option Int) (hx : InType t x) :
    (potGreaterOrEqual t k).mem (pt x) = (Pred.ge k).holds x := by
  cases x with
  | none => fun_cases potGreaterOrEqual t k <;> rfl
  | some v =>
    have hceil := ceil_eq k
    refine (lower_spec t k.floor (fun c => if !k.integral then ColRange.greaterThan c else ColRange.greaterOrEqual c)
      (k.ceil ≤ v) v (fun h => by have := ceil_le_floor_succ k; omega) (fun h => by have := floor_le_ceil k; omega)
      ?_ hx).trans (decide_eq_decide.mpr (ceil_le_iff k v).symm)
    -- `>= 2.5` is `> 2`, `>= 2` stays
    cases hi : k.integral <;> rw [hi] at hceil
    · exact (mem_pt_greaterThan _ _).trans (decide_eq_decide.mpr (by rw [hceil]; exact Int.lt_iff_add_one_le))
    · exact (mem_pt_greaterOrEqual _ _).trans (decide_eq_decide.mpr (by rw [hceil]; rfl))

theorem potLessOrEqual_spec (t : IntType) (k : Lit) (x : Option Int) (hx : InType t x) :
    (potLessOrEqual t k).mem (pt x) = (Pred.le k).holds x := by
  cases x with
  | none => fun_cases potLessOrEqual t k <;> rfl
  | some v =>
    have hceil := ceil_eq k
    refine (upper_spec t k.ceil (fun c => if !k.integral then ColRange.lessThan c else ColRange.lessOrEqual c)
      (v ≤ k.floor) v (fun h => by have := ceil_le_floor_succ k; omega) (fun h => by have := floor_le_ceil k; omega)
      ?_ hx).trans (decide_eq_decide.mpr (le_floor_iff k v).symm)
    -- `<= 2.5` is `< 3`, `<= 2` stays
    cases hi : k.integral <;> rw [hi] at hceil
    · exact (mem_pt_lessThan _ _).trans (decide_eq_decide.mpr (by rw [hceil]; exact Int.lt_add_one_iff))
    · exact (mem_pt_lessOrEqual _ _).trans (decide_eq_decide.mpr (by rw [hceil]; rfl))

theorem potEqualsOne_spec (t : IntType) (k : Lit) (x : Option Int) (hx : InType t x) :
    (potEqualsOne t k).mem (pt x) = (Pred.eq [k]).holds x := by
  cases x with
  | none => fun_cases potEqualsOne t k <;> rfl
  | some v =>
    unfold potEqualsOne
    show _ = ([k].any fun k => v * k.den == k.num)
    rw [List.any_cons, List.any_nil, Bool.or_false, beq_floor]
    cases k.integral
    · exact ColRange.mem_empty _
    · fun_cases convert t k.floor
      next h_over => exact (ColRange.mem_empty _).trans (decide_eq_false fun h' => by have := hx.2; omega).symm
      next _ h_under => exact (ColRange.mem_empty _).trans (decide_eq_false fun h' => by have := hx.1; omega).symm
      next => exact mem_pt_point _ _

theorem anyMem_singleton (r : ColRange) (q : Option Int) : anyMem [r] q = r.mem q := Bool.or_false _

theorem potNotEquals_spec (t : IntType) (k : Lit) (x : Option Int) (hx : InType t x) :
    anyMem (potNotEquals t k).1 (pt x) = (Pred.neq k).holds x := by
  cases x with
  | none => fun_cases potNotEquals t k <;> rfl
  | some v =>
    unfold potNotEquals
    show _ = !(v * k.den == k.num)
    rw [beq_floor]
    cases k.integral
    · rfl
    · fun_cases convert t k.floor
      next h_over => rw [decide_eq_false fun h' => by have := hx.2; omega]; rfl
      next _ h_under => rw [decide_eq_false fun h' => by have := hx.1; omega]; rfl
      next =>
        show anyMem [ColRange.greaterThan k.floor, ColRange.lessThan k.floor] (pt (some v)) = _
        rw [anyMem_cons, anyMem_singleton, mem_pt_greaterThan, mem_pt_lessThan, Bool.eq_iff_iff]
        simp only [Bool.or_eq_true, decide_eq_true_iff, Bool.not_eq_true', Bool.true_and, decide_eq_false_iff_not]
        omega

/-- A list of pairwise intersections denotes the intersection of the two unions. -/
theorem any_any_and {α β : Type} (xs : List α) (ys : List β) (p : α → Bool) (q : β → Bool) :
    (xs.any fun x => ys.any fun y => p x && q y) = (xs.any p && ys.any q) := by
  simp only [← List.and_any_distrib_left, ← List.and_any_distrib_right]

/-- Every column has a range that contains the column's point. -/
def colsSat : List (List ColRange) → Tuple → Bool
  | [], [] => true
  | c :: cs, w :: ws => anyMem c w && colsSat cs ws
  | _, _ => false

/-- `e`: the truth of the new condition at column `i` of the tuple. -/
theorem colsSat_set : ∀ (cols : List (List ColRange)) (i : Nat) (new : List ColRange) (w : Tuple) (q : Option Int)
    (e : Bool), w[i]? = some q → anyMem new q = (anyMem (cols[i]?.getD []) q && e) →
    colsSat (cols.set i new) w = (colsSat cols w && e)
  | _, _, _, [], _, _, hq, _ => nomatch hq
  | [], _, _, _ :: _, _, _, _, _ => rfl
  | c :: cs, 0, new, w :: ws, q, e, hq, h => by
    cases hq
    exact (congrArg (· && colsSat cs ws) (show anyMem new w = (anyMem c w && e) from h)).trans (Bool.and_right_comm _ _ _)
  | c :: cs, i + 1, new, w :: ws, q, e, hq, h =>
    (congrArg (anyMem c w && ·) (colsSat_set cs i new ws q e hq h)).trans (Bool.and_assoc _ _ _).symm

/-- The key tuple (as points) satisfies the builder state. -/
def B.sat (b : B) (w : Tuple) : Bool := !b.invalid && colsSat b.cols w

theorem anyMem_inter (cur pot : List ColRange) (q : Option Int) :
    anyMem (cur.flatMap (fun c => pot.filterMap (fun p =>
      if (c.tryIntersect p).2 && !(c.tryIntersect p).1.isEmpty then some (c.tryIntersect p).1 else none))) q
      = (anyMem cur q && anyMem pot q) := by
  unfold anyMem
  rw [List.any_flatMap, ← any_any_and]
  refine List.any_congr rfl fun c => ?_
  rw [List.any_filterMap]
  refine List.any_congr rfl fun p => ?_
  -- an empty intersection is dropped, and has no member anyway
  rw [← ColRange.mem_tryIntersect, ColRange.tryIntersect_flag_eq, Bool.and_self]
  cases he : (c.tryIntersect p).1.isEmpty
  · rfl
  · exact (ColRange.isEmpty_sound he q).symm

/-- What `updateCol` and `simplifyCol` do with the new range list of column `i`: an empty list
makes the builder invalid, which no tuple satisfies either. -/
theorem setCol_sat (b : B) (i : Nat) (new : List ColRange) (w : Tuple) (q : Option Int) (e : Bool)
    (hq : w[i]? = some q) (h : anyMem new q = (anyMem (b.cols[i]?.getD []) q && e)) :
    (if new.isEmpty then { b with invalid := true } else { b with cols := b.cols.set i new } : B).sat w
      = (b.sat w && e) := by
  have hset := colsSat_set b.cols i new w q e hq h
  cases new with
  | nil =>
    -- `[]` also denotes `cur ∩ ∅`
    rw [colsSat_set b.cols i [] w q false hq (Bool.and_false _).symm, Bool.and_false] at hset
    show false = (!b.invalid && colsSat b.cols w && e)
    rw [Bool.and_assoc, ← hset, Bool.and_false]
  | cons c cs => exact (congrArg (!b.invalid && ·) hset).trans (Bool.and_assoc _ _ _).symm

theorem updateCol_sat (b : B) (i : Nat) (pot : List ColRange) (w : Tuple) {q : Option Int} {e : Bool} (hp : pot ≠ [])
    (hq : w[i]? = some q) (he : anyMem pot q = e) : (updateCol b i pot).sat w = (b.sat w && e) := by
  unfold updateCol
  rw [if_neg (by rw [List.isEmpty_eq_false_iff.mpr hp]; decide)]
  exact setCol_sat b i _ w q e hq (he ▸ anyMem_inter _ pot q)

theorem simplifyCol_sat (b : B) (i : Nat) (w : Tuple) {q : Option Int} (hq : w[i]? = some q) :
    (simplifyCol b i).sat w = b.sat w := by
  unfold simplifyCol
  split
  · rfl
  · exact (setCol_sat b i _ w q true hq ((simplify_anyMem _ q).trans (Bool.and_true _).symm)).trans (Bool.and_true _)

theorem sat_of_invalid {b : B} (hb : b.invalid = true) (w : Tuple) : b.sat w = false := by
  rw [B.sat, hb]; rfl

theorem foldl_sat {α : Type} {f : B → α → B} {g : α → Bool} {w : Tuple} : ∀ (l : List α),
    (∀ a ∈ l, ∀ b, (f b a).sat w = (b.sat w && g a)) → ∀ b, (l.foldl f b).sat w = (b.sat w && l.all g)
  | [], _, _ => (Bool.and_true _).symm
  | a :: l, h, b => by
    rw [List.foldl_cons, List.all_cons, foldl_sat l (fun a' ha' => h a' (List.mem_cons_of_mem _ ha')),
      h a List.mem_cons_self, Bool.and_assoc]

theorem notEqualsOne_sat (t : IntType) (b : B) (i : Nat) (k : Lit) (w : Tuple) (x : Option Int)
    (hw : w[i]? = some (pt x)) (hx : InType t x) :
    (notEqualsOne t b i k).sat w = (b.sat w && (Pred.neq k).holds x) := by
  have u := updateCol_sat b i (potNotEquals t k).1 w
    (by fun_cases potNotEquals t k <;> exact List.cons_ne_nil _ _) hw (potNotEquals_spec t k x hx)
  fun_cases notEqualsOne t b i k
  next h_invalid => rw [sat_of_invalid h_invalid]; rfl
  next => rw [simplifyCol_sat _ i _ hw, u]
  next => exact u

theorem notIn_holds (ks : List Lit) (hne : ks ≠ []) (x : Option Int) :
    (Pred.notIn ks).holds x = ks.all (fun k => (Pred.neq k).holds x) := by
  cases x with
  | none =>
    cases ks with
    | nil => exact absurd rfl hne
    | cons k ks => simp [Pred.holds]
  | some v => simp [Pred.holds]

theorem eq_holds (ks : List Lit) (x : Option Int) :
    (Pred.eq ks).holds x = ks.any (fun k => (Pred.eq [k]).holds x) := by
  cases x with
  | none => simp [Pred.holds]
  | some v => simp [Pred.holds]

/-- The predicates SQL can express: `IN` / `NOT IN` lists are not empty. -/
def Pred.WF : Pred → Prop
  | .eq ks => ks ≠ []
  | .notIn ks => ks ≠ []
  | _ => True

theorem apply_sat (t : IntType) (b : B) (i : Nat) (p : Pred) (w : Tuple) (x : Option Int)
    (hw : w[i]? = some (pt x)) (hx : InType t x) (hwf : p.WF) :
    (apply t b i p).sat w = (b.sat w && p.holds x) := by
  unfold apply
  split
  · next hb => rw [sat_of_invalid hb]; rfl
  · have single : ∀ {r : ColRange} {q : Pred}, r.mem (pt x) = q.holds x →
        (updateCol b i [r]).sat w = (b.sat w && q.holds x) := fun {r _} hr =>
      updateCol_sat b i [r] w (List.cons_ne_nil _ _) hw ((anyMem_singleton r _).trans hr)
    cases p with
    | eq ks =>
      refine updateCol_sat b i _ w (mt List.map_eq_nil_iff.mp hwf) hw ?_
      rw [eq_holds, anyMem, List.any_map]
      exact List.any_congr rfl fun k => potEqualsOne_spec t k x hx
    | neq k => exact notEqualsOne_sat t b i k w x hw hx
    | notIn ks =>
      exact (foldl_sat ks (fun k _ b => notEqualsOne_sat t b i k w x hw hx) b).trans (by rw [notIn_holds ks hwf])
    | gt k => exact single (potGreaterThan_spec t k x hx)
    | ge k => exact single (potGreaterOrEqual_spec t k x hx)
    | lt k => exact single (potLessThan_spec t k x hx)
    | le k => exact single (potLessOrEqual_spec t k x hx)
    | isNull => exact single (mem_pt_null x)
    | isNotNull => exact single (mem_pt_notNull x)

theorem memAny_product : ∀ (cols : List (List ColRange)) (w : Tuple), memAny (product cols) w = colsSat cols w
  | [], [] => rfl
  | [], _ :: _ => rfl
  | c :: cs, [] => by
    unfold memAny product
    simp only [List.any_flatMap, List.any_map, Function.comp_def, Range.mem, colsSat, List.any_eq_false,
      List.any_eq_true, Bool.false_eq_true, and_false, exists_false, not_false_eq_true, implies_true]
  | c :: cs, w :: ws => by
    unfold memAny product colsSat anyMem
    rw [← memAny_product cs ws, memAny, Bool.and_comm, ← any_any_and, List.any_flatMap]
    simp only [List.any_map, Function.comp_def, Range.mem, Bool.and_comm]

theorem product_length : ∀ (cols : List (List ColRange)) (r : Range), r ∈ product cols → r.length = cols.length
  | [], r, h => by simp [product] at h; subst h; rfl
  | c :: cs, r, h => by
    simp only [product, List.mem_flatMap, List.mem_map] at h
    obtain ⟨rest, hrest, x, _, e⟩ := h
    subst e
    simp [product_length cs rest hrest]

theorem mem_rotate1 {α : Type} (xs : List α) (x : α) : x ∈ rotate1 xs ↔ x ∈ xs := by
  cases xs with
  | nil => exact Iff.rfl
  | cons y ys => show x ∈ ys ++ [y] ↔ _; rw [List.mem_append, List.mem_singleton, List.mem_cons, or_comm]

theorem memAny_rotate1 (xs : List Range) (w : Tuple) : memAny (rotate1 xs) w = memAny xs w :=
  Basics.any_congr_of_mem_iff (mem_rotate1 xs) _

theorem ranges_sat (b : B) (w : Tuple) (hw : w ≠ []) : memAny (ranges b) w = b.sat w := by
  have hemp : memAny [b.cols.map fun _ => ColRange.empty] w = false :=
    (memAny_singleton _ w).trans (Range.mem_map_empty (.inr hw))
  have key : memAny ((rotate1 (product b.cols)).filter (fun r => !r.isEmpty)) w = colsSat b.cols w := by
    rw [memAny_filter_nonempty _ w hw, memAny_rotate1, memAny_product]
  fun_cases ranges b
  next h_invalid => rw [hemp, sat_of_invalid h_invalid]
  next h_valid rs h_none =>
    rw [hemp, B.sat, Bool.eq_false_iff.mpr h_valid, ← key, show List.filter _ _ = [] from List.isEmpty_iff.mp h_none]; rfl
  next h_valid _ _ => rw [B.sat, Bool.eq_false_iff.mpr h_valid]; exact key

theorem colsSat_new : ∀ (n : Nat) (w : Tuple), w.length = n → colsSat (List.replicate n [ColRange.all]) w = true
  | 0, [], _ => rfl
  | 0, _ :: _, h => by simp at h
  | n + 1, [], h => by simp at h
  | n + 1, w :: ws, h => by
    simp only [List.replicate_succ, colsSat, anyMem_singleton, ColRange.mem_all, Bool.true_and]
    exact colsSat_new n ws (by simpa using h)

theorem map_pt_ne_nil {n : Nat} (hn : 0 < n) {v : List (Option Int)} (hv : v.length = n) : v.map pt ≠ [] :=
  fun e => by rw [← hv, ← List.length_map (as := v) pt, e] at hn; exact Nat.lt_irrefl 0 hn

theorem getElem?_map_pt {v : List (Option Int)} {i : Nat} (hi : i < v.length) :
    (v.map pt)[i]? = some (pt (v[i]?.getD none)) := by
  rw [List.getElem?_map, List.getElem?_eq_getElem hi]; rfl

theorem updateCol_length (b : B) (i : Nat) (pot : List ColRange) :
    (updateCol b i pot).cols.length = b.cols.length := by
  fun_cases updateCol b i pot
  · rfl
  · rfl
  · exact List.length_set

theorem simplifyCol_length (b : B) (i : Nat) : (simplifyCol b i).cols.length = b.cols.length := by
  fun_cases simplifyCol b i
  · rfl
  · rfl
  · exact List.length_set

theorem notEqualsOne_length (t : IntType) (b : B) (i : Nat) (k : Lit) :
    (notEqualsOne t b i k).cols.length = b.cols.length := by
  fun_cases notEqualsOne t b i k
  · rfl
  · exact (simplifyCol_length _ i).trans (updateCol_length b i _)
  · exact updateCol_length b i _

theorem apply_length (t : IntType) (b : B) (i : Nat) (p : Pred) : (apply t b i p).cols.length = b.cols.length := by
  unfold apply
  split
  · rfl
  · cases p with
    | neq k => exact notEqualsOne_length t b i k
    | notIn ks =>
      exact List.foldlRecOn (motive := fun b' => b'.cols.length = b.cols.length) ks _ rfl
        fun b' hb' k _ => (notEqualsOne_length t b' i k).trans hb'
    | _ => exact updateCol_length b i _

theorem build_cols_length (t : IntType) (n : Nat) (ops : List (Nat × Pred)) : (build t n ops).cols.length = n :=
  List.foldlRecOn (motive := fun b => b.cols.length = n) ops _ List.length_replicate
    fun b hb op _ => (apply_length t b op.1 op.2).trans hb

theorem filterHolds_eq_mem (r : ColRange) (x : Option Int) (ht : rangeType r ≠ .invalid) :
    filterHolds r x = some (r.mem (pt x)) := by
  obtain ⟨lo, hi⟩ := r
  cases lo <;> cases hi <;> simp [rangeType] at ht <;> cases x <;>
    simp [filterHolds, rangeType, cutKey, ColRange.mem, pt, Cut.isBelow, keyPt] <;>
    (try (apply Bool.eq_iff_iff.mpr)) <;> (try simp) <;> (try omega)

end Gms.IndexBuilder
