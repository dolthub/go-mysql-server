/-
C27: binary strings written into integer / BIT columns — the `[]byte` branch of the converters agrees
with the conversion of the integer the bytes denote, or refuses; either way the result meets the Spec
for that integer.
-/
import Gms.Model.StoreBin
import Gms.Lemmas.StoreDec
import Gms.Lemmas.Digits
namespace Gms.Store
open Gms.Num Gms.Conv

/-- `convertBit` hands its fold over the bytes to `fin : Int → CRes`, so the model folds in `Int` (from `((0 : Nat) : Int)`)
where `beVal` folds in `Nat` -/
theorem beVal_fold_cast (bs : List UInt8) (a : Nat) :
    List.foldl (fun (acc : Int) (b : UInt8) => acc * 256 + (b.toNat : Int)) (a : Int) bs =
      ((List.foldl (fun acc (b : UInt8) => acc * 256 + b.toNat) a bs : Nat) : Int) :=
  List.foldl_hom Nat.cast fun _ _ => by omega

theorem beVal_eq (bs : List UInt8) : beVal bs = Digits.value 256 (bs.map UInt8.toNat) := List.foldl_map.symm

theorem beVal_lt (bs : List UInt8) : beVal bs < 256 ^ bs.length := by
  have := Digits.value_lt (b := 256) (ds := bs.map UInt8.toNat) (List.forall_mem_map.2 fun b _ => b.toNat_lt)
  rwa [List.length_map, ← beVal_eq] at this

theorem beVal_le8 (bs : List UInt8) (h : bs.length ≤ 8) : (beVal bs : Int) ≤ maxU64 := by
  have h1 := beVal_lt bs
  have h2 : 256 ^ bs.length ≤ 256 ^ 8 := Nat.pow_le_pow_right (by omega) h
  simp only [maxU64]; omega

theorem wrapTo_zero (t : ITy) : convertInt.wrapTo t 0 = 0 := by cases t <;> decide

theorem convertIntB_narrow (it : ITy) (ht : it ≠ .i64 ∧ it ≠ .u64) (bs : List UInt8) :
    convertIntB it bs =
      (let r := convertToInt64B bs
       if r.err = .fatal then ⟨.int (convertInt.wrapTo it r.val), r.flag, .fatal⟩
       else if r.val > it.hi then ⟨.int it.hi, .overflow, .none⟩
       else if r.val < it.lo then
         ⟨.int (if it.unsigned then convertInt.wrapTo it (it.hi + r.val + 1) else it.lo), .underflow, .none⟩
       else ⟨.int r.val, .inRange, r.err⟩) := by
  unfold convertIntB
  split
  · exact absurd rfl ht.1
  · exact absurd rfl ht.2
  · rfl

theorem convertIntB_eq (it : ITy) (bs : List UInt8) :
    convertIntB it bs = if bs = [] ∨ (beVal bs : Int) > binLimit it then ⟨.int 0, .inRange, .fatal⟩
      else convertInt it (.u (beVal bs)) := by
  have e64 : convertToInt64B bs = if bs = [] ∨ (beVal bs : Int) > maxI64 then ⟨0, .inRange, .fatal⟩
      else convertToInt64 (.u (beVal bs)) := by
    unfold convertToInt64B
    split
    · rfl
    · next h => exact (if_neg fun h' => h (Or.inr h')).symm
  rcases it.wide_or_narrow with rfl | rfl | hn
  · rw [show binLimit .i64 = maxI64 from rfl]; simp only [convertIntB, e64]; split <;> rfl
  · rw [show binLimit .u64 = maxU64 from rfl]; simp only [convertIntB, convertToUint64B]; split <;> rfl
  · rw [convertIntB_narrow it hn, convertInt_narrow it hn _ Val.noConfusion, e64, binLimit, if_neg hn.2]
    by_cases h : bs = [] ∨ (beVal bs : Int) > maxI64
    · simp only [if_pos h, if_true, wrapTo_zero]
    · simp only [if_neg h]

/-- **refused**: the empty binary string and every value beyond the 64-bit limit of the type's
converter yield `0, InRange, ErrInvalidValue` (all ten types) -/
theorem binary_refused (it : ITy) (bs : List UInt8) (h : bs = [] ∨ (beVal bs : Int) > binLimit it) :
    convertIntB it bs = ⟨.int 0, .inRange, .fatal⟩ := by
  rw [convertIntB_eq, if_pos h]

/-- **a binary string is converted like the integer it denotes**: non-empty, within the limit of the
type's 64-bit converter (all ten types) -/
theorem binary_as_integer (it : ITy) (bs : List UInt8) (hne : bs ≠ []) (hr : (beVal bs : Int) ≤ binLimit it) :
    convertIntB it bs = convertInt it (.u (beVal bs)) := by
  rw [convertIntB_eq, if_neg fun h => h.elim hne (Int.not_lt.2 hr)]

/-- BIT: a binary string of at most eight bytes is converted like the unsigned integer it denotes -/
theorem bit_binary_as_integer (n : Nat) (bs : List UInt8) (h : bs.length ≤ 8) :
    convertBit n (.s bs) = convertBit n (.u (beVal bs)) := by
  simp only [convertBit]
  rw [if_neg (by omega), beVal_fold_cast bs 0]
  rfl

theorem binLimit_le (it : ITy) : binLimit it ≤ maxU64 ∧ it.hi ≤ binLimit it := by
  cases it <;> decide

theorem u_not_wraps (it : ITy) (x : Int) : ¬ unsigned_underflow_wraps (.int it) (.u x) :=
  fun h => Bool.false_ne_true h.2

theorem binU_wf {it : ITy} {bs : List UInt8} (h : (beVal bs : Int) ≤ binLimit it) : (Val.u (beVal bs)).WF := by
  have := (binLimit_le it).1
  simp only [Val.WF, inU64]; omega

/-- beyond the limit of the 64-bit converter the value is beyond the type as well, so refusing it is acceptable -/
theorem binary_int_acceptable (it : ITy) (bs : List UInt8) (he : bs ≠ []) :
    Acceptable (.int it) ((beVal bs : Int), 0) (convertIntB it bs) := by
  have hhi := (binLimit_le it).2
  by_cases hr : (beVal bs : Int) ≤ binLimit it
  · rw [binary_as_integer it bs he hr]
    exact int_acceptable it (.u (beVal bs)) (binU_wf hr) (beVal bs) 0 rfl (u_not_wraps it _)
  · rw [binary_refused it bs (Or.inr (Int.not_le.1 hr))]
    exact .refused (target_int it _ 0) (by rw [rha_scale_zero, storable_int]; omega) rfl

/-- BIT refuses anything longer than eight bytes: acceptable when the value does not fit the width anyway -/
theorem binary_bit_acceptable (n : Nat) (hn : n ≤ 64) (bs : List UInt8)
    (h : ¬ (bs.length > 8 ∧ (beVal bs : Int) ≤ 2 ^ n - 1)) :
    Acceptable (.bit n) ((beVal bs : Int), 0) (convertBit n (.s bs)) := by
  by_cases hl : bs.length ≤ 8
  · rw [bit_binary_as_integer n bs hl]
    -- `binLimit .u64` is `maxU64`
    exact bit_acceptable n hn (.u (beVal bs)) (binU_wf (it := .u64) (beVal_le8 bs hl)) (beVal bs) 0 rfl
      (by simp only [bit_negative_reinterpreted, numOf]; omega)
  · have : convertBit n (.s bs) = ⟨.null, .overflow, .fatal⟩ := by
      simp only [convertBit]; rw [if_pos (by omega)]
    rw [this]
    exact .refused (target_bit n _ 0) (by rw [rha_scale_zero, storable_bit]; omega) rfl

end Gms.Store
