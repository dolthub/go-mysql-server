/-
Lemmas for `Gms.Model.ProcSnap` (C36): registry writes stay inside the cells the registry owns, a
deep snapshot lives in cells the registry does not own.
-/
import Gms.Model.ProcSnap

namespace Gms.ProcSnap
open List

theorem findT_mem {ts : List TProg} {n : String} {t : TProg} (h : findT ts n = some t) : t ∈ ts :=
  List.mem_of_find?_eq_some h

theorem upd_other {f : Nat → PMap} {a b : Nat} {v : PMap} (h : b ≠ a) : upd f a v b = f b := by
  simp [upd, h]

theorem upd_same (f : Nat → PMap) (a : Nat) (v : PMap) : upd f a v a = v := by
  simp [upd]

/-- Every live table's map is allocated, the registry neither owns nor will ever allocate an
address in `[lo, hi)`, and those cells hold what `c` holds there. -/
structure Inv (lo hi : Nat) (c : Nat → PMap) (r : Reg) : Prop where
  next : hi ≤ r.next
  live : ∀ t ∈ r.tables, t.parts < r.next ∧ (t.parts < lo ∨ hi ≤ t.parts)
  cells : ∀ a, lo ≤ a → a < hi → r.cells a = c a

theorem wf_iff_inv {r : Reg} {c : Nat → PMap} : WF r ↔ Inv 0 0 c r :=
  ⟨fun h => ⟨Nat.zero_le _, fun t ht => ⟨h t ht, Or.inr (Nat.zero_le _)⟩, fun _ _ => nofun⟩, fun h t ht => (h.live t ht).1⟩

theorem Inv.write {lo hi : Nat} {c : Nat → PMap} {r : Reg} (h : Inv lo hi c r) {b : Nat} (hb : b < lo ∨ hi ≤ b) (v : PMap) :
    Inv lo hi c { r with cells := upd r.cells b v } :=
  { h with cells := fun a h1 h2 =>
      have : a ≠ b := hb.elim (fun h3 => Nat.ne_of_gt (Nat.lt_of_lt_of_le h3 h1)) fun h3 => Nat.ne_of_lt (Nat.lt_of_lt_of_le h2 h3)
      (upd_other this).trans (h.cells a h1 h2) }

theorem apply_inv {lo hi : Nat} {c : Nat → PMap} {r : Reg} (op : Op) (h : Inv lo hi c r) :
    Inv lo hi c (apply r op) := by
  have alloc : ∀ (n : String) (d : Nat),
      Inv lo hi c { cells := upd r.cells r.next [], next := r.next + 1, tables := r.tables ++ [⟨n, d, r.next⟩] } := by
    refine fun n d => ⟨Nat.le_succ_of_le h.next, fun t ht => ?_, (h.write (Or.inr h.next) []).cells⟩
    rcases mem_append.1 ht with ht | ht
    · exact ⟨Nat.lt_succ_of_lt (h.live t ht).1, (h.live t ht).2⟩
    · rw [mem_singleton.1 ht]; exact ⟨Nat.lt_succ_self _, Or.inr h.next⟩
  cases op with
  | addTable n =>
    simp only [apply]
    split
    · exact h
    · exact alloc n 0
  | updTable n d =>
    simp only [apply]
    split
    · refine { h with live := fun t ht => ?_ }
      obtain ⟨t0, ht0, rfl⟩ := mem_map.1 ht
      have := h.live t0 ht0
      split <;> exact this
    · exact alloc n d
  | addPart tn p | updPart tn p d | removePart tn p =>
    -- a write into the map of a live table
    simp only [apply]
    split
    · next t ht => exact h.write (h.live t (findT_mem ht)).2 _
    · exact h
  | removeTable n => exact { h with live := fun t ht => h.live t (mem_filter.1 ht).1 }

theorem applyAll_inv {lo hi : Nat} {c : Nat → PMap} (ops : List Op) (r : Reg) (h : Inv lo hi c r) :
    Inv lo hi c (applyAll r ops) := by
  induction ops generalizing r with
  | nil => exact h
  | cons op ops ih => exact ih _ (apply_inv op h)

theorem wf_applyAll (r : Reg) (ops : List Op) (h : WF r) : WF (applyAll r ops) :=
  -- the empty window has no cells, so any `c` does
  wf_iff_inv.2 (applyAll_inv (c := r.cells) ops r (wf_iff_inv.1 h))

theorem view_applyAll {lo hi : Nat} {c : Nat → PMap} {r : Reg} (h : Inv lo hi c r) (s : Snap)
    (hs : ∀ t ∈ s.tables, lo ≤ t.parts ∧ t.parts < hi) (ops : List Op) : view (applyAll r ops).cells s = view c s :=
  map_congr_left fun t ht => by rw [(applyAll_inv ops r h).cells t.parts (hs t ht).1 (hs t ht).2]

theorem copyTables_spec (cells : Nat → PMap) (next : Nat) (ts : List TProg) (hts : ∀ t ∈ ts, t.parts < next) :
    (copyTables cells next ts).2.1 = next + ts.length ∧
    (∀ a, a < next → (copyTables cells next ts).1 a = cells a) ∧
    (∀ t ∈ (copyTables cells next ts).2.2, next ≤ t.parts ∧ t.parts < next + ts.length) ∧
    view (copyTables cells next ts).1 ⟨(copyTables cells next ts).2.2⟩ = view cells ⟨ts⟩ := by
  induction ts generalizing cells next with
  | nil => simp [copyTables, view]
  | cons t ts ih =>
    have hts' : ∀ t' ∈ ts, t'.parts < next + 1 := fun t' h' => Nat.lt_succ_of_lt (hts t' (mem_cons_of_mem _ h'))
    obtain ⟨i1, i2, i3, i4⟩ := ih (upd cells next (cells t.parts)) (next + 1) hts'
    simp only [copyTables, length_cons]
    have hlen : next + 1 + ts.length = next + (ts.length + 1) := by rw [Nat.add_assoc, Nat.add_comm 1]
    refine ⟨i1.trans hlen, ?_, ?_, ?_⟩
    · intro a ha
      rw [i2 a (Nat.lt_succ_of_lt ha), upd_other (Nat.ne_of_lt ha)]
    · intro t' ht'
      rcases mem_cons.1 ht' with rfl | ht'
      · exact ⟨Nat.le_refl _, Nat.lt_add_of_pos_right (Nat.succ_pos _)⟩
      · exact ⟨Nat.le_of_succ_le (i3 t' ht').1, hlen ▸ (i3 t' ht').2⟩
    · simp only [view, map_cons] at i4 ⊢
      rw [i4]
      congr 1
      · rw [i2 next (Nat.lt_succ_self _), upd_same]
      · apply map_congr_left
        intro t' ht'
        rw [upd_other (Nat.ne_of_lt (hts t' (mem_cons_of_mem _ ht')))]

theorem deep_snapshot_stable (r : Reg) (hwf : WF r) (ops : List Op) :
    view (applyAll (snapDeep r).1 ops).cells (snapDeep r).2 = view r.cells ⟨r.tables⟩ := by
  obtain ⟨c1, _, c3, c4⟩ := copyTables_spec r.cells r.next r.tables hwf
  have hinv : Inv r.next (r.next + r.tables.length) (snapDeep r).1.cells (snapDeep r).1 :=
    ⟨Nat.le_of_eq c1.symm, fun t ht => ⟨Nat.lt_of_lt_of_eq (Nat.lt_add_right _ (hwf t ht)) c1.symm, Or.inl (hwf t ht)⟩,
      fun _ _ _ => rfl⟩
  exact (view_applyAll hinv _ c3 ops).trans c4

end Gms.ProcSnap
