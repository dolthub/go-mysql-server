/-
Laws of the shared SQL reference semantics (M1 + M2): three-valued logic, comparison and its NULL
cases, IN / NOT IN and their closed form, joins, set operations as bag algebra, grouping, ordering.
Used by C01, C02, C04, C05, C06, C09 (and reusable by every property that takes `Gms.Rel.eval` as the
definition of SQL).
-/
import Gms.Model.Rel
import Gms.Lemmas.InsertSort
import Gms.Lemmas.Basics

namespace Gms.Sql

theorem Tri.not_not (a : Tri) : Tri.not (Tri.not a) = a := by cases a <;> rfl
theorem Tri.and_comm (a b : Tri) : Tri.and a b = Tri.and b a := by cases a <;> cases b <;> rfl
theorem Tri.or_comm (a b : Tri) : Tri.or a b = Tri.or b a := by cases a <;> cases b <;> rfl
theorem Tri.and_assoc (a b c : Tri) : Tri.and (Tri.and a b) c = Tri.and a (Tri.and b c) := by
  cases a <;> cases b <;> cases c <;> rfl
theorem Tri.or_assoc (a b c : Tri) : Tri.or (Tri.or a b) c = Tri.or a (Tri.or b c) := by
  cases a <;> cases b <;> cases c <;> rfl
theorem Tri.not_and (a b : Tri) : Tri.not (Tri.and a b) = Tri.or (Tri.not a) (Tri.not b) := by
  cases a <;> cases b <;> rfl
theorem Tri.not_or (a b : Tri) : Tri.not (Tri.or a b) = Tri.and (Tri.not a) (Tri.not b) := by
  cases a <;> cases b <;> rfl
theorem Tri.and_eq_t (a b : Tri) : Tri.and a b = .t ↔ a = .t ∧ b = .t := by
  cases a <;> cases b <;> simp [Tri.and]
theorem Tri.or_eq_t (a b : Tri) : Tri.or a b = .t ↔ a = .t ∨ b = .t := by
  cases a <;> cases b <;> simp [Tri.or]
theorem Tri.or_eq_f (a b : Tri) : Tri.or a b = .f ↔ a = .f ∧ b = .f := by
  cases a <;> cases b <;> simp [Tri.or]
theorem Tri.not_eq_t (a : Tri) : Tri.not a = .t ↔ a = .f := by cases a <;> simp [Tri.not]

theorem Tri.and_eq_u (a b : Tri) (h : Tri.and a b = .u) : a = .u ∨ b = .u := by
  cases a <;> cases b <;> simp_all [Tri.and]
theorem Tri.or_eq_u (a b : Tri) (h : Tri.or a b = .u) : a = .u ∨ b = .u := by
  cases a <;> cases b <;> simp_all [Tri.or]
theorem Tri.xor_eq_u (a b : Tri) (h : Tri.xor a b = .u) : a = .u ∨ b = .u := by
  cases a <;> cases b <;> simp_all [Tri.xor]
theorem Tri.not_eq_u (a : Tri) (h : Tri.not a = .u) : a = .u := by
  cases a <;> simp_all [Tri.not]

theorem Tri.and_t_left (x : Tri) : Tri.and .t x = x := by cases x <;> rfl
theorem Tri.and_t_right (x : Tri) : Tri.and x .t = x := by cases x <;> rfl
theorem Tri.and_f_left (x : Tri) : Tri.and .f x = .f := by cases x <;> rfl
theorem Tri.and_f_right (x : Tri) : Tri.and x .f = .f := by cases x <;> rfl
theorem Tri.or_t_left (x : Tri) : Tri.or .t x = .t := by cases x <;> rfl
theorem Tri.or_t_right (x : Tri) : Tri.or x .t = .t := by cases x <;> rfl
theorem Tri.or_f_left (x : Tri) : Tri.or .f x = x := by cases x <;> rfl
theorem Tri.or_f_right (x : Tri) : Tri.or x .f = x := by cases x <;> rfl
theorem Tri.or_u_left (x : Tri) : Tri.or .u x = if x = .t then .t else .u := by cases x <;> rfl

theorem Tri.ofBool_ne_u (b : Bool) : Tri.ofBool b ≠ .u := by cases b <;> simp [Tri.ofBool]
theorem Tri.ofBool_eq_t (b : Bool) : Tri.ofBool b = .t ↔ b = true := by cases b <;> simp [Tri.ofBool]

theorem truth_toValue (x : Tri) : x.toValue.truth = x := by cases x <;> rfl

theorem isNull_iff (v : Value) : v.isNull = true ↔ v = .null := by cases v <;> simp [Value.isNull]

theorem any_isNull (ws : List Value) : ws.any Value.isNull = decide (Value.null ∈ ws) := by
  induction ws with
  | nil => rfl
  | cons w ws ih => cases w <;> simp [Value.isNull, ih]

theorem toValue_eq_null (x : Tri) : x.toValue = .null ↔ x = .u := by cases x <;> simp [Tri.toValue]

theorem toValue_isNull (x : Tri) : x.toValue.isNull = true ↔ x = .u :=
  (isNull_iff _).trans (toValue_eq_null x)

theorem truth_eq_u (v : Value) : v.truth = .u ↔ v = .null := by
  cases v with
  | null => simp [Value.truth]
  | int i => by_cases h : i = 0 <;> simp [Value.truth, h]
  | str b => simp [Value.truth]

theorem bytesCmp_cons (x y : UInt8) (xs ys : List UInt8) :
    bytesCmp (x :: xs) (y :: ys) = (compare x y).then (bytesCmp xs ys) := by
  rw [bytesCmp]
  split
  · next h => rw [Std.compare_eq_lt.mpr h]; rfl
  · split
    · next h => rw [Std.compare_eq_gt.mpr h]; rfl
    · next h1 h2 =>
      rw [Std.compare_eq_iff_eq.mpr (UInt8.le_antisymm (UInt8.not_lt.mp h2) (UInt8.not_lt.mp h1))]; rfl

theorem bytesCmp_eq_compare : ∀ a b : List UInt8, bytesCmp a b = compare a b
  | [], [] => rfl
  | [], _ :: _ => rfl
  | _ :: _, [] => rfl
  | x :: xs, y :: ys => by rw [bytesCmp_cons, List.compare_cons_cons, bytesCmp_eq_compare xs ys]

theorem bytesCmp_eq_iff (a b : List UInt8) : bytesCmp a b = .eq ↔ a = b := by
  rw [bytesCmp_eq_compare]; exact Std.compare_eq_iff_eq

theorem cmp?_eq_iff (x w : Value) (hx : x ≠ .null) : x.cmp? w = some .eq ↔ w = x := by
  cases x with
  | null => exact absurd rfl hx
  | int a => cases w <;> simp [Value.cmp?, @eq_comm _ a]
  | str a => cases w <;> simp [Value.cmp?, bytesCmp_eq_iff, @eq_comm _ a]

theorem cmp?_eq_none (a b : Value) : a.cmp? b = none ↔ a = .null ∨ b = .null := by
  cases a <;> cases b <;> simp [Value.cmp?]

theorem cmpTri_of_ne_nseq {op : CmpOp} (h : op ≠ .nseq) (a b : Value) :
    cmpTri op a b = match a.cmp? b with
      | none => .u
      | some o => Tri.ofBool (op.holds o) := by
  cases op <;> first | exact absurd rfl h | rfl

theorem cmpTri_not {op op' : CmpOp} (hop : op ≠ .nseq) (hop' : op' ≠ .nseq) (h : ∀ o, op'.holds o = !op.holds o)
    (a b : Value) : cmpTri op' a b = Tri.not (cmpTri op a b) := by
  rw [cmpTri_of_ne_nseq hop, cmpTri_of_ne_nseq hop']
  cases a.cmp? b with
  | none => rfl
  | some o => simp only [h o]; cases op.holds o <;> rfl

theorem cmpTri_ne (a b : Value) : cmpTri .ne a b = Tri.not (cmpTri .eq a b) :=
  cmpTri_not (by decide) (by decide) (fun o => by cases o <;> rfl) a b

theorem cmpTri_nseq_ne_u (a b : Value) : cmpTri .nseq a b ≠ .u := by
  cases a <;> cases b <;> simp [cmpTri, Value.cmp?, Tri.ofBool_ne_u]

theorem cmpTri_eq_u (op : CmpOp) (a b : Value) : cmpTri op a b = .u ↔ op ≠ .nseq ∧ (a = .null ∨ b = .null) := by
  by_cases hop : op = .nseq
  · subst hop; simp [cmpTri_nseq_ne_u]
  · rw [cmpTri_of_ne_nseq hop, ← cmp?_eq_none]
    cases a.cmp? b <;> simp [hop, Tri.ofBool_ne_u]

/-- `=` with a non-NULL left operand, like `cmpTri_eq_u_iff` (`cmpTri_eq_u` is the iff for every operator and all values,
`cmpTri_eq_t` the implication without the hypothesis). -/
theorem cmpTri_eq_t_iff (x w : Value) (hx : x ≠ .null) : cmpTri .eq x w = .t ↔ w = x := by
  rw [← cmp?_eq_iff x w hx, cmpTri_of_ne_nseq (by decide)]
  cases x.cmp? w with
  | none => simp
  | some o => cases o <;> simp [CmpOp.holds, Tri.ofBool]

theorem cmpTri_eq_u_iff (x w : Value) (hx : x ≠ .null) : cmpTri .eq x w = .u ↔ w = .null := by
  simp [cmpTri_eq_u, hx]

theorem cmpTri_null_right (op : CmpOp) (h : op ≠ .nseq) (v : Value) : cmpTri op v .null = .u :=
  (cmpTri_eq_u op v .null).mpr ⟨h, .inr rfl⟩

theorem cmpTri_null_left (op : CmpOp) (h : op ≠ .nseq) (v : Value) : cmpTri op .null v = .u :=
  (cmpTri_eq_u op .null v).mpr ⟨h, .inl rfl⟩

theorem cmpTri_eq_t (v w : Value) (h : cmpTri .eq v w = .t) : w = v := by
  by_cases hv : v = .null
  · rw [hv, cmpTri_null_left .eq (by decide)] at h
    cases h
  · exact (cmpTri_eq_t_iff v w hv).mp h

theorem inTri_eq_t (v : Value) (vs : List Value) :
    inTri v vs = .t ↔ ∃ w ∈ vs, cmpTri .eq v w = .t := by
  induction vs with
  | nil => simp [inTri]
  | cons w ws ih => simp [inTri, Tri.or_eq_t, ih]

theorem inTri_eq_f (v : Value) (vs : List Value) :
    inTri v vs = .f ↔ ∀ w ∈ vs, cmpTri .eq v w = .f := by
  induction vs with
  | nil => simp [inTri]
  | cons w ws ih => simp [inTri, Tri.or_eq_f, ih]

theorem inTri_nonnull (x : Value) (hx : x ≠ .null) (ws : List Value) :
    inTri x ws = if x ∈ ws then .t else if Value.null ∈ ws then .u else .f := by
  induction ws with
  | nil => simp [inTri]
  | cons w ws ih =>
    rw [inTri, ih]
    cases h : cmpTri .eq x w
    · obtain rfl := (cmpTri_eq_t_iff x w hx).mp h
      simp [Tri.or]
    · have h1 : x ≠ w := fun e => by simp [(cmpTri_eq_t_iff x w hx).mpr e.symm] at h
      have h2 : Value.null ≠ w := fun e => by simp [(cmpTri_eq_u_iff x w hx).mpr e.symm] at h
      simp [Tri.or_f_left, h1, h2]
    · obtain rfl := (cmpTri_eq_u_iff x w hx).mp h
      rw [Tri.or_u_left]
      by_cases h3 : x ∈ ws <;> by_cases h4 : Value.null ∈ ws <;> simp [h3, h4, hx]

/-- NULL on the left, closed form (`inTri_null_left`: hence never FALSE on a non-empty list; `inTri_null_mem`: NULL in the list). -/
theorem inTri_null (ws : List Value) : inTri .null ws = if ws = [] then .f else .u := by
  induction ws with
  | nil => rfl
  | cons w ws ih =>
    rw [inTri, ih, cmpTri_null_left .eq (by decide), Tri.or_u_left]
    cases ws <;> simp

theorem inTri_null_mem (v : Value) (vs : List Value) (h : Value.null ∈ vs) : inTri v vs ≠ .f := by
  intro hf
  have := (inTri_eq_f v vs).mp hf .null h
  rw [cmpTri_null_right .eq (by decide)] at this
  cases this

theorem notIn_null_never_true (v : Value) (vs : List Value) (h : Value.null ∈ vs) :
    Tri.not (inTri v vs) ≠ .t := by
  rw [Ne, Tri.not_eq_t]
  exact inTri_null_mem v vs h

theorem inTri_null_left (vs : List Value) (h : vs ≠ []) : inTri .null vs ≠ .f := by
  rw [inTri_null, if_neg h]
  decide

theorem notIn_eq_t (v : Value) (vs : List Value) :
    Tri.not (inTri v vs) = .t ↔ ∀ w ∈ vs, cmpTri .eq v w = .f := by
  rw [Tri.not_eq_t, inTri_eq_f]

theorem mem_dedup {α : Type} [DecidableEq α] (a : α) (l : List α) : a ∈ dedup l ↔ a ∈ l := by
  induction l with
  | nil => simp [dedup]
  | cons b l ih =>
    simp only [dedup, List.mem_cons, List.mem_filter, ih, decide_eq_true_eq]
    by_cases h : a = b <;> simp [h]

theorem dedup_nodup {α : Type} [DecidableEq α] (l : List α) : (dedup l).Nodup := by
  induction l with
  | nil => simp [dedup]
  | cons b l ih =>
    simp only [dedup, List.nodup_cons, List.mem_filter, decide_eq_true_eq]
    exact ⟨fun h => h.2 rfl, ih.filter _⟩

/-- For any lawful `BEq`: on rows `List.count` uses `List.instBEq`, not the instance that `DecidableEq` induces, so
`dedup_count` below does not rewrite there. -/
theorem count_dedup {α : Type} [BEq α] [LawfulBEq α] [DecidableEq α] (a : α) (l : List α) :
    (dedup l).count a = if a ∈ l then 1 else 0 := by
  rw [List.Nodup.count (dedup_nodup l)]
  simp [mem_dedup]

theorem dedup_count {α : Type} [DecidableEq α] (a : α) (l : List α) :
    (dedup l).count a = if a ∈ l then 1 else 0 :=
  count_dedup a l

end Gms.Sql

namespace Gms.Rel
open Gms.Sql

/-! Facts about lists alone. -/

theorem exists_mem_map {α β : Type} {f : α → β} {l : List α} {P : β → Prop} :
    (∃ b ∈ l.map f, P b) ↔ ∃ a ∈ l, P (f a) := by
  simp only [List.mem_map]
  exact ⟨fun ⟨_, ⟨a, ha, rfl⟩, h⟩ => ⟨a, ha, h⟩, fun ⟨a, ha, h⟩ => ⟨_, ⟨a, ha, rfl⟩, h⟩⟩

theorem isEmpty_filter {α : Type} (p : α → Bool) (l : List α) : (l.filter p).isEmpty = !l.any p := by
  induction l with
  | nil => rfl
  | cons a l ih => cases h : p a <;> simp [h, ih]

theorem filter3_perm {α : Type} (P1 P2 P3 : α → Prop) [DecidablePred P1] [DecidablePred P2] [DecidablePred P3]
    (l : List α)
    (h : ∀ a ∈ l, (P1 a ∧ ¬ P2 a ∧ ¬ P3 a) ∨ (¬ P1 a ∧ P2 a ∧ ¬ P3 a) ∨ (¬ P1 a ∧ ¬ P2 a ∧ P3 a)) :
    l.Perm (l.filter (P1 ·) ++ l.filter (P2 ·) ++ l.filter (P3 ·)) := by
  induction l with
  | nil => simp
  | cons a l ih =>
    have ih' := (ih fun x hx => h x (List.mem_cons_of_mem _ hx)).cons a
    rcases h a (by simp) with ⟨h1, h2, h3⟩ | ⟨h1, h2, h3⟩ | ⟨h1, h2, h3⟩ <;>
      simp only [List.filter_cons, h1, h2, h3, decide_true, decide_false, if_true, Bool.false_eq_true, if_false]
    · exact ih'
    · refine ih'.trans ?_
      rw [List.append_assoc, List.append_assoc]
      exact List.perm_middle.symm.trans (by simp)
    · exact ih'.trans List.perm_middle.symm

theorem lookup_zero (r : Row) (env : Env) (i : Nat) : lookup (r :: env) 0 i = r.getD i .null := rfl

theorem lookup_succ (r : Row) (env : Env) (d i : Nat) : lookup (r :: env) (d + 1) i = lookup env d i := rfl

theorem evalEs_eq_map (db : Db) (env : Env) (es : List Expr) : evalEs db env es = es.map (evalE db env) := by
  induction es with
  | nil => rfl
  | cons e es ih => rw [evalEs, ih]; rfl

theorem exists_mem_firstCol {P : Value → Prop} (rows : List Row) :
    (∃ w ∈ firstCol rows, P w) ↔ ∃ b ∈ rows, P (b.headD .null) :=
  exists_mem_map

theorem forall_mem_firstCol {P : Value → Prop} (rows : List Row) :
    (∀ w ∈ firstCol rows, P w) ↔ ∀ b ∈ rows, P (b.headD .null) :=
  List.forall_mem_map

theorem mem_innerJoin (m : Row → Row → Bool) (L R : List Row) (x : Row) :
    x ∈ innerJoin m L R ↔ ∃ a ∈ L, ∃ b ∈ R, m a b = true ∧ x = a ++ b := by
  simp only [innerJoin, List.mem_flatMap, List.mem_map, List.mem_filter, and_assoc, @eq_comm _ x]

theorem innerJoin_cons (m : Row → Row → Bool) (a : Row) (L R : List Row) :
    innerJoin m (a :: L) R = (R.filter (m a)).map (a ++ ·) ++ innerJoin m L R := rfl

theorem leftJoin_cons (m : Row → Row → Bool) (w : Nat) (a : Row) (L R : List Row) :
    leftJoin m w (a :: L) R =
      (if R.any (m a) then R.filter (m a) else [nulls w]).map (a ++ ·) ++ leftJoin m w L R := by
  simp only [leftJoin, List.flatMap_cons, isEmpty_filter]
  cases R.any (m a) <;> rfl

/-- A filter that reads only the left `lw` columns decides all joined rows `a ++ ·` of one left row `a` alike
(the step of C05's push-down below a left join). -/
theorem filter_map_append_left (p : Row → Bool) {a : Row} {lw : Nat} (hla : a.length = lw) (rows : List Row) :
    (rows.map (a ++ ·)).filter (fun x => p (x.take lw)) = if p a then rows.map (a ++ ·) else [] := by
  rw [List.filter_map]
  have : ((fun x => p (List.take lw x)) ∘ fun x => a ++ x) = fun _ => p a := by
    funext b; simp [Function.comp, ← hla]
  rw [this]
  cases p a
  · simp
  · rw [List.filter_eq_self.mpr fun _ _ => rfl]; rfl

theorem innerJoin_congr {m m' : Row → Row → Bool} {L R : List Row} (h : ∀ a ∈ L, ∀ b ∈ R, m a b = m' a b) :
    innerJoin m L R = innerJoin m' L R :=
  Basics.flatMap_congr_mem fun a ha => by rw [List.filter_congr (h a ha)]

theorem filter_innerJoin (f : Row → Bool) (m : Row → Row → Bool) (L R : List Row) :
    (innerJoin m L R).filter f = innerJoin (fun a b => f (a ++ b) && m a b) L R := by
  simp only [innerJoin, List.filter_flatMap, List.filter_map, List.filter_filter, Function.comp_def]

theorem innerJoin_filter_left (m : Row → Row → Bool) (p : Row → Bool) (L R : List Row) :
    innerJoin m (L.filter p) R = innerJoin (fun a b => p a && m a b) L R := by
  rw [innerJoin, Basics.flatMap_filter_eq]
  exact Basics.flatMap_congr_mem fun a _ => by cases h : p a <;> simp [h]

theorem leftJoin_perm (m : Row → Row → Bool) (w : Nat) (L R : List Row) :
    (leftJoin m w L R).Perm (innerJoin m L R ++ (antiJoin m L R).map (· ++ nulls w)) := by
  -- the anti-join side as a `flatMap` over all of `L` (`[]` for matched rows): both sides are then `L.flatMap` of
  -- per-row pieces, and `flatMap_append_fun_perm` splits them
  rw [antiJoin, ← List.flatMap_singleton' (L.filter _), List.map_flatMap, Basics.flatMap_filter_eq]
  refine .trans (.of_eq (Basics.flatMap_congr_mem fun a _ => ?_)) (Basics.flatMap_append_fun_perm _ _ L)
  simp only [isEmpty_filter]
  cases h : R.any (m a)
  · -- no partner: the inner join gets nothing from `a`, the anti-join keeps it
    have : R.filter (m a) = [] := List.filter_eq_nil_iff.mpr fun b hb => by simp [List.any_eq_false.mp h b hb]
    simp [this]
  · simp

theorem mem_leftJoin (m : Row → Row → Bool) (w : Nat) (L R : List Row) (x : Row) :
    x ∈ leftJoin m w L R ↔
      ∃ a ∈ L, (∃ b ∈ R, m a b = true ∧ x = a ++ b) ∨ ((∀ b ∈ R, m a b = false) ∧ x = a ++ nulls w) := by
  rw [(leftJoin_perm m w L R).mem_iff]
  simp only [List.mem_append, mem_innerJoin, antiJoin, List.mem_map, List.mem_filter, Bool.not_eq_true',
    List.any_eq_false, Bool.not_eq_true, and_or_left, exists_or, and_assoc, @eq_comm _ x]

theorem leftJoin_keeps_left (m : Row → Row → Bool) (w : Nat) (L R : List Row) (a : Row) (ha : a ∈ L) :
    ∃ x ∈ leftJoin m w L R, a <+: x := by
  simp only [leftJoin, List.mem_flatMap]
  cases h : R.filter (m a) with
  | nil => exact ⟨a ++ nulls w, ⟨a, ha, by simp [h]⟩, List.prefix_append ..⟩
  | cons b bs => exact ⟨a ++ b, ⟨a, ha, by simp [h]⟩, List.prefix_append ..⟩

/-- With the join condition in ON or in WHERE: the same inner join. -/
theorem innerJoin_on_eq_where (m : Row → Row → Bool) (lw : Nat) (L R : List Row)
    (hL : ∀ a ∈ L, a.length = lw) :
    innerJoin m L R =
      (innerJoin (fun _ _ => true) L R).filter (fun x => m (x.take lw) (x.drop lw)) := by
  rw [filter_innerJoin]
  exact innerJoin_congr fun a ha b _ => by simp [← hL a ha]

theorem evalQ_join_inner_eq_filter (db : Db) (env : Env) (on : Expr) (l r : Query) :
    evalQ db env (.join .inner on l r) = evalQ db env (.filter on (.join .inner (.lit (.int 1)) l r)) := by
  simp only [evalQ, filter_innerJoin]
  exact innerJoin_congr fun a _ b _ => by simp [evalE, Value.truth]

theorem count_intersectAll (l r : List Row) (a : Row) :
    (intersectAll l r).count a = min (l.count a) (r.count a) := by
  induction l generalizing r with
  | nil => simp [intersectAll]
  | cons b l ih =>
    rw [intersectAll]
    by_cases hab : b = a
    · subst hab
      split
      · next hb =>
        rw [List.count_cons_self, List.count_cons_self, ih, List.count_erase_self, ← Nat.add_min_add_right,
          Nat.sub_add_cancel (List.count_pos_iff.mpr hb)]
      · next hb => simp [ih, List.count_eq_zero.mpr hb]
    · split <;> simp [ih, hab, List.count_erase_of_ne (Ne.symm hab)]

theorem intersectAll_append_exceptAll (l r : List Row) : (intersectAll l r ++ exceptAll l r).Perm l := by
  induction l generalizing r with
  | nil => exact .refl _
  | cons b l ih =>
    rw [intersectAll, exceptAll]
    split
    · exact (ih _).cons b
    · exact List.perm_middle.trans ((ih r).cons b)

theorem count_exceptAll (l r : List Row) (a : Row) :
    (exceptAll l r).count a = l.count a - r.count a := by
  rw [Nat.sub_eq_sub_min, ← count_intersectAll l r a]
  refine Nat.eq_sub_of_add_eq' ?_
  rw [← List.count_append]
  exact (intersectAll_append_exceptAll l r).count_eq a

theorem flatMap_filter_key_perm {κ : Type} [DecidableEq κ] (key : Row → κ) (rows : List Row) :
    ((dedup (rows.map key)).flatMap (fun k => rows.filter (fun r => key r = k))).Perm rows := by
  rw [List.perm_iff_count]
  intro a
  -- `a` is counted `rows.count a` times for every distinct key equal to `key a`: once if `a ∈ rows`, else never
  rw [Basics.count_flatMap_filter (fun k r => decide (key r = k)),
    List.filter_congr (q := (· == key a)) fun k _ => decide_eq_decide.mpr eq_comm,
    ← List.count_eq_length_filter, count_dedup]
  by_cases ha : a ∈ rows
  · simp [List.mem_map_of_mem ha]
  · simp [List.count_eq_zero.mpr ha]

theorem groupRows_partition (key : Row → Row) (rows : List Row) :
    ((groupRows true key rows).flatMap (·.2)).Perm rows
    ∧ ((groupRows true key rows).map (·.1)).Nodup
    ∧ (∀ g ∈ groupRows true key rows, (∀ r ∈ g.2, key r = g.1) ∧ g.2 ≠ []) := by
  refine ⟨?_, ?_, ?_⟩
  · have := flatMap_filter_key_perm key rows
    simpa [groupRows, List.flatMap_map] using this
  · simpa [groupRows, Function.comp_def] using dedup_nodup (rows.map key)
  · intro g hg
    simp only [groupRows, if_true, List.mem_map] at hg
    obtain ⟨k, hk, rfl⟩ := hg
    obtain ⟨r, hr, hkr⟩ := List.mem_map.mp ((mem_dedup _ _).mp hk)
    exact ⟨fun r hr => by simpa using (List.mem_filter.mp hr).2,
      List.ne_nil_of_mem (List.mem_filter.mpr ⟨hr, by simpa using hkr⟩)⟩

/-- Without grouping keys there is exactly one group, even over an empty input. -/
theorem groupRows_noKeys (key : Row → Row) (rows : List Row) :
    groupRows false key rows = [([], rows)] := rfl

theorem insertBy_inserts {α : Type} (le : α → α → Bool) : InsertSort.Inserts le (insertBy le) :=
  ⟨fun _ => rfl, fun _ _ _ => rfl⟩

theorem sortBy_eq_foldr {α : Type} (le : α → α → Bool) (l : List α) : sortBy le l = l.foldr (insertBy le) [] :=
  InsertSort.eq_foldr rfl (fun _ _ => rfl) l

theorem sortBy_perm {α : Type} (le : α → α → Bool) (l : List α) : (sortBy le l).Perm l :=
  sortBy_eq_foldr le l ▸ (insertBy_inserts le).foldr_perm l

theorem sortBy_sorted {α : Type} (le : α → α → Bool)
    (total : ∀ a b, le a b = true ∨ le b a = true)
    (trans : ∀ a b c, le a b = true → le b c = true → le a c = true)
    (l : List α) : (sortBy le l).Pairwise (fun a b => le a b = true) :=
  sortBy_eq_foldr le l ▸ (insertBy_inserts le).pairwise_foldr trans (fun a b => Bool.or_eq_true .. ▸ total a b) l

end Gms.Rel
