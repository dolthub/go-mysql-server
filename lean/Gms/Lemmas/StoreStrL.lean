/-
C27: strings written into integer columns — integer text (within int64, not into BIGINT UNSIGNED) is
converted like the integer it denotes (`Type.Convert` and the insert path `ConvertRound`), malformed text
other than a bare sign is reported.
-/
import Gms.Lemmas.StrScan
import Gms.Lemmas.StoreIdem
namespace Gms.Store
open Gms.Num Gms.Conv

theorem strNum_trunc (bs : List UInt8) (n : Int) (hn : strNum bs = some n) :
    truncateStringToInt bs = (trim isIntCut bs, false) ∧ signedVal (trim isIntCut bs) = n := by
  simp only [strNum] at hn
  by_cases h : isIntBody (trim isIntCut bs) = true
  · rw [if_pos h] at hn; exact ⟨truncate_intBody bs h, by simpa using hn⟩
  · rw [if_neg h] at hn; cases hn

theorem convertToInt64R_of_inI64 (bs : List UInt8) (h : inI64 (signedVal (truncateStringToInt bs).1)) :
    convertToInt64R bs =
      ⟨signedVal (truncateStringToInt bs).1, .inRange, if (truncateStringToInt bs).2 then .truncated else .none⟩ := by
  simp only [convertToInt64R]
  generalize truncateStringToInt bs = tt at h ⊢
  obtain ⟨t, trunc⟩ := tt
  exact if_pos h

/-- the narrow types on the insert path: `ConvertRound` returns early on any error of the 64-bit stage -/
theorem convertIntR_narrow (it : ITy) (ht : it ≠ .i64 ∧ it ≠ .u64) (bs : List UInt8) :
    convertIntR it bs =
      (let r := convertToInt64R bs
       if r.err ≠ .none then ⟨.int (convertInt.wrapTo it r.val), r.flag, r.err⟩
       else if r.val > it.hi then ⟨.int it.hi, .overflow, .none⟩
       else if r.val < it.lo then
         ⟨.int (if it.unsigned then convertInt.wrapTo it (it.hi + r.val + 1) else it.lo), .underflow, .none⟩
       else ⟨.int r.val, .inRange, .none⟩) := by
  unfold convertIntR
  split
  · exact absurd rfl ht.1
  · exact absurd rfl ht.2
  · rfl

/-- **integer text is converted like the integer it denotes** (truncate mode = `Type.Convert`, and
round mode = the insert path), for every integer type except BIGINT UNSIGNED, within the int64 range -/
theorem string_intText_as_integer (it : ITy) (hu : it ≠ .u64) (bs : List UInt8) (n : Int)
    (hn : strNum bs = some n) (hr : inI64 n) :
    convertInt it (.s bs) = convertInt it (.i n) ∧ convertIntR it bs = convertInt it (.i n) := by
  obtain ⟨ht, hv⟩ := strNum_trunc bs n hn
  have hnr : ¬ (n < minI64 ∨ n > maxI64) := by simp only [inI64] at hr; omega
  have e1 : convertToInt64 (.s bs) = ⟨n, .inRange, .none⟩ := by
    rw [convertToInt64_str, ht]; simp only [hv, if_neg hnr]; rfl
  have e2 : convertToInt64R bs = ⟨n, .inRange, .none⟩ := by
    rw [convertToInt64R_of_inI64 bs (by rw [ht, hv]; exact hr), ht, hv]; rfl
  have e3 : convertToInt64 (.i n) = ⟨n, .inRange, .none⟩ := rfl
  rcases it.wide_or_narrow with rfl | rfl | hnar
  · exact ⟨by rw [convertInt_i64 _ (by simp), convertInt_i64 _ (by simp), e1, e3],
      by simp only [convertIntR]; rw [e2, convertInt_i64 _ (by simp), e3]⟩
  · exact absurd rfl hu
  · refine ⟨?_, ?_⟩
    · rw [convertInt_narrow it hnar _ (by simp), convertInt_narrow it hnar _ (by simp), e1, e3]
    · rw [convertInt_narrow it hnar _ (by simp), e3, convertIntR_narrow it hnar, e2]
      simp

theorem convertToInt64_trunc_err (bs : List UInt8) (h : (truncateStringToInt bs).2 = true) :
    (convertToInt64 (.s bs)).err ≠ .none := by
  rw [convertToInt64_str]
  simp only [h, if_true]
  split <;> exact Err.noConfusion

/-- beyond `MaxUint64` the truncation error is dropped, but then the flag is `Overflow` -/
theorem convertToUint64_trunc_reported (bs : List UInt8) (h : (truncateStringToInt bs).2 = true) :
    ¬ ((convertToUint64 (.s bs)).err = .none ∧ (convertToUint64 (.s bs)).flag = .inRange) := by
  simp only [convertToUint64]
  generalize truncateStringToInt bs = tt at h ⊢
  obtain ⟨t, trunc⟩ := tt
  subst h
  generalize splitSign t = sp
  obtain ⟨neg, ds⟩ := sp
  simp only [↓reduceIte]
  split
  · exact fun h => absurd h.2 Flag.noConfusion
  · split <;> exact fun h => absurd h.1 Err.noConfusion

theorem convertToInt64R_err (bs : List UInt8) :
    (convertToInt64R bs).err = if (truncateStringToInt bs).2 then .truncated else .none := by
  fun_cases convertToInt64R bs <;> simp only [*] <;> rfl

theorem convertToUint64R_err (bs : List UInt8) :
    (convertToUint64R bs).err = if (truncateStringToInt bs).2 then .truncated else .none := by
  fun_cases convertToUint64R bs <;> simp only [*] <;> rfl

theorem convertIntR_err (it : ITy) (bs : List UInt8) :
    (convertIntR it bs).err = if (truncateStringToInt bs).2 then .truncated else .none := by
  have e := convertToInt64R_err bs
  fun_cases convertIntR it bs
  case case2 => exact convertToUint64R_err bs
  case case1 | case3 => exact e
  -- the narrow types past the early return: the 64-bit stage was clean
  case case4 r h_clean h64 hu64 h_over | case5 r h_clean h64 hu64 h_hi h_under | case6 r h_clean h64 hu64 h_hi h_lo =>
    exact (Decidable.not_not.1 h_clean).symm.trans e

/-- **malformed text is reported**, by `Type.Convert` and on the insert path alike, for all ten
integer types — unless it is nothing but an optional sign (`sign_only_or_empty_string_as_zero`) -/
theorem string_malformed_reported (it : ITy) (bs : List UInt8) (hm : strNum bs = none)
    (hreg : ¬ sign_only_or_empty_string_as_zero (.int it) (.s bs)) :
    conversionOk (convertInt it (.s bs)) = false ∧ conversionOk (convertIntR it bs) = false := by
  have h1 : isIntBody (trim isIntCut bs) = false := by
    cases h : isIntBody (trim isIntCut bs)
    · rfl
    · simp [strNum, h] at hm
  have htr := truncate_malformed bs h1 (Bool.eq_false_iff.2 hreg)
  refine ⟨?_, conversionOk_of_err (by rw [convertIntR_err, htr]; nofun)⟩
  -- truncate mode: BIGINT and the narrow types within their range hand on the error of the 64-bit stage,
  -- every other path ends in a fatal error or a flag
  have h64 := convertToInt64_trunc_err bs htr
  have hu64 := convertToUint64_trunc_reported bs htr
  -- the cases of `convertInt` need a variable; all that is used of the string are `h64`, `hu64` (false of NULL)
  generalize Val.s bs = v at h64 hu64
  fun_cases convertInt it v
  case case1 => exact absurd rfl h64
  case case2 | case7 => exact conversionOk_of_err h64
  case case3 => exact Bool.eq_false_iff.2 fun hok => hu64 ((conversionOk_iff _).1 hok)
  all_goals rfl
end Gms.Store
