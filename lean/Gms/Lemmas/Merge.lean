/-
Merge join = inner / left outer join of the SQL definition (same row sequence) on inputs sorted by a
nullable integer key, NULL keys first.

Both joins are `blockJoin lo`, and `blockRow` only looks at the right rows that pass the condition. The
iterator computes the contribution of a left row from its block of equal keys: right rows outside the
block fail the condition. For the left outer join this says that a left row gets its NULL-extended row
iff NO row of its block passes the residual filters, whatever their order and whatever happened for
the previous left row.
-/
import Gms.Lemmas.Phys

namespace Gms.Phys
open Gms.Sql Gms.Rel List

/-- Three-way comparison of two nullable integer keys; `none` = a NULL operand (`ErrNilOperand`). -/
def cmpK : Option Int → Option Int → Option Ordering
  | some a, some b => some (compare a b)
  | _, _ => none

/-- Index order: NULL first, then ascending. -/
def leK : Option Int → Option Int → Prop
  | none, _ => True
  | some _, none => False
  | some a, some b => a ≤ b

def SortedBy (k : Row → Option Int) (l : List Row) : Prop := l.Pairwise fun x y => leK (k x) (k y)

def mergeCmp (kl kr : Row → Option Int) (a b : Row) : Option Ordering := cmpK (kl a) (kr b)

/-- The join condition a merge join implements: keys equal (both non-NULL) and the other filters. -/
def mergeCond (kl kr : Row → Option Int) (sel : Row → Row → Bool) (a b : Row) : Bool :=
  (mergeCmp kl kr a b == some .eq) && sel a b

theorem cmpK_eq_none {x y : Option Int} : cmpK x y = none ↔ x = none ∨ y = none := by
  cases x <;> cases y <;> simp [cmpK]

theorem cmpK_some_eq_iff (x y : Int) : cmpK (some x) (some y) = some .eq ↔ x = y := by
  rw [cmpK, Option.some.injEq, Int.compare_eq_eq]

theorem mergeCmp_eq_iff {kl kr : Row → Option Int} {a b : Row} {x y : Int} (ha : kl a = some x) (hb : kr b = some y) :
    mergeCmp kl kr a b = some .eq ↔ x = y := by
  rw [mergeCmp, ha, hb, cmpK_some_eq_iff]

theorem mergeCond_of_keys_eq {kl kr : Row → Option Int} {sel : Row → Row → Bool} {a b : Row} {x : Int}
    (ha : kl a = some x) (hb : kr b = some x) : mergeCond kl kr sel a b = sel a b := by
  simp [mergeCond, (mergeCmp_eq_iff ha hb).mpr rfl]

theorem mergeCond_of_keys_ne {kl kr : Row → Option Int} {sel : Row → Row → Bool} {a b : Row} {x y : Int}
    (ha : kl a = some x) (hb : kr b = some y) (hne : x ≠ y) : mergeCond kl kr sel a b = false := by
  simp [mergeCond, mt (mergeCmp_eq_iff ha hb).mp hne]

theorem mergeCond_of_key_none {kl kr : Row → Option Int} {sel : Row → Row → Bool} {a b : Row}
    (h : kl a = none ∨ kr b = none) : mergeCond kl kr sel a b = false := by
  simp [mergeCond, mergeCmp, cmpK_eq_none.mpr h]

theorem SortedBy.tail {k : Row → Option Int} {c : Row} {l : List Row} (h : SortedBy k (c :: l)) : SortedBy k l :=
  (List.pairwise_cons.mp h).2

theorem SortedBy.sublist {k : Row → Option Int} {l l' : List Row} (h : SortedBy k l) (hs : l'.Sublist l) : SortedBy k l' :=
  List.Pairwise.sublist hs h

theorem SortedBy.ge_head {k : Row → Option Int} {c : Row} {l : List Row} {x : Int}
    (hs : SortedBy k (c :: l)) (hc : k c = some x) : ∀ r ∈ c :: l, ∃ y, k r = some y ∧ x ≤ y := by
  intro r hr
  rcases List.mem_cons.mp hr with rfl | hr
  · exact ⟨x, hc, Int.le_refl x⟩
  · have := (List.pairwise_cons.mp hs).1 r hr
    rw [hc] at this
    cases hk : k r with
    | none => rw [hk] at this; exact this.elim
    | some y => rw [hk] at this; exact ⟨y, rfl, this⟩

/-- `p` stands for the iterator's two tests `cmp · b == some .eq` (on the left input) and
`cmp a · == some .eq` (on the right input). -/
theorem split_run {k : Row → Option Int} {x : Int} {p : Row → Bool} {c : Row} {l : List Row}
    (hp : ∀ r y, k r = some y → (p r = true ↔ y = x)) (hs : SortedBy k (c :: l)) (hc : k c = some x) :
    (∀ r ∈ c :: l.takeWhile p, k r = some x) ∧ (∀ r ∈ l.dropWhile p, ∃ y, k r = some y ∧ x < y) := by
  have hge : ∀ r ∈ l, ∃ y, k r = some y ∧ x ≤ y := fun r hr => hs.ge_head hc r (List.mem_cons_of_mem _ hr)
  replace hs := hs.tail
  constructor
  · refine List.forall_mem_cons.mpr ⟨hc, fun r hr => ?_⟩
    obtain ⟨y, hy, _⟩ := hge r ((List.takeWhile_sublist p).subset hr)
    rw [hy, (hp r y hy).mp (List.all_eq_true.mp List.all_takeWhile r hr)]
  · induction l with
    | nil => intro r hr; simp at hr
    | cons c l ih =>
      intro r hr
      rw [List.dropWhile_cons] at hr
      by_cases hpc : p c = true
      · rw [if_pos hpc] at hr
        exact ih (fun r hr => hge r (List.mem_cons_of_mem _ hr)) hs.tail r hr
      · rw [if_neg hpc] at hr
        obtain ⟨yc, hyc, hxc⟩ := hge c (List.mem_cons_self ..)
        have hne : yc ≠ x := fun e => hpc ((hp c yc hyc).mpr e)
        obtain ⟨y, hy, hle⟩ := hs.ge_head hyc r hr
        exact ⟨y, hy, Int.lt_of_lt_of_le (Int.lt_iff_le_and_ne.mpr ⟨hxc, Ne.symm hne⟩) hle⟩

theorem leftJoin_nil_left (m : Row → Row → Bool) (rw : Nat) (R : List Row) : leftJoin m rw [] R = [] := rfl

theorem blockJoin_block (lo : Bool) {kl kr : Row → Option Int} (sel : Row → Row → Bool) (rw : Nat) {x : Int}
    {las dL blk dR : List Row} (hlas : ∀ a ∈ las, kl a = some x) (hblk : ∀ b ∈ blk, kr b = some x)
    (hdL : ∀ a ∈ dL, ∃ y, kl a = some y ∧ x < y) (hdR : ∀ b ∈ dR, ∃ y, kr b = some y ∧ x < y) :
    blockJoin lo (mergeCond kl kr sel) rw (las ++ dL) (blk ++ dR)
      = blockJoin lo sel rw las blk ++ blockJoin lo (mergeCond kl kr sel) rw dL dR := by
  rw [blockJoin_append_left]
  congr 1
  · refine blockJoin_congr lo rw fun a ha => ?_
    have hdead : ∀ b ∈ dR, mergeCond kl kr sel a b = false := fun b hb =>
      have ⟨_, hy, hlt⟩ := hdR b hb
      mergeCond_of_keys_ne (hlas a ha) hy (Int.ne_of_lt hlt)
    rw [List.filter_append, filter_eq_nil_of_dead hdead, List.append_nil]
    exact List.filter_congr fun b hb => mergeCond_of_keys_eq (hlas a ha) (hblk b hb)
  · refine blockJoin_congr lo rw fun a ha => ?_
    have hdead : ∀ b ∈ blk, mergeCond kl kr sel a b = false := fun b hb =>
      have ⟨_, hy, hlt⟩ := hdL a ha
      mergeCond_of_keys_ne hy (hblk b hb) (Int.ne_of_gt hlt)
    rw [List.filter_append, filter_eq_nil_of_dead hdead, List.nil_append]

section Steps
variable {lo : Bool} {cmp : Row → Row → Option Ordering} {leftNull : Row → Bool} {sel : Row → Row → Bool}
  {rw n : Nat} {a b : Row} {L R : List Row}

theorem mergeGo_advance_left (h : cmp a b = some .lt ∨ cmp a b = none ∧ leftNull a = true) :
    mergeGo lo cmp leftNull sel rw (n + 1) (a :: L) (b :: R)
      = (if lo then [a ++ nulls rw] else []) ++ mergeGo lo cmp leftNull sel rw n L (b :: R) := by
  rcases h with h | ⟨h, h'⟩
  · simp only [mergeGo, h]
  · simp only [mergeGo, h, h', if_true]

theorem mergeGo_advance_right (h : cmp a b = some .gt ∨ cmp a b = none ∧ leftNull a = false) :
    mergeGo lo cmp leftNull sel rw (n + 1) (a :: L) (b :: R) = mergeGo lo cmp leftNull sel rw n (a :: L) R := by
  rcases h with h | ⟨h, h'⟩
  · simp only [mergeGo, h]
  · simp only [mergeGo, h, h', Bool.false_eq_true, if_false]

theorem mergeGo_block (h : cmp a b = some .eq) :
    mergeGo lo cmp leftNull sel rw (n + 1) (a :: L) (b :: R)
      = blockJoin lo sel rw (a :: L.takeWhile fun a' => cmp a' b == some .eq)
            (b :: R.takeWhile fun b' => cmp a b' == some .eq)
          ++ mergeGo lo cmp leftNull sel rw n (L.dropWhile fun a' => cmp a' b == some .eq)
              (R.dropWhile fun b' => cmp a b' == some .eq) := by
  simp only [mergeGo, h, blockJoin]

end Steps

/-- What the heads of two sorted inputs allow: the left head is passed over (`mergeGo_advance_left`) and matches nothing
on the right (`blockJoin_cons_of_dead`), or the same with the sides exchanged (`mergeGo_advance_right`,
`blockJoin_cons_right_of_dead`), or both heads have the same key and open a block (`mergeGo_block`). -/
theorem merge_heads {kl kr : Row → Option Int} (sel : Row → Row → Bool) {a b : Row} {L R : List Row}
    (hL : SortedBy kl (a :: L)) (hR : SortedBy kr (b :: R)) :
    ((mergeCmp kl kr a b = some .lt ∨ mergeCmp kl kr a b = none ∧ (kl a).isNone = true)
        ∧ ∀ b' ∈ b :: R, mergeCond kl kr sel a b' = false)
      ∨ ((mergeCmp kl kr a b = some .gt ∨ mergeCmp kl kr a b = none ∧ (kl a).isNone = false)
        ∧ ∀ a' ∈ a :: L, mergeCond kl kr sel a' b = false)
      ∨ ∃ x, kl a = some x ∧ kr b = some x := by
  cases hka : kl a with
  | none =>
    exact .inl ⟨.inr ⟨cmpK_eq_none.mpr (.inl hka), rfl⟩, fun b' _ => mergeCond_of_key_none (.inl hka)⟩
  | some x =>
    cases hkb : kr b with
    | none =>
      exact .inr (.inl ⟨.inr ⟨cmpK_eq_none.mpr (.inr hkb), rfl⟩,
        fun a' _ => mergeCond_of_key_none (.inr hkb)⟩)
    | some y =>
      have hc : mergeCmp kl kr a b = some (compare x y) := by rw [mergeCmp, hka, hkb, cmpK]
      rcases Int.lt_trichotomy x y with hlt | heq | hgt
      · refine .inl ⟨.inl (by rw [hc, Int.compare_eq_lt.mpr hlt]), fun b' hb' => ?_⟩
        obtain ⟨y', hy', hle⟩ := hR.ge_head hkb b' hb'
        exact mergeCond_of_keys_ne hka hy' (Int.ne_of_lt (Int.lt_of_lt_of_le hlt hle))
      · exact .inr (.inr ⟨x, rfl, congrArg some heq.symm⟩)
      · refine .inr (.inl ⟨.inl (by rw [hc, Int.compare_eq_gt.mpr hgt]), fun a' ha' => ?_⟩)
        obtain ⟨x', hx', hle⟩ := hL.ge_head hka a' ha'
        exact mergeCond_of_keys_ne hx' hkb (Int.ne_of_gt (Int.lt_of_lt_of_le hgt hle))

theorem mergeGo_eq_blockJoin (lo : Bool) (kl kr : Row → Option Int) (sel : Row → Row → Bool) (rw : Nat) :
    ∀ (n : Nat) (L R : List Row), L.length + R.length < n → SortedBy kl L → SortedBy kr R →
      mergeGo lo (mergeCmp kl kr) (fun a => (kl a).isNone) sel rw n L R
        = blockJoin lo (mergeCond kl kr sel) rw L R := by
  intro n
  induction n with
  | zero => intro L R h; omega
  | succ n ih =>
    intro L R hn hL hR
    cases L with
    | nil => rw [blockJoin_nil_left, mergeGo]
    | cons a L =>
      cases R with
      | nil =>
        rw [blockJoin_nil_right]
        rfl
      | cons b R =>
        have hnR : (a :: L).length + R.length < n := Nat.lt_of_succ_lt_succ hn
        have hnL : L.length + (b :: R).length < n := by
          rw [List.length_cons, ← Nat.add_assoc, Nat.add_right_comm]; exact hnR
        have hL' := hL.tail
        have hR' := hR.tail
        rcases merge_heads sel hL hR with ⟨h, hdead⟩ | ⟨h, hdead⟩ | ⟨x, hkx, hky⟩
        · rw [mergeGo_advance_left h, ih L (b :: R) hnL hL' hR, blockJoin_cons_of_dead lo rw L hdead]
        · rw [mergeGo_advance_right h, ih (a :: L) R hnR hL hR', blockJoin_cons_right_of_dead lo rw R hdead]
        · obtain ⟨htR, hdR⟩ :=
            split_run (fun r y hy => beq_iff_eq.trans ((mergeCmp_eq_iff hkx hy).trans eq_comm)) hR hky
          obtain ⟨htL, hdL⟩ := split_run (fun r y hy => beq_iff_eq.trans (mergeCmp_eq_iff hy hky)) hL hkx
          rw [mergeGo_block ((mergeCmp_eq_iff hkx hky).mpr rfl),
            ih _ _ ?_ (hL'.sublist (List.dropWhile_sublist _)) (hR'.sublist (List.dropWhile_sublist _))]
          · have e := blockJoin_block lo sel rw htL htR hdL hdR
            rw [List.cons_append, List.cons_append, List.takeWhile_append_dropWhile,
              List.takeWhile_append_dropWhile] at e
            exact e.symm
          · exact Nat.lt_of_le_of_lt
              (Nat.add_le_add (List.dropWhile_sublist _).length_le (List.dropWhile_sublist _).length_le)
              (by rw [List.length_cons] at hnR; omega)

end Gms.Phys
