/-
C31 — `TimeDelta.apply` (model `applyDelta`) and the month-count Spec `specDelta`: the year step, the month step and the
calendar part of the Spec are all `addMonths t k` (the instant `k` months later, day clamped), and two such moves compose
into one unless the first clamps the day (`addMonths_addMonths`).
-/
import Gms.Lemmas.Cal

namespace Gms.Cal

theorem goDate_add_day (f : Fields) (n : Int) : goDate { f with d := f.d + n } = goDate f + n * nsDay := by
  simp only [goDate, nsDay]; omega

theorem addDays_eq (t n : Int) : addDays t n = t + n * nsDay := by
  rw [addDays, goDate_add_day, goDate_fieldsOf]

def clampDay (d y m : Int) : Int := if d > dim y m then dim y m else d

theorem clampDay_of_le {d y m : Int} (h : d ≤ dim y m) : clampDay d y m = d :=
  if_neg (Int.not_lt.mpr h)

theorem monthsStep_valid (f : Fields) (h : validFields f) (y m : Int) (h1 : 1 ≤ m) (h2 : m ≤ 12) :
    validFields { f with y := y, mo := m, d := clampDay f.d y m } := by
  obtain ⟨_, _, h3, h4, rest⟩ := h
  have hb := dim_bounds y m
  refine ⟨h1, h2, ?_, ?_, rest⟩
  · show 1 ≤ clampDay f.d y m
    unfold clampDay; split <;> omega
  · show clampDay f.d y m ≤ dim y m
    unfold clampDay; split <;> omega

/-- the fields moved to the month with count `tm` (`12 * year + (month - 1)`), the day clamped to the length of
that month -/
def atMonth (f : Fields) (tm : Int) : Fields :=
  { f with y := tm / 12, mo := tm % 12 + 1, d := clampDay f.d (tm / 12) (tm % 12 + 1) }

theorem atMonth_valid (f : Fields) (h : validFields f) (tm : Int) : validFields (atMonth f tm) :=
  monthsStep_valid f h _ _ (by omega) (by omega)

theorem atMonth_count (f : Fields) (tm : Int) : 12 * (atMonth f tm).y + ((atMonth f tm).mo - 1) = tm := by
  simp only [atMonth]; omega

theorem atMonth_ym (f : Fields) (tm Y M : Int) (h : tm = 12 * Y + (M - 1)) (h1 : 1 ≤ M) (h2 : M ≤ 12) :
    atMonth f tm = { f with y := Y, mo := M, d := clampDay f.d Y M } := by
  have e1 : tm / 12 = Y := by omega
  have e2 : tm % 12 + 1 = M := by omega
  simp only [atMonth, e1, e2]

theorem atMonth_self (f : Fields) (h : validFields f) : atMonth f (12 * f.y + (f.mo - 1)) = f := by
  rw [atMonth_ym f _ _ _ rfl h.1 h.2.1, clampDay_of_le h.2.2.2.1]

theorem atMonth_atMonth (f : Fields) (tm tm' : Int) (h : (atMonth f tm).d = f.d) :
    atMonth (atMonth f tm) tm' = atMonth f tm' := by
  simp only [atMonth] at h ⊢
  rw [h]

theorem clampDay_year (f : Fields) (h : validFields f) (Y : Int) :
    clampDay f.d Y f.mo = if f.mo = 2 ∧ f.d = 29 ∧ ¬ isLeap Y then 28 else f.d := by
  have h4 := h.2.2.2.1
  unfold clampDay
  by_cases hm : f.mo = 2
  · rw [hm, dim_feb] at h4 ⊢
    cases isLeap Y <;> cases isLeap f.y <;> simp at h4 ⊢ <;> omega
  · rw [dim_ne_feb Y f.y f.mo hm, if_neg (by omega), if_neg (fun h => hm h.1)]

theorem atMonth_years (f : Fields) (h : validFields f) (k : Int) :
    atMonth f (12 * f.y + (f.mo - 1) + 12 * k) =
      { f with y := f.y + k, d := if f.mo = 2 ∧ f.d = 29 ∧ ¬ isLeap (f.y + k) then 28 else f.d } := by
  rw [atMonth_ym f _ (f.y + k) f.mo (by omega) h.1 h.2.1, clampDay_year f h]

/-- MySQL's month arithmetic on an instant: `k` months later, the day clamped to the length of the month reached -/
def addMonths (t k : Int) : Int :=
  goDate (atMonth (fieldsOf t) (12 * (fieldsOf t).y + ((fieldsOf t).mo - 1) + k))

theorem fieldsOf_addMonths (t k : Int) :
    fieldsOf (addMonths t k) = atMonth (fieldsOf t) (12 * (fieldsOf t).y + ((fieldsOf t).mo - 1) + k) :=
  fieldsOf_goDate _ (atMonth_valid _ (fieldsOf_valid t) _)

/-- the model's `clamps` says that the calendar move changes the day -/
theorem clamps_eq_false_iff (td : Delta) (sign t : Int) :
    clamps td sign t = false ↔
      (fieldsOf (addMonths t (sign * (12 * td.years + td.months)))).d = (fieldsOf t).d := by
  rw [fieldsOf_addMonths]
  simp only [clamps, decide_eq_false_iff_not, atMonth, clampDay]
  split <;> omega

theorem addMonths_zero (t : Int) : addMonths t 0 = t := by
  rw [addMonths, Int.add_zero, atMonth_self _ (fieldsOf_valid t), goDate_fieldsOf]

theorem addMonths_addMonths (t a b : Int) (h : (fieldsOf (addMonths t a)).d = (fieldsOf t).d ∨ b = 0) :
    addMonths (addMonths t a) b = addMonths t (a + b) := by
  rcases h with h | rfl
  · rw [fieldsOf_addMonths] at h
    rw [addMonths, fieldsOf_addMonths, atMonth_count, atMonth_atMonth _ _ _ h, Int.add_assoc]; rfl
  · rw [addMonths_zero, Int.add_zero]

theorem applyYears_eq (td : Delta) (sign t : Int) : applyYears td sign t = addMonths t (12 * (td.years * sign)) := by
  by_cases hy : td.years = 0
  · simp only [applyYears, hy, ne_eq, not_true_eq_false, if_false, Int.zero_mul, Int.mul_zero, addMonths_zero]
  · rw [addMonths, atMonth_years _ (fieldsOf_valid t)]
    simp only [applyYears, hy, ne_eq, not_false_eq_true, if_true]
    split
    · rename_i h; simp only [h.1]
    · rfl

theorem applyMonths_eq (td : Delta) (sign t : Int) : applyMonths td sign t = addMonths t (td.months * sign) := by
  by_cases hm : td.months = 0
  · simp only [applyMonths, hm, ne_eq, not_true_eq_false, if_false, Int.zero_mul, addMonths_zero]
  · -- Go divides `mo - 1 + k` by 12 (floor, spelt by hand) and adds the quotient to the year: that is the quotient and
    -- remainder of the month count `12 * y + (mo - 1) + k`, which is what the three `omega` check
    rw [addMonths, atMonth_ym _ _ ((fieldsOf t).y + ((fieldsOf t).mo - 1 + td.months * sign) / 12)
      (((fieldsOf t).mo - 1 + td.months * sign) % 12 + 1) (by omega) (by omega) (by omega)]
    simp only [applyMonths, hm, ne_eq, not_false_eq_true, if_true, clampDay]

theorem applyDays_eq (td : Delta) (sign t : Int) : applyDays td sign t = t + td.days * sign * nsDay := by
  unfold applyDays
  by_cases hd : td.days = 0
  · simp [hd]
  · simp only [hd, ne_eq, not_false_eq_true, if_true, addDays_eq]

theorem applyDelta_eq (td : Delta) (sign t : Int) :
    applyDelta td sign t =
      addMonths (addMonths t (12 * (td.years * sign))) (td.months * sign) + td.days * sign * nsDay + td.duration sign := by
  rw [← applyYears_eq, ← applyMonths_eq, ← applyDays_eq]; rfl

theorem specDelta_eq (td : Delta) (sign t : Int) :
    specDelta td sign t = addMonths t (sign * (12 * td.years + td.months)) + td.days * sign * nsDay + td.duration sign :=
  rfl

theorem applyDelta_eq_specDelta (td : Delta) (sign t : Int) (hr : intermediateFeb29 td sign t = false) :
    applyDelta td sign t = specDelta td sign t := by
  -- the two moves compose; `sign * (12 * y + m)` is rewritten to `12 * (y * sign) + m * sign`, which closes the equation
  rw [applyDelta_eq, specDelta_eq, addMonths_addMonths, Int.mul_comm sign, Int.add_mul, Int.mul_assoc 12]
  -- left: the side condition of `addMonths_addMonths`. Outside the region the year move keeps the day, or no month
  -- move follows
  simp only [intermediateFeb29, decide_eq_false_iff_not] at hr
  by_cases hm : td.months = 0
  · right; rw [hm, Int.zero_mul]
  · left
    by_cases hy : td.years = 0
    · rw [hy, Int.zero_mul, Int.mul_zero, addMonths_zero]
    · rw [fieldsOf_addMonths, atMonth_years _ (fieldsOf_valid t)]
      exact if_neg fun h => hr ⟨hy, hm, h⟩

theorem duration_neg (td : Delta) : td.duration (-1) = - td.duration 1 := by
  simp only [Delta.duration, nsHour, nsMin, nsSec]; omega

theorem specDelta_nocal (td : Delta) (sign t : Int) (hy : td.years = 0) (hm : td.months = 0) :
    specDelta td sign t = t + td.days * sign * nsDay + td.duration sign := by
  rw [specDelta_eq, hy, hm, Int.mul_zero, Int.add_zero, Int.mul_zero, addMonths_zero]

theorem intermediateFeb29_single (td : Delta) (sign t : Int) (h : td.years = 0 ∨ td.months = 0) :
    intermediateFeb29 td sign t = false := by
  simp only [intermediateFeb29, decide_eq_false_iff_not]
  rcases h with h | h <;> simp [h]

end Gms.Cal
