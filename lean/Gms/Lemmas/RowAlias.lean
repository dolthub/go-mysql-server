/-
Lemmas about the slice memory model `Gms/Model/RowAlias.lean`: `Yields`, the contract every row-building
operation of the path meets, and `Sim`, the simulation of the value-level Spec by the memory-level Impl model,
row by row, over the rows of a statement, and for a statement. The property theorems are in `Gms/Props/C15.lean`.
-/
import Gms.Model.RowAlias
import Gms.Lemmas.Basics
namespace Gms.RowAlias
open Gms.MemTable

theorem arrOf_append_left {m : Mem} {x : List Val} {a : Nat} (h : a < m.length) : arrOf (m ++ [x]) a = arrOf m a := by
  rw [arrOf, arrOf, List.getElem?_append_left h]

theorem arrOf_append_new (m : Mem) (x : List Val) : arrOf (m ++ [x]) m.length = x := by
  rw [arrOf, List.getElem?_concat_length]; rfl

theorem arrOf_set_ne {m : Mem} {a b : Nat} {x : List Val} (h : a ≠ b) : arrOf (m.set a x) b = arrOf m b := by
  rw [arrOf, arrOf, List.getElem?_set_ne h]

theorem arrOf_set_eq {m : Mem} {a : Nat} {x : List Val} (h : a < m.length) : arrOf (m.set a x) a = x := by
  rw [arrOf, List.getElem?_set_self h]; rfl

theorem length_view {m : Mem} {s : Slice} (hv : Valid m s) : (view m s).length = s.len := by
  rw [view, List.length_take]; exact Nat.min_eq_left hv.2

theorem Frame.refl (n : Nat) (m : Mem) : Frame n m m := ⟨Nat.le_refl _, fun _ _ => ⟨rfl, rfl⟩⟩

theorem Frame.trans {n : Nat} {a b c : Mem} (h1 : Frame n a b) (h2 : Frame n b c) : Frame n a c :=
  ⟨Nat.le_trans h1.1 h2.1, fun x hx =>
    have hb := h2.2 x (Nat.lt_of_lt_of_le hx h1.1)
    have ha := h1.2 x hx
    ⟨hb.1.trans ha.1, hb.2.trans ha.2⟩⟩

/-! The two ways this path writes memory: a new array at the end (`Frame.push`), and an old array replaced by one
with the same length and the same first `n` cells (`Frame.set`). -/

theorem Frame.push (n : Nat) (m : Mem) (x : List Val) : Frame n m (m ++ [x]) := by
  refine ⟨?_, fun a ha => ?_⟩
  · rw [List.length_append]
    exact Nat.le_add_right _ _
  · rw [arrOf_append_left ha]
    exact ⟨rfl, rfl⟩

theorem Frame.set {n : Nat} {m : Mem} {a : Nat} {x : List Val} (ht : x.take n = (arrOf m a).take n)
    (hl : x.length = (arrOf m a).length) : Frame n m (m.set a x) := by
  refine ⟨Nat.le_of_eq List.length_set.symm, fun b hb => ?_⟩
  by_cases hEq : a = b
  · subst hEq; rw [arrOf_set_eq hb]; exact ⟨ht, hl⟩
  · rw [arrOf_set_ne hEq]; exact ⟨rfl, rfl⟩

theorem valid_of_frame {n : Nat} {m m' : Mem} (hf : Frame n m m') {s : Slice} (hv : Valid m s) : Valid m' s :=
  ⟨Nat.lt_of_lt_of_le hv.1 hf.1, Nat.le_trans hv.2 (Nat.le_of_eq (hf.2 s.arr hv.1).2.symm)⟩

theorem view_of_frame {n : Nat} {m m' : Mem} (hf : Frame n m m') {s : Slice} (hv : Valid m s) (hl : s.len ≤ n) :
    view m' s = view m s := by
  rw [view, view, ← Nat.min_eq_left hl, ← List.take_take, ← List.take_take, (hf.2 s.arr hv.1).1]

theorem wf_of_frame {n : Nat} {m m' : Mem} (hf : Frame n m m') {ss : List Slice} (hw : WF n m ss) : WF n m' ss :=
  fun s hs => ⟨(hw s hs).1, valid_of_frame hf (hw s hs).2⟩

theorem visibleOf_frame {n : Nat} {m m' : Mem} (hf : Frame n m m') {ss : List Slice} (hw : WF n m ss) :
    visibleOf m' ss = visibleOf m ss :=
  List.map_congr_left fun s hs => view_of_frame hf (hw s hs).2 (Nat.le_of_eq (hw s hs).1)

theorem WF.append {n : Nat} {m : Mem} {ss : List Slice} (hw : WF n m ss) {s : Slice} (hl : s.len = n) (hv : Valid m s) :
    WF n m (ss ++ [s]) := fun x hx =>
  (List.mem_append.mp hx).elim (hw x) fun h => List.mem_singleton.mp h ▸ ⟨hl, hv⟩

theorem WF.set {n : Nat} {m : Mem} {ss : List Slice} (hw : WF n m ss) (i : Nat) {s : Slice} (hl : s.len = n) (hv : Valid m s) :
    WF n m (ss.set i s) := fun x hx =>
  (List.mem_or_eq_of_mem_set hx).elim (hw x) fun h => h ▸ ⟨hl, hv⟩

theorem WF.getD {n : Nat} {m : Mem} {ss : List Slice} (hw : WF n m ss) {i : Nat} (h : i < ss.length) :
    (ss.getD i default).len = n ∧ Valid m (ss.getD i default) := by
  rw [List.getD_eq_getElem?_getD, List.getElem?_eq_getElem h]
  exact hw _ (List.getElem_mem h)

theorem visibleOf_append (m : Mem) (ss : List Slice) (s : Slice) : visibleOf m (ss ++ [s]) = visibleOf m ss ++ [view m s] :=
  List.map_append

theorem visibleOf_set (m : Mem) (ss : List Slice) (i : Nat) (s : Slice) :
    visibleOf m (ss.set i s) = (visibleOf m ss).set i (view m s) := List.map_set

theorem getD_visibleOf (m : Mem) (ss : List Slice) (i : Nat) : (visibleOf m ss).getD i [] = view m (ss.getD i default) := by
  rw [visibleOf, List.getD_eq_getElem?_getD, List.getD_eq_getElem?_getD, List.getElem?_map]
  exact Option.getD_map (view m) default _

/-! Overwriting `l[k : k + |vs|]` with `vs`, the in-place branch of `append`. -/

theorem length_splice {α : Type} {l vs : List α} {k : Nat} (h : k + vs.length ≤ l.length) :
    (l.take k ++ vs ++ l.drop (k + vs.length)).length = l.length := by
  rw [List.length_append, List.length_append, List.length_take, List.length_drop,
    Nat.min_eq_left (Nat.le_trans (Nat.le_add_right k _) h), Nat.add_sub_cancel' h]

theorem take_splice_le {α : Type} {l vs : List α} {k n : Nat} (h : k + vs.length ≤ l.length) (hn : n ≤ k) :
    (l.take k ++ vs ++ l.drop (k + vs.length)).take n = l.take n :=
  -- the window at offset 0: `drop 0` reduces away on both sides
  Basics.drop_take_splice_below l vs (off := 0) (Nat.le_trans (Nat.le_add_right k _) h) ((Nat.zero_add n).symm ▸ hn)

theorem take_splice {α : Type} {l vs : List α} {k : Nat} (h : k + vs.length ≤ l.length) :
    (l.take k ++ vs ++ l.drop (k + vs.length)).take (k + vs.length) = l.take k ++ vs :=
  List.take_left' (by
    rw [List.length_append, List.length_take, Nat.min_eq_left (Nat.le_trans (Nat.le_add_right k _) h)])

/-- `Yields N m r v`: starting from memory `m`, the path has reached memory and slice `r`, which reads `v`. -/
structure Yields (N : Nat) (m : Mem) (r : Mem × Slice) (v : Row) : Prop where
  frame : Frame N m r.1
  valid : Valid r.1 r.2
  view_eq : view r.1 r.2 = v

theorem Yields.len {N : Nat} {m : Mem} {r : Mem × Slice} {v : Row} (y : Yields N m r v) : r.2.len = v.length := by
  rw [← y.view_eq, length_view y.valid]

theorem Yields.trans {N : Nat} {m : Mem} {r r' : Mem × Slice} {v v' : Row} (y : Yields N m r v) (y' : Yields N r.1 r' v') :
    Yields N m r' v' := ⟨y.frame.trans y'.frame, y'.valid, y'.view_eq⟩

/-- Go: `s[:k]`. -/
theorem Yields.cut {N : Nat} {m : Mem} {r : Mem × Slice} {v : Row} (y : Yields N m r v) {k : Nat} (hk : k ≤ r.2.len) :
    Yields N m (r.1, ⟨r.2.arr, k⟩) (v.take k) :=
  ⟨y.frame, ⟨y.valid.1, Nat.le_trans hk y.valid.2⟩, by
    rw [← y.view_eq, view, view, List.take_take, Nat.min_eq_left hk]⟩

theorem alloc_yields (N : Nat) (m : Mem) (vs : Row) (k : Nat) : Yields N m (alloc m vs k) vs := by
  refine ⟨Frame.push N m _, ⟨?_, ?_⟩, ?_⟩
  · simp [alloc]
  · simp [alloc, capOf, arrOf_append_new]
  · simp [alloc, view, arrOf_append_new]

theorem appendS_yields {N : Nat} {m : Mem} {s : Slice} (hv : Valid m s) (hN : N ≤ s.len) (vs : Row) (k : Nat) :
    Yields N m (appendS m s vs k) (view m s ++ vs) := by
  rw [appendS]
  split
  · next hfit =>
    refine ⟨Frame.set (take_splice_le hfit hN) (length_splice hfit),
      ⟨Nat.lt_of_lt_of_eq hv.1 List.length_set.symm, ?_⟩, ?_⟩
    · rw [capOf, arrOf_set_eq hv.1, length_splice hfit]; exact hfit
    · rw [view, arrOf_set_eq hv.1]; exact take_splice hfit
  · exact alloc_yields N m _ k

/-- Go: `s[i] = v` on a valid slice. Not on the copying path (that is `setS_alloc`): the write `setFieldInPlace` makes. -/
theorem setS_spec (m : Mem) (s : Slice) (i : Nat) (v : Val) (hv : Valid m s) :
    (setS m s i v).length = m.length ∧ view (setS m s i v) s = (view m s).set i v ∧
    capOf (setS m s i v) s = capOf m s ∧ ∀ b, b ≠ s.arr → arrOf (setS m s i v) b = arrOf m b := by
  rw [setS]
  split
  · refine ⟨List.length_set, ?_, ?_, fun b hb => arrOf_set_ne (Ne.symm hb)⟩
    · rw [view, arrOf_set_eq hv.1, List.take_set]
      rfl
    · rw [capOf, arrOf_set_eq hv.1, List.length_set]
      rfl
  · next hge =>
    refine ⟨rfl, ?_, rfl, fun _ _ => rfl⟩
    rw [List.set_eq_of_length_le]
    rw [length_view hv]
    exact Nat.le_of_not_lt hge

/-- Copy, then assign into the copy: `SetField.Eval` allocates the updated row. -/
theorem setS_alloc (m : Mem) (vs : Row) (k i : Nat) (v : Val) :
    setS (alloc m vs k).1 (alloc m vs k).2 i v = (alloc m (vs.set i v) k).1 := by
  rw [setS]
  split
  · next h =>
    simp only [alloc] at h ⊢
    rw [arrOf_append_new, List.set_append_right _ _ (Nat.le_refl _), Nat.sub_self, List.set_cons_zero,
      List.set_append_left _ _ h]
  · next h =>
    simp only [alloc] at h ⊢
    rw [List.set_eq_of_length_le (Nat.le_of_not_lt h)]

theorem setField_eq (k n : Nat) (m : Mem) (acc : Slice) (a : Asg) :
    setField k n m acc a = alloc m ((view m acc).set (asgEval n (view m acc) a).1 (asgEval n (view m acc) a).2) k :=
  Prod.ext (setS_alloc ..) (congrArg (Slice.mk m.length) List.length_set.symm)

theorem Yields.assign {N : Nat} {m : Mem} {r : Mem × Slice} {v : Row} (y : Yields N m r v) (k n : Nat) (a : Asg) :
    Yields N m (setField k n r.1 r.2 a) (v.set (asgEval n v a).1 (asgEval n v a).2) := by
  rw [setField_eq, y.view_eq]
  exact y.trans (alloc_yields N r.1 _ k)

theorem length_accAfter (n : Nat) (asg : List Asg) (acc : Row) : (accAfter n acc asg).length = acc.length :=
  List.foldlRecOn asg _ (motive := fun acc' : Row => acc'.length = acc.length) rfl fun _ h _ _ => List.length_set.trans h

theorem Yields.applyUpdates {N : Nat} {m : Mem} {r : Mem × Slice} {v : Row} (y : Yields N m r v) (cfg : Cfg) (asg : List Asg) :
    Yields N m (applyUpdates setField cfg r.1 r.2 asg) (accAfter cfg.n v asg) :=
  List.foldl_rel (r := Yields N m) y fun a _ _ _ y' => y'.assign cfg.slack cfg.n a

/-- the memory-level result of a step simulates the value-level result. -/
inductive Sim (n : Nat) : Work × Bool → Option (List Row) → Prop
  | fail {w' : Work} : Sim n (w', true) none
  | ok {w' : Work} {t : List Row} : WF n w'.mem w'.cur → visibleOf w'.mem w'.cur = t → Sim n (w', false) (some t)

theorem stepRow_spec (cfg : Cfg) (asg : Option (List Asg)) (w : Work) (r : Row)
    (hw : WF cfg.n w.mem w.cur) (hr : r.length = cfg.n) :
    Frame cfg.n w.mem (stepRow setField cfg asg w r).1.mem ∧
    Sim cfg.n (stepRow setField cfg asg w r) (specRow cfg asg (visibleOf w.mem w.cur) r) := by
  by_cases hb : badNew cfg r = true
  · rw [stepRow, specRow, if_pos hb, if_pos hb]; exact ⟨Frame.refl _ _, .fail⟩
  rw [stepRow, specRow, if_neg hb, if_neg hb]
  cases hfi : (visibleOf w.mem w.cur).findIdx? (fun x => x.at 0 == r.at 0) with
  | none =>
    have y := alloc_yields cfg.n w.mem r cfg.slack
    exact ⟨y.frame, .ok ((wf_of_frame y.frame hw).append (y.len.trans hr) y.valid)
      (by rw [visibleOf_append, visibleOf_frame y.frame hw, y.view_eq])⟩
  | some i =>
    cases asg with
    | none => exact ⟨Frame.refl _ _, .fail⟩
    | some asg =>
      have hi : i < w.cur.length := by
        have := (List.findIdx?_eq_some_iff_getElem.mp hfi).1
        rwa [visibleOf, List.length_map] at this
      have hold := hw.getD hi
      dsimp only
      rw [getD_visibleOf]
      generalize w.cur.getD i default = old at hold ⊢
      have yu := (appendS_yields hold.2 (Nat.le_of_eq hold.1.symm) r cfg.slack).applyUpdates cfg asg
      have y := yu.cut (k := old.len) (by
        rw [yu.len, length_accAfter, List.length_append, length_view hold.2]; exact Nat.le_add_right _ _)
      generalize applyUpdates setField cfg _ _ asg = up at y ⊢
      rw [hold.1] at y ⊢
      rw [show view up.1 ⟨up.2.arr, cfg.n⟩ = specAsg cfg.n (view w.mem old) r asg from y.view_eq]
      split
      · exact ⟨y.frame, .fail⟩
      · exact ⟨y.frame, .ok ((wf_of_frame y.frame hw).set i rfl y.valid)
          (by rw [visibleOf_set, visibleOf_frame y.frame hw, y.view_eq]; rfl)⟩

theorem runRows_spec (cfg : Cfg) (asg : Option (List Asg)) (rs : List Row) (w : Work)
    (hw : WF cfg.n w.mem w.cur) (hr : ∀ r ∈ rs, r.length = cfg.n) :
    Frame cfg.n w.mem (runRows setField cfg asg w rs).1.mem ∧
    Sim cfg.n (runRows setField cfg asg w rs) (specRows cfg asg (visibleOf w.mem w.cur) rs) := by
  induction rs generalizing w with
  | nil => exact ⟨Frame.refl _ _, .ok hw rfl⟩
  | cons r rs ih =>
    have ⟨hf, h1⟩ := stepRow_spec cfg asg w r hw (hr r List.mem_cons_self)
    rw [runRows, specRows]
    generalize stepRow setField cfg asg w r = sr at hf h1 ⊢
    generalize specRow cfg asg (visibleOf w.mem w.cur) r = sp at h1 ⊢
    cases h1 with
    | fail => exact ⟨hf, .fail⟩
    | ok hw' hv =>
      have ⟨hf', h⟩ := ih _ hw' fun x hx => hr x (List.mem_cons_of_mem _ hx)
      exact ⟨hf.trans hf', hv ▸ h⟩

theorem runStmt_spec (cfg : Cfg) (st : St) (s : Stmt) (hw : WF cfg.n st.mem st.rows) (hr : ∀ r ∈ s.rows, r.length = cfg.n) :
    Frame cfg.n st.mem (runStmt cfg st s).1.mem ∧
    visible (runStmt cfg st s).1 = (specStmt cfg (visible st) s).1 ∧
    (runStmt cfg st s).2 = (specStmt cfg (visible st) s).2 ∧
    WF cfg.n (runStmt cfg st s).1.mem (runStmt cfg st s).1.rows := by
  have ⟨hf, h⟩ := runRows_spec cfg s.asg s.rows ⟨st.mem, st.rows⟩ hw hr
  simp only [runStmt, runStmtG, specStmt, visible]
  generalize runRows setField cfg s.asg ⟨st.mem, st.rows⟩ s.rows = rr at hf h ⊢
  generalize specRows cfg s.asg (visibleOf st.mem st.rows) s.rows = sp at h ⊢
  cases h with
  | fail => exact ⟨hf, visibleOf_frame hf hw, rfl, wf_of_frame hf hw⟩
  | ok hw' hv => exact ⟨hf, hv, rfl, hw'⟩

end Gms.RowAlias
