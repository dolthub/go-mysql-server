/-
The model's insertion sort (`insertSorted`, `sortBy`: an instance of `InsertSort.Inserts`, so it permutes), and
`SimplifyRangeColumn` keeps the members of its argument (used by `NotEquals` of the index builder).
-/
import Gms.Lemmas.RangeCol
import Gms.Lemmas.InsertSort

namespace Gms.Range

def anyMem (rs : List ColRange) (q : Option Int) : Bool := rs.any (fun r => r.mem q)

theorem anyMem_nil (q : Option Int) : anyMem [] q = false := rfl

theorem anyMem_cons (r : ColRange) (rs : List ColRange) (q : Option Int) : anyMem (r :: rs) q = (r.mem q || anyMem rs q) :=
  List.any_cons

theorem anyMem_append (rs ss : List ColRange) (q : Option Int) : anyMem (rs ++ ss) q = (anyMem rs q || anyMem ss q) :=
  List.any_append

theorem insertSorted_inserts {α : Type} (lt : α → α → Bool) : InsertSort.Inserts lt (insertSorted lt) :=
  ⟨fun _ => rfl, fun _ _ _ => rfl⟩

theorem sortBy_perm {α : Type} (lt : α → α → Bool) (l : List α) : (sortBy lt l).Perm l :=
  (insertSorted_inserts lt).foldl_perm l []

theorem simplifyStep_den (st : List ColRange × ColRange) (r : ColRange) (q : Option Int) :
    (anyMem (simplifyStep st r).1 q || (simplifyStep st r).2.mem q) = ((anyMem st.1 q || st.2.mem q) || r.mem q) := by
  unfold simplifyStep
  by_cases hu : (st.2.tryUnion r).2 = true
  · simp only [hu, if_true]
    rw [ColRange.tryUnion_true hu q, Bool.or_assoc]
  · simp only [hu, if_false, Bool.false_eq_true]
    -- `TryUnion` refuses non-empty ranges only, so the third branch of the step (union refused, `cur` empty) is never taken
    have hne := (ColRange.tryUnion_false (by simpa using hu)).1
    simp only [hne, Bool.not_false, if_true]
    simp [anyMem_append, anyMem_cons, anyMem_nil]

theorem simplify_fold_den (l : List ColRange) (st : List ColRange × ColRange) (q : Option Int) :
    (anyMem (l.foldl simplifyStep st).1 q || (l.foldl simplifyStep st).2.mem q) =
      ((anyMem st.1 q || st.2.mem q) || anyMem l q) := by
  induction l generalizing st with
  | nil => simp [anyMem_nil]
  | cons r rs ih =>
    simp only [List.foldl_cons]
    rw [ih, simplifyStep_den]
    simp [anyMem_cons, Bool.or_assoc]

theorem simplify_anyMem (rs : List ColRange) (q : Option Int) : anyMem (simplify rs) q = anyMem rs q := by
  have key := simplify_fold_den (sortBy ColRange.less rs) ([], ColRange.empty) q
  rw [show anyMem (sortBy ColRange.less rs) q = anyMem rs q from (sortBy_perm _ rs).any_eq,
    anyMem_nil, ColRange.mem_empty, Bool.or_false, Bool.false_or] at key
  fun_cases simplify rs with
  | case1 hnil => rw [List.isEmpty_iff.mp hnil]
  | case2 hcons sorted st hcur =>
    rw [← key, anyMem_append, anyMem_cons, anyMem_nil, Bool.or_false]
  | case3 hcons sorted st hcur =>
    rw [← key, ColRange.isEmpty_sound (by simpa using hcur) q, Bool.or_false]

end Gms.Range
