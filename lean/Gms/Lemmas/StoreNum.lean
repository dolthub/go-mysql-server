/-
Lemmas for C27 about the 64-bit converters on numeric values (Go integers and decimals): the result
is the value rounded half away from zero and clamped to the 64-bit range, flagged accordingly
(`convertToUint64`: on non-negative values).
-/
import Gms.Lemmas.StoreSpec
namespace Gms.Store
open Gms.Num Gms.Conv

/-- what each conversion path of the integer types hands back beside a nil error -/
def Clamped (lo hi c : Int) (s : Nat) (x : Int) (f : Flag) : Prop :=
  (f = .inRange ∧ x = roundHalfAway c s ∧ lo ≤ roundHalfAway c s ∧ roundHalfAway c s ≤ hi) ∨
  (f = .overflow ∧ x = hi ∧ hi * 10 ^ s < c) ∨
  (f = .underflow ∧ x = lo ∧ c < lo * 10 ^ s)

theorem Clamped.within {lo hi c : Int} {s : Nat} {x : Int} (hx : x = roundHalfAway c s) (h1 : lo ≤ x) (h2 : x ≤ hi) :
    Clamped lo hi c s x .inRange := by
  subst hx; exact .inl ⟨rfl, rfl, h1, h2⟩

theorem Clamped.over {lo hi c : Int} {s : Nat} (h : hi * 10 ^ s < c) : Clamped lo hi c s hi .overflow :=
  .inr (.inl ⟨rfl, rfl, h⟩)

theorem Clamped.under {lo hi c : Int} {s : Nat} (h : c < lo * 10 ^ s) : Clamped lo hi c s lo .underflow :=
  .inr (.inr ⟨rfl, rfl, h⟩)

theorem Clamped.mem {lo hi c : Int} {s : Nat} {x : Int} {f : Flag} (h : Clamped lo hi c s x f) (hlh : lo ≤ hi) :
    lo ≤ x ∧ x ≤ hi := by
  rcases h with ⟨_, rfl, h⟩ | ⟨_, rfl, _⟩ | ⟨_, rfl, _⟩
  · exact h
  · exact ⟨hlh, Int.le_refl _⟩
  · exact ⟨Int.le_refl _, hlh⟩

theorem Clamped.neg {lo hi c : Int} {s : Nat} {x : Int} {f : Flag} (h : Clamped lo hi c s x f) (hlo : lo ≤ 0)
    (hhi : 0 ≤ hi) (hx : x < 0) : c < 0 := by
  rcases h with ⟨_, rfl, _⟩ | ⟨_, rfl, _⟩ | ⟨_, rfl, h⟩
  · have := lt_of_rha_lt hx; omega
  · omega
  · have := mul_pow10_le hlo s; omega

theorem convertToInt64_clamped {v : Val} (hwf : v.WF) {c : Int} {s : Nat} (hx : numOf v = some (c, s)) :
    (convertToInt64 v).err = .none ∧ Clamped minI64 maxI64 c s (convertToInt64 v).val (convertToInt64 v).flag := by
  obtain ⟨rfl, rfl⟩ | ⟨rfl, rfl⟩ | rfl := numOf_cases hx
  · exact ⟨rfl, .within (rha_scale_zero c).symm hwf.1 hwf.2⟩
  · simp only [convertToInt64]
    by_cases h : c > maxI64
    · rw [if_pos h]
      exact ⟨rfl, .over (by omega)⟩
    · rw [if_neg h]
      exact ⟨rfl, .within (x := c) (rha_scale_zero c).symm (by have := hwf.1; simp only [minI64]; omega) (by omega)⟩
  · simp only [convertToInt64, decGt, decLt, decide_eq_true_eq]
    by_cases hg : c > maxI64 * 10 ^ s
    · rw [if_pos hg]
      exact ⟨rfl, .over hg⟩
    · rw [if_neg hg]
      by_cases hl : c < minI64 * 10 ^ s
      · rw [if_pos hl]
        exact ⟨rfl, .under hl⟩
      · rw [if_neg hl]
        exact ⟨rfl, .within rfl (rha_ge_of_ge _ _ _ (Int.not_lt.1 hl)) (rha_le_of_le _ _ _ (Int.not_lt.1 hg))⟩

/-- a negative value wraps (`finding_unsigned_underflow_wraps`) -/
theorem convertToUint64_clamped {v : Val} (hwf : v.WF) {c : Int} {s : Nat} (hx : numOf v = some (c, s))
    (hc : 0 ≤ c) :
    (convertToUint64 v).err = .none ∧ Clamped 0 maxU64 c s (convertToUint64 v).val (convertToUint64 v).flag := by
  obtain ⟨rfl, rfl⟩ | ⟨rfl, rfl⟩ | rfl := numOf_cases hx
  · rw [show convertToUint64 (.i c) = ⟨c, .inRange, .none⟩ from if_neg (Int.not_lt.2 hc)]
    exact ⟨rfl, .within (rha_scale_zero c).symm hc
      (by have := hwf.2; simp only [maxI64] at this; simp only [maxU64]; omega)⟩
  · exact ⟨rfl, .within (rha_scale_zero c).symm hwf.1 hwf.2⟩
  · simp only [convertToUint64, decGt, decide_eq_true_eq]
    by_cases hg : c > maxU64 * 10 ^ s
    · rw [if_pos hg]
      exact ⟨rfl, .over hg⟩
    · rw [if_neg hg, if_neg (Int.not_lt.2 hc)]
      exact ⟨rfl, .within rfl (rha_ge_of_ge c s 0 (by rw [Int.zero_mul]; exact hc))
        (rha_le_of_le _ _ _ (Int.not_lt.1 hg))⟩

/-- what `convertToInt64` does on a numeric value `c / 10^s` (Go integer or decimal) -/
theorem convertToInt64_num (v : Val) (hwf : v.WF) (c : Int) (s : Nat) (hx : numOf v = some (c, s)) :
    (convertToInt64 v).err = .none ∧
    (((convertToInt64 v).flag = .inRange ∧ (convertToInt64 v).val = roundHalfAway c s ∧ inI64 (roundHalfAway c s)) ∨
     ((convertToInt64 v).flag = .overflow ∧ (convertToInt64 v).val = maxI64 ∧ maxI64 ≤ roundHalfAway c s ∧
        maxI64 * 10 ^ s < c) ∨
     ((convertToInt64 v).flag = .underflow ∧ (convertToInt64 v).val = minI64 ∧ roundHalfAway c s ≤ minI64 ∧
        c < minI64 * 10 ^ s)) := by
  -- `Clamped`, with the position of the rounded value spelt out where the exact one lies beyond a bound
  obtain ⟨he, h | ⟨hf, hv, hc⟩ | ⟨hf, hv, hc⟩⟩ := convertToInt64_clamped hwf hx
  · exact ⟨he, .inl h⟩
  · exact ⟨he, .inr (.inl ⟨hf, hv, rha_ge_of_ge _ _ _ (Int.le_of_lt hc), hc⟩)⟩
  · exact ⟨he, .inr (.inr ⟨hf, hv, rha_le_of_le _ _ _ (Int.le_of_lt hc), hc⟩)⟩

/-- what `convertToUint64` does on a non-negative numeric value -/
theorem convertToUint64_num (v : Val) (hwf : v.WF) (c : Int) (s : Nat) (hx : numOf v = some (c, s))
    (hc : 0 ≤ c) :
    (convertToUint64 v).err = .none ∧
    (((convertToUint64 v).flag = .inRange ∧ (convertToUint64 v).val = roundHalfAway c s ∧
        0 ≤ roundHalfAway c s ∧ roundHalfAway c s ≤ maxU64) ∨
     ((convertToUint64 v).flag = .overflow ∧ (convertToUint64 v).val = maxU64 ∧ maxU64 ≤ roundHalfAway c s ∧
        maxU64 * 10 ^ s < c)) := by
  obtain ⟨he, h | ⟨hf, hv, hc'⟩ | ⟨hf, hv, hc'⟩⟩ := convertToUint64_clamped hwf hx hc
  · exact ⟨he, .inl h⟩
  · exact ⟨he, .inr ⟨hf, hv, rha_ge_of_ge _ _ _ (Int.le_of_lt hc'), hc'⟩⟩
  · rw [Int.zero_mul] at hc'; omega
end Gms.Store
