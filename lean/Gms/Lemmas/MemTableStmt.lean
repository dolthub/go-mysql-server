/-
Statements on keyed tables. The Spec's conflict of two rows is the collision `edInsert_err` reports
(`specConflict_iff`). Plain multi-row INSERT refines the Spec by a simulation (`InsSim`): with no pending
delete the unique check is exact (`exact_of_no_dels`), so Impl and Spec reject the same row. DELETE refines
it through `pkApply_foldl`.
-/
import Gms.Lemmas.MemTableEd
namespace Gms.MemTable

def NoPrefix (sch : Schema) : Prop := ∀ u ∈ sch.uniques, ∀ p ∈ u.2, p = 0

/-- `hd` and `hfresh` describe the editor in the middle of a plain multi-row INSERT. -/
theorem mem_pkApply_no_dels (sch : Schema) (hci : NoCi sch) (S : List Row) (e : Ed) (hwf : AccWF sch.pk S e)
    (hnd : NoDupPk sch.pk e.rows) (hd : e.dels = [])
    (hfresh : ∀ a ∈ e.adds, absT sch.pk e.rows (proj sch.pk a.2) = none) (x : Row) :
    x ∈ pkApply sch e ↔ x ∈ e.adds.map (·.2) ++ e.rows := by
  have hpd : NoDupPk sch.pk (e.adds.map (·.2)) := keyed_projs_nodup hwf.addsKey hwf.addsNd
  rw [mem_pkApply_iff sch hci e hnd, LMap_no_dels sch S e hwf hd, Option.or_eq_some_iff, List.mem_append,
    absT_some_iff hpd, absT_some_iff hnd, and_iff_left rfl, and_iff_left rfl]
  refine or_congr_right ⟨And.right, fun hx => ⟨?_, hx⟩⟩
  -- a pending add with the key values of the stored row `x` would contradict `hfresh`
  refine Option.eq_none_iff_forall_ne_some.mpr fun a ha => ?_
  obtain ⟨ham, hp⟩ := mem_of_absT ha
  obtain ⟨b, hb, rfl⟩ := List.mem_map.mp ham
  exact nomatch ((hp ▸ hfresh b hb).symm.trans (absT_of_mem hnd hx))

theorem exact_of_no_dels (sch : Schema) (hk : sch.keyless = false) (hci : NoCi sch) (S : List Row)
    (e : Ed) (hwf : AccWF sch.pk S e) (hnd : NoDupPk sch.pk e.rows) (hd : e.dels = [])
    (hfresh : ∀ a ∈ e.adds, absT sch.pk e.rows (proj sch.pk a.2) = none) (row : Row) :
    inexactNow sch e row = false := by
  have hmem := mem_pkApply_no_dels sch hci S e hwf hnd hd hfresh
  refine (inexactNow_eq_false_iff hk e row).mpr fun u _ _ => ?_
  rw [pkGetByCols_eq, hd, List.any_nil, if_neg Bool.false_ne_true]
  cases hf : (e.adds.map (·.2) ++ e.rows).find? (fun r => columnsMatch u.1 u.2 r row) with
  | some ex => exact (hmem ex).mpr (List.mem_of_find?_eq_some hf)
  | none => exact fun x hx => Bool.eq_false_iff.mpr (List.find?_eq_none.mp hf x ((hmem x).mp hx))

theorem ci_false_of_noCi (sch : Schema) (hci : NoCi sch) (c : Nat) : (sch.cols.getD c {}).ci = false :=
  Basics.forall_getD (P := fun col : Col => col.ci = false) hci rfl c

theorem hasNull_proj (r : Row) (cols : List Nat) : hasNullForAnyCols r cols = (proj cols r).any (· == .null) :=
  (List.any_map (f := fun c => r.at c) (l := cols) (p := (· == .null))).symm

theorem specColEq_iff (a b : Val) : specColEq false 0 a b = true ↔ a = b ∧ a ≠ .null := by
  cases a <;> cases b <;> simp [specColEq]

theorem specKeyEq_iff (sch : Schema) (hci : NoCi sch) (cols pls : List Nat) (hpl : ∀ p ∈ pls, p = 0) (r1 r2 : Row) :
    specKeyEq sch cols pls r1 r2 = true ↔ proj cols r1 = proj cols r2 ∧ hasNullForAnyCols r1 cols = false := by
  induction cols generalizing pls with
  | nil => exact ⟨fun _ => ⟨rfl, rfl⟩, fun _ => rfl⟩
  | cons c cs ih =>
    obtain ⟨h0, ht⟩ := headD_tail_zero hpl
    rw [specKeyEq, ci_false_of_noCi sch hci c, h0, Bool.and_eq_true, specColEq_iff, ih pls.tail ht]
    show _ ↔ r1.at c :: proj cs r1 = r2.at c :: proj cs r2 ∧ (r1.at c == .null || hasNullForAnyCols r1 cs) = false
    rw [List.cons_eq_cons, Bool.or_eq_false_iff, beq_eq_false_iff_ne]
    exact ⟨fun ⟨⟨a, b⟩, c, d⟩ => ⟨⟨a, c⟩, b, d⟩, fun ⟨⟨a, c⟩, b, d⟩ => ⟨⟨a, b⟩, c, d⟩⟩

theorem specConflict_keyed {sch : Schema} (hk : sch.keyless = false) (r1 r2 : Row) :
    specConflict sch r1 r2 = true
      ↔ specKeyEq sch sch.pk [] r1 r2 = true ∨ ∃ u ∈ sch.uniques, specKeyEq sch u.1 u.2 r1 r2 = true := by
  simp only [specConflict, Schema.keys, hk, Bool.false_eq_true, if_false, List.any_append, List.any_cons,
    List.any_nil, Bool.or_false, Bool.or_eq_true, List.any_eq_true]

/-- The Spec's conflict is the collision `edInsert_err` reports: the same key values, or agreement on a
unique index in which `row` has no NULL. -/
theorem specConflict_iff (sch : Schema) (hk : sch.keyless = false) (hci : NoCi sch) (hnp : NoPrefix sch) (row r : Row) :
    specConflict sch row r = true
      ↔ (proj sch.pk r = proj sch.pk row ∧ hasNullForAnyCols row sch.pk = false) ∨
        ∃ u ∈ sch.uniques, hasNullForAnyCols row u.1 = false ∧ columnsMatch u.1 u.2 r row = true := by
  rw [specConflict_keyed hk, specKeyEq_iff sch hci sch.pk [] (by simp)]
  refine or_congr (and_congr_left' eq_comm) (exists_congr fun u => and_congr_right fun hu => ?_)
  rw [specKeyEq_iff sch hci u.1 u.2 (hnp u hu), columnsMatch_zero_iff u.1 u.2 (hnp u hu), and_comm]
  exact and_congr_right' eq_comm

theorem specConflict_of_unmatched (sch : Schema) (hk : sch.keyless = false) (hci : NoCi sch) (hnp : NoPrefix sch) {row r : Row}
    (hne : proj sch.pk r ≠ proj sch.pk row)
    (hu : ∀ u ∈ sch.uniques, hasNullForAnyCols row u.1 = false → columnsMatch u.1 u.2 r row = false) :
    specConflict sch row r = false :=
  Bool.eq_false_iff.mpr fun hc => ((specConflict_iff sch hk hci hnp row r).mp hc).elim (fun h => hne h.1)
    fun ⟨u, hm, hn, hc⟩ => Bool.false_ne_true ((hu u hm hn).symm.trans hc)

theorem specConflict_false (sch : Schema) (hk : sch.keyless = false) (hci : NoCi sch) (hnp : NoPrefix sch) (L : List Row)
    (hok : ListOK sch L) (r1 r2 : Row) (h1 : r1 ∈ L) (h2 : r2 ∈ L)
    (hne : proj sch.pk r1 ≠ proj sch.pk r2) : specConflict sch r1 r2 = false :=
  specConflict_of_unmatched sch hk hci hnp (Ne.symm hne) (hok r2 h2 r1 h1 (Ne.symm hne))

theorem specNoDup_iff (sch : Schema) (t : List Row) :
    specNoDup sch t = true ↔ t.Pairwise (fun r x => specConflict sch r x = false) := by
  induction t with
  | nil => exact ⟨fun _ => .nil, fun _ => rfl⟩
  | cons r rs ih =>
    rw [specNoDup, Bool.and_eq_true, Bool.not_eq_true', List.any_eq_false, List.pairwise_cons, ih]
    simp only [Bool.not_eq_true]

/-- simulation relation between the editor state of a plain multi-row INSERT and the Spec table. `fresh`: no
pending add has the key values of a stored row (an accepted row had a free key), so without pending deletes
`ApplyEdits` yields the stored rows and the adds side by side (`mem_pkApply_no_dels`) and the unique check is exact. -/
structure InsSim (sch : Schema) (S : List Row) (e : Ed) (T : List Row) : Prop where
  wf : AccWF sch.pk S e
  nd : NoDupPk sch.pk e.rows
  nodels : e.dels = []
  fresh : ∀ a ∈ e.adds, absT sch.pk e.rows (proj sch.pk a.2) = none
  mem : ∀ r, r ∈ T ↔ r ∈ pkApply sch e
  tnd : NoDupPk sch.pk T

theorem insertRows_sim (sch : Schema) (hk : sch.keyless = false) (hci : NoCi sch) (hnp : NoPrefix sch)
    (S : List Row) (hinj : KeyInjOn sch.pk S) (rows : List Row) (hS : ∀ r ∈ rows, r ∈ S)
    (hnn : ∀ r ∈ rows, hasNullForAnyCols r sch.pk = false) (e : Ed) (T : List Row) (sim : InsSim sch S e T) :
    (∃ e' T', implInsertRows sch e rows = .ok e' ∧ specInsertAll sch T rows = some T' ∧ InsSim sch S e' T')
      ∨ (∃ x, implInsertRows sch e rows = .error x ∧ specInsertAll sch T rows = none) := by
  induction rows generalizing e T with
  | nil => exact Or.inl ⟨e, T, rfl, rfl, sim⟩
  | cons r rs ih =>
    have hr : r ∈ S := hS r List.mem_cons_self
    have hrn := hnn r List.mem_cons_self
    have hex := exact_of_no_dels sch hk hci S e sim.wf sim.nd sim.nodels sim.fresh r
    simp only [implInsertRows, specInsertAll]
    cases hc : edInsert sch e r with
    | error x =>
      -- the reported row is in `T` and conflicts with `r` in the Spec's sense
      right
      obtain ⟨m, c⟩ := edInsert_err sch hk hci S hinj e sim.wf sim.nd r hr hex x hc
      have hconf : specConflict sch r x.existing = true :=
        (specConflict_iff sch hk hci hnp r x.existing).mpr (c.imp_left fun h => ⟨h, hrn⟩)
      have : T.any (specConflict sch r) = true := List.any_eq_true.mpr ⟨x.existing, (sim.mem _).mpr m, hconf⟩
      exact ⟨x, rfl, if_pos this⟩
    | ok e1 =>
      -- free key and an exact unique check that found nothing: no row of `T` conflicts with `r`
      obtain ⟨rfl, free, hchk⟩ := edInsert_ok_eq sch hk S hinj e sim.wf r hr e1 hc
      have mem1 := pkApply_insert_mem_free sch hci S hinj e sim.wf sim.nd r hr free
      have hnoT : ∀ x ∈ T, proj sch.pk x ≠ proj sch.pk r := fun x hx =>
        proj_ne_of_free sch hci e sim.nd free x ((sim.mem x).mp hx)
      have hnc : T.any (specConflict sch r) = false :=
        List.any_eq_false.mpr fun x hx => ne_true_of_eq_false (specConflict_of_unmatched sch hk hci hnp (hnoT x hx)
          fun u hu hn => checkUnique_none_exact hk e r hchk hex u hu hn x ((sim.mem x).mp hx))
      simp only [hnc, Bool.false_eq_true, if_false]
      refine ih (fun r h => hS r (List.mem_cons_of_mem _ h)) (fun r h => hnn r (List.mem_cons_of_mem _ h)) _ (T ++ [r])
        ⟨AccWF_mark _ (sim.wf.pkInsert hr), sim.nd, sim.nodels, fun a ha => ?_, fun x => ?_, ?_⟩
      · show absT sch.pk e.rows (proj sch.pk a.2) = none
        rcases alSet_mem ha with rfl | ha
        · exact (Option.or_eq_none_iff.mp ((LMap_no_dels sch S e sim.wf sim.nodels _).symm.trans free)).2
        · exact sim.fresh a ha
      · rw [List.mem_append, List.mem_singleton, sim.mem x]
        exact Or.comm.trans (mem1 x).symm
      · exact Basics.nodup_map_concat sim.tnd hnoT

/-- **Plain multi-row INSERT refines the keyed map** (statement level): outcome and table contents
of the Impl model equal the Spec's, for every keyed table with distinct key values and every list
of rows with distinguishable printed keys and no NULL in a key column — no case-insensitive column, no prefix index. Nothing is
assumed about how the stored rows stand to each other on the unique indexes (`ListOK`): each new row is
checked against all of them. -/
theorem insert_stmt_refines (sch : Schema) (hk : sch.keyless = false) (hci : NoCi sch) (hnp : NoPrefix sch)
    (t rows : List Row) (ht : NoDupPk sch.pk t) (hinj : KeyInjOn sch.pk rows)
    (hnn : ∀ r ∈ rows, hasNullForAnyCols r sch.pk = false) :
    (implStmt sch t (.insert false rows)).1 = (specStmt sch t (.insert false rows)).1
      ∧ ((implStmt sch t (.insert false rows)).2).Perm ((specStmt sch t (.insert false rows)).2) := by
  have sim0 : InsSim sch rows (stmtBegin (mkEd t)) t :=
    ⟨accWF_nil rfl rfl, ht, rfl, fun _ h => (nomatch h),
      fun r => by rw [pkApply_begin, mem_sortRows], ht⟩
  simp only [implStmt, implStmtE, specStmt]
  rcases insertRows_sim sch hk hci hnp rows hinj rows (fun r h => h) hnn _ t sim0 with
    ⟨e', T', h1, h2, sim⟩ | ⟨x, h1, h2⟩
  · rw [h1, h2]
    refine ⟨rfl, ?_⟩
    simp only [stmtComplete_rows hk]
    exact (noDupPk_pkApply sch hci e' sim.nd).perm_of_mem_iff sim.tnd fun a => (sim.mem a).symm
  · rw [h1, h2]
    exact ⟨rfl, List.Perm.refl _⟩

theorem source_sub (sch : Schema) (t : List Row) (wh : List Cond) (ord : List (Nat × Bool)) (lim : Option Nat) :
    ∀ r ∈ source sch t wh ord lim, r ∈ t := by
  intro r hr
  unfold source at hr
  simp only at hr
  have hsorted : ∀ x ∈ (if ord.isEmpty then t.filter (fun r => wh.all (evalCond sch r))
      else sortRowsBy (ordLt sch ord) (t.filter (fun r => wh.all (evalCond sch r)))), x ∈ t := by
    intro x hx
    split at hx
    · exact (List.mem_filter.mp hx).1
    · exact (List.mem_filter.mp ((sortRowsBy_perm _ _).mem_iff.mp hx)).1
  cases lim with
  | none => exact hsorted r hr
  | some n => exact hsorted r (List.mem_of_mem_take hr)

/-- **DELETE refines the keyed map** (statement level, including the analyzer's TRUNCATE rewrite):
the Impl model removes exactly the selected rows and reports their number, for every keyed table
with distinct key values whose printed keys are distinguishable and no case-insensitive column. -/
theorem delete_stmt_refines (sch : Schema) (hk : sch.keyless = false) (hci : NoCi sch)
    (t : List Row) (ht : NoDupPk sch.pk t) (hinj : KeyInjOn sch.pk t)
    (wh : List Cond) (ord : List (Nat × Bool)) (lim : Option Nat) :
    (implStmt sch t (.delete wh ord lim)).1 = (specStmt sch t (.delete wh ord lim)).1
      ∧ ((implStmt sch t (.delete wh ord lim)).2).Perm ((specStmt sch t (.delete wh ord lim)).2) := by
  have hrm : (removeRow : List Row → Row → List Row) = List.erase := rfl
  simp only [implStmt, implStmtE, specStmt, hrm]
  split
  · next htr =>
    simp only [Bool.and_eq_true, List.isEmpty_iff, Option.isNone_iff_eq_none] at htr
    obtain ⟨⟨rfl, rfl⟩, rfl⟩ := htr
    have hsrc : source sch t [] [] none = t := by simp [source]
    rw [hsrc, foldl_erase_self]
    exact ⟨rfl, List.Perm.refl _⟩
  · -- both tables denote `absT sch.pk t` with the keys of the selected rows deleted
    refine ⟨rfl, ?_⟩
    have hsub := source_sub sch t wh ord lim
    obtain ⟨i1, i2⟩ := pkApply_foldl sch hci t hinj ((source sch t wh ord lim).map .del)
      (List.forall_mem_map.mpr hsub)
      (stmtBegin (mkEd t)) (accWF_nil rfl rfl) ht
    obtain ⟨s1, s2⟩ := absT_foldl_erase ht _ hsub
    simp only [List.foldl_map, accStepPk, specStepK, LMap_of_no_edits sch (e := stmtBegin (mkEd t)) rfl rfl] at i1 i2
    rw [stmtComplete_rows hk, implDelete, edDelete_keyed hk]
    exact perm_of_absT_eq i2 (ht.sublist s1) (i1.trans s2.symm)

end Gms.MemTable
