/-
Lemmas about the access-control model (Gms/Model/Priv.lean): Go maps as association lists; what every `PrivSet`
operation does to the abstraction `PrivSet.holds`; the view of a set as a function of the grants held; refinement
of the Spec by every operation (the two database-level REVOKE forms under the guard `¬ holdsBelow`); `GetUser` as a cascade of
`find?`; `putEdge` by membership.
-/
import Gms.Model.Priv

namespace Gms.Priv

section Map
variable {κ α : Type} [DecidableEq κ]

theorem mget_merase (m : List (κ × α)) (k k' : κ) :
    mget (merase m k) k' = if k' = k then none else mget m k' := by
  induction m with
  | nil => simp [merase, mget]
  | cons e r ih =>
    obtain ⟨a, v⟩ := e
    unfold merase at ih ⊢
    by_cases h : a = k
    · subst h
      rw [List.filter_cons_of_neg (by simp), ih]
      split
      · rfl
      · next h' => rw [mget, if_neg (fun e => h' e.symm)]
    · rw [List.filter_cons_of_pos (by simpa using h)]
      simp only [mget]
      split
      · next e => subst e; rw [if_neg h]
      · exact ih

theorem merase_of_not_mem (m : List (κ × α)) (k : κ) (h : ∀ e ∈ m, e.1 ≠ k) : merase m k = m :=
  List.filter_eq_self.2 fun e he => by simpa using h e he

theorem mget_mset (m : List (κ × α)) (k : κ) (v : α) (k' : κ) :
    mget (mset m k v) k' = if k' = k then some v else mget m k' := by
  unfold mset
  by_cases h : k' = k
  · subst h; simp [mget]
  · have h' : ¬ k = k' := fun e => h e.symm
    simp [mget, h, h', mget_merase]

theorem mget_of_mem_fst (m : List (κ × α)) (e : κ × α) (h : e ∈ m) : ∃ v, mget m e.1 = some v := by
  obtain ⟨k, w⟩ := e
  fun_induction mget m k with
  | case1 => cases h
  | case2 v r k => exact ⟨v, rfl⟩
  | case3 a v r k h_miss ih =>
    rcases List.mem_cons.mp h with h_head | h_rest
    · exact absurd (Prod.mk.inj h_head).1.symm h_miss
    · exact ih h_rest

theorem mem_of_mget (m : List (κ × α)) (k : κ) (v : α) (h : mget m k = some v) : (k, v) ∈ m := by
  fun_induction mget m k with
  | case1 => cases h
  | case2 w r k => cases h; exact List.mem_cons_self
  | case3 a w r k h_miss ih => exact List.mem_cons_of_mem _ (ih h)

theorem manyVal_iff (m : List (κ × α)) (P : α → Bool) :
    manyVal m P = true ↔ ∃ k v, mget m k = some v ∧ P v = true := by
  unfold manyVal
  rw [List.any_eq_true]
  constructor
  · rintro ⟨e, _, he⟩
    cases hg : mget m e.1 with
    | none => simp [hg] at he
    | some v => exact ⟨e.1, v, hg, by simpa [hg] using he⟩
  · rintro ⟨k, v, hg, hp⟩
    exact ⟨(k, v), mem_of_mget m k v hg, by simp [hg, hp]⟩

/-- Folding over the map denoted by `o`: an invariant-style induction principle. -/
theorem mfold_induct {β : Type} (o : List (κ × α)) (f : β → κ → α → β) (init : β) (Q : β → Prop)
    (h0 : Q init) (hstep : ∀ b k v, Q b → mget o k = some v → Q (f b k v)) : Q (mfold o f init) :=
  List.foldlRecOn o _ h0 fun b hb e _ => by
    cases hg : mget o e.1 with
    | none => exact hb
    | some v => exact hstep b e.1 v hb hg

theorem any_fst_eq_isSome_mget (o : List (κ × α)) (k : κ) : o.any (fun e => decide (e.1 = k)) = (mget o k).isSome := by
  fun_induction mget o k with
  | case1 => rfl
  | case2 v r k => simp only [List.any_cons, decide_true, Bool.true_or, Option.isSome_some]
  | case3 a v r k h_miss ih => simp only [List.any_cons, decide_eq_false h_miss, Bool.false_or, ih]

/-- A union-style fold (`acc[k] = F acc[k] v` for every `k ↦ v` of `o`) seen through an observation that `F`
makes additive: at `k` the result shows what `init` showed there or what `o` holds there. -/
theorem mfold_mset_obs (o : List (κ × α)) (F : Option α → α → α) (obs : Option α → Bool)
    (h0 : obs none = false) (hF : ∀ x v, obs (some (F x v)) = (obs x || obs (some v))) (init : List (κ × α)) (k : κ) :
    obs (mget (mfold o (fun acc k v => mset acc k (F (mget acc k) v)) init) k) = (obs (mget init k) || obs (mget o k)) := by
  unfold mfold
  -- after the entries `l`, what `o` holds at `k` has been added iff `k` is a key of `l`
  suffices h : ∀ (l : List (κ × α)) (acc : List (κ × α)),
      obs (mget (l.foldl (fun acc e => match mget o e.1 with
          | some v => mset acc e.1 (F (mget acc e.1) v) | none => acc) acc) k)
        = (obs (mget acc k) || (l.any (fun e => decide (e.1 = k)) && obs (mget o k))) by
    refine (h o init).trans ?_
    rw [any_fst_eq_isSome_mget]
    cases mget o k <;> simp [h0]
  intro l
  induction l with
  | nil => simp
  | cons e r ih =>
    intro acc
    simp only [List.foldl_cons, List.any_cons]
    rw [ih]
    by_cases hk : e.1 = k
    · subst hk
      cases hm : mget o e.1 with
      | none => simp [h0]
      | some v =>
        simp only [mget_mset, if_true, hF, decide_true, Bool.true_or, Bool.true_and]
        cases obs (mget acc e.1) <;> cases obs (some v) <;> simp
    · have hk' : ¬ k = e.1 := fun h => hk h.symm
      cases hm : mget o e.1 with
      | none => simp [hk]
      | some v => simp [mget_mset, hk, hk']

end Map

theorem mem_pins (l : List Priv) (p q : Priv) : q ∈ pins l p ↔ q ∈ l ∨ q = p := by
  unfold pins
  split
  · next h => exact ⟨Or.inl, fun h' => h'.elim id (fun e => e ▸ h)⟩
  · simp

theorem mem_pinsAll (l ps : List Priv) (q : Priv) : q ∈ pinsAll l ps ↔ q ∈ l ∨ q ∈ ps := by
  unfold pinsAll
  induction ps generalizing l with
  | nil => simp
  | cons p r ih => simp only [List.foldl_cons, List.mem_cons, ih, mem_pins, or_assoc]

theorem mem_prem (l : List Priv) (p q : Priv) : q ∈ prem l p ↔ q ∈ l ∧ q ≠ p := by
  simp [prem]

theorem mem_premAll (l ps : List Priv) (q : Priv) : q ∈ premAll l ps ↔ q ∈ l ∧ q ∉ ps := by
  unfold premAll
  induction ps generalizing l with
  | nil => simp
  | cons p r ih => simp only [List.foldl_cons, List.mem_cons, not_or, ih, mem_prem, ne_eq, and_assoc]

theorem isEmpty_iff_forall_not_mem (l : List Priv) : l.isEmpty = true ↔ ∀ p, p ∉ l :=
  List.isEmpty_iff.trans List.eq_nil_iff_forall_not_mem

theorem nonempty_iff_exists (l : List Priv) : (!l.isEmpty) = true ↔ ∃ p, p ∈ l := by
  rw [Bool.not_eq_true', List.isEmpty_eq_false_iff_exists_mem]


namespace PrivSet

theorem glob_mem_map (p : Priv) (l : List Priv) : Grant.glob p ∈ l.map Grant.glob ↔ p ∈ l := by
  simp

theorem holds_addGlobal (ps : PrivSet) (privs : List Priv) (g : Grant) :
    (ps.addGlobal privs).holds g = (ps.holds g || decide (g ∈ privs.map Grant.glob)) := by
  cases g <;> simp [holds, addGlobal, mem_pinsAll]

theorem holds_remGlobal (ps : PrivSet) (privs : List Priv) (g : Grant) :
    (ps.remGlobal privs).holds g = (ps.holds g && !decide (g ∈ privs.map Grant.glob)) := by
  cases g <;> simp [holds, remGlobal, mem_premAll]

theorem holds_clearGlobal (ps : PrivSet) (g : Grant) :
    ps.clearGlobal.holds g = (ps.holds g && !g.isGlobalLevel) := by
  cases g <;> simp [holds, clearGlobal, Grant.isGlobalLevel, mget]

theorem mget_foldl_mset (names : List String) (wgo : Bool) (m : List (String × Bool)) (k : String) :
    (mget (names.foldl (fun m n => mset m (lower n) wgo) m) k).isSome =
      ((mget m k).isSome || decide (k ∈ names.map lower)) := by
  induction names generalizing m with
  | nil => simp
  | cons n r ih =>
    simp only [List.foldl_cons, List.map_cons, List.mem_cons]
    rw [ih, mget_mset]
    by_cases h : k = lower n <;> simp [h]

theorem holds_addDynamic (ps : PrivSet) (wgo : Bool) (names : List String) (g : Grant) :
    (ps.addDynamic wgo names).holds g = (ps.holds g || decide (g ∈ names.map (fun n => Grant.dyn (lower n)))) := by
  cases g with
  | dyn n =>
    have := mget_foldl_mset names wgo ps.dynamic n
    simp only [holds, addDynamic, this]
    congr 1
    simp
  | _ => rw [decide_eq_false (by simp), Bool.or_false]; rfl

theorem mget_foldl_merase (names : List String) (m : List (String × Bool)) (k : String) :
    (mget (names.foldl merase m) k).isSome = ((mget m k).isSome && !decide (k ∈ names)) := by
  induction names generalizing m with
  | nil => simp
  | cons n r ih =>
    simp only [List.foldl_cons, List.mem_cons]
    rw [ih, mget_merase]
    by_cases h : k = n <;> simp [h]

theorem holds_remDynamic (ps : PrivSet) (names : List String) (g : Grant) :
    (ps.remDynamic names).holds g = (ps.holds g && !decide (g ∈ names.map Grant.dyn)) := by
  cases g with
  | dyn n =>
    have := mget_foldl_merase names ps.dynamic n
    simp only [holds, remDynamic, this]
    congr 1
    simp
  | _ => rw [decide_eq_false (by simp), Bool.not_false, Bool.and_true]; rfl

end PrivSet

/-- Every operation below the global level rewrites one privilege list of one database entry: the database's
own, a table's or a routine's. A `Slot` names that place; `DbSet.cell` reads it, `Grant.slot` says which place a
grant asks about. -/
inductive Slot where
  | db
  | tbl (t : String)
  | rtn (r : String) (b : Bool)
  deriving DecidableEq

def Slot.grant (k : String) : Slot → Priv → Grant
  | .db, p => .db k p
  | .tbl t, p => .tbl k t p
  | .rtn r b, p => .rtn k r b p

def Grant.slot : Grant → Option (String × Slot × Priv)
  | .db k p => some (k, .db, p)
  | .tbl k t p => some (k, .tbl t, p)
  | .rtn k r b p => some (k, .rtn r b, p)
  | _ => none

def DbSet.cell (s : DbSet) : Slot → Option (List Priv)
  | .db => some s.privs
  | .tbl t => mget s.tables t
  | .rtn r b => mget s.routines (r, b)

/-- The entry with the list in one slot replaced: what `AddDatabase`, `AddTable`, `AddRoutine` and their
`Remove…` counterparts store back. -/
def DbSet.setCell (s : DbSet) : Slot → List Priv → DbSet
  | .db, l => { s with privs := l }
  | .tbl t, l => { s with tables := mset s.tables t l }
  | .rtn r b, l => { s with routines := mset s.routines (r, b) l }

theorem cell_setCell (s : DbSet) (sl sl' : Slot) (l : List Priv) :
    (s.setCell sl l).cell sl' = if sl' = sl then some l else s.cell sl' := by
  cases sl <;> cases sl' <;> simp [DbSet.setCell, DbSet.cell, mget_mset]

theorem slot_eq_some {g : Grant} {k : String} {sl : Slot} {p : Priv} (h : g.slot = some (k, sl, p)) :
    g = sl.grant k p := by
  cases g <;> simp only [Grant.slot, Option.some.injEq, Prod.mk.injEq, reduceCtorEq] at h <;>
    obtain ⟨rfl, rfl, rfl⟩ := h <;> rfl

theorem slot_grant (k : String) (sl : Slot) (p : Priv) : (sl.grant k p).slot = some (k, sl, p) := by
  cases sl <;> rfl

@[elab_as_elim]
theorem Grant.slotRec {motive : Grant → Prop} (none : ∀ g, g.slot = none → motive g)
    (grant : ∀ k sl p, motive (Slot.grant k sl p)) (g : Grant) : motive g := by
  cases hg : g.slot with
  | none => exact none g hg
  | some x => exact slot_eq_some hg ▸ grant x.1 x.2.1 x.2.2

theorem atDb_grant (k k' : String) (sl : Slot) (p : Priv) : (sl.grant k p).atDb k' = decide (k = k') := by
  cases sl <;> rfl

theorem atDb_of_slot_none {g : Grant} (h : g.slot = none) (k : String) : g.atDb k = false := by
  cases g <;> first | rfl | cases h

theorem atDb_iff (g : Grant) (k : String) : g.atDb k = true ↔ ∃ sl p, g = Slot.grant k sl p := by
  constructor
  · induction g using Grant.slotRec with
    | none g hg => intro h; rw [atDb_of_slot_none hg] at h; cases h
    | grant k' sl p =>
      intro h
      rw [atDb_grant, decide_eq_true_eq] at h
      exact ⟨sl, p, h ▸ rfl⟩
  · rintro ⟨sl, p, rfl⟩
    rw [atDb_grant]; exact decide_eq_true rfl

def Grant.hits (k : String) (sl : Slot) (q : Priv → Bool) (g : Grant) : Bool :=
  match g.slot with
  | some (k', sl', p) => decide (k' = k) && (decide (sl' = sl) && q p)
  | none => false

theorem hits_mem (k : String) (sl : Slot) (privs : List Priv) (g : Grant) :
    g.hits k sl (fun p => decide (p ∈ privs)) = decide (g ∈ privs.map (sl.grant k)) := by
  apply Bool.eq_iff_iff.2
  simp only [Grant.hits, decide_eq_true_eq, List.mem_map]
  constructor
  · intro h
    split at h
    · next k' sl' p hs =>
      simp only [Bool.and_eq_true, decide_eq_true_eq] at h
      obtain ⟨rfl, rfl, hp⟩ := h
      exact ⟨p, hp, (slot_eq_some hs).symm⟩
    · cases h
  · rintro ⟨p, hp, rfl⟩
    simp [slot_grant, hp]

theorem hits_isTbl (k t : String) (g : Grant) : g.hits k (.tbl t) (fun _ => true) = g.isTbl k t := by
  cases g <;> simp [Grant.hits, Grant.slot, Grant.isTbl]

def memOpt (o : Option (List Priv)) (p : Priv) : Bool := match o with | some l => decide (p ∈ l) | none => false

theorem memOpt_iff {o : Option (List Priv)} {p : Priv} : memOpt o p = true ↔ ∃ l, o = some l ∧ p ∈ l := by
  cases o <;> simp [memOpt]

namespace PrivSet

theorem holds_atDb (ps : PrivSet) (k : String) (sl : Slot) (p : Priv) :
    ps.holds (sl.grant k p) = match mget ps.dbs k with | some s => memOpt (s.cell sl) p | none => false := by
  cases sl <;> simp only [Slot.grant, holds, DbSet.cell] <;> cases mget ps.dbs k <;> rfl

theorem holds_of_slot_none {g : Grant} (h : g.slot = none) (ps : PrivSet) (dbs' : List (String × DbSet)) :
    ({ ps with dbs := dbs' } : PrivSet).holds g = ps.holds g := by
  cases g <;> first | rfl | cases h

theorem memOpt_cell_empty (sl : Slot) (p : Priv) : memOpt (({} : DbSet).cell sl) p = false := by
  cases sl <;> rfl

theorem holds_dbOrNew (ps : PrivSet) (d : String) (sl : Slot) (p : Priv) :
    ps.holds (sl.grant (lower d) p) = memOpt ((ps.dbOrNew d).cell sl) p := by
  rw [holds_atDb, dbOrNew]
  cases mget ps.dbs (lower d) with
  | none => rw [Option.getD_none, memOpt_cell_empty]
  | some s => rfl

theorem holds_setDb (ps : PrivSet) (d : String) (s : DbSet) (k : String) (sl : Slot) (p : Priv) :
    (ps.setDb d s).holds (sl.grant k p) = if k = lower d then memOpt (s.cell sl) p else ps.holds (sl.grant k p) := by
  rw [holds_atDb, holds_atDb, setDb, mget_mset]
  by_cases hk : k = lower d
  · rw [if_pos hk, if_pos hk]
  · rw [if_neg hk, if_neg hk]

theorem holds_setDb_congr (ps : PrivSet) (d : String) {s s' : DbSet}
    (h : ∀ sl p, memOpt (s.cell sl) p = memOpt (s'.cell sl) p) (g : Grant) :
    (ps.setDb d s).holds g = (ps.setDb d s').holds g := by
  induction g using Grant.slotRec with
  | none g hg => exact (holds_of_slot_none hg ps _).trans (holds_of_slot_none hg ps _).symm
  | grant k sl p => rw [holds_setDb, holds_setDb, h]

/-- Storing back the entry of `d` with the list in slot `sl` replaced by `l`. `c` is how membership in that list
changes (`||` for GRANT, `· && !·` for REVOKE) and leaves alone what is not hit (`hc`); the whole set then changes
by `c` on exactly the grants at slot `sl` of `d` whose privilege satisfies `q` (`hit`, in the words of the caller). -/
theorem holds_setCell (ps : PrivSet) (d : String) (sl : Slot) {l : List Priv} {q : Priv → Bool} (c : Bool → Bool → Bool)
    (hc : ∀ x, c x false = x) (hl : ∀ p, memOpt (some l) p = c (memOpt ((ps.dbOrNew d).cell sl) p) (q p)) (g : Grant)
    {hit : Bool} (hhit : g.hits (lower d) sl q = hit) :
    (ps.setDb d ((ps.dbOrNew d).setCell sl l)).holds g = c (ps.holds g) hit := by
  subst hhit
  induction g using Grant.slotRec with
  | none g hg => simp only [Grant.hits, hg, hc]; exact holds_of_slot_none hg ps _
  | grant k sl' p =>
    simp only [Grant.hits, slot_grant, holds_setDb]
    by_cases hk : k = lower d
    · subst hk
      rw [if_pos rfl, holds_dbOrNew, cell_setCell]
      by_cases h : sl' = sl
      · subst h; simp only [if_true, hl, decide_true, Bool.true_and]
      · simp only [h, if_false, decide_false, Bool.false_and, Bool.and_false, hc]
    · simp only [hk, if_false, decide_false, Bool.false_and, hc]

theorem memOpt_pinsAll (o : Option (List Priv)) (privs : List Priv) (p : Priv) :
    memOpt (some (pinsAll (o.getD []) privs)) p = (memOpt o p || decide (p ∈ privs)) := by
  cases o <;> simp [memOpt, mem_pinsAll]

theorem memOpt_premAll (o : Option (List Priv)) (privs : List Priv) (p : Priv) :
    memOpt (some (premAll (o.getD []) privs)) p = (memOpt o p && !decide (p ∈ privs)) := by
  cases o <;> simp [memOpt, mem_premAll]

theorem holds_setCell_add (ps : PrivSet) (d : String) (sl : Slot) (privs : List Priv) (g : Grant) :
    (ps.setDb d ((ps.dbOrNew d).setCell sl (pinsAll (((ps.dbOrNew d).cell sl).getD []) privs))).holds g =
      (ps.holds g || decide (g ∈ privs.map (sl.grant (lower d)))) :=
  holds_setCell ps d sl (· || ·) Bool.or_false (memOpt_pinsAll _ privs) g (hits_mem (lower d) sl privs g)

theorem holds_setCell_rem (ps : PrivSet) (d : String) (sl : Slot) (privs : List Priv) (g : Grant) :
    (ps.setDb d ((ps.dbOrNew d).setCell sl (premAll (((ps.dbOrNew d).cell sl).getD []) privs))).holds g =
      (ps.holds g && !decide (g ∈ privs.map (sl.grant (lower d)))) :=
  holds_setCell ps d sl (fun x y => x && !y) Bool.and_true (memOpt_premAll _ privs) g (hits_mem (lower d) sl privs g)

theorem holds_addDb (ps : PrivSet) (d : String) (privs : List Priv) (g : Grant) :
    (ps.addDb d privs).holds g = (ps.holds g || decide (g ∈ privs.map (Grant.db (lower d)))) :=
  holds_setCell_add ps d .db privs g

theorem holds_addTbl (ps : PrivSet) (d t : String) (privs : List Priv) (g : Grant) :
    (ps.addTbl d t privs).holds g = (ps.holds g || decide (g ∈ privs.map (Grant.tbl (lower d) (lower t)))) :=
  holds_setCell_add ps d (.tbl (lower t)) privs g

theorem holds_addRtn (ps : PrivSet) (d r : String) (b : Bool) (privs : List Priv) (g : Grant) :
    (ps.addRtn d r b privs).holds g = (ps.holds g || decide (g ∈ privs.map (Grant.rtn (lower d) (lower r) b))) :=
  holds_setCell_add ps d (.rtn (lower r) b) privs g

theorem holds_clearDb (ps : PrivSet) (d : String) (g : Grant) :
    (ps.clearDb d).holds g = (ps.holds g && !g.atDb (lower d)) := by
  unfold clearDb
  induction g using Grant.slotRec with
  | none g hg => rw [holds_of_slot_none hg, atDb_of_slot_none hg, Bool.not_false, Bool.and_true]
  | grant k sl p =>
    simp only [holds_atDb, mget_merase, atDb_grant]
    by_cases hk : k = lower d <;> simp [hk]

theorem holds_and_not_mem_of_not_held (ps : PrivSet) {ctor : Priv → Grant} (privs : List Priv)
    (hL : ∀ p ∈ privs, ps.holds (ctor p) = false) (g : Grant) :
    ps.holds g = (ps.holds g && !decide (g ∈ privs.map ctor)) := by
  by_cases hg : g ∈ privs.map ctor
  · obtain ⟨p, hp, rfl⟩ := List.mem_map.1 hg
    simp [hL p hp]
  · simp [hg]

/-- `RemoveDatabase` deleted the whole entry of database `d`. -/
def dbEmptied (ps : PrivSet) (d : String) (privs : List Priv) : Bool :=
  match mget ps.dbs (lower d) with
  | some s => (premAll s.privs privs).isEmpty
  | none => false

theorem holds_remDb (ps : PrivSet) (d : String) (privs : List Priv) (g : Grant) :
    (ps.remDb d privs).holds g =
      if ps.dbEmptied d privs then (ps.holds g && !g.atDb (lower d))
      else (ps.holds g && !decide (g ∈ privs.map (Grant.db (lower d)))) := by
  unfold dbEmptied
  fun_cases remDb ps d privs with
  | case1 h_absent =>
    rw [h_absent]
    exact holds_and_not_mem_of_not_held ps privs (fun p _ => by simp [holds, h_absent]) g
  | case2 s h_entry pr h_empty =>
    rw [h_entry, if_pos h_empty]
    exact holds_clearDb ps d g
  | case3 s h_entry pr h_left =>
    rw [h_entry, if_neg h_left]
    have h := holds_setCell_rem ps d .db privs g
    rwa [dbOrNew, h_entry] at h

theorem holds_remTbl (ps : PrivSet) (d t : String) (privs : List Priv) (g : Grant) :
    (ps.remTbl d t privs).holds g = (ps.holds g && !decide (g ∈ privs.map (Grant.tbl (lower d) (lower t)))) := by
  fun_cases remTbl ps d t privs with
  | case1 h_absent => exact holds_and_not_mem_of_not_held ps privs (fun p _ => by simp [holds, h_absent]) g
  | case2 s h_entry h_noTable =>
    exact holds_and_not_mem_of_not_held ps privs (fun p _ => by simp [holds, h_entry, h_noTable]) g
  | case3 s h_entry tp h_table =>
    have h := holds_setCell_rem ps d (.tbl (lower t)) privs g
    rwa [dbOrNew, h_entry, Option.getD_some, DbSet.cell, h_table] at h

theorem holds_clearTbl (ps : PrivSet) (d t : String) (g : Grant) :
    (ps.clearTbl d t).holds g = (ps.holds g && !g.isTbl (lower d) (lower t)) :=
  holds_setCell ps d (.tbl (lower t)) (fun x y => x && !y) Bool.and_true (fun p => by simp [memOpt]) g
    (hits_isTbl (lower d) (lower t) g)

theorem memOpt_mget_merase {κ : Type} [DecidableEq κ] (m : List (κ × List Priv)) (k0 : κ)
    (h : ∀ p, memOpt (mget m k0) p = false) (k : κ) (p : Priv) :
    memOpt (mget (merase m k0) k) p = memOpt (mget m k) p := by
  rw [mget_merase]
  split
  · next hk => rw [hk, h]; rfl
  · rfl

theorem holds_remRtn (ps : PrivSet) (d r : String) (b : Bool) (privs : List Priv) (g : Grant) :
    (ps.remRtn d r b privs).holds g = (ps.holds g && !decide (g ∈ privs.map (Grant.rtn (lower d) (lower r) b))) := by
  refine (holds_setDb_congr ps d (fun sl' p => ?_) g).trans (holds_setCell_rem ps d (.rtn (lower r) b) privs g)
  cases sl' with
  | rtn r' b' =>
    simp only [DbSet.cell, DbSet.setCell]
    split
    · next hc =>
      -- `RemoveRoutine`'s final `delete` under the name as given hits the entry just written, whose list is empty
      obtain ⟨he, hr⟩ := hc
      refine memOpt_mget_merase _ _ (fun q => ?_) _ _
      rw [mget_mset, if_pos (congrArg (·, b) hr)]
      simp [memOpt, List.isEmpty_iff.1 he]
    · rfl
  | _ => rfl

theorem memOpt_cell_unionDb (s o : DbSet) (sl : Slot) (p : Priv) :
    memOpt ((unionDb s o).cell sl) p = (memOpt (s.cell sl) p || memOpt (o.cell sl) p) := by
  cases sl with
  | db => exact memOpt_pinsAll (some s.privs) o.privs p
  | tbl t =>
    exact mfold_mset_obs o.tables (fun x v => pinsAll (x.getD []) v) (memOpt · p) rfl
      (fun x v => memOpt_pinsAll x v p) s.tables t
  | rtn r b =>
    exact mfold_mset_obs o.routines (fun x v => pinsAll (x.getD []) v) (memOpt · p) rfl
      (fun x v => memOpt_pinsAll x v p) s.routines (r, b)

theorem holds_union (a b : PrivSet) (g : Grant) : (a.union b).holds g = (a.holds g || b.holds g) := by
  induction g using Grant.slotRec with
  | grant k sl p =>
    simp only [holds_atDb, union]
    exact mfold_mset_obs b.dbs (fun x s => unionDb (x.getD {}) s)
      (fun x => match x with | some s => memOpt (s.cell sl) p | none => false) rfl
      (by intro x v; cases x <;> simp [memOpt_cell_unionDb, memOpt_cell_empty]) a.dbs k
  | none g hg =>
    cases g with
    | glob p => simp [holds, union, mem_pinsAll]
    | dyn n =>
      exact mfold_mset_obs b.dynamic (fun x w => (x.getD false || w)) Option.isSome rfl
        (by intro x v; simp) a.dynamic n
    | _ => cases hg

end PrivSet

/-- The Impl privilege set `ps` denotes the set of grants `gs`. -/
def Refines (ps : PrivSet) (gs : GSet) : Prop := ∀ g, ps.holds g = decide (g ∈ gs)

/-- `v` answers every question of the authorization code the way the set of grants with characteristic
function `holds` does. Both `PrivSet.view` and `GSet.view` are such views of their sets, and there is only
one (`ViewOf.unique`): this is why a decision cannot tell an Impl set from the Spec set it denotes. -/
structure ViewOf (v : View) (holds : Grant → Bool) : Prop where
  hasGlobal : v.hasGlobal = fun p => holds (.glob p)
  hasDyn : v.hasDyn = fun n => holds (.dyn (lower n))
  hasDb : v.hasDb = fun d p => holds (.db (lower d) p)
  hasTbl : v.hasTbl = fun d t p => holds (.tbl (lower d) (lower t) p)
  hasRtn : v.hasRtn = fun d r b p => holds (.rtn (lower d) (lower r) b p)
  globalNone : v.globalNone = true ↔ ∀ p, holds (.glob p) = false
  dbNone : ∀ d, v.dbNone d = true ↔ ∀ p, holds (.db (lower d) p) = false
  dbAny : ∀ d, v.dbAny d = true ↔ ∃ sl p, holds (Slot.grant (lower d) sl p) = true
  tblAny : ∀ d t, v.tblAny d t = true ↔ ∃ p, holds (.tbl (lower d) (lower t) p) = true

theorem ViewOf.unique {v w : View} {holds : Grant → Bool} (hv : ViewOf v holds) (hw : ViewOf w holds) : v = w := by
  cases v; cases w
  simp only [View.mk.injEq]
  exact ⟨hv.hasGlobal.trans hw.hasGlobal.symm, hv.hasDyn.trans hw.hasDyn.symm, hv.hasDb.trans hw.hasDb.symm,
    hv.hasTbl.trans hw.hasTbl.symm, hv.hasRtn.trans hw.hasRtn.symm,
    Bool.eq_iff_iff.2 (hv.globalNone.trans hw.globalNone.symm),
    funext fun d => Bool.eq_iff_iff.2 ((hv.dbNone d).trans (hw.dbNone d).symm),
    funext fun d => Bool.eq_iff_iff.2 ((hv.dbAny d).trans (hw.dbAny d).symm),
    funext fun d => funext fun t => Bool.eq_iff_iff.2 ((hv.tblAny d t).trans (hw.tblAny d t).symm)⟩

namespace PrivSet

theorem globalNone_iff (ps : PrivSet) : ps.view.globalNone = true ↔ ∀ p, ps.holds (.glob p) = false := by
  simp only [view, isEmpty_iff_forall_not_mem, holds, decide_eq_false_iff_not]

theorem dbNone_iff (ps : PrivSet) (d : String) :
    ps.view.dbNone d = true ↔ ∀ p, ps.holds (.db (lower d) p) = false := by
  simp only [view, holds]
  cases mget ps.dbs (lower d) with
  | none => simp
  | some s => simp only [isEmpty_iff_forall_not_mem, decide_eq_false_iff_not]

theorem tblAny_iff (ps : PrivSet) (d t : String) :
    ps.view.tblAny d t = true ↔ ∃ p, ps.holds (.tbl (lower d) (lower t) p) = true := by
  simp only [view, holds]
  cases mget ps.dbs (lower d) with
  | none => simp
  | some s =>
    simp only
    cases mget s.tables (lower t) with
    | none => simp
    | some tp => simp only [decide_eq_true_eq, nonempty_iff_exists]

theorem dbAny_iff (ps : PrivSet) (d : String) :
    ps.view.dbAny d = true ↔ ∃ sl p, ps.holds (Slot.grant (lower d) sl p) = true := by
  simp only [view, holds_atDb]
  cases mget ps.dbs (lower d) with
  | none => simp
  | some s =>
    simp only [Bool.or_eq_true, manyVal_iff, nonempty_iff_exists, memOpt_iff]
    constructor
    · rintro ((⟨p, hp⟩ | ⟨t, tp, ht, p, hp⟩) | ⟨⟨r, b⟩, rp, hr, p, hp⟩)
      · exact ⟨.db, p, _, rfl, hp⟩
      · exact ⟨.tbl t, p, tp, ht, hp⟩
      · exact ⟨.rtn r b, p, rp, hr, hp⟩
    · rintro ⟨sl, p, l, hl, hp⟩
      cases sl with
      | db => cases hl; exact Or.inl (Or.inl ⟨p, hp⟩)
      | tbl t => exact Or.inl (Or.inr ⟨t, l, hl, p, hp⟩)
      | rtn r b => exact Or.inr ⟨(r, b), l, hl, p, hp⟩

theorem viewOf (ps : PrivSet) : ViewOf ps.view ps.holds :=
  ⟨rfl, rfl, rfl, rfl, rfl, globalNone_iff ps, dbNone_iff ps, dbAny_iff ps, tblAny_iff ps⟩

end PrivSet

theorem GSet.viewOf (gs : GSet) : ViewOf gs.view (fun g => decide (g ∈ gs)) := by
  refine ⟨rfl, rfl, rfl, rfl, rfl, ?_, fun d => ?_, fun d => ?_, fun d t => ?_⟩
  · simp only [GSet.view, List.all_eq_true, Bool.not_eq_true', decide_eq_false_iff_not]
    constructor
    · intro h p hp; simpa [Grant.isGlob] using h _ hp
    · intro h g hg
      cases g with
      | glob p => exact absurd hg (h p)
      | _ => rfl
  · simp only [GSet.view, List.all_eq_true, Bool.not_eq_true', decide_eq_false_iff_not]
    constructor
    · intro h p hp; simpa [Grant.isDbLevel] using h _ hp
    · intro h g hg
      cases g with
      | db d' p =>
        simp only [Grant.isDbLevel, decide_eq_false_iff_not]
        rintro rfl; exact h p hg
      | _ => rfl
  · simp only [GSet.view, List.any_eq_true, decide_eq_true_eq]
    constructor
    · rintro ⟨g, hg, ha⟩
      obtain ⟨sl, p, rfl⟩ := (atDb_iff g _).1 ha
      exact ⟨sl, p, hg⟩
    · rintro ⟨sl, p, hg⟩
      exact ⟨_, hg, (atDb_iff _ _).2 ⟨sl, p, rfl⟩⟩
  · simp only [GSet.view, List.any_eq_true, decide_eq_true_eq]
    constructor
    · rintro ⟨g, hg, ht⟩
      cases g with
      | tbl d' t' p =>
        simp only [Grant.isTbl, decide_eq_true_eq] at ht
        obtain ⟨rfl, rfl⟩ := ht
        exact ⟨p, hg⟩
      | _ => simp [Grant.isTbl] at ht
    · rintro ⟨p, hp⟩
      exact ⟨_, hp, by simp [Grant.isTbl]⟩

theorem view_eq {ps : PrivSet} {gs : GSet} (h : Refines ps gs) : ps.view = gs.view :=
  (funext h ▸ ps.viewOf).unique gs.viewOf

theorem view_congr (a b : PrivSet) (h : ∀ g, a.holds g = b.holds g) : a.view = b.view :=
  (funext h ▸ a.viewOf).unique b.viewOf

theorem refines_add {ps ps' : PrivSet} {gs : GSet} {L : List Grant} (h : Refines ps gs)
    (hh : ∀ g, ps'.holds g = (ps.holds g || decide (g ∈ L))) : Refines ps' (gs ++ L) := by
  intro g; rw [hh, h g]; simp [List.mem_append]

theorem refines_filter {ps ps' : PrivSet} {gs : GSet} {P : Grant → Bool} (h : Refines ps gs)
    (hh : ∀ g, ps'.holds g = (ps.holds g && P g)) : Refines ps' (gs.filter P) := by
  intro g; rw [hh, h g]
  apply Bool.eq_iff_iff.2
  simp [List.mem_filter]

theorem refines_rem {ps ps' : PrivSet} {gs : GSet} {α : Type} {l : List α} {ctor : α → Grant} (h : Refines ps gs)
    (hh : ∀ g, ps'.holds g = (ps.holds g && !decide (g ∈ l.map ctor))) :
    Refines ps' (gs.filter fun g => !(l.any fun x => decide (g = ctor x))) :=
  refines_filter h fun g => by
    rw [hh]
    congr 2
    apply Bool.eq_iff_iff.2
    simp only [List.any_eq_true, decide_eq_true_eq, List.mem_map]
    exact exists_congr fun x => and_congr_right fun _ => eq_comm

theorem refines_empty : Refines implPS.empty specPS.empty := by
  intro g; cases g <;> rfl

theorem refines_addGlobal {ps gs} (h : Refines ps gs) (privs : List Priv) :
    Refines (implPS.addGlobal ps privs) (specPS.addGlobal gs privs) :=
  refines_add h (PrivSet.holds_addGlobal ps privs)

theorem refines_addDynamic {ps gs} (h : Refines ps gs) (wgo : Bool) (names : List String) :
    Refines (implPS.addDynamic ps wgo names) (specPS.addDynamic gs wgo names) :=
  refines_add h (PrivSet.holds_addDynamic ps wgo names)

theorem refines_addDb {ps gs} (h : Refines ps gs) (d : String) (privs : List Priv) :
    Refines (implPS.addDb ps d privs) (specPS.addDb gs d privs) :=
  refines_add h (PrivSet.holds_addDb ps d privs)

theorem refines_addTbl {ps gs} (h : Refines ps gs) (d t : String) (privs : List Priv) :
    Refines (implPS.addTbl ps d t privs) (specPS.addTbl gs d t privs) :=
  refines_add h (PrivSet.holds_addTbl ps d t privs)

theorem refines_addRtn {ps gs} (h : Refines ps gs) (d r : String) (b : Bool) (privs : List Priv) :
    Refines (implPS.addRtn ps d r b privs) (specPS.addRtn gs d r b privs) :=
  refines_add h (PrivSet.holds_addRtn ps d r b privs)

theorem refines_remGlobal {ps gs} (h : Refines ps gs) (privs : List Priv) :
    Refines (implPS.remGlobal ps privs) (specPS.remGlobal gs privs) :=
  refines_rem h (PrivSet.holds_remGlobal ps privs)

theorem refines_remDynamic {ps gs} (h : Refines ps gs) (names : List String) :
    Refines (implPS.remDynamic ps names) (specPS.remDynamic gs names) :=
  refines_rem h (PrivSet.holds_remDynamic ps names)

theorem refines_remTbl {ps gs} (h : Refines ps gs) (d t : String) (privs : List Priv) :
    Refines (implPS.remTbl ps d t privs) (specPS.remTbl gs d t privs) :=
  refines_rem h (PrivSet.holds_remTbl ps d t privs)

theorem refines_remRtn {ps gs} (h : Refines ps gs) (d r : String) (b : Bool) (privs : List Priv) :
    Refines (implPS.remRtn ps d r b privs) (specPS.remRtn gs d r b privs) :=
  refines_rem h (PrivSet.holds_remRtn ps d r b privs)

theorem refines_clearGlobal {ps gs} (h : Refines ps gs) :
    Refines (implPS.clearGlobal ps) (specPS.clearGlobal gs) :=
  refines_filter h (PrivSet.holds_clearGlobal ps)

theorem refines_clearTbl {ps gs} (h : Refines ps gs) (d t : String) :
    Refines (implPS.clearTbl ps d t) (specPS.clearTbl gs d t) :=
  refines_filter h (PrivSet.holds_clearTbl ps d t)

theorem refines_union {a b : PrivSet} {ga gb : GSet} (ha : Refines a ga) (hb : Refines b gb) :
    Refines (implPS.union a b) (specPS.union ga gb) :=
  refines_add ha fun g => (PrivSet.holds_union a b g).trans (congrArg (a.holds g || ·) (hb g))

/-- The account holds a table- or routine-level grant inside database `d`. -/
def holdsBelow (ps : PrivSet) (d : String) : Prop := ∃ g, g.belowDb (lower d) = true ∧ ps.holds g = true

theorem atDb_split (g : Grant) (k : String) : g.atDb k = (g.isDbLevel k || g.belowDb k) := by
  cases g <;> simp [Grant.atDb, Grant.isDbLevel, Grant.belowDb]

theorem holds_and_not_atDb {ps : PrivSet} {d : String} (hg : ¬ holdsBelow ps d) (g : Grant) :
    (ps.holds g && !g.atDb (lower d)) = (ps.holds g && !g.isDbLevel (lower d)) := by
  rw [atDb_split]
  cases hb : g.belowDb (lower d) with
  | false => rw [Bool.or_false]
  | true =>
    cases hh : ps.holds g with
    | false => rfl
    | true => exact absurd ⟨g, hb, hh⟩ hg

theorem PrivSet.holds_clearDb_of_not_below (ps : PrivSet) (d : String) (hg : ¬ holdsBelow ps d) (g : Grant) :
    (ps.clearDb d).holds g = (ps.holds g && !g.isDbLevel (lower d)) :=
  (PrivSet.holds_clearDb ps d g).trans (holds_and_not_atDb hg g)

theorem PrivSet.mem_of_dbEmptied {ps : PrivSet} {d : String} {privs : List Priv} (he : ps.dbEmptied d privs = true)
    {p : Priv} (hp : ps.holds (.db (lower d) p) = true) : p ∈ privs := by
  revert he
  fun_cases PrivSet.dbEmptied ps d privs with
  | case1 s h_entry =>
    intro h_empty
    simp only [PrivSet.holds, h_entry, decide_eq_true_eq] at hp
    exact Classical.byContradiction fun hn => (isEmpty_iff_forall_not_mem _).1 h_empty p ((mem_premAll _ _ _).2 ⟨hp, hn⟩)
  | case2 h_absent => exact Bool.noConfusion

theorem PrivSet.holds_remDb_of_not_below (ps : PrivSet) (d : String) (privs : List Priv) (hg : ¬ holdsBelow ps d)
    (g : Grant) :
    (ps.remDb d privs).holds g = (ps.holds g && !decide (g ∈ privs.map (Grant.db (lower d)))) := by
  rw [PrivSet.holds_remDb]
  split
  · next he =>
    -- the entry was deleted: nothing lives below it, and every database-level grant it held was named
    rw [holds_and_not_atDb hg]
    cases g with
    | db d' p =>
      by_cases hd : d' = lower d
      · subst hd
        cases hh : ps.holds (.db (lower d) p) with
        | false => rfl
        | true => simp [Grant.isDbLevel, PrivSet.mem_of_dbEmptied he hh]
      · simp [Grant.isDbLevel, hd, Ne.symm hd]
    | _ => simp [Grant.isDbLevel]
  · rfl

/-- Database-level REVOKE of single privileges refines the Spec when the account holds nothing below
the database (this is the guard of the known defect). -/
theorem refines_remDb_partial {ps gs} (h : Refines ps gs) (d : String) (privs : List Priv)
    (hg : ¬ holdsBelow ps d) : Refines (implPS.remDb ps d privs) (specPS.remDb gs d privs) :=
  refines_rem h (PrivSet.holds_remDb_of_not_below ps d privs hg)

theorem refines_clearDb_partial {ps gs} (h : Refines ps gs) (d : String)
    (hg : ¬ holdsBelow ps d) : Refines (implPS.clearDb ps d) (specPS.clearDb gs d) :=
  refines_filter h (PrivSet.holds_clearDb_of_not_below ps d hg)

theorem findIdx_eq (P : String × String → Bool) (l : List (String × String)) : findIdx P l = l.findIdx? P := by
  induction l with
  | nil => rfl
  | cons k r ih => rw [findIdx, ih, List.findIdx?_cons]

theorem getUserIdx_eq_or (keys : List (String × String)) (user host : String) (rs : Bool) :
    getUserIdx keys user host rs =
      (keys.findIdx? (fun k => decide (k.2 = normHost host ∧ k.1 = user))).or
        ((keys.findIdx? (fun k => k.1 = user && hostMatches (normHost host) host k.2 rs)).or
          (keys.findIdx? (fun k => k.1 = "" && hostMatches (normHost host) host k.2 rs))) := by
  simp only [getUserIdx, findIdx_eq]
  cases keys.findIdx? (fun k => decide (k.2 = normHost host ∧ k.1 = user)) with
  | some i => rfl
  | none => cases keys.findIdx? (fun k => k.1 = user && hostMatches (normHost host) host k.2 rs) <;> rfl

theorem findIdx?_or_bind {α : Type} (l : List α) (p : α → Bool) (b : Option Nat) :
    ((l.findIdx? p).or b).bind (l[·]?) = (l.find? p).or (b.bind (l[·]?)) := by
  rw [List.find?_eq_bind_findIdx?_getElem?]
  cases h : l.findIdx? p with
  | none => rfl
  | some i =>
    obtain ⟨hi, -⟩ := List.findIdx?_eq_some_iff_getElem.1 h
    simp only [Option.some_or, Option.bind_some, List.getElem?_eq_getElem hi]

theorem getUserIdx_bind {α : Type} (f : α → String × String) (l : List α) (user host : String) (rs : Bool) :
    (getUserIdx (l.map f) user host rs).bind (fun i => l[i]?) =
      ((l.find? (fun a => decide ((f a).2 = normHost host ∧ (f a).1 = user))).or
        ((l.find? (fun a => (f a).1 = user && hostMatches (normHost host) host (f a).2 rs)).or
          (l.find? (fun a => (f a).1 = "" && hostMatches (normHost host) host (f a).2 rs)))) := by
  simp only [getUserIdx_eq_or, List.findIdx?_map, findIdx?_or_bind, ← List.find?_eq_bind_findIdx?_getElem?]
  rfl

theorem mem_putEdge (acc : List Edge) (e x : Edge) : x ∈ putEdge acc e ↔ x ∈ acc ∨ x = e := by
  simp only [putEdge, List.mem_append, List.mem_filter, List.mem_singleton, decide_eq_true_eq]
  by_cases hx : x = e
  · exact iff_of_true (Or.inr hx) (Or.inr hx)
  · exact or_congr_left (and_iff_left hx)

theorem mem_foldl_putEdge (l acc : List Edge) (x : Edge) : x ∈ l.foldl putEdge acc ↔ x ∈ acc ∨ x ∈ l := by
  induction l generalizing acc with
  | nil => simp
  | cons e l ih => simp only [List.foldl_cons, ih, mem_putEdge, List.mem_cons, or_assoc]

end Gms.Priv
