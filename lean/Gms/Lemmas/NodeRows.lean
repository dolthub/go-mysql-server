/-
Lemmas about the statement-level memory model `Gms/Model/NodeRows.lean` (one function node, one
`Eval` per row, results read after the last row).
-/
import Gms.Model.NodeRows
namespace Gms.NodeRows

theorem runFresh_heap {ρ : Type} (f : ρ → Bytes) (h : Heap) (rows : List ρ) :
    (runFresh f h rows).1 = h ++ rows.map f := by
  induction rows generalizing h with
  | nil => simp [runFresh]
  | cons x xs ih => simp [runFresh, stepFresh, ih]

theorem view_new (h t : Heap) (v : Bytes) : view (h ++ v :: t) ⟨h.length, v.length⟩ = v := by
  simp [view, arrOf, List.getD]

/-- frame: a value living in `h` reads the same in every extension of `h` (allocation never
touches what was handed out). -/
theorem view_append (h t : Heap) (r : Ref) (hr : r.arr < h.length) : view (h ++ t) r = view h r := by
  simp [view, arrOf, List.getD, List.getElem?_append_left hr]

theorem fresh_observe {ρ : Type} (f : ρ → Bytes) (h : Heap) (rows : List ρ) :
    observe (runFresh f h rows) = rows.map f := by
  induction rows generalizing h with
  | nil => simp [observe, runFresh]
  | cons x xs ih =>
    have ih' := ih (h ++ [f x])
    simp only [observe] at ih' ⊢
    simp only [runFresh, stepFresh, List.map_cons]
    rw [ih']
    congr 1
    -- no frame argument: the final heap is known in closed form, and the first row's value stands in it at `h.length`
    rw [runFresh_heap]
    simpa using view_new h (xs.map f) (f x)

theorem runFresh_length {ρ : Type} (f : ρ → Bytes) (h : Heap) (rows : List ρ) :
    (runFresh f h rows).2.length = rows.length := by
  simpa [observe] using congrArg List.length (fresh_observe f h rows)

/-- `z` is the spare capacity behind the first result (`grow` allocates twice its length); the first value is read
in its full length after `new` was written over its beginning. -/
theorem take_overwrite_full (old new z : Bytes) (h : new.length ≤ old.length) :
    (overwrite (old ++ z) new).take old.length = new ++ old.drop new.length := by
  simp only [overwrite, List.take_append, List.take_of_length_le h, List.drop_append,
    List.take_drop, List.length_drop]
  have e : new.length + (old.length - new.length) = old.length := by omega
  simp [e]

end Gms.NodeRows
