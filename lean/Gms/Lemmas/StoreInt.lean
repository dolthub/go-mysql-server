/-
C27: "exact, or reported and nearest" for the integer column types (`NumberTypeImpl_.Convert`): outside
`unsigned_underflow_wraps` every path hands back the rounded value clamped to the type's range, flagged
when it was clamped.
-/
import Gms.Lemmas.StoreNum
namespace Gms.Num.ITy

theorem lo_le_hi (it : ITy) : it.lo ≤ it.hi := by
  cases it <;> decide

theorem lo_of_unsigned {it : ITy} (h : it.unsigned = true) : it.lo = 0 := by
  simp [ITy.lo, h]

/-- `NumberTypeImpl_.Convert` treats BIGINT and BIGINT UNSIGNED each on its own and the other eight alike -/
theorem wide_or_narrow (it : ITy) : it = .i64 ∨ it = .u64 ∨ (it ≠ .i64 ∧ it ≠ .u64) := by
  cases it <;> decide

theorem narrow_bounds {it : ITy} (h : it ≠ .i64 ∧ it ≠ .u64) : minI64 < it.lo ∧ it.hi < maxI64 := by
  cases it <;> first | exact absurd rfl h.1 | exact absurd rfl h.2 | decide

end Gms.Num.ITy

namespace Gms.Store
open Gms.Num Gms.Conv

theorem nearest_int (it : ITy) (x : Int) :
    nearest (.int it) x = if x < it.lo then it.lo else if x > it.hi then it.hi else x := rfl

theorem nearest_int_of_ge {it : ITy} {x : Int} (h : it.hi ≤ x) : nearest (.int it) x = it.hi := by
  have := it.lo_le_hi
  rw [nearest_int, if_neg (by omega)]
  split <;> omega

theorem nearest_int_of_le {it : ITy} {x : Int} (h : x ≤ it.lo) : nearest (.int it) x = it.lo := by
  have := it.lo_le_hi
  rw [nearest_int]
  split
  · rfl
  · rw [if_neg (by omega)]; omega

theorem not_exactInBounds_int {it : ITy} {c : Int} {s : Nat} (h : c < it.lo * 10 ^ s ∨ it.hi * 10 ^ s < c) :
    exactInBounds (.int it) (c, s) = false := by
  cases hb : exactInBounds (.int it) (c, s)
  · rfl
  · have := (exactInBounds_int it c s).1 hb; omega

theorem Clamped.acceptable {it : ITy} {c : Int} {s : Nat} {x : Int} {f : Flag} (h : Clamped it.lo it.hi c s x f) :
    Acceptable (.int it) (c, s) ⟨.int x, f, .none⟩ := by
  have htg := target_int it c s
  rcases h with ⟨rfl, rfl, h⟩ | ⟨rfl, rfl, h⟩ | ⟨rfl, rfl, h⟩
  · exact .exact htg ((storable_int it _).2 h) rfl rfl rfl
  · have hR := rha_ge_of_ge c s it.hi (Int.le_of_lt h)
    refine .nearest htg (nearest_int_of_ge hR) rfl rfl fun hs => ⟨?_, not_exactInBounds_int (Or.inr h)⟩
    have := (storable_int it _).1 hs
    omega
  · have hR := rha_le_of_le c s it.lo (Int.le_of_lt h)
    refine .nearest htg (nearest_int_of_le hR) rfl rfl fun hs => ⟨?_, not_exactInBounds_int (Or.inl h)⟩
    have := (storable_int it _).1 hs
    omega

/-- the three range guards of the narrow integer types (above, below, within), met by a 64-bit result that is
`Clamped` to a wider range -/
theorem Clamped.narrower {m M lo hi c : Int} {s : Nat} {x : Int} {f : Flag} (h : Clamped m M c s x f)
    (hm : m < lo) (hM : hi < M) (hlh : lo ≤ hi) :
    (hi < x → hi * 10 ^ s < c) ∧ (x < lo → c < lo * 10 ^ s) ∧ (lo ≤ x → x ≤ hi → x = roundHalfAway c s) := by
  have hmax := mul_pow10_le (Int.le_of_lt hM) s
  have hmin := mul_pow10_le (Int.le_of_lt hm) s
  rcases h with ⟨_, rfl, _⟩ | ⟨_, rfl, h⟩ | ⟨_, rfl, h⟩
  · exact ⟨lt_of_lt_rha, lt_of_rha_lt, fun _ _ => rfl⟩
  · exact ⟨fun _ => by omega, fun _ => by omega, fun _ _ => by omega⟩
  · exact ⟨fun _ => by omega, fun _ => by omega, fun _ _ => by omega⟩

/-- BIGINT and BIGINT UNSIGNED hand back what their 64-bit converter returns; the eight narrow types clamp the
int64 result once more, and a negative value wraps in the unsigned ones (`unsigned_underflow_wraps`) -/
theorem convertInt_clamped (it : ITy) (v : Val) (hwf : v.WF) (c : Int) (s : Nat) (hx : numOf v = some (c, s)) :
    ∃ x f, convertInt it v = ⟨.int x, f, .none⟩ ∧
      (¬ unsigned_underflow_wraps (.int it) v → Clamped it.lo it.hi c s x f) := by
  obtain ⟨he, hcl⟩ := convertToInt64_clamped hwf hx
  have hc : ¬ unsigned_underflow_wraps (.int it) v → it.unsigned = true → 0 ≤ c := fun hreg hu =>
    Int.not_lt.1 fun h => hreg ⟨hu, negative_of_num hwf hx h⟩
  have hnar := fun (h64 : it ≠ .i64) (hu64 : it ≠ .u64) =>
    hcl.narrower (ITy.narrow_bounds ⟨h64, hu64⟩).1 (ITy.narrow_bounds ⟨h64, hu64⟩).2 it.lo_le_hi
  -- the cases of `convertInt`: NULL, BIGINT, BIGINT UNSIGNED, then the narrow types: fatal error, above, below, within
  fun_cases convertInt it v
  case case1 => cases hx
  case case2 => exact ⟨_, _, congrArg _ he, fun _ => hcl⟩
  case case3 =>
    -- no path of `convertToUint64` on a number returns an error, the wrapping ones included
    have heu : (convertToUint64 v).err = .none := by
      fun_cases convertToUint64 v <;> first | rfl | cases hx
    exact ⟨_, _, congrArg _ heu, fun hreg => (convertToUint64_clamped hwf hx (hc hreg rfl)).2⟩
  case case4 r h_fatal => exact absurd (he.symm.trans h_fatal) nofun
  case case5 h64 hu64 hnn r h_ok h_over =>
    exact ⟨_, _, rfl, fun _ => .over ((hnar h64 hu64).1 h_over)⟩
  case case6 h64 hu64 hnn r h_ok h_hi h_under =>
    have hc' := (hnar h64 hu64).2.1 h_under
    cases hu : it.unsigned
    · exact ⟨_, _, rfl, fun _ => .under hc'⟩
    · rw [ITy.lo_of_unsigned hu, Int.zero_mul] at hc'
      exact ⟨_, _, rfl, fun hreg => absurd (hc hreg hu) (Int.not_le.2 hc')⟩
  case case7 h64 hu64 hnn r h_ok h_hi h_lo =>
    have hmid : r.val = roundHalfAway c s := (hnar h64 hu64).2.2 (Int.not_lt.1 h_lo) (Int.not_lt.1 h_hi)
    exact ⟨_, _, congrArg _ he, fun _ => .within hmid (by omega) (by omega)⟩

theorem convertInt_val_ne_null (it : ITy) (v : Val) (hv : v ≠ .null) : (convertInt it v).val ≠ .null := by
  fun_cases convertInt it v <;> first | exact absurd rfl hv | exact Stored.noConfusion

theorem convertInt_num_err (it : ITy) (v : Val) (hwf : v.WF) (c : Int) (s : Nat) (hx : numOf v = some (c, s)) :
    (convertInt it v).err ≠ .fatal := by
  obtain ⟨_, _, e, _⟩ := convertInt_clamped it v hwf c s hx
  rw [e]; nofun

/-- **exact, or reported and nearest**, all ten integer types, every Go integer / decimal value -/
theorem int_acceptable (it : ITy) (v : Val) (hwf : v.WF) (c : Int) (s : Nat) (hx : numOf v = some (c, s))
    (hreg : ¬ unsigned_underflow_wraps (.int it) v) : Acceptable (.int it) (c, s) (convert (.int it) v) := by
  obtain ⟨x, f, e, h⟩ := convertInt_clamped it v hwf c s hx
  simp only [convert]
  rw [e]
  exact (h hreg).acceptable
end Gms.Store
