/-
The loop over `Next` of `memory.indexScanRowIter` (Gms/Model/MemIdxIter.lean) is `List.filter` of the
visiting order. The early exit is `takeWhile` after `dropWhile`; it is that filter when, from the first
match on, no non-matching entry precedes a matching one.
-/
import Gms.Model.MemIdxIter

namespace Gms.MemIdxIter

variable {α : Type}

/-- `Next` splits the entries ahead at the first match. -/
theorem next_split (m : Key → Bool) (es : List (Entry α)) (e : Entry α) (rest : List (Entry α))
    (h : next m es = some (e, rest)) :
    ∃ pre, es = pre ++ e :: rest ∧ ∀ x ∈ pre, m x.key = false := by
  fun_induction next m es with
  | case1 => cases h
  | case2 a es hm => cases h; exact ⟨[], rfl, nofun⟩
  | case3 a es hm ih =>
    obtain ⟨pre, rfl, hpre⟩ := ih h
    exact ⟨a :: pre, rfl, List.forall_mem_cons.mpr ⟨by simpa using hm, hpre⟩⟩

theorem next_none (m : Key → Bool) (es : List (Entry α)) (h : next m es = none) :
    es.filter (fun x => m x.key) = [] := by
  fun_induction next m es with
  | case1 => rfl
  | case2 a es hm => cases h
  | case3 a es hm ih => simpa [hm] using ih h

/-- What the consumer's loop (`drain_eq_filter`) uses of one call of `Next`: the filter loses its
head, and what is left is strictly shorter. The third part (the returned entry matches) makes it, with
`next_split`, the full description of `next`: the first match and what follows it. -/
theorem next_some (m : Key → Bool) (es : List (Entry α)) (e : Entry α) (rest : List (Entry α))
    (h : next m es = some (e, rest)) :
    es.filter (fun x => m x.key) = e :: rest.filter (fun x => m x.key) ∧ rest.length < es.length
      ∧ m e.key = true := by
  fun_induction next m es with
  | case1 => cases h
  | case2 a es hm => cases h; simp [hm]
  | case3 a es hm ih =>
    obtain ⟨hf, hlt, he⟩ := ih h
    simp [hm, hf, he]
    omega

theorem drain_eq_filter (m : Key → Bool) (fuel : Nat) (es : List (Entry α)) (h : es.length < fuel) :
    drain m fuel es = es.filter (fun x => m x.key) := by
  fun_induction drain m fuel es with
  | case1 => omega
  | case2 fuel es hn => exact (next_none m es hn).symm
  | case3 fuel es e rest hn ih =>
    obtain ⟨hf, hlt, _⟩ := next_some m es e rest hn
    rw [hf, ih (by omega)]

theorem visit_length (rev : Bool) (es : List (Entry α)) : (visit rev es).length = es.length := by
  cases rev <;> simp [visit]

theorem scan_eq_filter (m : Key → Bool) (rev : Bool) (es : List (Entry α)) :
    scan m rev es = (visit rev es).filter (fun x => m x.key) := by
  unfold scan
  exact drain_eq_filter m _ _ (by rw [visit_length]; omega)

theorem scan_forward (m : Key → Bool) (es : List (Entry α)) : scan m false es = Spec.scan m es := by
  simp [scan_eq_filter, visit, Spec.scan]

theorem scan_reverse (m : Key → Bool) (es : List (Entry α)) :
    scan m true es = (Spec.scan m es).reverse := by
  simp [scan_eq_filter, visit, Spec.scan, List.filter_reverse]

theorem scan_perm (m : Key → Bool) (rev : Bool) (es : List (Entry α)) :
    (scan m rev es).Perm (Spec.scan m es) := by
  cases rev
  · rw [scan_forward]
  · rw [scan_reverse]; exact List.reverse_perm _

theorem mem_scan (m : Key → Bool) (rev : Bool) (es : List (Entry α)) (e : Entry α) :
    e ∈ scan m rev es ↔ e ∈ es ∧ m e.key = true := by
  rw [(scan_perm m rev es).mem_iff]
  simp [Spec.scan, List.mem_filter]

theorem takeWhile_eq_filter_of_pairwise {β : Type} {p : β → Bool} :
    ∀ {l : List β}, l.Pairwise (fun a b => p b = true → p a = true) → l.takeWhile p = l.filter p
  | [], _ => rfl
  | a :: l, h => by
    have ⟨ha, hl⟩ := List.pairwise_cons.mp h
    cases hpa : p a
    · rw [List.takeWhile_cons_of_neg (by simp [hpa]), List.filter_cons_of_neg (by simp [hpa]),
        List.filter_eq_nil_iff.mpr fun b hb hpb => by simp [ha b hb hpb] at hpa]
    · rw [List.takeWhile_cons_of_pos hpa, List.filter_cons_of_pos hpa, takeWhile_eq_filter_of_pairwise hl]

theorem filter_dropWhile_not {β : Type} (p : β → Bool) (l : List β) : (l.dropWhile (!p ·)).filter p = l.filter p := by
  induction l with
  | nil => rfl
  | cons a l ih => cases h : p a <;> simp [h, ih]

theorem scanStopAfterRun_eq (m : Key → Bool) (es : List (Entry α)) :
    scanStopAfterRun m es = (es.dropWhile (fun e => !m e.key)).takeWhile (fun e => m e.key) := by
  induction es with
  | nil => rfl
  | cons a es ih => cases h : m a.key <;> simp [scanStopAfterRun, h, ih]

theorem scanStopAfterRun_eq_scan (m : Key → Bool) (es : List (Entry α))
    (h : (es.dropWhile (fun e => !m e.key)).Pairwise (fun a b => m b.key = true → m a.key = true)) :
    scanStopAfterRun m es = Spec.scan m es := by
  rw [scanStopAfterRun_eq, takeWhile_eq_filter_of_pairwise h]
  exact filter_dropWhile_not (fun e : Entry α => m e.key) es

/-- `hc`: the range expression is convex for the order (whatever lies between two matches matches),
so on sorted entries the matches are adjacent. -/
theorem scanStopAfterRun_of_sorted_convex (m : Key → Bool) (le : Key → Key → Prop)
    (hc : ∀ a b c, le a b → le b c → m a = true → m c = true → m b = true)
    (es : List (Entry α)) (hs : es.Pairwise (fun a b => le a.key b.key)) : scanStopAfterRun m es = Spec.scan m es := by
  refine scanStopAfterRun_eq_scan m es ?_
  have hs' := hs.sublist (List.dropWhile_sublist (fun e => !m e.key))
  cases h : es.dropWhile (fun e => !m e.key) with
  | nil => exact .nil
  | cons e t =>
    -- `e` is the first match; whatever lies between it and a later match matches
    rw [h] at hs'
    have he : m e.key = true := by
      simpa [h] using List.head_dropWhile_not (fun e => !m e.key) (l := es) (by simp [h])
    have ⟨hle, ht⟩ := List.pairwise_cons.mp hs'
    exact List.pairwise_cons.mpr ⟨fun _ _ _ => he, ht.imp_of_mem fun ha _ hab hmb => hc _ _ _ (hle _ ha) hab he hmb⟩

/-- `keyValLe` on one-column keys. Keys of any other length are incomparable, so `Pairwise key1Le` on two
or more entries also says that every key has exactly one column. -/
def key1Le : Key → Key → Prop
  | [a], [b] => keyValLe a b = true
  | _, _ => False

theorem interval_convex (r : Interval) (a b c : KeyVal) (hab : keyValLe a b = true) (hbc : keyValLe b c = true)
    (ha : r.holds a = true) (hcc : r.holds c = true) : r.holds b = true := by
  cases r with
  | isNull => cases a <;> cases b <;> cases c <;> simp_all [Interval.holds, keyValLe]
  | all => rfl
  | range lo hi =>
    match a, b, c with
    | none, _, _ => simp [Interval.holds] at ha
    | _, _, none => simp [Interval.holds] at hcc
    | some a, none, _ => simp [keyValLe] at hab
    | some a, some b, some c =>
      simp only [keyValLe, decide_eq_true_eq] at hab hbc
      simp only [Interval.holds, Bool.and_eq_true] at ha hcc ⊢
      -- the lower bound passes from `a` up to `b`, the upper bound from `c` down to `b`
      constructor
      · have h := ha.1
        cases lo with
        | none => rfl
        | some p => obtain ⟨l, _ | _⟩ := p <;> simp at h ⊢ <;> omega
      · have h := hcc.2
        cases hi with
        | none => rfl
        | some p => obtain ⟨u, _ | _⟩ := p <;> simp at h ⊢ <;> omega

theorem box1_convex (r : Interval) (a b c : Key) (hab : key1Le a b) (hbc : key1Le b c)
    (ha : Box.holds [r] a = true) (hcc : Box.holds [r] c = true) : Box.holds [r] b = true := by
  match a, b, c, hab, hbc with
  | [a], [b], [c], hab, hbc =>
    simp only [Box.holds, Bool.and_true] at ha hcc ⊢
    exact interval_convex r a b c hab hbc ha hcc

end Gms.MemIdxIter
