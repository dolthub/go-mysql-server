/-
Positional notation, stated once over `List Nat`: the number a list of base-`b` digits denotes (`value`, most
significant digit first) and the digits of a number (`digits`). A model's printer is `(digits b n).map f` for its
digit coding `f`, its reader `value b (l.map g)` for its decoder `g`; `value_map_digits` joins the two.
-/
import Gms.Lemmas.Basics

namespace Gms.Digits

def value (b : Nat) (ds : List Nat) : Nat := ds.foldl (fun a d => a * b + d) 0

theorem foldl_eq_value (b a : Nat) (ds : List Nat) :
    ds.foldl (fun a d => a * b + d) a = a * b ^ ds.length + value b ds := by
  induction ds generalizing a with
  | nil => exact (Nat.mul_one a).symm
  | cons d ds ih =>
    rw [value, List.foldl_cons, List.foldl_cons, ih, ih (0 * b + d), Nat.zero_mul, Nat.zero_add, List.length_cons,
      Nat.pow_succ', Nat.add_mul, Nat.mul_assoc, Nat.add_assoc]

theorem value_append (b : Nat) (xs ys : List Nat) :
    value b (xs ++ ys) = value b xs * b ^ ys.length + value b ys := by
  rw [value, List.foldl_append, foldl_eq_value]
  rfl

theorem value_concat (b d : Nat) (ds : List Nat) : value b (ds ++ [d]) = value b ds * b + d := by
  rw [value, List.foldl_append]
  rfl

theorem value_zeros (b k : Nat) (ds : List Nat) : value b (List.replicate k 0 ++ ds) = value b ds := by
  induction k with
  | zero => rfl
  | succ k ih => rwa [List.replicate_succ, List.cons_append, value, List.foldl_cons, Nat.zero_mul]

theorem value_cons (b d : Nat) (ds : List Nat) : value b (d :: ds) = d * b ^ ds.length + value b ds := by
  rw [value, List.foldl_cons, foldl_eq_value, Nat.zero_mul, Nat.zero_add]

theorem value_lt {b : Nat} {ds : List Nat} (h : ∀ d ∈ ds, d < b) : value b ds < b ^ ds.length := by
  induction ds with
  | nil => exact Nat.one_pos
  | cons d ds ih =>
    have ⟨hd, hds⟩ := List.forall_mem_cons.1 h
    rw [value_cons, List.length_cons, Nat.pow_succ']
    exact Basics.mul_add_lt (ih hds) hd

/-- The digits of `n` in base `b`, most significant first; `[0]` for 0. A base below 2 gives `[n]`: the guard
`2 ≤ b` stands in the definition, so `digits_of_lt`, `digits_ne_nil` and `value_digits` hold for every `b`, and `2 ≤ b` is
asked only where the recursion has to run or a digit has to be below `b`. -/
def digits (b n : Nat) : List Nat :=
  if _ : 2 ≤ b ∧ b ≤ n then digits b (n / b) ++ [n % b] else [n]
termination_by n
decreasing_by exact Nat.div_lt_self (by omega) (by omega)

theorem digits_of_lt {b n : Nat} (h : n < b) : digits b n = [n] := by
  rw [digits, dif_neg fun h' => Nat.not_le.2 h h'.2]

theorem digits_of_ge {b n : Nat} (hb : 2 ≤ b) (h : b ≤ n) : digits b n = digits b (n / b) ++ [n % b] := by
  rw [digits, dif_pos ⟨hb, h⟩]

theorem digits_ne_nil (b n : Nat) : digits b n ≠ [] := by
  rw [digits]
  split
  · exact List.append_ne_nil_of_right_ne_nil _ (List.cons_ne_nil _ _)
  · exact List.cons_ne_nil _ _

theorem value_digits (b n : Nat) : value b (digits b n) = n := by
  fun_induction digits b n with
  | case1 n h ih => rw [value_concat, ih, Nat.div_add_mod']
  | case2 n h => rw [value, List.foldl_cons, Nat.zero_mul, Nat.zero_add, List.foldl_nil]

theorem digits_lt {b : Nat} (hb : 2 ≤ b) (n : Nat) : ∀ d ∈ digits b n, d < b := by
  fun_induction digits b n with
  | case1 n h ih =>
    exact List.forall_mem_append.2 ⟨ih, List.forall_mem_singleton.2 (Nat.mod_lt n (Nat.lt_of_lt_of_le Nat.two_pos hb))⟩
  | case2 n h => exact List.forall_mem_singleton.2 (Nat.lt_of_not_le fun hn => h ⟨hb, hn⟩)

theorem length_digits_le_iff {b : Nat} (hb : 2 ≤ b) (n : Nat) {w : Nat} (hw : 0 < w) :
    (digits b n).length ≤ w ↔ n < b ^ w := by
  fun_induction digits b n generalizing w with
  | case1 n h ih =>
    rw [List.length_append, List.length_singleton]
    match w, hw with
    | 1, _ =>
      have := List.length_pos_iff.2 (digits_ne_nil b (n / b))
      rw [Nat.pow_one]
      omega
    | w + 2, _ =>
      rw [Nat.add_le_add_iff_right, ih (Nat.succ_pos w), Nat.div_lt_iff_lt_mul (Nat.lt_of_lt_of_le Nat.two_pos hb),
        ← Nat.pow_succ]
  | case2 n h =>
    exact iff_of_true hw
      (Nat.lt_of_lt_of_le (Nat.lt_of_not_le fun hn => h ⟨hb, hn⟩) (Nat.le_self_pow (Nat.ne_of_gt hw) b))

theorem length_digits_mono {b : Nat} (hb : 2 ≤ b) {m n : Nat} (h : m ≤ n) :
    (digits b m).length ≤ (digits b n).length := by
  have hn := List.length_pos_iff.2 (digits_ne_nil b n)
  exact (length_digits_le_iff hb m hn).2 (Nat.lt_of_le_of_lt h ((length_digits_le_iff hb n hn).1 (Nat.le_refl _)))

theorem map_decode {ε : Type} {b : Nat} {f : Nat → ε} {g : ε → Nat} (hg : ∀ d < b, g (f d) = d) {ds : List Nat}
    (h : ∀ d ∈ ds, d < b) : (ds.map f).map g = ds := by
  rw [List.map_map]
  exact (List.map_congr_left fun d hd => hg d (h d hd)).trans (List.map_id' ds)

/-- A coding `f` of the digits below `b` with decoder `g`: the reader gives back what the printer was given. -/
theorem value_map_digits {ε : Type} {b : Nat} (hb : 2 ≤ b) {f : Nat → ε} {g : ε → Nat} (hg : ∀ d < b, g (f d) = d)
    (n : Nat) : value b (((digits b n).map f).map g) = n := by
  rw [map_decode hg (digits_lt hb n), value_digits]

theorem map_digits_ne_nil {ε : Type} {f : Nat → ε} {b n : Nat} : (digits b n).map f ≠ [] :=
  mt List.map_eq_nil_iff.1 (digits_ne_nil b n)

/-- `c`: the code of `'0'`. -/
theorem map_add_digits_range (c : Nat) {b : Nat} (hb : 2 ≤ b) (n : Nat) :
    ∀ e ∈ (digits b n).map (c + ·), c ≤ e ∧ e ≤ c + (b - 1) :=
  List.forall_mem_map.2 fun d hd =>
    ⟨Nat.le_add_right c d, Nat.add_le_add_left (Nat.le_sub_one_of_lt (digits_lt hb n d hd)) c⟩

end Gms.Digits
