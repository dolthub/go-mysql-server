/-
Keyed tables as maps. A list of stored rows denotes a map from key values to rows (`absT`); the
helpers of `ApplyEdits`, the pending-edit lists of the accumulator and `sortRows` are characterised
on that map. Last part: `%v` printing and the length-prefixed `getRowKey` are injective on typed rows.
-/
import Gms.Model.MemTable
import Gms.Lemmas.InsertSort
import Gms.Lemmas.Basics
import Gms.Lemmas.Digits

namespace Gms.MemTable

/-- The Spec of a keyed table: key values ↦ row. -/
abbrev KMap := List Val → Option Row

def kput (pk : List Nat) (m : KMap) (r : Row) : KMap := fun k => if k = proj pk r then some r else m k
def kdel (m : KMap) (k0 : List Val) : KMap := fun k => if k = k0 then none else m k

/-- Abstraction function: the keyed map a stored row list denotes. -/
def absT (pk : List Nat) (t : List Row) : KMap := fun k => t.find? (fun r => decide (proj pk r = k))

def NoDupPk (pk : List Nat) (t : List Row) : Prop := (t.map (proj pk)).Nodup

def NoCi (sch : Schema) : Prop := ∀ c ∈ sch.cols, c.ci = false

def KeyInjOn (pk : List Nat) (S : List Row) : Prop :=
  ∀ r1 ∈ S, ∀ r2 ∈ S, getRowKey pk r1 = getRowKey pk r2 → proj pk r1 = proj pk r2

theorem kdel_self (m : KMap) (k : List Val) : kdel m k k = none := if_pos rfl

theorem kdel_ne {m : KMap} {k k0 : List Val} (h : k ≠ k0) : kdel m k0 k = m k := if_neg h

theorem kput_self (pk : List Nat) (m : KMap) (r : Row) : kput pk m r (proj pk r) = some r := if_pos rfl

theorem kput_ne {pk : List Nat} {m : KMap} {r : Row} {k : List Val} (h : k ≠ proj pk r) :
    kput pk m r k = m k := if_neg h

/-! `kput` and `kdel` as operations on maps. The list operations below are related to them by
rewriting with these laws and `absT_cons`. -/

theorem kput_kput_same {pk : List Nat} {m : KMap} {a b : Row} (h : proj pk b = proj pk a) :
    kput pk (kput pk m b) a = kput pk m a := by
  funext k
  by_cases hk : k = proj pk a
  · rw [hk, kput_self, kput_self]
  · rw [kput_ne hk, kput_ne hk, kput_ne (h ▸ hk)]

theorem kput_comm {pk : List Nat} {m : KMap} {a b : Row} (h : proj pk b ≠ proj pk a) :
    kput pk (kput pk m b) a = kput pk (kput pk m a) b := by
  funext k
  by_cases ha : k = proj pk a
  · rw [ha, kput_self, kput_ne (Ne.symm h), kput_self]
  · by_cases hb : k = proj pk b
    · rw [kput_ne ha, hb, kput_self, kput_self]
    · rw [kput_ne ha, kput_ne hb, kput_ne hb, kput_ne ha]

theorem kdel_kput_ne {pk : List Nat} {m : KMap} {b : Row} {k0 : List Val} (h : proj pk b ≠ k0) :
    kdel (kput pk m b) k0 = kput pk (kdel m k0) b := by
  funext k
  by_cases hk : k = k0
  · rw [hk, kdel_self, kput_ne (Ne.symm h), kdel_self]
  · by_cases hb : k = proj pk b
    · rw [kdel_ne hk, hb, kput_self, kput_self]
    · rw [kdel_ne hk, kput_ne hb, kput_ne hb, kdel_ne hk]

theorem kdel_kput_self {pk : List Nat} (m : KMap) (b : Row) :
    kdel (kput pk m b) (proj pk b) = kdel m (proj pk b) := by
  funext k
  by_cases hk : k = proj pk b
  · rw [hk, kdel_self, kdel_self]
  · rw [kdel_ne hk, kdel_ne hk, kput_ne hk]

theorem kput_eq_some_iff {pk : List Nat} {m : KMap} {row r : Row} :
    kput pk m row (proj pk r) = some r ↔ r = row ∨ (proj pk r ≠ proj pk row ∧ m (proj pk r) = some r) := by
  unfold kput
  split
  · next h => exact ⟨fun e => Or.inl (Option.some.inj e).symm, fun e => e.elim (fun e => e ▸ rfl) (fun e => absurd h e.1)⟩
  · next h => exact ⟨fun e => Or.inr ⟨h, e⟩, fun e => e.elim (fun e => absurd (e ▸ rfl) h) (·.2)⟩

theorem kdel_eq_some_iff {m : KMap} {k k0 : List Val} {r : Row} :
    kdel m k0 k = some r ↔ k ≠ k0 ∧ m k = some r := by
  unfold kdel
  split
  · next h => exact ⟨fun e => (nomatch e), fun e => absurd h e.1⟩
  · next h => exact ⟨fun e => ⟨h, e⟩, (·.2)⟩

theorem kdel_of_none {m : KMap} {k0 : List Val} (h : m k0 = none) : kdel m k0 = m := by
  funext k
  by_cases hk : k = k0
  · rw [hk, kdel_self, h]
  · exact kdel_ne hk

theorem getRowKey_eq (pk : List Nat) (r : Row) :
    getRowKey pk r = (proj pk r).flatMap (fun v => keyPart (printVal v)) := by
  simp [getRowKey, proj, List.flatMap_map]

theorem key_of_proj {pk : List Nat} {r1 r2 : Row} (h : proj pk r1 = proj pk r2) :
    getRowKey pk r1 = getRowKey pk r2 := by
  rw [getRowKey_eq, getRowKey_eq, h]

theorem colMatch_zero (a b : Val) : colMatch 0 a b = (a == b) := by simp [colMatch]

theorem headD_tail_zero {pls : List Nat} (hpl : ∀ p ∈ pls, p = 0) :
    pls.headD 0 = 0 ∧ ∀ p ∈ pls.tail, p = 0 :=
  ⟨by cases pls with
      | nil => rfl
      | cons p ps => exact hpl p List.mem_cons_self,
    fun p hp => hpl p (List.mem_of_mem_tail hp)⟩

theorem columnsMatch_zero_iff (cols pls : List Nat) (hpl : ∀ p ∈ pls, p = 0) (r1 r2 : Row) :
    columnsMatch cols pls r1 r2 = true ↔ proj cols r1 = proj cols r2 := by
  induction cols generalizing pls with
  | nil => exact ⟨fun _ => rfl, fun _ => rfl⟩
  | cons c cs ih =>
    obtain ⟨h0, ht⟩ := headD_tail_zero hpl
    rw [columnsMatch, h0, colMatch_zero, Bool.and_eq_true, beq_iff_eq, ih pls.tail ht]
    exact List.cons_eq_cons.symm

theorem columnsMatch_nil_iff (cols : List Nat) (r1 r2 : Row) :
    columnsMatch cols [] r1 r2 = true ↔ proj cols r1 = proj cols r2 :=
  columnsMatch_zero_iff cols [] (fun _ h => nomatch h) r1 r2

theorem columnsMatch_nil_eq (cols : List Nat) (r1 r2 : Row) :
    columnsMatch cols [] r1 r2 = decide (proj cols r1 = proj cols r2) := by
  rw [Bool.eq_iff_iff, columnsMatch_nil_iff, decide_eq_true_iff]

theorem colMatch_symm (pl : Nat) (a b : Val) : colMatch pl a b = colMatch pl b a := by
  unfold colMatch
  split <;> (rw [Bool.eq_iff_iff, beq_iff_eq, beq_iff_eq]; exact eq_comm)

theorem columnsMatch_symm (cols pls : List Nat) (r1 r2 : Row) :
    columnsMatch cols pls r1 r2 = columnsMatch cols pls r2 r1 := by
  induction cols generalizing pls with
  | nil => rfl
  | cons c cs ih => simp only [columnsMatch]; rw [colMatch_symm, ih]

theorem goPrefix_null (n : Nat) (v : Val) : goPrefix n v = .null ↔ v = .null := by
  cases v <;> simp [goPrefix]

theorem colMatch_null_left (pl : Nat) (b : Val) (hb : b ≠ .null) : colMatch pl .null b = false := by
  unfold colMatch
  split
  · exact beq_false_of_ne fun e => hb ((goPrefix_null pl b).mp e.symm)
  · exact beq_false_of_ne fun e => hb e.symm

theorem columnsMatch_null_left (cols pls : List Nat) (r1 r2 : Row)
    (h1 : hasNullForAnyCols r1 cols = true) (h2 : hasNullForAnyCols r2 cols = false) :
    columnsMatch cols pls r1 r2 = false := by
  induction cols generalizing pls with
  | nil => cases h1
  | cons c cs ih =>
    obtain ⟨h2c, h2s⟩ := Bool.or_eq_false_iff.mp (show (r2.at c == .null || hasNullForAnyCols r2 cs) = false from h2)
    rw [columnsMatch, Bool.and_eq_false_iff]
    rcases Bool.or_eq_true_iff.mp (show (r1.at c == .null || hasNullForAnyCols r1 cs) = true from h1) with h1 | h1
    · exact Or.inl (eq_of_beq h1 ▸ colMatch_null_left _ _ (ne_of_beq_false h2c))
    · exact Or.inr (ih pls.tail h1 h2s)

theorem valEq_noCi (a b : Val) : valEq false a b = (a == b) := by
  unfold valEq
  split
  · exact Bool.eq_iff_iff.mpr (by simp)
  · rfl

theorem rowEquals_noCi (cols : List Col) (h : ∀ c ∈ cols, c.ci = false) (a b : Row) :
    rowEquals cols a b = true → a = b := by
  fun_induction rowEquals cols a b with
  | case1 => exact fun _ => rfl
  | case2 c cs x xs y ys ih =>
    rw [h c List.mem_cons_self, valEq_noCi, Bool.and_eq_true, beq_iff_eq]
    exact fun ⟨h1, h2⟩ => h1 ▸ congrArg (x :: ·) (ih (fun c hc => h c (List.mem_cons_of_mem _ hc)) h2)
  | case3 => exact fun h => nomatch h

theorem valEq_self (ci : Bool) (x : Val) : valEq ci x x = true := by
  cases x with
  | str b => cases ci <;> exact beq_self_eq_true _
  | _ => exact beq_self_eq_true _

theorem rowEquals_self (cols : List Col) (a : Row) (h : a.length = cols.length) :
    rowEquals cols a a = true := by
  induction cols generalizing a with
  | nil => cases a with
    | nil => rfl
    | cons => cases h
  | cons c cs ih =>
    cases a with
    | nil => cases h
    | cons x xs =>
      rw [rowEquals, valEq_self, Bool.true_and]
      exact ih xs (Nat.succ.inj h)

theorem absT_cons_of_eq {pk : List Nat} {a : Row} {k : List Val} (t : List Row) (h : proj pk a = k) :
    absT pk (a :: t) k = some a :=
  List.find?_cons_of_pos (p := fun r => decide (proj pk r = k)) (decide_eq_true h)

theorem absT_cons_of_ne {pk : List Nat} {a : Row} {k : List Val} (t : List Row) (h : proj pk a ≠ k) :
    absT pk (a :: t) k = absT pk t k :=
  List.find?_cons_of_neg (p := fun r => decide (proj pk r = k)) (fun hd => h (of_decide_eq_true hd))

theorem absT_cons (pk : List Nat) (b : Row) (t : List Row) : absT pk (b :: t) = kput pk (absT pk t) b := by
  funext k
  by_cases h : k = proj pk b
  · rw [h, kput_self]; exact absT_cons_of_eq t rfl
  · rw [kput_ne h]; exact absT_cons_of_ne t (Ne.symm h)

theorem absT_none_of_not_mem {pk : List Nat} {t : List Row} {k : List Val}
    (h : k ∉ t.map (proj pk)) : absT pk t k = none :=
  List.find?_eq_none.mpr fun r hr hd => h (List.mem_map.mpr ⟨r, hr, of_decide_eq_true hd⟩)

theorem mem_of_absT {pk : List Nat} {t : List Row} {k : List Val} {r : Row} (h : absT pk t k = some r) :
    r ∈ t ∧ proj pk r = k :=
  ⟨List.mem_of_find?_eq_some h, of_decide_eq_true (List.find?_some (p := fun r => decide (proj pk r = k)) h)⟩

theorem absT_of_mem {pk : List Nat} {t : List Row} {r : Row} (hnd : NoDupPk pk t) (hr : r ∈ t) :
    absT pk t (proj pk r) = some r :=
  Basics.find?_eq_some_of_unique hr (decide_eq_true rfl) fun _ hx hp =>
    Basics.eq_of_nodup_map hnd hx hr (of_decide_eq_true hp)

theorem absT_some_iff {pk : List Nat} {t : List Row} (hnd : NoDupPk pk t) {k : List Val} {r : Row} :
    absT pk t k = some r ↔ r ∈ t ∧ proj pk r = k :=
  ⟨mem_of_absT, fun ⟨hm, hk⟩ => hk ▸ absT_of_mem hnd hm⟩

theorem nodup_of_map {α β : Type} (f : α → β) (l : List α) (h : (l.map f).Nodup) : l.Nodup :=
  List.Pairwise.of_map f (fun _ _ hne e => hne (congrArg f e)) h

theorem NoDupPk.perm_of_mem_iff {pk : List Nat} {t1 t2 : List Row} (h1 : NoDupPk pk t1) (h2 : NoDupPk pk t2)
    (h : ∀ x, x ∈ t1 ↔ x ∈ t2) : t1.Perm t2 :=
  (List.perm_ext_iff_of_nodup (nodup_of_map _ _ h1) (nodup_of_map _ _ h2)).mpr h

theorem absT_eq_iff_mem {pk : List Nat} {t1 t2 : List Row} (h1 : NoDupPk pk t1) (h2 : NoDupPk pk t2) :
    absT pk t1 = absT pk t2 ↔ ∀ x, x ∈ t1 ↔ x ∈ t2 :=
  ⟨fun h _ => ⟨fun hx => (mem_of_absT ((congrFun h _).symm.trans (absT_of_mem h1 hx))).1,
      fun hx => (mem_of_absT ((congrFun h _).trans (absT_of_mem h2 hx))).1⟩,
    fun h => funext fun k => Option.ext fun r => by rw [absT_some_iff h1, absT_some_iff h2, h r]⟩

theorem perm_of_absT_eq {pk : List Nat} {t1 t2 : List Row} (h1 : NoDupPk pk t1) (h2 : NoDupPk pk t2)
    (h : absT pk t1 = absT pk t2) : t1.Perm t2 :=
  h1.perm_of_mem_iff h2 ((absT_eq_iff_mem h1 h2).mp h)

theorem absT_perm {pk : List Nat} {t t' : List Row} (hp : t'.Perm t) (hnd : NoDupPk pk t) :
    absT pk t' = absT pk t ∧ NoDupPk pk t' :=
  have hnd' : NoDupPk pk t' := ((hp.map (proj pk)).nodup_iff).mpr hnd
  ⟨(absT_eq_iff_mem hnd' hnd).mpr fun _ => hp.mem_iff, hnd'⟩

theorem delPred_eq (sch : Schema) (hci : NoCi sch) (pr row : Row) :
    (columnsMatch sch.pk [] pr row || rowEquals sch.cols pr row) = decide (proj sch.pk pr = proj sch.pk row) := by
  rw [Bool.eq_iff_iff, Bool.or_eq_true, columnsMatch_nil_iff, decide_eq_true_iff]
  exact ⟨fun h => h.elim id (fun h => congrArg _ (rowEquals_noCi sch.cols hci pr row h)), Or.inl⟩

theorem eraseFirst_sublist {α : Type} (p : α → Bool) (l : List α) : (eraseFirst p l).Sublist l := by
  induction l with
  | nil => exact List.Sublist.refl _
  | cons a l ih =>
    rw [eraseFirst]
    split
    · exact List.sublist_cons_self a l
    · exact ih.cons_cons a

theorem NoDupPk.sublist {pk : List Nat} {t t' : List Row} (h : t'.Sublist t) (hnd : NoDupPk pk t) :
    NoDupPk pk t' :=
  List.Nodup.sublist (h.map (proj pk)) hnd

theorem absT_eraseFirst (pk : List Nat) (t : List Row) (k0 : List Val) (hnd : NoDupPk pk t) :
    absT pk (eraseFirst (fun r => decide (proj pk r = k0)) t) = kdel (absT pk t) k0 := by
  induction t with
  | nil => exact (kdel_of_none rfl).symm
  | cons a t ih =>
    obtain ⟨hna, hnd'⟩ := List.nodup_cons.mp hnd
    rw [eraseFirst]
    split
    · next h =>
      obtain rfl := of_decide_eq_true h
      rw [absT_cons, kdel_kput_self, kdel_of_none (absT_none_of_not_mem hna)]
    · next h => rw [absT_cons, absT_cons, ih hnd', kdel_kput_ne (fun e => h (decide_eq_true e))]

theorem eraseFirst_eq_erase (p : Row → Bool) (r : Row) (l : List Row) (h : ∀ d ∈ l, p d = (d == r)) :
    eraseFirst p l = l.erase r := by
  induction l with
  | nil => rfl
  | cons a as ih =>
    rw [eraseFirst, List.erase_cons, h a List.mem_cons_self, ih (fun d hd => h d (List.mem_cons_of_mem _ hd))]

theorem absT_erase {pk : List Nat} {t : List Row} {d : Row} (hnd : NoDupPk pk t)
    (h : ∀ x ∈ t, proj pk x = proj pk d → x = d) : absT pk (t.erase d) = kdel (absT pk t) (proj pk d) := by
  rw [← eraseFirst_eq_erase (fun r => decide (proj pk r = proj pk d)) d t fun x hx =>
    Bool.eq_iff_iff.mpr ⟨fun e => beq_iff_eq.mpr (h x hx (of_decide_eq_true e)), fun e => decide_eq_true (eq_of_beq e ▸ rfl)⟩]
  exact absT_eraseFirst pk t _ hnd

theorem absT_foldl_erase {pk : List Nat} {t : List Row} (hnd : NoDupPk pk t) (ds : List Row) (hS : ∀ d ∈ ds, d ∈ t) :
    (ds.foldl List.erase t).Sublist t
      ∧ absT pk (ds.foldl List.erase t) = ds.foldl (fun m d => kdel m (proj pk d)) (absT pk t) :=
  List.foldl_rel (r := fun t' m => t'.Sublist t ∧ absT pk t' = m) ⟨List.Sublist.refl t, rfl⟩
    fun d hd _ _ ⟨hs, hm⟩ => ⟨List.erase_sublist.trans hs, hm ▸ absT_erase (hnd.sublist hs)
      fun _ hx => Basics.eq_of_nodup_map hnd (hs.subset hx) (hS d hd)⟩

theorem foldl_erase_self (t : List Row) : t.foldl List.erase t = [] := by
  induction t with
  | nil => rfl
  | cons a t ih => rw [List.foldl_cons, List.erase_cons_head, ih]

theorem pkDeleteHelper_spec (sch : Schema) (hci : NoCi sch) (t : List Row) (d : Row)
    (hnd : NoDupPk sch.pk t) :
    absT sch.pk (pkDeleteHelper sch t d) = kdel (absT sch.pk t) (proj sch.pk d)
      ∧ NoDupPk sch.pk (pkDeleteHelper sch t d) := by
  simp only [pkDeleteHelper, delPred_eq sch hci]
  exact ⟨absT_eraseFirst sch.pk t _ hnd, hnd.sublist (eraseFirst_sublist _ t)⟩

theorem pkInsertHelper_cons (sch : Schema) (b : Row) (t : List Row) (a : Row) :
    pkInsertHelper sch (b :: t) a
      = if proj sch.pk b = proj sch.pk a then a :: t else b :: pkInsertHelper sch t a := by
  simp only [pkInsertHelper, replaceFirst, columnsMatch_nil_eq, decide_eq_true_eq]
  by_cases h : proj sch.pk b = proj sch.pk a
  · rw [if_pos h, if_pos h]
  · rw [if_neg h, if_neg h]
    cases replaceFirst (fun pr => decide (proj sch.pk pr = proj sch.pk a)) a t <;> rfl

theorem pkInsertHelper_spec (sch : Schema) (t : List Row) (a : Row) (hnd : NoDupPk sch.pk t) :
    absT sch.pk (pkInsertHelper sch t a) = kput sch.pk (absT sch.pk t) a
      ∧ NoDupPk sch.pk (pkInsertHelper sch t a) := by
  induction t with
  | nil => exact ⟨absT_cons sch.pk a [], List.nodup_cons.mpr ⟨List.not_mem_nil, List.nodup_nil⟩⟩
  | cons b t ih =>
    obtain ⟨hb, hnd'⟩ := List.nodup_cons.mp hnd
    obtain ⟨ih1, ih2⟩ := ih hnd'
    rw [pkInsertHelper_cons]
    split
    · next h => exact ⟨by rw [absT_cons, absT_cons, kput_kput_same h], List.nodup_cons.mpr ⟨h ▸ hb, hnd'⟩⟩
    · next h =>
      refine ⟨by rw [absT_cons, absT_cons, ih1, kput_comm h], List.nodup_cons.mpr ⟨fun hm => ?_, ih2⟩⟩
      -- a row of the result with the key values of `b` would be found by `absT`, which finds none
      obtain ⟨x, hx, hp⟩ := List.mem_map.mp hm
      have := absT_of_mem ih2 hx
      rw [ih1, hp, kput_ne h, absT_none_of_not_mem hb] at this
      cases this

/-- Effect of the pending edits on a keyed map: all deletes, then all adds. Read through `LMap` (the instance
at an editor state, Lemmas/MemTableEd) and its closed form `LMap_apply`. -/
def eff (pk : List Nat) (adds dels : List (Key × Row)) (m : KMap) : KMap :=
  (adds.map (·.2)).foldl (kput pk) ((dels.map (·.2)).foldl (fun m d => kdel m (proj pk d)) m)

theorem pkApplyU_spec (sch : Schema) (hci : NoCi sch) (e : Ed) (hnd : NoDupPk sch.pk e.rows) :
    absT sch.pk (pkApplyU sch e) = eff sch.pk e.adds e.dels (absT sch.pk e.rows)
      ∧ NoDupPk sch.pk (pkApplyU sch e) :=
  List.foldl_rel (r := fun t m => absT sch.pk t = m ∧ NoDupPk sch.pk t)
    (List.foldl_rel (r := fun t m => absT sch.pk t = m ∧ NoDupPk sch.pk t) ⟨rfl, hnd⟩
      fun d _ t _ ⟨h1, h2⟩ => h1 ▸ pkDeleteHelper_spec sch hci t d h2)
    fun a _ t _ ⟨h1, h2⟩ => h1 ▸ pkInsertHelper_spec sch t a h2

theorem foldl_kdel_apply (pk : List Nat) (ds : List Row) (m : KMap) (k : List Val) :
    (ds.foldl (fun m d => kdel m (proj pk d)) m) k = if (absT pk ds k).isSome then none else m k := by
  induction ds generalizing m with
  | nil => rfl
  | cons d ds ih =>
    rw [List.foldl_cons, ih]
    by_cases h : proj pk d = k
    · rw [absT_cons_of_eq ds h, h, kdel_self]
      split <;> rfl
    · rw [absT_cons_of_ne ds h, kdel_ne (Ne.symm h)]

theorem foldl_kput_apply (pk : List Nat) (rs : List Row) (m : KMap) (k : List Val)
    (hnd : (rs.map (proj pk)).Nodup) : (rs.foldl (kput pk) m) k = (absT pk rs k).or (m k) := by
  induction rs generalizing m with
  | nil => rfl
  | cons a rs ih =>
    obtain ⟨hna, hnd⟩ := List.nodup_cons.mp hnd
    rw [List.foldl_cons, ih _ hnd]
    by_cases h : proj pk a = k
    · rw [absT_cons_of_eq rs h, absT_none_of_not_mem (h ▸ hna), ← h]
      exact kput_self pk m a
    · rw [absT_cons_of_ne rs h, kput_ne (Ne.symm h)]

/-- `S`: the rows the statement hands to the editor; `getRowKey` has to be injective on them (`KeyInjOn`). -/
structure AccWF (pk : List Nat) (S : List Row) (e : Ed) : Prop where
  addsKey : ∀ x ∈ e.adds, x.1 = getRowKey pk x.2 ∧ x.2 ∈ S
  delsKey : ∀ x ∈ e.dels, x.1 = getRowKey pk x.2 ∧ x.2 ∈ S
  addsNd : e.adds.Pairwise (fun x y => x.1 ≠ y.1)

theorem accWF_nil {pk : List Nat} {S : List Row} {e : Ed} (ha : e.adds = []) (hd : e.dels = []) : AccWF pk S e :=
  ⟨fun _ h => (nomatch ha ▸ h), fun _ h => (nomatch hd ▸ h), ha ▸ List.Pairwise.nil⟩

theorem alSet_mem {l : List (Key × Row)} {k : Key} {r : Row} {x : Key × Row} (h : x ∈ alSet l k r) :
    x = (k, r) ∨ x ∈ l := by
  induction l with
  | nil => exact Or.inl (List.mem_singleton.mp h)
  | cons a l ih =>
    obtain ⟨k', r'⟩ := a
    rw [alSet] at h
    split at h
    · exact (List.mem_cons.mp h).imp_right (List.mem_cons_of_mem _)
    · rcases List.mem_cons.mp h with h | h
      · exact Or.inr (h ▸ List.mem_cons_self)
      · exact (ih h).imp_right (List.mem_cons_of_mem _)

theorem alDel_sublist (l : List (Key × Row)) (k : Key) : (alDel l k).Sublist l := by
  induction l with
  | nil => exact List.Sublist.refl _
  | cons a l ih =>
    obtain ⟨k', r'⟩ := a
    rw [alDel]
    split
    · exact List.sublist_cons_self _ l
    · exact ih.cons_cons _

theorem alDel_mem {l : List (Key × Row)} {k : Key} {x : Key × Row} (h : x ∈ alDel l k) : x ∈ l :=
  (alDel_sublist l k).subset h

theorem alSet_pairwise {l : List (Key × Row)} {k : Key} {r : Row}
    (h : l.Pairwise (fun x y => x.1 ≠ y.1)) : (alSet l k r).Pairwise (fun x y => x.1 ≠ y.1) := by
  induction l with
  | nil => exact List.pairwise_singleton _ _
  | cons a l ih =>
    obtain ⟨k', r'⟩ := a
    obtain ⟨h1, h2⟩ := List.pairwise_cons.mp h
    rw [alSet]
    split
    · next hk => exact List.pairwise_cons.mpr ⟨fun y hy => hk ▸ h1 y hy, h2⟩
    · next hk =>
      refine List.pairwise_cons.mpr ⟨fun y hy => ?_, ih h2⟩
      rcases alSet_mem hy with rfl | hy
      · exact hk
      · exact h1 y hy

theorem alDel_pairwise {l : List (Key × Row)} {k : Key}
    (h : l.Pairwise (fun x y => x.1 ≠ y.1)) : (alDel l k).Pairwise (fun x y => x.1 ≠ y.1) :=
  h.sublist (alDel_sublist l k)

/-- What `AccWF.addsKey` / `AccWF.delsKey` say of `e.adds` / `e.dels` (the fields unfold to this). -/
def Keyed (pk : List Nat) (S : List Row) (l : List (Key × Row)) : Prop :=
  ∀ x ∈ l, x.1 = getRowKey pk x.2 ∧ x.2 ∈ S

theorem Keyed.tail {pk : List Nat} {S : List Row} {a : Key × Row} {l : List (Key × Row)}
    (h : Keyed pk S (a :: l)) : Keyed pk S l := fun x hx => h x (List.mem_cons_of_mem _ hx)

theorem Keyed.key_eq_iff {pk : List Nat} {S : List Row} {l : List (Key × Row)} (hk : Keyed pk S l)
    (hinj : KeyInjOn pk S) {x : Key × Row} (hx : x ∈ l) {r : Row} (hr : r ∈ S) :
    x.1 = getRowKey pk r ↔ proj pk x.2 = proj pk r :=
  ⟨fun e => hinj _ (hk x hx).2 r hr ((hk x hx).1.symm.trans e), fun e => (hk x hx).1.trans (key_of_proj e)⟩

theorem keyed_projs_nodup {pk : List Nat} {S : List Row} {l : List (Key × Row)} (hk : Keyed pk S l)
    (hnd : l.Pairwise (fun x y => x.1 ≠ y.1)) : ((l.map (·.2)).map (proj pk)).Nodup := by
  rw [List.map_map]
  exact List.pairwise_map.mpr (hnd.imp_of_mem fun hx hy hne e =>
    hne (((hk _ hx).1.trans (key_of_proj e)).trans (hk _ hy).1.symm))

theorem absT_alSet {pk : List Nat} {S : List Row} (hinj : KeyInjOn pk S) {l : List (Key × Row)}
    (hk : Keyed pk S l) {r : Row} (hr : r ∈ S) :
    absT pk ((alSet l (getRowKey pk r) r).map (·.2)) = kput pk (absT pk (l.map (·.2))) r := by
  induction l with
  | nil => exact absT_cons pk r []
  | cons x l ih =>
    have hx := hk.key_eq_iff hinj List.mem_cons_self hr
    obtain ⟨k', r'⟩ := x
    rw [alSet]
    split
    · next hkk => rw [List.map_cons, List.map_cons, absT_cons, absT_cons, kput_kput_same (hx.mp hkk)]
    · next hkk => rw [List.map_cons, List.map_cons, absT_cons, absT_cons, ih hk.tail, kput_comm (mt hx.mpr hkk)]

theorem absT_alDel {pk : List Nat} {S : List Row} (hinj : KeyInjOn pk S) {l : List (Key × Row)}
    (hk : Keyed pk S l) (hnd : l.Pairwise (fun x y => x.1 ≠ y.1)) {r : Row} (hr : r ∈ S) :
    absT pk ((alDel l (getRowKey pk r)).map (·.2)) = kdel (absT pk (l.map (·.2))) (proj pk r) := by
  induction l with
  | nil => exact (kdel_of_none rfl).symm
  | cons x l ih =>
    have hx := hk.key_eq_iff hinj List.mem_cons_self hr
    -- distinct printed keys: no later entry has the key values of `x.2`
    have hfree := (List.nodup_cons.mp (keyed_projs_nodup hk hnd)).1
    obtain ⟨k', r'⟩ := x
    rw [alDel]
    split
    · next hkk =>
      rw [List.map_cons, absT_cons, ← hx.mp hkk, kdel_kput_self, kdel_of_none (absT_none_of_not_mem hfree)]
    · next hkk =>
      rw [List.map_cons, List.map_cons, absT_cons, absT_cons, ih hk.tail (List.pairwise_cons.mp hnd).2,
        kdel_kput_ne (mt hx.mpr hkk)]

theorem alGet_eq_absT {pk : List Nat} {S : List Row} (hinj : KeyInjOn pk S) {l : List (Key × Row)}
    (hk : Keyed pk S l) {row : Row} (hr : row ∈ S) :
    alGet l (getRowKey pk row) = absT pk (l.map (·.2)) (proj pk row) := by
  induction l with
  | nil => rfl
  | cons x l ih =>
    have hx := hk.key_eq_iff hinj List.mem_cons_self hr
    obtain ⟨k', r'⟩ := x
    rw [alGet]
    split
    · next hkk => exact (absT_cons_of_eq _ (hx.mp hkk)).symm
    · next hkk => exact (ih hk.tail).trans (absT_cons_of_ne _ (mt hx.mpr hkk)).symm

theorem Keyed.alSet {pk : List Nat} {S : List Row} {l : List (Key × Row)} (hk : Keyed pk S l) {r : Row}
    (hr : r ∈ S) : Keyed pk S (alSet l (getRowKey pk r) r) :=
  fun x hx => (alSet_mem hx).elim (fun e => e ▸ ⟨rfl, hr⟩) (hk x)

theorem AccWF.pkInsert {sch : Schema} {S : List Row} {e : Ed} (hwf : AccWF sch.pk S e) {r : Row} (hr : r ∈ S) :
    AccWF sch.pk S (pkInsert sch e r) :=
  ⟨Keyed.alSet hwf.addsKey hr, hwf.delsKey, alSet_pairwise hwf.addsNd⟩

theorem AccWF.pkDelete {sch : Schema} {S : List Row} {e : Ed} (hwf : AccWF sch.pk S e) {r : Row} (hr : r ∈ S) :
    AccWF sch.pk S (pkDelete sch e r) :=
  ⟨fun x hx => hwf.addsKey x (alDel_mem hx), Keyed.alSet hwf.delsKey hr, alDel_pairwise hwf.addsNd⟩

theorem insertSorted_inserts (lt : Row → Row → Bool) : InsertSort.Inserts lt (insertSorted lt) :=
  ⟨fun _ => rfl, fun _ _ _ => rfl⟩

theorem sortRowsBy_perm (lt : Row → Row → Bool) (l : List Row) : (sortRowsBy lt l).Perm l :=
  (insertSorted_inserts lt).foldr_perm l

theorem sortRows_perm (sch : Schema) (t : List Row) : (sortRows sch t).Perm t := sortRowsBy_perm _ t

theorem mem_sortRows (sch : Schema) (t : List Row) (r : Row) : r ∈ sortRows sch t ↔ r ∈ t :=
  (sortRows_perm sch t).mem_iff

theorem natDecF_eq (f n : Nat) (h : n < f) : natDecF f n = (Digits.digits 10 n).map (48 + ·) := by
  induction f generalizing n with
  | zero => exact absurd h (Nat.not_lt_zero n)
  | succ f ih =>
    rw [natDecF]
    split
    · next h10 => rw [Digits.digits_of_lt h10, digit, Nat.mod_eq_of_lt h10]; rfl
    · next h10 =>
      have h10 := Nat.le_of_not_lt h10
      rw [ih (n / 10) (Nat.lt_of_lt_of_le (Nat.div_lt_self (by omega) (by decide)) (Nat.le_of_lt_succ h)),
        Digits.digits_of_ge (by decide) h10, List.map_append]
      rfl

theorem natDec_eq (n : Nat) : natDec n = (Digits.digits 10 n).map (48 + ·) :=
  natDecF_eq (n + 1) n (Nat.lt_succ_self n)

theorem natDec_inj {a b : Nat} (h : natDec a = natDec b) : a = b := by
  rw [natDec_eq, natDec_eq, List.map_inj_right fun _ _ => Nat.add_left_cancel] at h
  rw [← Digits.value_digits 10 a, h, Digits.value_digits]

theorem natDec_digits (n : Nat) : ∀ d ∈ natDec n, 48 ≤ d ∧ d ≤ 57 :=
  natDec_eq n ▸ Digits.map_add_digits_range 48 (by decide) n

theorem natDec_ne_minus {n : Nat} {l : List Nat} : natDec n ≠ 45 :: l := fun h =>
  absurd (natDec_digits n 45 (h ▸ List.mem_cons_self)).1 (by decide)

theorem toNat_inj {x y : Int} (hx : 0 ≤ x) (hy : 0 ≤ y) (h : x.toNat = y.toNat) : x = y := by
  rw [← Int.toNat_of_nonneg hx, h, Int.toNat_of_nonneg hy]

theorem printInt_inj (a b : Int) (h : printInt a = printInt b) : a = b := by
  unfold printInt at h
  split at h <;> split at h
  · next ha hb =>
    exact Int.neg_inj.mp (toNat_inj (Int.neg_nonneg_of_nonpos (Int.le_of_lt ha))
      (Int.neg_nonneg_of_nonpos (Int.le_of_lt hb)) (natDec_inj (List.cons.inj h).2))
  · exact absurd h.symm natDec_ne_minus
  · exact absurd h natDec_ne_minus
  · next ha hb => exact toNat_inj (Int.not_lt.mp ha) (Int.not_lt.mp hb) (natDec_inj h)

theorem natDec_ne_colon (n : Nat) : ∀ d ∈ natDec n, d ≠ 58 :=
  fun d hd e => absurd (e ▸ (natDec_digits n d hd).2) (by decide)

/-- the prefix before the first `:` is `takeWhile (· ≠ ':')` of the whole string. -/
theorem colon_split_inj (a b x y : List Nat) (ha : ∀ d ∈ a, d ≠ 58) (hb : ∀ d ∈ b, d ≠ 58)
    (h : a ++ 58 :: x = b ++ 58 :: y) : a = b ∧ x = y := by
  have key : ∀ a x : List Nat, (∀ d ∈ a, d ≠ 58) → (a ++ 58 :: x).takeWhile (· != 58) = a := fun a x ha => by
    rw [List.takeWhile_append_of_pos (fun d hd => bne_iff_ne.mpr (ha d hd)), List.takeWhile_cons_of_neg (by decide),
      List.append_nil]
  obtain rfl : a = b := by rw [← key a x ha, h, key b y hb]
  exact ⟨rfl, (List.cons.inj (List.append_cancel_left h)).2⟩

/-- **Key parts are self-delimiting**: a concatenation that starts with a key part determines the
part and the rest (`%d:%s,` with the byte length of `%s`). -/
theorem keyPart_inj (s1 s2 t1 t2 : Key) (h : keyPart s1 ++ t1 = keyPart s2 ++ t2) : s1 = s2 ∧ t1 = t2 := by
  unfold keyPart at h
  simp only [List.append_assoc, List.cons_append] at h
  obtain ⟨hl, hr⟩ := colon_split_inj _ _ _ _ (natDec_ne_colon _) (natDec_ne_colon _) h
  have hlen : s1.length = s2.length := natDec_inj hl
  obtain ⟨e1, e2⟩ := List.append_inj hr hlen
  simp only [List.nil_append, List.cons.injEq, true_and] at e2
  exact ⟨e1, e2⟩

/-- kind of a value: what the column type fixes (NULL / integer / string). -/
def Val.kind : Val → Nat
  | .null => 0
  | .int _ => 1
  | .str _ => 2

/-- Across kinds `%v` is not injective: `1` and `'1'`. -/
theorem printVal_inj_kind (a b : Val) (hk : a.kind = b.kind) (h : printVal a = printVal b) : a = b :=
  match a, b, hk, h with
  | .null, .null, _, _ => rfl
  | .int i, .int j, _, h => congrArg Val.int (printInt_inj i j h)
  | .str _, .str _, _, h => congrArg Val.str h

theorem getRowKey_inj (pk : List Nat) (r1 r2 : Row) (hk : ∀ c ∈ pk, (r1.at c).kind = (r2.at c).kind)
    (h : getRowKey pk r1 = getRowKey pk r2) : proj pk r1 = proj pk r2 := by
  induction pk with
  | nil => rfl
  | cons c cs ih =>
    simp only [getRowKey, List.flatMap_cons] at h
    obtain ⟨h1, h2⟩ := keyPart_inj _ _ _ _ h
    exact List.cons_eq_cons.mpr ⟨printVal_inj_kind _ _ (hk c List.mem_cons_self) h1,
      ih (fun c hc => hk c (List.mem_cons_of_mem _ hc)) h2⟩

/-- The key columns of `r` hold values of the declared kinds: a string in a VARCHAR column, an
integer in an INT column, never NULL. Primary-key columns are NOT NULL: `insertIter` rejects a NULL there
before it calls the editor (ERROR 1048, sql/rowexec/insert.go); a value of another type is rejected by
`checkRow` (`ErrInvalidType`), the first call inside `tableEditor.Insert/Delete/Update`, which the model leaves out. -/
def KeyTyped (sch : Schema) (r : Row) : Prop :=
  ∀ c ∈ sch.pk, (r.at c).kind = if (sch.cols.getD c {}).str then 2 else 1

/-- **`getRowKey` is injective on the key values of typed rows** — the statement that was false
before the repair of `pk_print_collision` (then: (1,23) / (12,3)). -/
theorem keyInjOn_typed (sch : Schema) (S : List Row) (h : ∀ r ∈ S, KeyTyped sch r) : KeyInjOn sch.pk S := by
  intro r1 h1 r2 h2 hk
  exact getRowKey_inj sch.pk r1 r2 (fun c hc => by rw [h r1 h1 c hc, h r2 h2 c hc]) hk

end Gms.MemTable
