/-
Lemmas about the conflict-detection model `Gms/Model/JoinConflict.lean` (C01, finding
`inner_conjunct_lost_by_conflict_rule`): in a plan tree over distinct tables an edge's filter is put
at AT MOST one join node — the lowest node that covers the edge's TES — and it is put there iff the
edge's conflict rules hold for that node's tables.
-/
import Gms.Model.JoinConflict

namespace Gms.JoinConflict

theorem subset_iff {a b : VSet} : subset a b = true ↔ ∀ x ∈ a, x ∈ b := by
  simp [subset, List.all_eq_true]

theorem meets_iff {a b : VSet} : meets a b = true ↔ ∃ x, x ∈ a ∧ x ∈ b := by
  simp [meets, List.any_eq_true]

theorem not_subset_of_superset {a s t : VSet} (h : subset a t = false) (hst : ∀ x ∈ s, x ∈ t) : subset a s = false :=
  Bool.eq_false_iff.mpr fun hs => Bool.eq_false_iff.mp h <|
    subset_iff.mpr fun x hx => hst x (subset_iff.mp hs x hx)

theorem not_meets_of_subset {a l r : VSet} (hd : ∀ x, x ∈ l → x ∈ r → False) (h : subset a l = true) :
    meets a r = false :=
  Bool.eq_false_iff.mpr fun hm =>
    have ⟨x, hx, hr⟩ := meets_iff.mp hm
    hd x (subset_iff.mp h x hx) hr

theorem meets_of_not_subset {a s t : VSet} (h : ∀ x ∈ a, x ∈ s ∨ x ∈ t) (ht : subset a t = false) :
    meets a s = true :=
  Classical.byContradiction fun hm => Bool.eq_false_iff.mp ht <| subset_iff.mpr fun x hx =>
    (h x hx).resolve_left fun hs => hm (meets_iff.mpr ⟨x, hx, hs⟩)

def lowestCover (e : Edge) : PTree → PTree
  | .leaf v => .leaf v
  | .node l r =>
    if subset e.tes l.verts then lowestCover e l
    else if subset e.tes r.verts then lowestCover e r
    else .node l r

theorem count_zero_of_not_cover {e : Edge} {t : PTree} (h : subset e.tes t.verts = false) :
    countApplied e t = 0 := by
  induction t with
  | leaf v => rfl
  | node l r ihl ihr =>
    have hl : subset e.tes l.verts = false := not_subset_of_superset h fun _ => List.mem_append_left _
    have hr : subset e.tes r.verts = false := not_subset_of_superset h fun _ => List.mem_append_right _
    have happ : applicable e l.verts r.verts = false := by
      simp only [PTree.verts] at h
      simp [applicable, h]
    simp [countApplied, happ, ihl hl, ihr hr]

/-- The number of join nodes that get the edge's filter: one when the conflict rules hold at the
lowest node covering the TES, none otherwise. -/
theorem applied_count (e : Edge) (t : PTree) (hnd : t.verts.Nodup)
    (hcov : subset e.tes t.verts = true) (h2 : ∃ a b, a ∈ e.tes ∧ b ∈ e.tes ∧ a ≠ b) :
    countApplied e t = if rulesOk e (lowestCover e t).verts then 1 else 0 := by
  induction t with
  | leaf v =>
    -- a leaf covers one table, the TES has two
    obtain ⟨a, b, ha, hb, hab⟩ := h2
    rw [subset_iff] at hcov
    exact absurd ((List.mem_singleton.mp (hcov a ha)).trans (List.mem_singleton.mp (hcov b hb)).symm) hab
  | node l r ihl ihr =>
    simp only [PTree.verts] at hnd hcov
    obtain ⟨hndl, hndr, hne⟩ := List.nodup_append.mp hnd
    have hdisj : ∀ x, x ∈ l.verts → x ∈ r.verts → False := fun x hx hy => hne x hx x hy rfl
    obtain ⟨a, _, ha, _, _⟩ := h2
    cases hl : subset e.tes l.verts with
    | true =>
      -- the TES lies in the left input: not applicable here, nowhere on the right, the count is that of the left
      have hr : subset e.tes r.verts = false :=
        Bool.eq_false_iff.mpr fun hs => hdisj a (subset_iff.mp hl a ha) (subset_iff.mp hs a ha)
      simp [countApplied, applicable, lowestCover, hl, not_meets_of_subset hdisj hl,
        count_zero_of_not_cover hr, ihl hndl hl]
    | false =>
      cases hr : subset e.tes r.verts with
      | true =>
        -- the TES lies in the right input
        simp [countApplied, applicable, lowestCover, hl, hr,
          not_meets_of_subset (fun x hx hy => hdisj x hy hx) hr, count_zero_of_not_cover hl, ihr hndr hr]
      | false =>
        -- the TES meets both inputs: this node is the lowest cover
        have hmem := fun x hx => List.mem_append.mp (subset_iff.mp hcov x hx)
        simp [countApplied, applicable, lowestCover, hl, hr, hcov, PTree.verts,
          meets_of_not_subset hmem hr, meets_of_not_subset (fun x hx => (hmem x hx).symm) hl,
          count_zero_of_not_cover hl, count_zero_of_not_cover hr]

theorem rulesOk_nil (e : Edge) (h : e.rules = []) (s : VSet) : rulesOk e s = true := by
  simp [rulesOk, h]

end Gms.JoinConflict
