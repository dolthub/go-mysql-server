/-
C27: characterisation of `TruncateStringToInt` (Gms/Model/NumConv.lean `scanInt`, `truncateStringToInt`):
well-formed integer text is taken whole and unreported, everything else is reported as truncated —
except the texts that consist of nothing but an optional sign, which silently read as 0. At the end: the sign
of `signedVal`, and `convertToInt64` on a string spelt out.
-/
import Gms.Model.StoreStr
namespace Gms.Conv
open Gms.Num

theorem scanInt_digits (ds : List UInt8) (i : Nat) (seen : Bool) (h : ds.all isDigit = true) :
    scanInt ds i seen = (i + ds.length, seen || !ds.isEmpty) := by
  induction ds generalizing i seen with
  | nil => simp [scanInt]
  | cons c rest ih =>
    simp only [List.all_cons, Bool.and_eq_true] at h
    simp only [scanInt, h.1, if_true]
    rw [ih (i + 1) true h.2]
    simp; omega

theorem all_digits_of_scanInt_end (ds : List UInt8) (i : Nat) (seen : Bool) (hi : 0 < i)
    (h : (scanInt ds i seen).1 = i + ds.length) : ds.all isDigit = true := by
  fun_induction scanInt ds i seen with
  | case1 => rfl
  | case2 c rest i seen h_digit ih =>
    rw [List.all_cons, h_digit, ih (by omega) (by rw [List.length_cons] at h; omega)]; rfl
  | case3 c rest i seen h_digit h_sign => omega
  | case4 c rest i seen h_digit h_sign => rw [List.length_cons] at h; omega

theorem scanInt_le (ds : List UInt8) (i : Nat) (seen : Bool) : (scanInt ds i seen).1 ≤ i + ds.length := by
  fun_induction scanInt ds i seen <;> simp only [List.length_cons, List.length_nil] <;> omega

theorem scanInt_sign {c : UInt8} (hc : c = 45 ∨ c = 43) (ds : List UInt8) :
    scanInt (c :: ds) 0 false = scanInt ds 1 false := by
  have hd : isDigit c = false := by rcases hc with rfl | rfl <;> decide
  simp only [scanInt, hd, Bool.false_eq_true, if_false, hc, and_self, if_true]

theorem isIntBody_sign {c : UInt8} (hc : c = 45 ∨ c = 43) (ds : List UInt8) :
    isIntBody (c :: ds) = (!ds.isEmpty && ds.all isDigit) := by
  rcases hc with rfl | rfl <;> rfl

theorem isIntBody_not_sign {c : UInt8} (hc : ¬ (c = 45 ∨ c = 43)) (ds : List UInt8) :
    isIntBody (c :: ds) = (c :: ds).all isDigit := by
  unfold isIntBody
  split
  · rename_i heq; simp at heq; exact absurd (Or.inr heq.1) hc
  · rename_i heq; simp at heq; exact absurd (Or.inl heq.1) hc
  · simp

theorem scanInt_intBody (t : List UInt8) (h : isIntBody t = true) : scanInt t 0 false = (t.length, true) := by
  match t, h with
  | [], h => simp [isIntBody] at h
  | c :: ds, h =>
    by_cases hs : c = 45 ∨ c = 43
    · rw [isIntBody_sign hs, Bool.and_eq_true] at h
      rw [scanInt_sign hs, scanInt_digits ds 1 false h.2]
      simp [h.1]; omega
    · rw [isIntBody_not_sign hs] at h
      rw [scanInt_digits (c :: ds) 0 false h]
      simp

/-- a text that is scanned completely is well-formed integer text or nothing but a sign -/
theorem scanInt_complete (t : List UInt8) (h : (scanInt t 0 false).1 = t.length) :
    isIntBody t = true ∨ isSignOnly t = true := by
  cases t with
  | nil => right; rfl
  | cons c ds =>
    by_cases hs : c = 45 ∨ c = 43
    · rw [scanInt_sign hs, List.length_cons] at h
      have hall := all_digits_of_scanInt_end ds 1 false (by omega) (by omega)
      cases ds with
      | nil => right; rcases hs with rfl | rfl <;> rfl
      | cons d ds' => left; rw [isIntBody_sign hs, hall]; rfl
    · left
      rw [isIntBody_not_sign hs]
      by_cases hd : isDigit c = true
      · simp only [scanInt, hd, if_true, List.length_cons, Nat.zero_add] at h
        rw [List.all_cons, hd, all_digits_of_scanInt_end ds 1 true (by omega) (by omega)]; rfl
      · simp [scanInt, hd, hs] at h

/-- `TruncateStringToInt` on well-formed integer text: nothing is cut, no truncation is reported -/
theorem truncate_intBody (bs : List UInt8) (h : isIntBody (trim isIntCut bs) = true) :
    truncateStringToInt bs = (trim isIntCut bs, false) := by
  unfold truncateStringToInt
  simp only [scanInt_intBody _ h]
  simp

/-- `TruncateStringToInt` reports a truncation for everything that is neither well-formed integer
text nor just an optional sign -/
theorem truncate_malformed (bs : List UInt8) (h1 : isIntBody (trim isIntCut bs) = false)
    (h2 : isSignOnly (trim isIntCut bs) = false) : (truncateStringToInt bs).2 = true := by
  have hne : (scanInt (trim isIntCut bs) 0 false).1 ≠ (trim isIntCut bs).length := by
    intro h
    rcases scanInt_complete _ h with e | e
    · rw [e] at h1; cases h1
    · rw [e] at h2; cases h2
  -- with or without a digit seen, the flag says whether the scan stopped short
  fun_cases truncateStringToInt bs <;> rename_i t i seen h_scan h_seen <;>
    exact bne_iff_ne.2 fun h => hne ((congrArg Prod.fst h_scan).trans h)

/-- the silent case: nothing but an optional sign is taken as the number 0 without any report -/
theorem truncate_signOnly (bs : List UInt8) (h : isSignOnly (trim isIntCut bs) = true) :
    truncateStringToInt bs = ([48], false) := by
  unfold truncateStringToInt
  generalize trim isIntCut bs = t at h ⊢
  unfold isSignOnly at h
  split at h
  · rfl
  · rfl
  · rfl
  · cases h

theorem signedVal_neg_head (t : List UInt8) (h : signedVal t < 0) : (t.head? == some 45) = true := by
  revert h
  fun_cases signedVal t <;> intro h
  case case1 => rfl
  all_goals omega

theorem convertToInt64_str (bs : List UInt8) :
    convertToInt64 (.s bs) =
      (let v := signedVal (truncateStringToInt bs).1
       if v < minI64 ∨ v > maxI64 then ⟨0, .inRange, .fatal⟩
       else ⟨v, .inRange, if (truncateStringToInt bs).2 then .truncated else .none⟩) := by
  simp only [convertToInt64]
end Gms.Conv
