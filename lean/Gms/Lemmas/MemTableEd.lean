/-
The keyed map an editor state denotes (`LMap`): `ApplyEdits` realises it and the accumulator calls are
`kput` / `kdel` on it. Then the editor: the duplicate checks of `tableEditor.Insert/Update` against
the table as it will be after `ApplyEdits`.
-/
import Gms.Lemmas.MemTable

namespace Gms.MemTable

/-- The keyed map the editor state denotes: the stored rows with the pending edits applied. -/
def LMap (sch : Schema) (e : Ed) : KMap := eff sch.pk e.adds e.dels (absT sch.pk e.rows)

theorem LMap_of_no_edits (sch : Schema) {e : Ed} (ha : e.adds = []) (hd : e.dels = []) :
    LMap sch e = absT sch.pk e.rows := by
  rw [LMap, ha, hd]
  rfl

theorem absT_pkApply (sch : Schema) (hci : NoCi sch) (e : Ed) (hnd : NoDupPk sch.pk e.rows) :
    absT sch.pk (pkApply sch e) = LMap sch e ∧ NoDupPk sch.pk (pkApply sch e) := by
  obtain ⟨h1, h2⟩ := pkApplyU_spec sch hci e hnd
  obtain ⟨p1, p2⟩ := absT_perm (sortRows_perm sch (pkApplyU sch e)) h2
  exact ⟨p1.trans h1, p2⟩

theorem noDupPk_pkApply (sch : Schema) (hci : NoCi sch) (e : Ed) (hnd : NoDupPk sch.pk e.rows) :
    NoDupPk sch.pk (pkApply sch e) :=
  (absT_pkApply sch hci e hnd).2

theorem LMap_apply {sch : Schema} {S : List Row} {e : Ed} (hwf : AccWF sch.pk S e) (k : List Val) :
    LMap sch e k = (absT sch.pk (e.adds.map (·.2)) k).or
      (if (absT sch.pk (e.dels.map (·.2)) k).isSome then none else absT sch.pk e.rows k) := by
  unfold LMap eff
  rw [foldl_kput_apply sch.pk _ _ k (keyed_projs_nodup hwf.addsKey hwf.addsNd), foldl_kdel_apply]

theorem LMap_insert (sch : Schema) (S : List Row) (hinj : KeyInjOn sch.pk S) (e : Ed)
    (hwf : AccWF sch.pk S e) (row : Row) (hr : row ∈ S) :
    LMap sch (pkInsert sch e row) = kput sch.pk (LMap sch e) row := by
  have hwf' := hwf.pkInsert hr
  funext k
  rw [LMap_apply hwf',
    show (pkInsert sch e row).adds = alSet e.adds (getRowKey sch.pk row) row from rfl,
    show (pkInsert sch e row).dels = e.dels from rfl, absT_alSet hinj hwf.addsKey hr]
  by_cases h : k = proj sch.pk row
  · rw [h, kput_self, kput_self, Option.some_or]
  · rw [kput_ne h, kput_ne h, LMap_apply hwf]
    rfl

theorem LMap_delete (sch : Schema) (S : List Row) (hinj : KeyInjOn sch.pk S) (e : Ed)
    (hwf : AccWF sch.pk S e) (d : Row) (hr : d ∈ S) :
    LMap sch (pkDelete sch e d) = kdel (LMap sch e) (proj sch.pk d) := by
  have hwf' := hwf.pkDelete hr
  funext k
  rw [LMap_apply hwf',
    show (pkDelete sch e d).adds = alDel e.adds (getRowKey sch.pk d) from rfl,
    show (pkDelete sch e d).dels = alSet e.dels (getRowKey sch.pk d) d from rfl,
    absT_alDel hinj hwf.addsKey hwf.addsNd hr,
    absT_alSet hinj hwf.delsKey hr]
  by_cases h : k = proj sch.pk d
  · rw [h, kdel_self, kdel_self, kput_self]; rfl
  · rw [kdel_ne h, kdel_ne h, kput_ne h, LMap_apply hwf]
    rfl

inductive AccCall where
  | ins (r : Row)
  | del (r : Row)
  deriving Repr

def AccCall.row : AccCall → Row
  | .ins r => r
  | .del r => r

def accStepPk (sch : Schema) (e : Ed) : AccCall → Ed
  | .ins r => pkInsert sch e r
  | .del r => pkDelete sch e r

def specStepK (pk : List Nat) (m : KMap) : AccCall → KMap
  | .ins r => kput pk m r
  | .del r => kdel m (proj pk r)

theorem LMap_step (sch : Schema) (S : List Row) (hinj : KeyInjOn sch.pk S) (e : Ed) (hwf : AccWF sch.pk S e)
    (c : AccCall) (hc : c.row ∈ S) :
    LMap sch (accStepPk sch e c) = specStepK sch.pk (LMap sch e) c
      ∧ AccWF sch.pk S (accStepPk sch e c) ∧ (accStepPk sch e c).rows = e.rows := by
  cases c with
  | ins r => exact ⟨LMap_insert sch S hinj e hwf r hc, hwf.pkInsert hc, rfl⟩
  | del r => exact ⟨LMap_delete sch S hinj e hwf r hc, hwf.pkDelete hc, rfl⟩

theorem LMap_foldl (sch : Schema) (S : List Row) (hinj : KeyInjOn sch.pk S) (calls : List AccCall)
    (hS : ∀ c ∈ calls, c.row ∈ S) (e : Ed) (hwf : AccWF sch.pk S e) :
    LMap sch (calls.foldl (accStepPk sch) e) = calls.foldl (specStepK sch.pk) (LMap sch e)
      ∧ AccWF sch.pk S (calls.foldl (accStepPk sch) e)
      ∧ (calls.foldl (accStepPk sch) e).rows = e.rows :=
  List.foldl_rel (r := fun e' m' => LMap sch e' = m' ∧ AccWF sch.pk S e' ∧ e'.rows = e.rows)
    ⟨rfl, hwf, rfl⟩ fun c hc e' _ ⟨h1, h2, h3⟩ =>
      let ⟨s1, s2, s3⟩ := LMap_step sch S hinj e' h2 c (hS c hc)
      ⟨h1 ▸ s1, s2, s3.trans h3⟩

theorem pkApply_foldl (sch : Schema) (hci : NoCi sch) (S : List Row) (hinj : KeyInjOn sch.pk S) (calls : List AccCall)
    (hS : ∀ c ∈ calls, c.row ∈ S) (e : Ed) (hwf : AccWF sch.pk S e) (hnd : NoDupPk sch.pk e.rows) :
    absT sch.pk (pkApply sch (calls.foldl (accStepPk sch) e)) = calls.foldl (specStepK sch.pk) (LMap sch e)
      ∧ NoDupPk sch.pk (pkApply sch (calls.foldl (accStepPk sch) e)) := by
  obtain ⟨f1, _, f3⟩ := LMap_foldl sch S hinj calls hS e hwf
  obtain ⟨a1, a2⟩ := absT_pkApply sch hci (calls.foldl (accStepPk sch) e) (f3.symm ▸ hnd)
  exact ⟨a1.trans f1, a2⟩

theorem LMap_eq_some_iff (sch : Schema) (hci : NoCi sch) (e : Ed) (hnd : NoDupPk sch.pk e.rows) (k : List Val) (r : Row) :
    LMap sch e k = some r ↔ r ∈ pkApply sch e ∧ proj sch.pk r = k := by
  obtain ⟨h1, h2⟩ := absT_pkApply sch hci e hnd
  rw [← h1, absT_some_iff h2]

theorem mem_pkApply_iff (sch : Schema) (hci : NoCi sch) (e : Ed) (hnd : NoDupPk sch.pk e.rows) (r : Row) :
    r ∈ pkApply sch e ↔ LMap sch e (proj sch.pk r) = some r := by
  rw [LMap_eq_some_iff sch hci e hnd, and_iff_left rfl]

theorem proj_ne_of_free (sch : Schema) (hci : NoCi sch) (e : Ed) (hnd : NoDupPk sch.pk e.rows) {k : List Val}
    (h : LMap sch e k = none) : ∀ r ∈ pkApply sch e, proj sch.pk r ≠ k :=
  fun r hr hp => nomatch ((hp ▸ (mem_pkApply_iff sch hci e hnd r).mp hr).symm.trans h)

theorem LMap_no_dels (sch : Schema) (S : List Row) (e : Ed) (hwf : AccWF sch.pk S e) (hd : e.dels = []) (k : List Val) :
    LMap sch e k = (absT sch.pk (e.adds.map (·.2)) k).or (absT sch.pk e.rows k) := by
  rw [LMap_apply hwf, hd]
  rfl

/-- `pkTableEditAccumulator.Get` is exact: it reports "added" with row `r` iff the denoted map holds
`r` under the key of `row`. -/
theorem pkGet_spec (sch : Schema) (S : List Row) (hinj : KeyInjOn sch.pk S) (e : Ed)
    (hwf : AccWF sch.pk S e) (row : Row) (hr : row ∈ S) :
    LMap sch e (proj sch.pk row)
      = match pkGet sch e row with
        | some (r, true) => some r
        | _ => none := by
  rw [LMap_apply hwf, pkGet,
    alGet_eq_absT hinj hwf.addsKey hr,
    alGet_eq_absT hinj hwf.delsKey hr]
  simp only [columnsMatch_nil_eq]
  cases absT sch.pk (e.adds.map (·.2)) (proj sch.pk row) with
  | some r => rfl
  | none =>
    cases absT sch.pk (e.dels.map (·.2)) (proj sch.pk row) with
    | some r => rfl
    | none =>
      show e.rows.find? (fun pr => decide (proj sch.pk pr = proj sch.pk row)) = _
      cases e.rows.find? (fun pr => decide (proj sch.pk pr = proj sch.pk row)) <;> rfl

theorem checkUnique_eq (sch : Schema) (e : Ed) (row : Row) (us : List (List Nat × List Nat)) :
    checkUnique sch e row us
      = us.findSome? (fun u => if hasNullForAnyCols row u.1 then none else accGetByCols sch e row u.1 u.2) := by
  induction us with
  | nil => rfl
  | cons u us ih =>
    obtain ⟨cols, pls⟩ := u
    rw [checkUnique, List.findSome?_cons, ih]
    split
    · rfl
    · cases accGetByCols sch e row cols pls <;> rfl

theorem checkUnique_none (sch : Schema) (hk : sch.keyless = false) (e : Ed) (row : Row)
    (us : List (List Nat × List Nat)) (h : checkUnique sch e row us = none) :
    ∀ u ∈ us, hasNullForAnyCols row u.1 = false → pkGetByCols e row u.1 u.2 = none := by
  intro u hu hn
  have := List.findSome?_eq_none_iff.mp ((checkUnique_eq sch e row us).symm.trans h) u hu
  rwa [hn, if_neg Bool.false_ne_true, accGetByCols, hk, if_neg Bool.false_ne_true] at this

theorem checkUnique_some (sch : Schema) (hk : sch.keyless = false) (e : Ed) (row : Row)
    (us : List (List Nat × List Nat)) (ex : Row) (h : checkUnique sch e row us = some ex) :
    ∃ u ∈ us, hasNullForAnyCols row u.1 = false ∧ pkGetByCols e row u.1 u.2 = some ex := by
  obtain ⟨u, hu, hf⟩ := List.exists_of_findSome?_eq_some ((checkUnique_eq sch e row us).symm.trans h)
  split at hf
  · cases hf
  · next hn =>
    rw [accGetByCols, hk] at hf
    exact ⟨u, hu, Bool.eq_false_iff.mpr hn, hf⟩

theorem checkUnique_null (sch : Schema) (e : Ed) (row : Row) (us : List (List Nat × List Nat))
    (h : ∀ u ∈ us, hasNullForAnyCols row u.1 = true) : checkUnique sch e row us = none :=
  (checkUnique_eq sch e row us).trans (List.findSome?_eq_none_iff.mpr (fun u hu => if_pos (h u hu)))

theorem pkGetByCols_eq (e : Ed) (row : Row) (cols pls : List Nat) :
    pkGetByCols e row cols pls
      = if e.dels.any (fun d => columnsMatch cols pls d.2 row) then none
        else (e.adds.map (·.2) ++ e.rows).find? (fun r => columnsMatch cols pls r row) := by
  rw [pkGetByCols, List.find?_append, List.find?_map]
  show _ = if _ then _ else (Option.map Prod.snd (e.adds.find? (fun a => columnsMatch cols pls a.2 row))).or _
  cases e.adds.find? (fun a => columnsMatch cols pls a.2 row) <;> rfl

theorem pkGetByCols_some_match (e : Ed) (row : Row) (cols pls : List Nat) (ex : Row)
    (h : pkGetByCols e row cols pls = some ex) : columnsMatch cols pls ex row = true := by
  rw [pkGetByCols_eq] at h
  split at h
  · cases h
  · exact List.find?_some (p := fun r => columnsMatch cols pls r row) h

theorem inexactNow_eq_false_iff {sch : Schema} (hk : sch.keyless = false) (e : Ed) (row : Row) :
    inexactNow sch e row = false ↔
      ∀ u ∈ sch.uniques, hasNullForAnyCols row u.1 = false →
        (match pkGetByCols e row u.1 u.2 with
         | none => ∀ r ∈ pkApply sch e, columnsMatch u.1 u.2 r row = false
         | some ex => ex ∈ pkApply sch e) := by
  rw [inexactNow, hk, Bool.not_false, Bool.true_and, List.any_eq_false]
  refine forall₂_congr fun u _ => ?_
  cases hasNullForAnyCols row u.1 with
  | true => simp only [Bool.not_true, Bool.false_and, Bool.false_eq_true, not_false_eq_true, Bool.true_eq_false,
      false_implies]
  | false =>
    cases pkGetByCols e row u.1 u.2 with
    | none => simp only [Bool.not_false, Bool.true_and, List.any_eq_true, not_exists, not_and, Bool.not_eq_true,
        forall_const]
    | some ex => simp only [Bool.not_false, List.contains_eq_mem, Bool.true_and, Bool.not_eq_eq_eq_not, Bool.not_true,
        decide_eq_false_iff_not, Decidable.not_not, forall_const]

theorem checkUnique_none_exact {sch : Schema} (hk : sch.keyless = false) (e : Ed) (row : Row)
    (hchk : checkUnique sch e row sch.uniques = none) (hex : inexactNow sch e row = false) :
    ∀ u ∈ sch.uniques, hasNullForAnyCols row u.1 = false →
      ∀ r ∈ pkApply sch e, columnsMatch u.1 u.2 r row = false := by
  intro u hu hn r hrm
  have hx := (inexactNow_eq_false_iff hk e row).mp hex u hu hn
  rw [checkUnique_none sch hk e row sch.uniques hchk u hu hn] at hx
  exact hx r hrm

/-- No two rows of `L` with different key values match on a unique index in which the second has no NULL.
(`columnsMatch` itself lets NULL match NULL; the engine skips the check for a row with a NULL in the index,
`hasNullForAnyCols`. Only `r2` is asked: when `r1` has a NULL and `r2` none, they cannot match.) -/
def ListOK (sch : Schema) (L : List Row) : Prop :=
  ∀ r1 ∈ L, ∀ r2 ∈ L, proj sch.pk r1 ≠ proj sch.pk r2 →
    ∀ u ∈ sch.uniques, hasNullForAnyCols r2 u.1 = false → columnsMatch u.1 u.2 r1 r2 = false

theorem listOK_put (sch : Schema) (L L' : List Row) (row : Row) (hok : ListOK sch L)
    (hmem : ∀ r, r ∈ L' ↔ r = row ∨ r ∈ L)
    (hB : ∀ u ∈ sch.uniques, hasNullForAnyCols row u.1 = false → ∀ r ∈ L, columnsMatch u.1 u.2 r row = false) :
    ListOK sch L' := by
  intro r1 h1 r2 h2 hne u hu hn
  rcases (hmem r1).mp h1 with rfl | hm1 <;> rcases (hmem r2).mp h2 with rfl | hm2
  · exact absurd rfl hne
  · -- `hB` is silent when the new row has a NULL in the index; then it matches no row without one
    cases hrn : hasNullForAnyCols r1 u.1 with
    | true => exact columnsMatch_null_left _ _ _ _ hrn hn
    | false => rw [columnsMatch_symm]; exact hB u hu hrn r2 hm2
  · exact hB u hu hn r1 hm1
  · exact hok r1 hm1 r2 hm2 hne u hu hn

theorem listOK_sub (sch : Schema) (L L' : List Row) (hok : ListOK sch L) (hsub : ∀ r ∈ L', r ∈ L) :
    ListOK sch L' :=
  fun r1 h1 r2 h2 hne u hu hn => hok r1 (hsub r1 h1) r2 (hsub r2 h2) hne u hu hn

structure EdInv (sch : Schema) (S : List Row) (e : Ed) : Prop where
  wf : AccWF sch.pk S e
  nd : NoDupPk sch.pk e.rows
  ok : ListOK sch (pkApply sch e)

theorem AccWF_mark {pk : List Nat} {S : List Row} {e : Ed} (b : Bool) (h : AccWF pk S e) : AccWF pk S (e.mark b) :=
  ⟨h.addsKey, h.delsKey, h.addsNd⟩

theorem pkApply_insert_mem (sch : Schema) (hci : NoCi sch) (S : List Row) (hinj : KeyInjOn sch.pk S) (e : Ed)
    (hwf : AccWF sch.pk S e) (hnd : NoDupPk sch.pk e.rows) (row : Row) (hr : row ∈ S) (r : Row) :
    r ∈ pkApply sch (pkInsert sch e row) ↔ r = row ∨ (proj sch.pk r ≠ proj sch.pk row ∧ r ∈ pkApply sch e) := by
  rw [mem_pkApply_iff sch hci (pkInsert sch e row) hnd, mem_pkApply_iff sch hci e hnd,
    LMap_insert sch S hinj e hwf row hr, kput_eq_some_iff]

theorem pkApply_insert_mem_free (sch : Schema) (hci : NoCi sch) (S : List Row) (hinj : KeyInjOn sch.pk S) (e : Ed)
    (hwf : AccWF sch.pk S e) (hnd : NoDupPk sch.pk e.rows) (row : Row) (hr : row ∈ S)
    (hfree : LMap sch e (proj sch.pk row) = none) (r : Row) :
    r ∈ pkApply sch (pkInsert sch e row) ↔ r = row ∨ r ∈ pkApply sch e := by
  rw [pkApply_insert_mem sch hci S hinj e hwf hnd row hr r]
  exact or_congr_right ⟨And.right, fun h => ⟨proj_ne_of_free sch hci e hnd hfree r h, h⟩⟩

theorem pkApply_delete_mem (sch : Schema) (hci : NoCi sch) (S : List Row) (hinj : KeyInjOn sch.pk S) (e : Ed)
    (hwf : AccWF sch.pk S e) (hnd : NoDupPk sch.pk e.rows) (d : Row) (hr : d ∈ S) (r : Row) :
    r ∈ pkApply sch (pkDelete sch e d) ↔ (proj sch.pk r ≠ proj sch.pk d ∧ r ∈ pkApply sch e) := by
  rw [mem_pkApply_iff sch hci (pkDelete sch e d) hnd, mem_pkApply_iff sch hci e hnd,
    LMap_delete sch S hinj e hwf d hr, kdel_eq_some_iff]

theorem edInv_delete (sch : Schema) (hci : NoCi sch) (S : List Row) (hinj : KeyInjOn sch.pk S) (e : Ed)
    (inv : EdInv sch S e) (d : Row) (hr : d ∈ S) : EdInv sch S (pkDelete sch e d) :=
  ⟨inv.wf.pkDelete hr, inv.nd,
    listOK_sub sch _ _ inv.ok (fun r h => ((pkApply_delete_mem sch hci S hinj e inv.wf inv.nd d hr r).mp h).2)⟩

theorem accGet_keyed {sch : Schema} (hk : sch.keyless = false) (e : Ed) (row : Row) :
    accGet sch e row = pkGet sch e row := by simp only [accGet, hk, Bool.false_eq_true, if_false]

theorem accInsert_keyed {sch : Schema} (hk : sch.keyless = false) (e : Ed) (row : Row) :
    accInsert sch e row = pkInsert sch e row := by simp only [accInsert, hk, Bool.false_eq_true, if_false]

theorem accDelete_keyed {sch : Schema} (hk : sch.keyless = false) (e : Ed) (row : Row) :
    accDelete sch e row = pkDelete sch e row := by simp only [accDelete, hk, Bool.false_eq_true, if_false]

/-- What `Insert` and `Update` do on a keyed table once the key lookup `got` is made: reject a
pending-or-stored row with the key, run the unique check, insert. -/
def insertTail (sch : Schema) (e : Ed) (row : Row) (g : Bool) (got : Option (Row × Bool)) : Except EdErr Ed :=
  match got with
  | some (r, true) => .error (.pk r g)
  | _ =>
    match checkUnique sch e row sch.uniques with
    | some ex => .error (.uk ex g)
    | none => .ok ((pkInsert sch e row).mark g)

theorem edInsert_eq {sch : Schema} (hk : sch.keyless = false) (e : Ed) (row : Row) :
    edInsert sch e row = insertTail sch e row (e.inexact || inexactNow sch e row) (pkGet sch e row) := by
  rw [edInsert, accGet_keyed hk, accInsert_keyed hk]
  rfl

theorem edUpdate_eq {sch : Schema} (hk : sch.keyless = false) (e : Ed) (old new : Row) :
    edUpdate sch e old new = insertTail sch (pkDelete sch e old) new
      (e.inexact || inexactNow sch (pkDelete sch e old) new)
      (if !columnsMatch sch.pk [] old new then pkGet sch (pkDelete sch e old) new else none) := by
  rw [edUpdate, accDelete_keyed hk, accGet_keyed hk, accInsert_keyed hk]
  rfl

theorem insertTail_ok {sch : Schema} {e e' : Ed} {row : Row} {g : Bool} {got : Option (Row × Bool)}
    (h : insertTail sch e row g got = .ok e') :
    (∀ r, got ≠ some (r, true)) ∧ checkUnique sch e row sch.uniques = none ∧ e' = (pkInsert sch e row).mark g := by
  unfold insertTail at h
  split at h
  · cases h
  · next hgot =>
    split at h
    · cases h
    · next hchk => exact ⟨hgot, hchk, (Except.ok.inj h).symm⟩

theorem insertTail_err {sch : Schema} {e : Ed} {row : Row} {g : Bool} {got : Option (Row × Bool)} {x : EdErr}
    (h : insertTail sch e row g got = .error x) :
    got = some (x.existing, true) ∨ checkUnique sch e row sch.uniques = some x.existing := by
  unfold insertTail at h
  split at h
  · cases h; exact Or.inl rfl
  · split at h
    · next hchk => cases h; exact Or.inr hchk
    · cases h

theorem pkGet_free (sch : Schema) (S : List Row) (hinj : KeyInjOn sch.pk S)
    (e : Ed) (hwf : AccWF sch.pk S e) (row : Row) (hr : row ∈ S)
    (h : ∀ r, pkGet sch e row ≠ some (r, true)) : LMap sch e (proj sch.pk row) = none := by
  rw [pkGet_spec sch S hinj e hwf row hr]
  split
  · next r hg => exact absurd hg (h r)
  · rfl

/-- What `Insert` and `Update` share once the key of `row` is known to be free: the unique check passed and was
exact ⇒ the invariant is kept and the denoted table gains exactly `row`. -/
theorem insert_core (sch : Schema) (hk : sch.keyless = false) (hci : NoCi sch) (S : List Row)
    (hinj : KeyInjOn sch.pk S) (e : Ed) (inv : EdInv sch S e) (row : Row) (hr : row ∈ S)
    (hfree : LMap sch e (proj sch.pk row) = none)
    (hchk : checkUnique sch e row sch.uniques = none) (hex : inexactNow sch e row = false) (g : Bool) :
    EdInv sch S ((pkInsert sch e row).mark g)
      ∧ (∀ r, r ∈ pkApply sch ((pkInsert sch e row).mark g) ↔ r = row ∨ r ∈ pkApply sch e) := by
  have hmem := pkApply_insert_mem_free sch hci S hinj e inv.wf inv.nd row hr hfree
  exact ⟨⟨AccWF_mark g (inv.wf.pkInsert hr), inv.nd,
    listOK_put sch _ _ row inv.ok hmem (checkUnique_none_exact hk e row hchk hex)⟩, hmem⟩

theorem edInsert_ok_eq (sch : Schema) (hk : sch.keyless = false) (S : List Row) (hinj : KeyInjOn sch.pk S) (e : Ed)
    (hwf : AccWF sch.pk S e) (row : Row) (hr : row ∈ S) (e' : Ed) (h : edInsert sch e row = .ok e') :
    e' = (pkInsert sch e row).mark (e.inexact || inexactNow sch e row)
      ∧ LMap sch e (proj sch.pk row) = none ∧ checkUnique sch e row sch.uniques = none := by
  obtain ⟨hget, hchk, he⟩ := insertTail_ok ((edInsert_eq hk e row).symm.trans h)
  exact ⟨he, pkGet_free sch S hinj e hwf row hr hget, hchk⟩

/-- `tableEditor.Insert` succeeded ⇒ invariant kept, the denoted table gains exactly the row. -/
theorem edInsert_ok (sch : Schema) (hk : sch.keyless = false) (hci : NoCi sch) (S : List Row)
    (hinj : KeyInjOn sch.pk S) (e : Ed) (inv : EdInv sch S e) (row : Row) (hr : row ∈ S)
    (hex : inexactNow sch e row = false) (e' : Ed) (h : edInsert sch e row = .ok e') :
    EdInv sch S e' ∧ (∀ r, r ∈ pkApply sch e' ↔ r = row ∨ r ∈ pkApply sch e)
      ∧ LMap sch e (proj sch.pk row) = none := by
  obtain ⟨rfl, hfree, hchk⟩ := edInsert_ok_eq sch hk S hinj e inv.wf row hr e' h
  obtain ⟨i1, i2⟩ := insert_core sch hk hci S hinj e inv row hr hfree hchk hex (e.inexact || inexactNow sch e row)
  exact ⟨i1, i2, hfree⟩

/-- **No false duplicate** at the editor level: `tableEditor.Insert` fails ⇒ the row it reports
is in the denoted table and really collides with the new row (same key values, or agreement on a
unique index in which the new row has no NULL). -/
theorem edInsert_err (sch : Schema) (hk : sch.keyless = false) (hci : NoCi sch) (S : List Row)
    (hinj : KeyInjOn sch.pk S) (e : Ed) (hwf : AccWF sch.pk S e) (hnd : NoDupPk sch.pk e.rows) (row : Row) (hr : row ∈ S)
    (hex : inexactNow sch e row = false) (x : EdErr) (h : edInsert sch e row = .error x) :
    x.existing ∈ pkApply sch e ∧
      (proj sch.pk x.existing = proj sch.pk row ∨
        ∃ u ∈ sch.uniques, hasNullForAnyCols row u.1 = false ∧ columnsMatch u.1 u.2 x.existing row = true) := by
  rw [edInsert_eq hk] at h
  rcases insertTail_err h with hg | hc
  · have := pkGet_spec sch S hinj e hwf row hr
    rw [hg] at this
    obtain ⟨m1, m2⟩ := (LMap_eq_some_iff sch hci e hnd _ _).mp this
    exact ⟨m1, Or.inl m2⟩
  · obtain ⟨u, hu, hn, hgc⟩ := checkUnique_some sch hk e row sch.uniques _ hc
    have hx := (inexactNow_eq_false_iff hk e row).mp hex u hu hn
    rw [hgc] at hx
    exact ⟨hx, Or.inr ⟨u, hu, hn, pkGetByCols_some_match e row u.1 u.2 _ hgc⟩⟩

/-- `tableEditor.Update` succeeded ⇒ invariant kept; the denoted table loses the rows with the old
key and gains exactly the new row. -/
theorem edUpdate_ok (sch : Schema) (hk : sch.keyless = false) (hci : NoCi sch) (S : List Row)
    (hinj : KeyInjOn sch.pk S) (e : Ed) (inv : EdInv sch S e) (old new : Row) (ho : old ∈ S) (hn : new ∈ S)
    (hex : inexactNow sch (pkDelete sch e old) new = false) (e' : Ed) (h : edUpdate sch e old new = .ok e') :
    EdInv sch S e' ∧
      (∀ r, r ∈ pkApply sch e' ↔ r = new ∨ (proj sch.pk r ≠ proj sch.pk old ∧ r ∈ pkApply sch e)) := by
  rw [edUpdate_eq hk] at h
  obtain ⟨hget, hchk, rfl⟩ := insertTail_ok h
  have inv1 := edInv_delete sch hci S hinj e inv old ho
  have hfree : LMap sch (pkDelete sch e old) (proj sch.pk new) = none := by
    cases hd : columnsMatch sch.pk [] old new with
    | true =>
      rw [LMap_delete sch S hinj e inv.wf old ho, ← (columnsMatch_nil_iff sch.pk old new).mp hd]
      exact kdel_self _ _
    | false =>
      rw [hd] at hget
      exact pkGet_free sch S hinj _ inv1.wf new hn hget
  obtain ⟨i1, i2⟩ := insert_core sch hk hci S hinj _ inv1 new hn hfree hchk hex _
  exact ⟨i1, fun r => by rw [i2 r, pkApply_delete_mem sch hci S hinj e inv.wf inv.nd old ho r]⟩

theorem stmtComplete_rows {sch : Schema} (hk : sch.keyless = false) (e : Ed) :
    (stmtComplete sch e).rows = pkApply sch e := by
  simp only [stmtComplete, applyEdits, hk, Bool.false_eq_true, if_false]

theorem edDelete_keyed {sch : Schema} (hk : sch.keyless = false) : edDelete sch = pkDelete sch :=
  funext fun e => funext fun row => accDelete_keyed hk e row

theorem pkApply_begin (sch : Schema) (t : List Row) : pkApply sch (stmtBegin (mkEd t)) = sortRows sch t := rfl

theorem edInv_begin (sch : Schema) (S t : List Row) (h : NoDupPk sch.pk t ∧ ListOK sch t) :
    EdInv sch S (stmtBegin (mkEd t)) :=
  ⟨accWF_nil rfl rfl, h.1, listOK_sub sch t _ h.2 (fun r hr => (mem_sortRows sch t r).mp hr)⟩

end Gms.MemTable
