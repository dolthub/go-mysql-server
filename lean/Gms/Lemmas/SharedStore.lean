/-
Lemmas for `Gms.Model.SharedStore` (C36): the stable insertion sort is an instance of `Gms.InsertSort.Inserts`,
from which come what the proofs use — uniqueness of the sorted arrangement (`sortBy_eq_of_perm`), a sorted list is left
alone (`sortBy_of_sorted`), where a new head lands (`Inserts.append`) — and the agreement with core's `mergeSort`, which
has no user; the index scan as a filter over the rows the entries themselves describe
(a permutation of the stored rows); Impl = Spec on consistent storage.
-/
import Gms.Model.SharedStore
import Gms.Lemmas.InsertSort
import Gms.Lemmas.Basics

namespace Gms.SharedStore
open List InsertSort

variable {α : Type}

theorem insertBy_inserts (le : α → α → Bool) : Inserts le (insertBy le) := ⟨fun _ => rfl, fun _ _ _ => rfl⟩

theorem sortBy_eq_foldr (le : α → α → Bool) (l : List α) : sortBy le l = l.foldr (insertBy le) [] :=
  eq_foldr rfl (fun _ _ => rfl) l

theorem sortBy_eq_mergeSort (le : α → α → Bool) (tr : ∀ a b c, le a b → le b c → le a c)
    (tot : ∀ a b, le a b || le b a) (l : List α) : sortBy le l = mergeSort l le :=
  sortBy_eq_foldr le l ▸ (insertBy_inserts le).foldr_eq_mergeSort tr tot l

theorem sortBy_of_sorted (le : α → α → Bool) (l : List α) (h : l.Pairwise (fun a b => le a b = true)) :
    sortBy le l = l :=
  sortBy_eq_foldr le l ▸ (insertBy_inserts le).foldr_of_pairwise h

theorem sortBy_eq_of_perm (le : α → α → Bool) (tr : ∀ a b c, le a b → le b c → le a c)
    (tot : ∀ a b, le a b || le b a) {l s : List α} (hp : l.Perm s) (hs : s.Pairwise (fun a b => le a b))
    (anti : ∀ a b, a ∈ s → b ∈ s → le a b → le b a → a = b) : sortBy le l = s :=
  sortBy_eq_foldr le l ▸ (insertBy_inserts le).foldr_eq_of_perm tr tot hp hs anti

theorem pkLe_tot (a b : Row) : pkLe a b || pkLe b a := by
  simp only [pkLe, Bool.or_eq_true, decide_eq_true_eq]; exact Int.le_total ..

theorem pkLe_tr (a b c : Row) : pkLe a b = true → pkLe b c = true → pkLe a c = true := by
  simp only [pkLe, decide_eq_true_eq]; exact Int.le_trans

theorem optLe_tot (a b : Option Int) : optLe a b || optLe b a := by
  cases a <;> cases b <;> simp [optLe]
  exact Int.le_total ..

theorem optLe_tr (a b c : Option Int) : optLe a b = true → optLe b c = true → optLe a c = true := by
  cases a <;> cases b <;> cases c <;> simp [optLe]
  exact Int.le_trans

theorem optLe_anti (a b : Option Int) : optLe a b = true → optLe b a = true → a = b := by
  cases a <;> cases b <;> simp [optLe]
  exact Int.le_antisymm

theorem strict_pkLe {s : List Row} (hs : s.Pairwise (fun a b => a.pk < b.pk)) : s.Pairwise (fun a b => pkLe a b = true) :=
  hs.imp (by intro a b h; simp only [pkLe, decide_eq_true_eq]; exact Int.le_of_lt h)

theorem sortBy_pkLe_of_perm {l s : List Row} (hp : l.Perm s) (hs : s.Pairwise (fun a b => a.pk < b.pk)) :
    sortBy pkLe l = s :=
  sortBy_eq_of_perm pkLe pkLe_tr pkLe_tot hp (strict_pkLe hs) fun a b ha hb hab hba =>
    Basics.eq_of_nodup_map (pairwise_map.2 (hs.imp Int.ne_of_lt)) ha hb
      (by simp only [pkLe, decide_eq_true_eq] at hab hba; exact Int.le_antisymm hab hba)

theorem sortBy_pkGe_of_strict {s : List Row} (hs : s.Pairwise (fun a b => a.pk < b.pk)) : sortBy pkGe s = s.reverse := by
  induction s with
  | nil => rfl
  | cons x xs ih =>
    have hx := pairwise_cons.1 hs
    rw [sortBy, ih hx.2, reverse_cons]
    -- `x` is below every key of `xs`, so `pkGe x` fails on all of `xs.reverse` and `x` lands behind it
    have hlt : ∀ y ∈ xs.reverse, pkGe x y = false := fun y hy => by
      simp only [pkGe, decide_eq_false_iff_not]; exact Int.not_le.mpr (hx.1 y (mem_reverse.1 hy))
    have := (insertBy_inserts pkGe).append x xs.reverse [] hlt nofun
    rwa [append_nil] at this

theorem reverse_ne_of_strict {s : List Row} (hs : s.Pairwise (fun a b => a.pk < b.pk)) (h2 : 2 ≤ s.length) :
    s.reverse ≠ s := by
  intro hr
  match s, hs, h2, hr with
  | a :: b :: rest, hp, _, hr =>
    have hlast : (a :: b :: rest).reverse.head? = some a := by rw [hr]; rfl
    rw [head?_reverse, getLast?_cons_cons] at hlast
    have hmem : a ∈ b :: rest := mem_of_getLast? hlast
    exact Int.lt_irrefl _ ((pairwise_cons.1 hp).1 a hmem)

theorem range_filterMap_getElem (l : List α) : (List.range l.length).filterMap (l[·]?) = l := by
  induction l with
  | nil => rfl
  | cons x xs ih =>
    rw [length_cons, range_succ_eq_map, filterMap_cons, filterMap_map]
    exact congrArg (x :: ·) ih

/-- The row an index entry describes: the index covers both columns. -/
def Entry.row (e : Entry) : Row := ⟨e.pk, e.key⟩

theorem entryOk_iff {rows : List Row} {e : Entry} : entryOk rows e = true ↔ rows[e.idx]? = some e.row := by
  unfold entryOk
  cases rows[e.idx]? with
  | none => simp
  | some r => cases r; cases e; simp [Entry.row, and_comm]

theorem fetch_eq {rows : List Row} {es : List Entry} (hok : ∀ e ∈ es, entryOk rows e = true) (lo hi : Option Int) :
    fetch rows es lo hi = (es.filter fun e => vIn lo hi e.key).map Entry.row := by
  rw [← filterMap_eq_map, filterMap_filter]
  exact Basics.filterMap_congr_mem fun e he => by rw [entryOk_iff.1 (hok e he)]; rfl

theorem map_row_perm {ph : Phys} (hc : Consistent ph) : (ph.sec.map Entry.row).Perm ph.rows := by
  obtain ⟨_, hidx, hok, _⟩ := hc
  have e : ph.sec.map Entry.row = (ph.sec.map (·.idx)).filterMap (ph.rows[·]?) := by
    rw [filterMap_map, ← filterMap_eq_map]
    exact Basics.filterMap_congr_mem fun e he => (entryOk_iff.1 (hok e he)).symm
  exact e ▸ (hidx.filterMap _).trans (.of_eq (range_filterMap_getElem _))

theorem fetch_perm (ph : Phys) (hc : Consistent ph) (lo hi : Option Int) :
    (fetch ph.rows ph.sec lo hi).Perm (ph.rows.filter fun r => vIn lo hi r.v) := by
  rw [fetch_eq hc.2.2.1]
  have := (map_row_perm hc).filter fun r => vIn lo hi r.v
  rwa [filter_map] at this

theorem fetch_map_v (rows : List Row) (es : List Entry) (hok : ∀ e ∈ es, entryOk rows e = true) (lo hi : Option Int) :
    (fetch rows es lo hi).map (·.v) = (es.map (·.key)).filter (vIn lo hi) := by
  -- what is left holds by unfolding `Entry.row`: `Row.v ∘ Entry.row` is `Entry.key`
  rw [fetch_eq hok, map_map, filter_map]; rfl

theorem fetch_reverse (rows : List Row) (es : List Entry) (lo hi : Option Int) :
    fetch rows es.reverse lo hi = (fetch rows es lo hi).reverse := by
  unfold fetch; rw [filterMap_reverse]

theorem logical_eq (ph : Phys) (hc : Consistent ph) : logical ph = ph.rows :=
  sortBy_of_sorted pkLe _ (strict_pkLe hc.1)

-- The index walk yields the values in sorted order. Spec side on the left: `impl_eq_spec` rewrites its Spec side with it.
theorem srng_asc (ph : Phys) (hc : Consistent ph) (lo hi : Option Int) :
    sortBy optLe ((ph.rows.map (·.v)).filter (vIn lo hi)) = (fetch ph.rows ph.sec lo hi).map (·.v) := by
  have hperm := map_row_perm hc
  obtain ⟨_, _, hok, hsec⟩ := hc
  rw [fetch_map_v _ _ hok]
  refine sortBy_eq_of_perm optLe optLe_tr optLe_tot ?_ ((pairwise_map.2 hsec).filter _) fun a b _ _ => optLe_anti a b
  have := (hperm.map Row.v).filter (vIn lo hi)
  rw [map_map] at this
  exact this.symm

/-- **Impl = Spec**: on consistent storage every access path returns what the statement means on
the logical table. -/
theorem impl_eq_spec (ph : Phys) (hc : Consistent ph) (q : Q) : implEval ph q = specEval (logical ph) q := by
  -- `implEval` spells the logical table out as `sortBy pkLe ph.rows` (`pkr`, `scan`)
  have hs : sortBy pkLe ph.rows = ph.rows := logical_eq ph hc
  rw [logical_eq ph hc]
  cases q with
  | pkr lo hi desc lim =>
    cases desc
    · simp [implEval, specEval, hs]
    · simp [implEval, specEval, sortBy_pkGe_of_strict hc.1]
  | srows lo hi =>
    simp only [implEval, specEval]
    rw [sortBy_pkLe_of_perm (fetch_perm ph hc (some lo) (some hi)) (hc.1.filter _)]
  | srng lo hi desc =>
    cases desc
    · simp only [implEval, specEval, Bool.false_eq_true, if_false]
      rw [srng_asc ph hc lo hi, map_map]; rfl
    · simp only [implEval, specEval, if_true]
      rw [fetch_reverse, srng_asc ph hc lo hi, map_reverse, map_reverse, map_map]; rfl
  | scan => simp [implEval, specEval, hs]
  | agg => simp [implEval, specEval]

theorem runWith_copy (ph : Phys) (qs : List Q) :
    runWith execCopy ph qs = (qs.map (implEval ph), ph) := by
  induction qs with
  | nil => rfl
  | cons q qs ih => simp [runWith, execCopy, ih]

theorem execAlias_desc (ph : Phys) (hc : Consistent ph) (lo hi : Option Int) (lim : Option Nat) :
    (execAlias ph (.pkr lo hi true lim)).2 = { ph with rows := ph.rows.reverse } :=
  congrArg ({ ph with rows := · }) (sortBy_pkGe_of_strict hc.1)

/-- After a reverse primary-key lookup under `execAlias`, an ascending one puts the storage back
(which is why the damage comes and goes with the schedule). -/
theorem alias_asc_repairs (ph : Phys) (hc : Consistent ph) (lo hi lo' hi' : Option Int) (lim lim' : Option Nat) :
    (execAlias (execAlias ph (.pkr lo hi true lim)).2 (.pkr lo' hi' false lim')).2 = ph := by
  rw [execAlias_desc ph hc]
  exact congrArg ({ ph with rows := · }) (sortBy_pkLe_of_perm (reverse_perm _) hc.1)

end Gms.SharedStore
