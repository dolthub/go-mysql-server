/-
C27: "exact, or refused" for DECIMAL(p,s), YEAR and BIT(n): on a numeric value (YEAR: one that does not
round to a two-digit year, outside `year_decimal_beyond_int64_becomes_zero`; BIT: a non-negative one) each
of the three conversions either stores the rounded value or fails with a fatal error, according to whether
that value is storable.
-/
import Gms.Lemmas.StoreInt
import Gms.Lemmas.Basics
namespace Gms.Store
open Gms.Num Gms.Conv

theorem toDecimal_num (s : Nat) (col : Bool) {v : Val} {c : Int} {sc : Nat} (hx : numOf v = some (c, sc)) :
    toDecimal s col v = some (if col = true ∧ sc ≠ s then (roundToScale c sc s, s) else (c, sc)) := by
  obtain ⟨rfl, rfl⟩ | ⟨rfl, rfl⟩ | rfl := numOf_cases hx
  all_goals
    simp only [toDecimal]
    split <;> rfl

theorem convertDec_of_toDecimal (p : Nat) {s : Nat} {col : Bool} {v : Val} {c1 : Int} {sc1 : Nat} (hv : v ≠ .null)
    (h : toDecimal s col v = some (c1, sc1)) (hle : sc1 ≤ s) :
    convertDec p s col v =
      if c1.natAbs ≥ 10 ^ (p - s) * 10 ^ sc1 then ⟨.null, .inRange, .fatal⟩ else ⟨.dec c1 sc1, .inRange, .none⟩ := by
  simp only [convertDec_nonnull p s col v hv, h, if_neg (Nat.not_lt.2 hle)]

theorem convertDec_of_toDecimal_round (p : Nat) {s : Nat} {col : Bool} {v : Val} {c1 : Int} {sc1 : Nat} (hv : v ≠ .null)
    (h : toDecimal s col v = some (c1, sc1)) (hgt : sc1 > s) :
    convertDec p s col v =
      if (roundToScale c1 sc1 s).natAbs ≥ 10 ^ (p - s) * 10 ^ s then ⟨.null, .inRange, .fatal⟩
      else ⟨.dec (roundToScale c1 sc1 s) s, .inRange, .none⟩ := by
  simp only [convertDec_nonnull p s col v hv, h, if_pos hgt]

theorem convertDec_num (p s : Nat) (col : Bool) (v : Val) (c : Int) (sc : Nat) (hx : numOf v = some (c, sc)) :
    ∃ c' sc', sc' ≤ s ∧ (col = true → sc' = s) ∧ c' * 10 ^ (s - sc') = roundToScale c sc s ∧
      convertDec p s col v =
        if c'.natAbs ≥ 10 ^ (p - s) * 10 ^ sc' then ⟨.null, .inRange, .fatal⟩ else ⟨.dec c' sc', .inRange, .none⟩ := by
  have hv := numOf_ne_null hx
  have htd := toDecimal_num s col hx
  by_cases hA : col = true ∧ sc ≠ s
  · -- a column type rescales at once
    rw [if_pos hA] at htd
    exact ⟨_, s, Nat.le_refl _, fun _ => rfl, by simp, convertDec_of_toDecimal p hv htd (Nat.le_refl _)⟩
  · rw [if_neg hA] at htd
    by_cases hle : sc ≤ s
    · refine ⟨c, sc, hle, fun hc => Decidable.by_contra fun h => hA ⟨hc, h⟩, ?_, convertDec_of_toDecimal p hv htd hle⟩
      simp only [roundToScale, if_pos hle]
    · exact ⟨_, s, Nat.le_refl _, fun _ => rfl, by simp, convertDec_of_toDecimal_round p hv htd (by omega)⟩

theorem storable_dec (p s : Nat) (col : Bool) (x : Int) :
    Ty.storable (.dec p s col) x = true ↔ x.natAbs < 10 ^ p := by
  have e : ((10 ^ p : Nat) : Int) = (10 : Int) ^ p := by push_cast; rfl
  simp only [Ty.storable, Bool.and_eq_true, decide_eq_true_eq]
  show -((10 : Int) ^ p - 1) ≤ x ∧ x ≤ (10 : Int) ^ p - 1 ↔ _
  rw [← e]
  omega

/-- the bound `BoundsCheck` tests on a coefficient at scale `sc' ≤ s` is the type's bound at scale `s` -/
theorem dec_bound_iff (p s sc' : Nat) (c' : Int) (hsp : s ≤ p) (hle : sc' ≤ s) :
    c'.natAbs ≥ 10 ^ (p - s) * 10 ^ sc' ↔ ¬ (c' * 10 ^ (s - sc')).natAbs < 10 ^ p := by
  have hK : 0 < 10 ^ (s - sc') := Nat.pow_pos (by omega)
  have e1 : (c' * (10 : Int) ^ (s - sc')).natAbs = c'.natAbs * 10 ^ (s - sc') := by
    rw [Int.natAbs_mul, Int.natAbs_pow]; rfl
  have e2 : 10 ^ p = 10 ^ (p - s) * 10 ^ sc' * 10 ^ (s - sc') := by
    rw [← Nat.pow_add, ← Nat.pow_add]; congr 1; omega
  rw [e1, e2, Nat.not_lt]
  exact ⟨fun h => Nat.mul_le_mul_right _ h, fun h => Nat.le_of_mul_le_mul_right h hK⟩

/-- **exact, or rejected** for DECIMAL(p,s), column and non-column: a numeric value is stored rounded
(half away from zero) to the scale, or refused when the rounded value needs more than `p` digits -/
theorem dec_acceptable (p s : Nat) (col : Bool) (hsp : s ≤ p) (v : Val) (c : Int) (sc : Nat)
    (hx : numOf v = some (c, sc)) : Acceptable (.dec p s col) (c, sc) (convert (.dec p s col) v) := by
  simp only [convert]
  obtain ⟨c', sc', hle, _, heq, hconv⟩ := convertDec_num p s col v c sc hx
  have hb := dec_bound_iff p s sc' c' hsp hle
  rw [heq, ← storable_dec p s col] at hb
  rw [hconv]
  simp only [hb, ite_not]
  exact .exact_or_refused (tg := roundToScale c sc s) rfl (by rw [← heq]; rfl)

theorem yearOfInt_storable (y : Int) (h : y = 0 ∨ (1901 ≤ y ∧ y ≤ 2155)) : yearOfInt y = some y := by
  fun_cases yearOfInt y
  case case1 h_zero => rw [h_zero]
  case case4 => rfl
  all_goals omega

theorem yearOfInt_none (y : Int) (h0 : y ≠ 0) (h1 : ¬ (1 ≤ y ∧ y ≤ 99)) (h2 : ¬ (1901 ≤ y ∧ y ≤ 2155)) :
    yearOfInt y = none := by
  fun_cases yearOfInt y
  case case5 => rfl
  all_goals omega

theorem yearOfInt_range {y z : Int} (h : yearOfInt y = some z) : z = 0 ∨ (1901 ≤ z ∧ z ≤ 2155) := by
  -- two-digit inputs land in 2001..2069 or 1970..1999
  revert h
  fun_cases yearOfInt y <;> intro h <;> cases h <;> omega

/-- the tail of `YearType_.Convert` on the integer it finally looks at: the local `ofInt` of `convertYear`, to which
`convertYear (.i x)`, `(.u x)`, `(.d c s)` unfold, so that a fact about `yearRes y` closes a goal about them -/
abbrev yearRes (y : Int) : CRes :=
  match yearOfInt y with
  | some z => ⟨.int z, .inRange, .none⟩
  | none => ⟨.null, .inRange, .fatal⟩

theorem yearRes_eq {y : Int} (h1 : ¬ (1 ≤ y ∧ y ≤ 99)) :
    yearRes y = if Ty.storable .year y = true then ⟨.int y, .inRange, .none⟩ else ⟨.null, .inRange, .fatal⟩ := by
  split
  · next h => simp only [yearRes, yearOfInt_storable y ((storable_year y).1 h)]
  · next h =>
    rw [storable_year] at h
    simp only [yearRes, yearOfInt_none y (by omega) h1 (by omega)]

/-- Go's `int64(v)` of a `uint64` -/
theorem toInt64_of_u64 {x : Int} (h0 : 0 ≤ x) (h1 : x ≤ maxU64) :
    (BitVec.ofInt 64 x).toInt = x ∨ ((BitVec.ofInt 64 x).toInt < 0 ∧ maxI64 < x) := by
  rw [BitVec.toInt_ofInt]
  simp only [maxU64, maxI64, Int.bmod] at *
  omega

theorem convertYear_num (v : Val) (hwf : v.WF) (c : Int) (s : Nat) (hx : numOf v = some (c, s))
    (hy : ¬ (1 ≤ roundHalfAway c s ∧ roundHalfAway c s ≤ 99))
    (hreg : ¬ year_decimal_beyond_int64_becomes_zero .year v) :
    convertYear v = if Ty.storable .year (roundHalfAway c s) = true then ⟨.int (roundHalfAway c s), .inRange, .none⟩
      else ⟨.null, .inRange, .fatal⟩ := by
  -- a `uint64` above `MaxInt64` wraps to something negative, which is refused like the value itself
  have key : ∀ y, y = roundHalfAway c s ∨ (y < 0 ∧ roundHalfAway c s > 2155) →
      yearRes y = if Ty.storable .year (roundHalfAway c s) = true then ⟨.int (roundHalfAway c s), .inRange, .none⟩
        else ⟨.null, .inRange, .fatal⟩ := by
    rintro y (rfl | ⟨h1, h2⟩)
    · exact yearRes_eq hy
    · rw [yearRes_eq (by omega), if_neg (by rw [storable_year]; omega), if_neg (by rw [storable_year]; omega)]
  obtain ⟨rfl, rfl⟩ | ⟨rfl, rfl⟩ | rfl := numOf_cases hx
  · exact key c (Or.inl (rha_scale_zero c).symm)
  · refine key (BitVec.ofInt 64 c).toInt ?_
    rw [rha_scale_zero]
    rcases toInt64_of_u64 hwf.1 hwf.2 with h | ⟨h, hc⟩
    · exact Or.inl h
    · exact Or.inr ⟨h, Int.lt_trans (by decide) hc⟩
  · have hin : inI64 (roundHalfAway c s) := Decidable.by_contra hreg
    simp only [convertYear, if_pos hin]
    exact key (roundHalfAway c s) (Or.inl rfl)

/-- **exact, or rejected** for YEAR (four-digit values; two-digit inputs are an input convention and are
left undetermined by the Spec) -/
theorem year_acceptable (v : Val) (hwf : v.WF) (c : Int) (s : Nat) (hx : numOf v = some (c, s))
    (hy : ¬ (1 ≤ roundHalfAway c s ∧ roundHalfAway c s ≤ 99))
    (hreg : ¬ year_decimal_beyond_int64_becomes_zero .year v) :
    Acceptable .year (c, s) (convert .year v) := by
  simp only [convert]
  rw [convertYear_num v hwf c s hx hy hreg]
  exact .exact_or_refused (target_year c s) rfl

theorem convertBit_num (n : Nat) (hn : n ≤ 64) (v : Val) (hwf : v.WF) (c : Int) (s : Nat)
    (hx : numOf v = some (c, s)) (hc : 0 ≤ c) :
    convertBit n v =
      if Ty.storable (.bit n) (roundHalfAway c s) = true then ⟨.int (roundHalfAway c s), .inRange, .none⟩
      else ⟨.null, .overflow, .fatal⟩ := by
  have hr0 := rha_ge_of_ge c s 0 (by rw [Int.zero_mul]; exact hc)
  -- the width check that ends every path, on a non-negative value
  have hst : Ty.storable (.bit n) (roundHalfAway c s) = true ↔ ¬ roundHalfAway c s > 2 ^ n - 1 := by
    rw [storable_bit]; omega
  simp only [hst, ite_not]
  obtain ⟨rfl, rfl⟩ | ⟨rfl, rfl⟩ | rfl := numOf_cases hx
  · have h64 : c % 2 ^ 64 = c := Int.emod_eq_of_lt hc (Int.lt_of_le_of_lt hwf.2 (by decide))
    simp only [convertBit, h64, rha_scale_zero]
  · simp only [convertBit, rha_scale_zero]
  · simp only [convertBit]
    by_cases h1 : roundHalfAway c s > maxU64
    · -- beyond `MaxUint64`, hence beyond the width
      rw [if_pos h1, if_pos (Int.lt_of_le_of_lt (Int.sub_le_sub_right (Basics.two_pow_le_two_pow hn) 1) h1)]
    · have h3 : ((roundHalfAway c s).natAbs : Int) % 2 ^ 64 = roundHalfAway c s := by
        rw [Int.natAbs_of_nonneg hr0]
        exact Int.emod_eq_of_lt hr0 (Int.lt_of_le_sub_one (Int.not_lt.1 h1))
      rw [if_neg h1, if_neg (Int.not_lt.2 (Int.le_trans (by decide) hr0)), h3]

/-- **exact, or rejected** for BIT(n), non-negative numeric values -/
theorem bit_acceptable (n : Nat) (hn : n ≤ 64) (v : Val) (hwf : v.WF) (c : Int) (s : Nat)
    (hx : numOf v = some (c, s)) (hreg : ¬ bit_negative_reinterpreted (.bit n) v) :
    Acceptable (.bit n) (c, s) (convert (.bit n) v) := by
  have hc : 0 ≤ c := Int.not_lt.1 fun h => hreg (by simp [bit_negative_reinterpreted, hx, h])
  simp only [convert]
  rw [convertBit_num n hn v hwf c s hx hc]
  exact .exact_or_refused (target_bit n c s) rfl
end Gms.Store
