/-
C32 — lemmas about the JSON number model (Gms/Model/JsonNum.lean): the rounding `roundF64` is
idempotent and keeps values below 2^53, the shortest-digits printer parses back to the double, plain
digit strings are held exactly when they fit an integer type, and the guarded round trip
`reparse_val_partial`. Core-only proofs.
-/
import Gms.Model.JsonNum
namespace Gms.JsonNum

theorem roundF64_small {n : Nat} (h : n < 2 ^ 53) : roundF64 n = n := by
  unfold roundF64; rw [if_pos h]

theorem roundF64_big {n : Nat} (h : 2 ^ 53 ≤ n) :
    roundF64 n = (if n % 2 ^ (n.log2 - 52) > 2 ^ (n.log2 - 52 - 1) ∨
        (n % 2 ^ (n.log2 - 52) = 2 ^ (n.log2 - 52 - 1) ∧ n / 2 ^ (n.log2 - 52) % 2 = 1)
      then n / 2 ^ (n.log2 - 52) + 1 else n / 2 ^ (n.log2 - 52)) * 2 ^ (n.log2 - 52) := by
  unfold roundF64; rw [if_neg (Nat.not_lt.mpr h)]

theorem two53_le_mul {q s : Nat} (hq : 2 ^ 52 ≤ q) (hs : 1 ≤ s) : 2 ^ 53 ≤ q * 2 ^ s :=
  calc 2 ^ 53 = 2 ^ 52 * 2 ^ 1 := by decide
    _ ≤ q * 2 ^ s := Nat.mul_le_mul hq (Nat.pow_le_pow_right (by decide) hs)

theorem roundF64_mul_pow {q s : Nat} (hq1 : 2 ^ 52 ≤ q) (hq2 : q < 2 ^ 53) (hs : 1 ≤ s) :
    roundF64 (q * 2 ^ s) = q * 2 ^ s := by
  have hp : 0 < 2 ^ s := Nat.two_pow_pos s
  have hlog : (q * 2 ^ s).log2 = 52 + s := by
    rw [Nat.log2_eq_iff (Nat.mul_ne_zero (by omega) (Nat.ne_of_gt hp))]
    constructor
    · rw [Nat.pow_add]; exact Nat.mul_le_mul_right _ hq1
    · rw [show 52 + s + 1 = 53 + s by omega, Nat.pow_add]; exact (Nat.mul_lt_mul_right hp).mpr hq2
  have hh : 0 < 2 ^ (s - 1) := Nat.two_pow_pos _
  -- the shift is `s`, so nothing is cut off
  rw [roundF64_big (two53_le_mul hq1 hs), hlog, Nat.add_sub_cancel_left, Nat.mul_mod_left,
    Nat.mul_div_cancel _ hp, if_neg (by omega)]

theorem roundF64_decomp {n : Nat} (h : 2 ^ 53 ≤ n) :
    ∃ q s, roundF64 n = q * 2 ^ s ∧ 2 ^ 52 ≤ q ∧ q < 2 ^ 53 ∧ 1 ≤ s := by
  have hn0 : n ≠ 0 := by omega
  have hL : 53 ≤ n.log2 := (Nat.le_log2 hn0).mpr h
  have hp : 0 < 2 ^ (n.log2 - 52) := Nat.two_pow_pos _
  have e : 2 ^ 52 * 2 ^ (n.log2 - 52) = 2 ^ n.log2 := by
    rw [← Nat.pow_add, Nat.add_sub_cancel' (Nat.le_trans (by decide) hL)]
  have e' : 2 ^ 53 * 2 ^ (n.log2 - 52) = 2 ^ (n.log2 + 1) := by
    rw [Nat.pow_succ (m := n.log2), ← e, Nat.mul_right_comm]
  have hq1 : 2 ^ 52 ≤ n / 2 ^ (n.log2 - 52) := by
    rw [Nat.le_div_iff_mul_le hp, e]; exact Nat.log2_self_le hn0
  have hq2 : n / 2 ^ (n.log2 - 52) < 2 ^ 53 := by
    rw [Nat.div_lt_iff_lt_mul hp, e']; exact Nat.lt_log2_self
  rw [roundF64_big h]
  split
  · by_cases hb : n / 2 ^ (n.log2 - 52) + 1 < 2 ^ 53
    · exact ⟨_, _, rfl, by omega, hb, by omega⟩
    · -- the mantissa rounds up to 2^53 = 2^52 · 2
      refine ⟨2 ^ 52, n.log2 - 52 + 1, ?_, Nat.le_refl _, by decide, by omega⟩
      rw [show n / 2 ^ (n.log2 - 52) + 1 = 2 ^ 52 * 2 by omega, Nat.pow_succ (m := n.log2 - 52), Nat.mul_assoc,
        Nat.mul_comm 2]
  · exact ⟨_, _, rfl, hq1, hq2, by omega⟩

theorem roundF64_idem (n : Nat) : roundF64 (roundF64 n) = roundF64 n := by
  rcases Nat.lt_or_ge n (2 ^ 53) with h | h
  · rw [roundF64_small h, roundF64_small h]
  · obtain ⟨q, s, e, h1, h2, h3⟩ := roundF64_decomp h
    rw [e]; exact roundF64_mul_pow h1 h2 h3

theorem roundF64_ge {n : Nat} (h : 2 ^ 53 ≤ n) : 2 ^ 53 ≤ roundF64 n := by
  obtain ⟨q, s, e, h1, _, h3⟩ := roundF64_decomp h
  rw [e]; exact two53_le_mul h1 h3

theorem roundF64_lt_iff (n : Nat) : roundF64 n < 2 ^ 53 ↔ n < 2 ^ 53 := by
  constructor
  · intro h
    apply Nat.lt_of_not_le
    intro hn
    exact Nat.not_le.mpr h (roundF64_ge hn)
  · intro h
    rwa [roundF64_small h]

theorem shortestAt_rt {mag d c : Nat} (h : shortestAt mag d = some c) : roundF64 c = mag := by
  revert h
  fun_cases shortestAt mag d with
  | case1 k lo hi okLo okHi h_both =>
    simp only [Bool.and_eq_true, beq_iff_eq, okLo, okHi] at h_both
    rintro ⟨rfl⟩
    split
    · exact h_both.1
    · exact h_both.2
  | case2 k lo hi okLo okHi h_not_both h_lo => exact fun h => Option.some.inj h ▸ beq_iff_eq.mp h_lo
  | case3 k lo hi okLo okHi h_not_both h_not_lo h_hi => exact fun h => Option.some.inj h ▸ beq_iff_eq.mp h_hi
  | case4 => exact nofun

/-- The digits `FormatFloat(x, 'f', -1, 64)` writes for an integral double parse back to it. -/
theorem shortest_rt {mag : Nat} (h : roundF64 mag = mag) : roundF64 (shortest mag) = mag := by
  unfold shortest
  split
  · rename_i c hc
    obtain ⟨d, _, hd⟩ := List.exists_of_findSome?_eq_some hc
    exact shortestAt_rt hd
  · exact h

theorem fitsI64_iff (v : Int) : fitsI64 v = true ↔ (-(2 ^ 63 : Int) ≤ v ∧ v < 2 ^ 63) := by
  simp [fitsI64]

theorem signed_natAbs (v : Int) : signed (decide (v < 0)) v.natAbs = v := by
  unfold signed
  by_cases h : v < 0
  · simp [h]; omega
  · simp [h]; omega

theorem lit_mag_plain (neg : Bool) (m : Nat) : (Lit.mk neg m 0 false).mag = m := by
  simp [Lit.mag]

/-- `convertJsonNumbers` on a plain digit string; the test on the double is a test on the digits (`roundF64_lt_iff`). -/
theorem convert_plain (neg : Bool) (m : Nat) :
    convert ⟨neg, m, 0, false⟩ =
      if m < 2 ^ 53 then .f64 neg m
      else if fitsI64 (signed neg m) = true then .i64 (signed neg m)
      else if neg = false ∧ m < 2 ^ 64 then .u64 m
      else .f64 neg (roundF64 m) := by
  unfold convert
  rw [lit_mag_plain]
  simp only [Bool.false_eq_true, if_false, roundF64_lt_iff, Bool.and_eq_true, Bool.not_eq_true', decide_eq_true_eq]
  split
  · next h => rw [roundF64_small h]
  · rfl

/-- A digit string is held with its exact value when that fits int64 or uint64 (below 2^53 as an exact
double), and as the nearest double otherwise. -/
theorem convert_plain_val (neg : Bool) (m : Nat) :
    (convert ⟨neg, m, 0, false⟩).val =
      signed neg (if fitsI64 (signed neg m) = true ∨ (neg = false ∧ m < 2 ^ 64) then m else roundF64 m) := by
  rw [convert_plain]
  by_cases h1 : m < 2 ^ 53
  · rw [if_pos h1, roundF64_small h1, ite_self]; rfl
  rw [if_neg h1]
  by_cases h2 : fitsI64 (signed neg m) = true
  · rw [if_pos h2, if_pos (.inl h2)]; rfl
  rw [if_neg h2]
  by_cases h3 : neg = false ∧ m < 2 ^ 64
  · rw [if_pos h3, if_pos (.inr h3), h3.1]; rfl
  · rw [if_neg h3, if_neg (not_or.mpr ⟨h2, h3⟩)]; rfl

theorem convert_plain_exact (neg : Bool) (m : Nat)
    (h : fitsI64 (signed neg m) = true ∨ (neg = false ∧ m < 2 ^ 64)) :
    (convert ⟨neg, m, 0, false⟩).val = signed neg m := by
  rw [convert_plain_val, if_pos h]

/-- Plain digits beyond both integer types are held as a double, the one they round to. -/
theorem convert_plain_float (neg : Bool) (m : Nat) (h1 : ¬ fitsI64 (signed neg m) = true)
    (h2 : ¬ (neg = false ∧ m < 2 ^ 64)) : convert ⟨neg, m, 0, false⟩ = .f64 neg (roundF64 m) := by
  have hm : ¬ m < 2 ^ 53 := fun hm => h1 ((fitsI64_iff _).mpr (by unfold signed; split <;> omega))
  rw [convert_plain, if_neg hm, if_neg h1, if_neg h2]

/-- The text `FormatInt` writes for an int64 is held as that integer. The left side is, by definition,
`(reparse (.i64 v)).val`, and what `reparse (.f64 ..)` is in the `FormatInt` branch of `printNum`. -/
theorem convert_int_text {v : Int} (h : fitsI64 v = true) :
    (convert (reLit (decide (v < 0), v.natAbs))).val = v := by
  have := convert_plain_exact (decide (v < 0)) v.natAbs (by rw [signed_natAbs]; exact .inl h)
  rwa [signed_natAbs] at this

/-- Every literal is held as a well-formed number (a double is its own rounding; int64 / uint64 in range). -/
theorem convert_wf (l : Lit) : (convert l).wf := by
  fun_cases convert l with
  | case1 f h_floaty => exact roundF64_idem _
  | case2 f h_plain h_small => exact roundF64_idem _
  | case3 f h_plain h_big h_i64 => exact (fitsI64_iff _).mp h_i64
  | case4 f h_plain h_big h_not_i64 h_u64 =>
    simp only [Bool.and_eq_true, decide_eq_true_eq] at h_u64
    exact h_u64.2
  | case5 => exact roundF64_idem _

/-- `float64(int64(x)) == x` is the test "x fits int64": outside, the conversion yields -2^63, which fits. -/
theorem toInt64_eq_iff (v : Int) : v = toInt64 v ↔ fitsI64 v = true := by
  unfold toInt64
  split
  · simpa
  · rename_i h
    exact ⟨fun e => absurd (e ▸ by decide) h, fun e => absurd e h⟩

theorem printNum_f64 (neg : Bool) (mag : Nat) :
    printNum (.f64 neg mag) =
      if fitsI64 (signed neg mag) = true then (decide (signed neg mag < 0), (signed neg mag).natAbs)
      else (neg, shortest mag) := by
  simp only [printNum, toInt64_eq_iff]
  split
  · next h => rw [toInt64, if_pos h]
  · rfl

theorem bigFloat_iff (neg : Bool) (mag : Nat) :
    bigFloatReparsedAsInteger (.f64 neg mag) = true ↔
      ¬ fitsI64 (signed neg mag) = true ∧ shortest mag ≠ mag ∧
        (fitsI64 (signed neg (shortest mag)) = true ∨ (neg = false ∧ shortest mag < 2 ^ 64)) := by
  simp only [bigFloatReparsedAsInteger, Bool.and_eq_true, Bool.or_eq_true, decide_eq_true_eq, ne_eq,
    toInt64_eq_iff, Bool.not_eq_true', and_assoc]

/-- **Number round trip (guarded).** Away from the listed defect class, the printed text of a held
number is held, when parsed, as a number of exactly the same value. -/
theorem reparse_val_partial (n : Num) (hw : n.wf) (hr : bigFloatReparsedAsInteger n = false) :
    (reparse n).val = n.val := by
  cases n with
  | i64 v => exact convert_int_text ((fitsI64_iff v).mpr hw)
  | u64 v => exact convert_plain_exact false v (.inr ⟨rfl, hw⟩)
  | f64 neg mag =>
    rw [reparse, printNum_f64]
    split
    · next hf => exact convert_int_text hf
    · next hf =>
      rw [reLit]
      -- reduce the projections of the printed pair here: left to the unifier they make it unfold `shortest`
      simp only
      rw [convert_plain_val]
      split
      · next hx =>
        -- the digits are held as an integer: outside the defect class they are `mag` itself
        have hcm : shortest mag = mag := Classical.byContradiction fun hne => by
          rw [(bigFloat_iff neg mag).mpr ⟨hf, hne, hx⟩] at hr; cases hr
        rw [hcm]; rfl
      · rw [shortest_rt hw]; rfl

end Gms.JsonNum
