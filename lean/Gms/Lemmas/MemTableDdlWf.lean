/-
What each schema change does is stated once, by positions (`Moves`, `ddl_moves`); that the table
definition stays well-formed (`ddl_wf`) and that the editor created afterwards works with the old key
ordinals re-numbered (`ddl_remap`) both follow from that alone.
-/
import Gms.Lemmas.MemTableDdl
namespace Gms.MemTable

/-- What a schema change `ns ↦ ns'`, `row` does, by positions: at every key ordinal `i` of the editor,
position `i` of the names, of the column descriptors and of every row moves to `f i`, and `n` is
renamed to `ren n` in names and index definitions alike. -/
structure Moves (ns ns' : NSchema) (f ren : Nat → Nat) (row : Row → Row) : Prop where
  nodup : ns'.names.Nodup
  len : ns'.cols.length = ns'.names.length
  pk : ns'.pk = ns.pk.map f
  idx : ns'.idx = ns.idx.map (fun ix => (ix.1.map ren, ix.2))
  names : ∀ i n, ns.resolve.KeyCol i → ns.names[i]? = some n → ns'.names[f i]? = some (ren n)
  cols : ∀ i, ns.resolve.KeyCol i → ns'.cols[f i]? = ns.cols[i]?
  rows : ∀ r : Row, r.length = ns.names.length → ∀ i, ns.resolve.KeyCol i → (row r)[f i]? = r[i]?

theorem Moves.wf_remap {ns ns' : NSchema} {f ren : Nat → Nat} {row : Row → Row}
    (m : Moves ns ns' f ren row) (hwf : ns.wf = true) :
    ns'.wf = true ∧ Remap ns.resolve ns'.resolve f row (fun r => r.length = ns.names.length) := by
  obtain ⟨_, _, hsub, hlt⟩ := NSchema.wf_iff.mp hwf
  have hmoved (ix) (hix : ix ∈ ns.idx) (n) (hn : n ∈ ix.1) : ns'.names[f (ns.names.idxOf n)]? = some (ren n) :=
    m.names _ n ((keyCol_resolve hsub).mpr (.inr ⟨ix, hix, n, hn, rfl⟩)) (Basics.getElem?_idxOf (hsub ix hix n hn))
  have hsub' : ∀ ix' ∈ ns'.idx, ∀ n' ∈ ix'.1, n' ∈ ns'.names := by
    intro ix' hix' n' h'
    rw [m.idx] at hix'
    obtain ⟨ix, hix, rfl⟩ := List.mem_map.mp hix'
    obtain ⟨n, h, rfl⟩ := List.mem_map.mp h'
    exact List.mem_of_getElem? (hmoved ix hix n h)
  have hlt' : ∀ o' ∈ ns'.pk, o' < ns'.names.length := by
    intro o' ho'
    rw [m.pk] at ho'
    obtain ⟨o, ho, rfl⟩ := List.mem_map.mp ho'
    exact (List.getElem?_eq_some_iff.mp
      (m.names o _ (keyCol_pk ns.resolve o ho) (List.getElem?_eq_getElem (hlt o ho)))).1
  exact ⟨NSchema.wf_iff.mpr ⟨m.nodup, m.len, hsub', hlt'⟩, {
    pk := m.pk
    uq := indexCols_moved hsub hsub' m.nodup m.idx hmoved
    val := fun r hr c hc => getD_congr (m.rows r hr c hc) _
    col := fun c hc => getD_congr (m.cols c hc) _ }⟩

theorem map_id_pair (l : List (List Nat × List Nat)) : l = l.map (fun ix => (ix.1.map id, ix.2)) := by
  simp

theorem ddl_moves (ns : NSchema) (d : Ddl) (hwf : ns.wf = true) (hok : ddlOk ns d = true) :
    ∃ f ren : Nat → Nat, Moves ns (ddlSchema ns d) f ren (ddlRow d) := by
  obtain ⟨hnd, hlen, hsub, _⟩ := NSchema.wf_iff.mp hwf
  cases d with
  | addCol p name c =>
    obtain ⟨hp, hfresh⟩ := ddlOk_addCol hok
    have hpc : p ≤ ns.cols.length := hlen ▸ hp
    exact ⟨bump p, id, {
      nodup := by
        rw [ddlSchema, insAt_eq_insertIdx hp]
        exact (List.perm_insertIdx name ns.names hp).nodup_iff.mpr (List.nodup_cons.mpr ⟨hfresh, hnd⟩)
      len := by
        rw [ddlSchema, insAt_eq_insertIdx hp, insAt_eq_insertIdx hpc,
          List.length_insertIdx_of_le_length hp, List.length_insertIdx_of_le_length hpc, hlen]
      pk := rfl
      idx := map_id_pair _
      names := fun _ _ _ h => (getElem?_insAt_bump hp).trans h
      cols := fun _ _ => getElem?_insAt_bump hpc
      rows := fun _ hr _ _ => getElem?_insAt_bump (hr ▸ hp) }⟩
  | dropCol c =>
    obtain ⟨hc, hpk, hix⟩ := ddlOk_dropCol hok
    -- were `c` a key ordinal, it would be in `pk` or its name in an index; `ddlOk` excludes both
    have hK (i) (hi : ns.resolve.KeyCol i) : i ≠ c := by
      rintro rfl
      obtain ho | ⟨ix, hix', n, hn, e⟩ := (keyCol_resolve hsub).mp hi
      · exact hpk ho
      · exact hix ix hix' (getD_of_getElem? (e ▸ Basics.getElem?_idxOf (hsub ix hix' n hn)) 0 ▸ hn)
    exact ⟨unbump c, id, {
      nodup := hnd.eraseIdx c
      len := by rw [ddlSchema, List.length_eraseIdx_of_lt hc, List.length_eraseIdx_of_lt (hlen ▸ hc), hlen]
      pk := rfl
      idx := map_id_pair _
      names := fun i _ hi h => (getElem?_eraseIdx_unbump (hK i hi)).trans h
      cols := fun i hi => getElem?_eraseIdx_unbump (hK i hi)
      rows := fun _ _ i hi => getElem?_eraseIdx_unbump (hK i hi) }⟩
  | renCol c name =>
    obtain ⟨hc, hfresh⟩ := ddlOk_renCol hok
    exact ⟨id, fun n => if n = ns.names.getD c 0 then name else n, {
      nodup := nodup_set ns.names c name hnd hfresh
      len := hlen.trans List.length_set.symm
      pk := (List.map_id _).symm
      idx := rfl
      names := fun _ _ _ h => getElem?_set_rename hnd hc name h
      cols := fun _ _ => rfl
      rows := fun _ _ _ _ => rfl }⟩
  | renTab =>
    exact ⟨id, id, {
      nodup := hnd
      len := hlen
      pk := (List.map_id _).symm
      idx := map_id_pair _
      names := fun _ _ _ h => h
      cols := fun _ _ => rfl
      rows := fun _ _ _ _ => rfl }⟩

/-- **well-formedness is preserved by every applicable schema change.** -/
theorem ddl_wf (ns : NSchema) (d : Ddl) (hwf : ns.wf = true) (hok : ddlOk ns d = true) :
    (ddlSchema ns d).wf = true :=
  let ⟨_, _, m⟩ := ddl_moves ns d hwf hok; (m.wf_remap hwf).1

/-- **Every modelled schema change is a re-numbering of the key ordinals** that the by-name
resolution of the unique indexes follows. -/
theorem ddl_remap (ns : NSchema) (d : Ddl) (hwf : ns.wf = true) (hok : ddlOk ns d = true) :
    ∃ f : Nat → Nat, Remap ns.resolve (ddlSchema ns d).resolve f (ddlRow d) (fun r => r.length = ns.names.length) :=
  let ⟨f, _, m⟩ := ddl_moves ns d hwf hok; ⟨f, (m.wf_remap hwf).2⟩

end Gms.MemTable
