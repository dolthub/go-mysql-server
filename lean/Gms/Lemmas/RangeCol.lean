/-
Column-range operations denote the set operations they are named after (M4 `Range`). A point is a
member of a range according to four Booleans — whether each bound of the two operands lies below
it —, the order facts an operation establishes are implications between them (`Cut.le_sound`, `Cut.ge_sound`),
and what remains of each denotation lemma is a propositional identity in those four atoms.
-/
import Gms.Lemmas.RangeCut

namespace Gms.Range

namespace ColRange

def NonInv (r : ColRange) : Prop := r.lo.compare r.hi ≤ 0

instance (r : ColRange) : Decidable r.NonInv := by unfold NonInv; exact inferInstance

theorem mem_eq (r : ColRange) (v : Option Int) : r.mem v = (r.lo.isBelow v && !r.hi.isBelow v) := rfl

theorem mem_empty (v : Option Int) : ColRange.empty.mem v = false := by
  simp [mem, empty, Cut.isBelow]

theorem mem_all (v : Option Int) : ColRange.all.mem v = true := by
  simp [mem, all, Cut.isBelow]

theorem nonInv_empty : ColRange.empty.NonInv := by decide

theorem equals_iff {r o : ColRange} : r.equals o = true ↔ r = o := by
  cases r; cases o
  simp [equals, Cut.compare_eq_zero_iff]

theorem equals_self (r : ColRange) : r.equals r = true := equals_iff.mpr rfl

theorem isEmpty_false_iff_lt {r : ColRange} : r.isEmpty = false ↔ r.lo.compare r.hi < 0 :=
  decide_eq_false_iff_not.trans Int.not_le

theorem isEmpty_false_iff_exists_mem {r : ColRange} : r.isEmpty = false ↔ ∃ v, r.mem v = true := by
  simp only [isEmpty_false_iff_lt, Cut.lt_iff, mem_eq, Bool.and_eq_true, Bool.not_eq_true']

theorem isEmpty_iff (r : ColRange) : r.isEmpty = true ↔ ∀ v, r.mem v = false := by
  rw [← Bool.not_eq_false, isEmpty_false_iff_exists_mem]
  simp

theorem isEmpty_sound {r : ColRange} (h : r.isEmpty = true) (v : Option Int) : r.mem v = false :=
  (isEmpty_iff r).mp h v

theorem nonInv_of_not_isEmpty {r : ColRange} (h : r.isEmpty = false) : r.NonInv :=
  Int.le_of_lt (isEmpty_false_iff_lt.mp h)

theorem overlaps_false {r o : ColRange} (h : (r.overlaps o).2 = false) (v : Option Int) :
    (r.mem v && o.mem v) = false := by
  revert h
  rw [mem_eq, mem_eq]
  fun_cases overlaps r o with
  | case1 hro =>
    have i := Cut.ge_sound hro v
    generalize r.lo.isBelow v = rl, r.hi.isBelow v = rh, o.lo.isBelow v = ol, o.hi.isBelow v = oh at i
    decide +revert
  | case2 hro hor =>
    have i := Cut.ge_sound hor v
    generalize r.lo.isBelow v = rl, r.hi.isBelow v = rh, o.lo.isBelow v = ol, o.hi.isBelow v = oh at i
    decide +revert
  | case3 hro hor => exact fun h => by cases h

theorem overlaps_true_eq {r o : ColRange} (h : (r.overlaps o).2 = true) :
    (r.overlaps o).1 = ⟨cutMax r.lo o.lo, cutMin r.hi o.hi⟩ ∧ r.lo.compare o.hi < 0 ∧ o.lo.compare r.hi < 0 := by
  revert h
  fun_cases overlaps r o with
  | case1 hro => exact fun h => by cases h
  | case2 hro hor => exact fun h => by cases h
  | case3 hro hor => exact fun _ => ⟨rfl, Int.not_le.mp hro, Int.not_le.mp hor⟩

theorem overlaps_true {r o : ColRange} (h : (r.overlaps o).2 = true) (v : Option Int) :
    (r.overlaps o).1.mem v = (r.mem v && o.mem v) := by
  rw [(overlaps_true_eq h).1]
  simp only [mem_eq, isBelow_cutMax, isBelow_cutMin]
  generalize r.lo.isBelow v = rl, r.hi.isBelow v = rh, o.lo.isBelow v = ol, o.hi.isBelow v = oh
  decide +revert

/-- `R` is `· < 0` or `· ≤ 0`: each bound of the common part is a bound of an operand, and the two
mixed pairs are strictly ordered by the flag. -/
theorem overlaps_lo_hi {r o : ColRange} {R : Int → Prop} (hr : R (r.lo.compare r.hi))
    (ho : R (o.lo.compare o.hi)) (hlt : ∀ {x}, x < 0 → R x) (h : (r.overlaps o).2 = true) :
    R ((r.overlaps o).1.lo.compare (r.overlaps o).1.hi) := by
  obtain ⟨he, h1, h2⟩ := overlaps_true_eq h
  rw [he]
  rcases cutMax_mem r.lo o.lo with e | e <;> rcases cutMin_mem r.hi o.hi with e' | e' <;> rw [e, e']
  · exact hr
  · exact hlt h1
  · exact hlt h2
  · exact ho

theorem overlaps_true_iff {r o : ColRange} (hr : r.isEmpty = false) (ho : o.isEmpty = false) :
    (r.overlaps o).2 = true ↔ ∃ v, r.mem v = true ∧ o.mem v = true := by
  constructor
  · intro h
    obtain ⟨v, hv⟩ := isEmpty_false_iff_exists_mem.mp (isEmpty_false_iff_lt.mpr
      (overlaps_lo_hi (R := (· < 0)) (isEmpty_false_iff_lt.mp hr) (isEmpty_false_iff_lt.mp ho) id h))
    exact ⟨v, Bool.and_eq_true_iff.mp (overlaps_true h v ▸ hv)⟩
  · intro ⟨v, h1, h2⟩
    cases hf : (r.overlaps o).2 with
    | true => rfl
    | false => have := overlaps_false hf v; rw [h1, h2] at this; simp at this

theorem overlaps_nonInv {r o : ColRange} (hr : r.NonInv) (ho : o.NonInv) (h : (r.overlaps o).2 = true) :
    (r.overlaps o).1.NonInv :=
  overlaps_lo_hi (R := (· ≤ 0)) hr ho Int.le_of_lt h

theorem mem_tryIntersect (r o : ColRange) (v : Option Int) :
    (r.tryIntersect o).1.mem v = (r.mem v && o.mem v) := by
  fun_cases tryIntersect r o with
  | case1 l u hlt =>
    simp only [mem_eq, l, u, isBelow_ordered]
    generalize r.lo.isBelow v = rl, r.hi.isBelow v = rh, o.lo.isBelow v = ol, o.hi.isBelow v = oh
    decide +revert
  | case2 l u hge =>
    have i := Cut.ge_sound (Int.not_lt.mp hge) v
    simp only [l, u, isBelow_ordered] at i
    rw [show ((empty, false) : ColRange × Bool).1.mem v = false from mem_empty v, mem_eq, mem_eq]
    generalize r.lo.isBelow v = rl, r.hi.isBelow v = rh, o.lo.isBelow v = ol, o.hi.isBelow v = oh at i
    decide +revert

theorem tryIntersect_flag_eq (r o : ColRange) : (r.tryIntersect o).2 = !(r.tryIntersect o).1.isEmpty := by
  fun_cases tryIntersect r o with
  | case1 l u hlt => exact (congrArg (!·) (decide_eq_false (Int.not_le.mpr hlt))).symm
  | case2 l u hge => rfl

theorem tryIntersect_flag (r o : ColRange) :
    (r.tryIntersect o).2 = true ↔ ∃ v, r.mem v = true ∧ o.mem v = true := by
  rw [tryIntersect_flag_eq, Bool.not_eq_true', isEmpty_false_iff_exists_mem]
  simp only [mem_tryIntersect, Bool.and_eq_true]

theorem tryIntersect_false {r o : ColRange} (h : (r.tryIntersect o).2 = false) : (r.tryIntersect o).1 = empty := by
  revert h
  fun_cases tryIntersect r o with
  | case1 l u hlt => exact fun h => by cases h
  | case2 l u hge => exact fun _ => rfl

theorem tryIntersect_nonInv (r o : ColRange) : (r.tryIntersect o).1.NonInv := by
  fun_cases tryIntersect r o with
  | case1 l u hlt => exact Int.le_of_lt hlt
  | case2 l u hge => exact nonInv_empty

theorem isConnected_iff {r o : ColRange} :
    r.isConnected o = true ↔ r.lo.compare o.hi ≤ 0 ∧ o.lo.compare r.hi ≤ 0 := by
  fun_cases isConnected r o with
  | case1 hgt => exact ⟨fun h => (by cases h), fun h => absurd h.1 (Int.not_le.mpr hgt)⟩
  | case2 hle => exact decide_eq_true_iff.trans (iff_and_self.mpr fun _ => Int.not_lt.mp hle)

theorem tryUnion_true {r o : ColRange} (h : (r.tryUnion o).2 = true) (v : Option Int) :
    (r.tryUnion o).1.mem v = (r.mem v || o.mem v) := by
  revert h
  fun_cases tryUnion r o with
  | case1 ho => exact fun _ => by rw [isEmpty_sound ho v, Bool.or_false]
  | case2 ho hr => exact fun _ => by rw [isEmpty_sound hr v, Bool.false_or]
  | case3 ho hr hdisconnected => exact fun h => by cases h
  | case4 ho hr hconnected =>
    intro _
    obtain ⟨c1, c2⟩ := isConnected_iff.mp (by simpa using hconnected)
    have i1 := Cut.le_sound _ _ c1 v
    have i2 := Cut.le_sound _ _ c2 v
    simp only [mem_eq, isBelow_ordered]
    generalize r.lo.isBelow v = rl, r.hi.isBelow v = rh, o.lo.isBelow v = ol, o.hi.isBelow v = oh at i1 i2
    decide +revert

theorem tryUnion_false {r o : ColRange} (h : (r.tryUnion o).2 = false) :
    r.isEmpty = false ∧ o.isEmpty = false ∧ r.isConnected o = false := by
  revert h
  fun_cases tryUnion r o with
  | case3 ho hr hdisconnected => exact fun _ => ⟨by simpa using hr, by simpa using ho, by simpa using hdisconnected⟩
  | _ => exact fun h => by cases h

theorem tryUnion_nonInv {r o : ColRange} (hr : r.NonInv) (ho : o.NonInv) (h : (r.tryUnion o).2 = true) :
    (r.tryUnion o).1.NonInv := by
  revert h
  fun_cases tryUnion r o with
  | case1 hoe => exact fun _ => hr
  | case2 hoe hre => exact fun _ => ho
  | case3 hoe hre hdisconnected => exact fun h => by cases h
  | case4 hoe hre hconnected =>
    -- the least lower bound is below `r.lo ≤ r.hi`, which is below the greatest upper bound
    refine fun _ => (Cut.le_iff _ _).mpr fun v hv => ?_
    rw [(isBelow_ordered _ _ v).2, Bool.and_eq_true] at hv
    rw [(isBelow_ordered _ _ v).1, Cut.le_sound _ _ hr v hv.1]; rfl

/-- `Subtract` never takes its panicking default: the switch returns the part of `r` below `o` if `r` starts
first and the part above `o` if `r` ends last. -/
theorem subtract_eq (r o : ColRange) : r.subtract o = some (if (r.overlaps o).2 = true then
    (if r.lo.compare o.lo = -1 then [⟨r.lo, o.lo⟩] else []) ++ (if r.hi.compare o.hi = 1 then [⟨o.hi, r.hi⟩] else [])
    else [r]) := by
  unfold subtract
  cases (r.overlaps o).2 with
  | false => rfl
  | true =>
    show (subtractCase (3 * (r.lo.compare o.lo + 1) + (r.hi.compare o.hi + 1))).map _ = _
    rcases Cut.compare_range r.lo o.lo with c | c | c <;>
      rcases Cut.compare_range r.hi o.hi with d | d | d <;> rw [c, d] <;> rfl

theorem subtract_isSome (r o : ColRange) : (r.subtract o).isSome = true := by
  rw [subtract_eq]; rfl

/-- A piece that is returned only under a condition whose failure makes it empty counts as
always returned. -/
theorem any_mem_piece {c : Prop} [Decidable c] {lo hi : Cut} (hp : ¬c → 0 ≤ lo.compare hi) (v : Option Int) :
    (if c then [ColRange.mk lo hi] else []).any (fun p => p.mem v) = (ColRange.mk lo hi).mem v := by
  by_cases hc : c
  · rw [if_pos hc, List.any_cons, List.any_nil, Bool.or_false]
  · rw [if_neg hc, isEmpty_sound (decide_eq_true (hp hc)) v]; rfl

theorem any_mem_subtract {r o : ColRange} {ps : List ColRange} (h : r.subtract o = some ps)
    (v : Option Int) : ps.any (fun p => p.mem v) = (r.mem v && !o.mem v) := by
  obtain rfl := Option.some.inj (h.symm.trans (subtract_eq r o))
  by_cases hf : (r.overlaps o).2 = true
  · obtain ⟨_, f1, f2⟩ := overlaps_true_eq hf
    have a1 := Cut.compare_range r.lo o.lo
    have a2 := Cut.compare_range r.hi o.hi
    have a3 := Cut.compare_antisymm o.hi r.hi
    rw [if_pos hf, List.any_append, any_mem_piece fun hc => by omega, any_mem_piece fun hc => by omega]
    -- the operands overlap: each lower bound lies before the other range's upper bound
    have i1 := Cut.le_sound r.lo o.hi (by omega) v
    have i2 := Cut.le_sound o.lo r.hi (by omega) v
    simp only [mem_eq]
    generalize r.lo.isBelow v = rl, r.hi.isBelow v = rh, o.lo.isBelow v = ol, o.hi.isBelow v = oh at i1 i2
    decide +revert
  · have := overlaps_false (Bool.eq_false_iff.mpr hf) v
    rw [if_neg hf, List.any_cons, List.any_nil, Bool.or_false]
    generalize r.mem v = a, o.mem v = b at this
    decide +revert

/-- `Subtract` denotes the set difference, provided the subtrahend is not inverted. -/
theorem mem_subtract {r o : ColRange} {ps : List ColRange} (ho : o.NonInv)
    (h : r.subtract o = some ps) (v : Option Int) :
    ps.any (fun p => p.mem v) = (r.mem v && !o.mem v) :=
  any_mem_subtract h v

theorem subtract_nonInv {r o : ColRange} {ps : List ColRange} (hr : r.NonInv)
    (h : r.subtract o = some ps) : ∀ p ∈ ps, p.NonInv := by
  obtain rfl := Option.some.inj (h.symm.trans (subtract_eq r o))
  by_cases hf : (r.overlaps o).2 = true
  · rw [if_pos hf]
    intro p hp
    rcases List.mem_append.mp hp with hp | hp
    · split at hp
      · rw [List.mem_singleton.mp hp]
        show r.lo.compare o.lo ≤ 0
        omega
      · exact absurd hp List.not_mem_nil
    · split at hp
      · rw [List.mem_singleton.mp hp]
        show o.hi.compare r.hi ≤ 0
        have := Cut.compare_antisymm o.hi r.hi
        omega
      · exact absurd hp List.not_mem_nil
  · rw [if_neg hf]
    exact List.forall_mem_singleton.mpr hr

theorem isSubsetOf_sound {r o : ColRange} (h : r.isSubsetOf o = true) (v : Option Int)
    (hv : r.mem v = true) : o.mem v = true := by
  revert h
  fun_cases isSubsetOf r o with
  | case1 hlo => exact fun h => by cases h
  | case2 hlo hhi => exact fun h => by cases h
  | case3 hlo hhi =>
    intro _
    have i1 := Cut.ge_sound (a := r.lo) (b := o.lo) (by have := Cut.compare_range r.lo o.lo; omega) v
    have i2 := Cut.le_sound r.hi o.hi (by have := Cut.compare_range r.hi o.hi; omega) v
    rw [mem_eq] at hv ⊢
    generalize r.lo.isBelow v = rl, r.hi.isBelow v = rh, o.lo.isBelow v = ol, o.hi.isBelow v = oh at i1 i2 hv
    decide +revert

theorem isSubsetOf_self (r : ColRange) : r.isSubsetOf r = true := by
  simp [isSubsetOf, Cut.compare_self]

end ColRange
end Gms.Range
