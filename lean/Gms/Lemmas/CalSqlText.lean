/-
C31 — lemmas about the SQL text of DATE / DATETIME values (`Gms.Cal` §8): the unpadded decimal
writer (`showNat`, Go's strconv.AppendInt) against the fixed-width writer (`padW`).
-/
import Gms.Lemmas.CalParse

namespace Gms.Cal

theorem padW_lead_zero (w v : Nat) (h : v < 10 ^ w) : padW (w + 1) v = 48 :: padW w v := by
  rw [padW_head, Nat.div_eq_of_lt h]; rfl

/-- a number with exactly `w + 1` digits is written by `%d` as its `w + 1` digits -/
theorem showNatAux_eq_padW (w : Nat) : ∀ v fuel, 10 ^ w ≤ v ∨ w = 0 → v < 10 ^ (w + 1) → v < fuel →
    showNatAux fuel v = padW (w + 1) v := by
  induction w with
  | zero =>
    intro v fuel _ hv hf
    cases fuel with
    | zero => omega
    | succ n =>
      have : v < 10 := by simpa using hv
      simp [showNatAux, this, padW]
  | succ w ih =>
    intro v fuel hl hv hf
    have hl : 10 ^ (w + 1) ≤ v := by
      rcases hl with h | h
      · exact h
      · omega
    cases fuel with
    | zero => omega
    | succ n =>
      have h10 : ¬ v < 10 := by
        have : 1 ≤ 10 ^ w := Nat.one_le_pow _ _ (by decide)
        rw [Nat.pow_succ] at hl; omega
      have h1 : 10 ^ w ≤ v / 10 := by rw [Nat.pow_succ] at hl; omega
      have h2 : v / 10 < 10 ^ (w + 1) := by rw [Nat.pow_succ] at hv; omega
      have h3 : v / 10 < n := by omega
      rw [showNatAux]
      simp only [h10, if_false]
      rw [ih (v / 10) n (Or.inl h1) h2 h3]
      rfl

theorem showNat_eq_padW (w v : Nat) (hl : 10 ^ w ≤ v ∨ w = 0) (hv : v < 10 ^ (w + 1)) :
    showNat v = padW (w + 1) v :=
  showNatAux_eq_padW w v (v + 1) hl hv (by omega)

/-- the padding loop of `appendMicroseconds` followed by `AppendInt` writes exactly `p + 1` digits -/
theorem microZeros_showNat (p sub : Nat) (hs : sub < 10 ^ (p + 1)) :
    microZeros (p + 1) (10 ^ p) sub ++ showNat sub = padW (p + 1) sub := by
  induction p with
  | zero =>
    simp only [microZeros, Nat.pow_zero, Nat.lt_irrefl, false_and, if_false, List.nil_append]
    exact showNat_eq_padW 0 sub (Or.inr rfl) hs
  | succ p ih =>
    have hpos : 10 ^ (p + 1) > 1 := by
      have : 1 ≤ 10 ^ p := Nat.one_le_pow _ _ (by decide)
      rw [Nat.pow_succ]; omega
    have hdiv : 10 ^ (p + 1) / 10 = 10 ^ p := by
      rw [Nat.pow_succ]; omega
    by_cases hlt : sub < 10 ^ (p + 1)
    · rw [microZeros, if_pos ⟨hpos, hlt⟩, hdiv, List.cons_append, ih hlt, padW_lead_zero (p + 1) sub hlt]
    · rw [microZeros, if_neg fun h => hlt h.2]
      exact showNat_eq_padW (p + 1) sub (Or.inl (Nat.le_of_not_lt hlt)) hs

theorem showNat_length_le (w v : Nat) (h : v < 10 ^ (w + 1)) : (showNat v).length ≤ w + 1 := by
  -- zeros followed by `showNat v` are the `w + 1` bytes of `padW`
  have := congrArg List.length (microZeros_showNat w v h)
  rw [List.length_append, padW_length] at this
  omega

/-- `if h < 10 { '0' }; AppendInt(h)` is the same loop for two digits -/
theorem hour_text (h : Nat) (hh : h < 100) : (if h < 10 then [48] else []) ++ showNat h = padW 2 h := by
  rw [← microZeros_showNat 1 h hh]
  simp [microZeros]

theorem two_digits (v : Nat) : [digit (v / 10), digit v] = padW 2 v := rfl

theorem padShow_lt (w v : Nat) (h : v < 10 ^ w) : padShow w v = padW w v := by
  simp [padShow, h]

/-- the year as `appendDateFormat` writes it -/
def yearText (y : Int) : Str := if y = 0 then [48, 48, 48, 48] else showInt y

theorem sqlDateImplF_eq (f : Fields) : sqlDateImplF f = yearText f.y ++
    [45, digit (f.mo.toNat / 10), digit f.mo.toNat, 45, digit (f.d.toNat / 10), digit f.d.toNat] := rfl

theorem yearText_eq (y : Int) (hy : 0 ≤ y ∧ y ≤ 9999) (hr : ¬ (1 ≤ y ∧ y ≤ 999)) : yearText y = padShow 4 y.toNat := by
  rw [yearText, padShow_lt 4 y.toNat (by omega)]
  split
  · next h0 => rw [h0]; rfl
  · rw [showInt, if_neg (by omega), showNat_eq_padW 3 y.toNat (Or.inl (by omega)) (by omega)]

/-- a year of fewer than four digits is written shorter than `%Y` writes it -/
theorem yearText_ne (y : Int) (hr : 1 ≤ y ∧ y ≤ 999) : yearText y ≠ padShow 4 y.toNat := by
  intro h
  have hs := showNat_length_le 2 y.toNat (by omega)
  rw [yearText, if_neg (by omega), showInt, if_neg (by omega), padShow_lt 4 y.toNat (by omega)] at h
  rw [h, padW_length] at hs
  omega

theorem sqlMicros_eq (us prec : Nat) (hp : prec ≤ 6) (hus : us < 1000000) :
    sqlMicrosImpl us prec = if prec = 0 then [] else 46 :: padW prec (us / 10 ^ (6 - prec)) := by
  unfold sqlMicrosImpl
  by_cases h0 : prec = 0
  · simp [h0]
  · simp only [h0, if_false]
    obtain ⟨p, rfl⟩ : ∃ p, prec = p + 1 := ⟨prec - 1, by omega⟩
    have hs : us / 10 ^ (6 - (p + 1)) < 10 ^ (p + 1) := by
      apply Nat.div_lt_of_lt_mul
      rw [← Nat.pow_add, Nat.sub_add_cancel hp]; exact hus
    simp only [Nat.add_sub_cancel]
    rw [microZeros_showNat p _ hs]

theorem sqlTime_eq_spec (f : Fields) (prec : Nat) (hv : validFields f) (hp : prec ≤ 6) :
    sqlTimeImplF f prec = sqlTimeSpecF f prec := by
  obtain ⟨_, _, _, _, h1, h2, h3, h4, h5, h6, h7, h8⟩ := hv
  have hh : ¬ f.h < 0 := by omega
  have hus : (f.ns / 1000).toNat < 1000000 := by omega
  have e10 : (f.h < 10) = (f.h.toNat < 10) := by
    apply propext; constructor <;> intro h <;> omega
  simp only [sqlTimeImplF, sqlTimeSpecF, showInt, hh, if_false, sqlMicros_eq _ _ hp hus, e10]
  rw [hour_text f.h.toNat (by omega)]
  rw [padShow_lt 2 f.h.toNat (by omega), padShow_lt 2 f.mi.toNat (by omega), padShow_lt 2 f.s.toNat (by omega)]
  simp [← two_digits]

theorem sqlDateSpecF_eq (f : Fields) (hv : validFields f) :
    sqlDateSpecF f = padShow 4 f.y.toNat ++
      [45, digit (f.mo.toNat / 10), digit f.mo.toNat, 45, digit (f.d.toNat / 10), digit f.d.toNat] := by
  obtain ⟨m1, m2, d1, d2, _⟩ := hv
  have hd := (dim_bounds f.y f.mo).2
  rw [sqlDateSpecF, padShow_lt 2 f.mo.toNat (by omega), padShow_lt 2 f.d.toNat (by omega)]
  simp [← two_digits]

/-- the Impl and the Spec text differ at most in how the year is written. `hy`: `ZeroTime`, the one value written
otherwise, has year −1 -/
theorem sqlText_eq_iff (k : SqlKind) (t : Int) (hk : ∀ p, k = .datetime p → p ≤ 6) (hy : (fieldsOf t).y ≠ -1) :
    sqlTextImpl k t = sqlTextSpec k t ↔ yearText (fieldsOf t).y = padShow 4 (fieldsOf t).y.toNat := by
  have hz : t ≠ zeroTime := fun h => hy (by rw [h]; decide)
  have hv := fieldsOf_valid t
  cases k with
  | date =>
    simp only [sqlTextImpl, sqlDateImpl, hz, if_false, sqlDateImplF_eq, sqlTextSpec, sqlDateSpec, sqlDateSpecF_eq _ hv]
    exact List.append_left_inj _
  | datetime p =>
    simp only [sqlTextImpl, sqlDatetimeImpl, hz, if_false, sqlDateImplF_eq, sqlTextSpec, sqlDatetimeSpec,
      sqlDateSpecF_eq _ hv, sqlTime_eq_spec _ p hv (hk p rfl), List.append_assoc]
    exact List.append_left_inj _

end Gms.Cal
