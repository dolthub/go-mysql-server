/-
Lemmas for C04: the ordering of ORDER BY is a total preorder; the left-to-right stable sort equals
the reference insertion sort; top-N = sort-then-take.

`ord_eq_lex` and `Sql.bytesCmp_eq_compare` rewrite the model's comparisons into core's `compare`,
`compareLex`, `compareOn`, whose `Std.TransCmp` instances give orientation (`cmp b a = (cmp a b).swap`)
and transitivity; only `keysCmp` has its own induction.
-/
import Gms.Model.Sort
import Gms.Lemmas.Rel

namespace Gms.Sort
open Gms.Sql Gms.Rel List

def kind : Value → Nat
  | .null => 0
  | .int _ => 1
  | .str _ => 2

def intOf : Value → Int
  | .int i => i
  | _ => 0

def bytesOf : Value → List UInt8
  | .str s => s
  | _ => []

/-- NULL < integers < strings (`kind`), then by value (`intOf`, `bytesOf`). -/
theorem ord_eq_lex : Value.ord = compareLex (compareOn kind) (compareLex (compareOn intOf) (compareOn bytesOf)) := by
  funext a b
  cases a <;> cases b <;> simp [Value.ord, compareLex, compareOn, kind, intOf, bytesOf, bytesCmp_eq_compare] <;> rfl

instance Value.ord_transCmp : Std.TransCmp Value.ord := ord_eq_lex ▸ inferInstance

/-- `a.ord b = .eq ↔ a = b`: with `Value.ord_transCmp`, `Value.ord` is a linear order. Nothing below
needs it (`keysCmp` is a preorder only). -/
instance Value.ord_lawfulEqCmp : Std.LawfulEqCmp Value.ord where
  eq_of_compare {a b} := by cases a <;> cases b <;> simp [Value.ord, bytesCmp_eq_compare]

/-- One key with its direction. -/
def dcmp : Bool → Value → Value → Ordering
  | false => Value.ord
  | true => fun a b => b.ord a

instance dcmp_transCmp : (d : Bool) → Std.TransCmp (dcmp d)
  | false => Value.ord_transCmp
  | true => Std.TransCmp.opposite (cmp := Value.ord)

theorem cmpKeyImpl_eq (d : Bool) (a b : Value) :
    cmpKeyImpl d a b = match dcmp d a b with
      | .eq => none
      | o => some o := by
  cases d <;> cases a <;> cases b <;> rfl

/-- The key comparison is lexicographic; a missing direction is ASC. -/
theorem keysCmp_cons (ds : List Bool) (a b : Value) (as bs : Row) :
    keysCmp ds (a :: as) (b :: bs) = (dcmp (ds.headD false) a b).then (keysCmp ds.tail as bs) := by
  rcases ds with _ | ⟨_ | _, ds⟩
  all_goals
    rw [keysCmp]
    -- the model writes DESC as `(a.ord b).swap`, `dcmp true` as `b.ord a`: make both a function of `a.ord b`
    simp only [dcmp, List.headD, Std.OrientedCmp.eq_swap (cmp := Value.ord) (a := b)]
    cases a.ord b <;> rfl

theorem cmpRowsImpl_cons (ds : List Bool) (a b : Value) (as bs : Row) :
    cmpRowsImpl ds (a :: as) (b :: bs) = match cmpKeyImpl (ds.headD false) a b with
      | none => cmpRowsImpl ds.tail as bs
      | some o => o := by
  cases ds <;> rfl

theorem keysCmp_swap (ds : List Bool) (a b : Row) : keysCmp ds b a = (keysCmp ds a b).swap := by
  induction a generalizing ds b with
  | nil => cases ds <;> cases b <;> simp [keysCmp, Ordering.swap]
  | cons x as ih =>
    cases b with
    | nil => cases ds <;> simp [keysCmp, Ordering.swap]
    | cons y bs =>
      rw [keysCmp_cons, keysCmp_cons, Std.OrientedCmp.eq_swap (cmp := dcmp _) (a := y), ih, Ordering.swap_then]

/-- Only on rows of one length: a proper prefix compares `.eq`. -/
theorem keysCmp_isLE_trans : ∀ (ds : List Bool) (a b c : Row), a.length = b.length → b.length = c.length →
    (keysCmp ds a b).isLE → (keysCmp ds b c).isLE → (keysCmp ds a c).isLE
  | ds, [], _, c, _, _, _, _ => by cases ds <;> cases c <;> simp [keysCmp]
  | ds, x :: as, y :: bs, z :: cs, hab, hbc, h1, h2 => by
    rw [keysCmp_cons, Ordering.isLE_then_iff_and] at h1 h2 ⊢
    refine ⟨Std.TransCmp.isLE_trans h1.1 h2.1, ?_⟩
    -- the first keys decide unless both steps leave them equal
    rcases h1.2 with hlt | hrest1
    · exact .inl (Std.TransCmp.lt_of_lt_of_isLE hlt h2.1)
    rcases h2.2 with hlt | hrest2
    · exact .inl (Std.TransCmp.lt_of_isLE_of_lt h1.1 hlt)
    · exact .inr (keysCmp_isLE_trans ds.tail as bs cs (by simpa using hab) (by simpa using hbc) hrest1 hrest2)

section Generic
variable {α : Type}

/-- A three-way comparison that is oriented (`swap`; hence total) and whose `≤` is transitive: the
two laws `Std.OrientedCmp.eq_swap` and `Std.TransCmp.isLE_trans` of core's `Std.TransCmp`, with `isLE`
spelt `≠ .gt`. `leOf cmp a b = true` is the same `≤` as a `Bool` (`leOf_iff`), for `insertBy` / `sortBy`. -/
structure TotalPre (cmp : α → α → Ordering) : Prop where
  swap : ∀ a b, cmp b a = (cmp a b).swap
  trans : ∀ a b c, cmp a b ≠ .gt → cmp b c ≠ .gt → cmp a c ≠ .gt

def leOf (cmp : α → α → Ordering) (a b : α) : Bool := cmp a b != .gt
def ltOf (cmp : α → α → Ordering) (a b : α) : Bool := cmp a b == .lt

theorem leOf_iff {cmp : α → α → Ordering} {a b : α} : leOf cmp a b = true ↔ cmp a b ≠ .gt := by simp [leOf]

theorem TotalPre.lt_iff_not_le {cmp : α → α → Ordering} (h : TotalPre cmp) (x y : α) :
    ltOf cmp x y = !leOf cmp y x := by
  unfold ltOf leOf
  rw [h.swap x y]
  cases cmp x y <;> rfl

theorem TotalPre.le_total {cmp : α → α → Ordering} (h : TotalPre cmp) (a b : α) :
    leOf cmp a b = true ∨ leOf cmp b a = true := by
  unfold leOf
  rw [h.swap a b]
  cases cmp a b <;> simp [Ordering.swap]

theorem TotalPre.le_trans {cmp : α → α → Ordering} (h : TotalPre cmp) (a b c : α)
    (h1 : leOf cmp a b = true) (h2 : leOf cmp b c = true) : leOf cmp a c = true :=
  leOf_iff.mpr (h.trans a b c (leOf_iff.mp h1) (leOf_iff.mp h2))

/-- `insertAfter` and the reference `insertBy` are one function; they differ in the comparison they
are used with (`<`: behind the equals, `≤`: in front of them). -/
theorem insertAfter_eq_insertBy (lt : α → α → Bool) (x : α) (s : List α) : insertAfter lt x s = insertBy lt x s := by
  induction s with
  | nil => rfl
  | cons y s ih => rw [insertAfter, insertBy, ih]

theorem insertBy_comm {r q : α → α → Bool} (hr : ∀ a b, r a b = !q b a)
    (total : ∀ a b, q a b = true ∨ q b a = true) (trans : ∀ a b c, q a b = true → q b c = true → q a c = true)
    (x y : α) (s : List α) : insertBy q y (insertBy r x s) = insertBy r x (insertBy q y s) := by
  induction s with
  | nil => cases h : q y x <;> simp [insertBy, hr, h]
  | cons z s ih =>
    cases hzx : q z x <;> cases hyz : q y z
    · -- x < z and not y ≤ z, so not y ≤ x
      have : q y x = false := Bool.eq_false_iff.mpr fun h => by
        simp [trans y x z h ((total x z).resolve_right (by simp [hzx]))] at hyz
      simp [insertBy, hr, hzx, hyz, this]
    · cases h : q y x <;> simp [insertBy, hr, hzx, hyz, h]
    · simp [insertBy, hr, hzx, hyz, ih]
    · simp [insertBy, hr, hzx, hyz, trans y z x hyz hzx]

/-- Inserting an earlier element in front of its equals and a later element behind its equals
commute. -/
theorem insert_comm {cmp : α → α → Ordering} (h : TotalPre cmp) (x y : α) (s : List α) :
    insertBy (leOf cmp) y (insertAfter (ltOf cmp) x s) = insertAfter (ltOf cmp) x (insertBy (leOf cmp) y s) := by
  rw [insertAfter_eq_insertBy, insertAfter_eq_insertBy]
  exact insertBy_comm h.lt_iff_not_le h.le_total h.le_trans x y s

theorem insertAfter_sortBy {cmp : α → α → Ordering} (h : TotalPre cmp) (x : α) (pre : List α) :
    insertAfter (ltOf cmp) x (sortBy (leOf cmp) pre) = sortBy (leOf cmp) (pre ++ [x]) := by
  induction pre with
  | nil => simp [sortBy, insertAfter, insertBy]
  | cons y p ih =>
    simp only [sortBy, List.cons_append]
    rw [← ih, insert_comm h]

theorem foldl_insertAfter_sortBy {cmp : α → α → Ordering} (h : TotalPre cmp) (rows pre : List α) :
    rows.foldl (fun s x => insertAfter (ltOf cmp) x s) (sortBy (leOf cmp) pre) = sortBy (leOf cmp) (pre ++ rows) := by
  induction rows generalizing pre with
  | nil => simp
  | cons x r ih =>
    simp only [List.foldl_cons]
    rw [insertAfter_sortBy h, ih]
    simp

theorem sortL2R_eq_sortBy {cmp : α → α → Ordering} (h : TotalPre cmp) (rows : List α) :
    sortL2R (ltOf cmp) rows = sortBy (leOf cmp) rows := by
  have := foldl_insertAfter_sortBy h rows []
  simpa [sortL2R, sortBy] using this

theorem take_insertAfter (lt : α → α → Bool) (x : α) (s : List α) (n : Nat) :
    (insertAfter lt x s).take n = (insertAfter lt x (s.take n)).take n := by
  induction s generalizing n with
  | nil => simp
  | cons y s ih =>
    cases n with
    | zero => simp
    | succ k =>
      by_cases hxy : lt x y = true
      · simp only [insertAfter, hxy, if_true, List.take_succ_cons]
        congr 1
        cases k with
        | zero => simp
        | succ j => simp [List.take_succ_cons, List.take_take]
      · have hxy' : lt x y = false := by simpa using hxy
        simp only [insertAfter, hxy', Bool.false_eq_true, if_false, List.take_succ_cons]
        rw [ih k]

/-- **Top-N heap = sort, then take `n`** — exactly, including which of several equal rows
survive (the arrival-number tie-break makes the heap keep the earliest ones). -/
theorem topN_eq_take_sort (lt : α → α → Bool) (n : Nat) (rows : List α) :
    topN lt n rows = (sortL2R lt rows).take n := by
  rw [sortL2R, ← List.foldl_hom (List.take n) (g₂ := topNStep lt n) fun s x => (take_insertAfter lt x s n).symm,
    List.take_nil, topN]

theorem head?_insertAfter (lt : α → α → Bool) (x : α) (s : List α) :
    (insertAfter lt x s).head? = match s.head? with
      | none => some x
      | some h => some (if lt x h then x else h) := by
  cases s with
  | nil => rfl
  | cons y s => by_cases h : lt x y = true <;> simp [insertAfter, h]

theorem top1_eq_head_sort (lt : α → α → Bool) : ∀ rows : List α, top1 lt rows = (sortL2R lt rows).head?
  | [] => rfl
  | x :: xs => by
    -- `head?` carries the sort's fold to the running minimum over `Option`; `some` carries `top1`'s fold to the same
    rw [sortL2R, List.foldl_cons, ← List.foldl_hom List.head? (g₂ := fun o r => match o with
      | none => some r
      | some h => some (if lt r h then r else h)) fun s r => (head?_insertAfter lt r s).symm]
    exact (List.foldl_hom some fun _ _ => rfl).symm

theorem topNPlan_eq_slice (lt : α → α → Bool) (n m : Nat) (rows : List α) :
    topNPlan lt n m rows = ((sortL2R lt rows).drop m).take n := by
  unfold topNPlan offsetRows
  by_cases h1 : n + m = 1
  · rw [if_pos h1, top1_eq_head_sort, ← List.take_one, ← h1, List.drop_take, Nat.add_sub_cancel]
  · rw [if_neg h1, topN_eq_take_sort, List.drop_take, Nat.add_sub_cancel]

end Generic

end Gms.Sort
