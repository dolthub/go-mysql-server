/-
C08 — the aggregation loops of `Gms.Window` and `Gms.GroupAgg` as folds over the non-NULL values.

Every `Update` but those of COUNT(*) and JSON_ARRAYAGG ignores NULL (`foldl_skipNull`), so each of these buffers is
characterised on a `List Int`; MIN and MAX are one running extremum (`extremum_fold`).
-/
import Gms.Model.GroupAgg

namespace Gms.Window

@[simp] theorem nonNull_nil : nonNull [] = [] := rfl
@[simp] theorem nonNull_none (xs : List Val) : nonNull (none :: xs) = nonNull xs := rfl
@[simp] theorem nonNull_some (x : Int) (xs : List Val) : nonNull (some x :: xs) = x :: nonNull xs := rfl
@[simp] theorem nonNull_append (xs ys : List Val) : nonNull (xs ++ ys) = nonNull xs ++ nonNull ys :=
  List.filterMap_append

theorem foldl_skipNull {β : Type} {f : β → Val → β} (hnull : ∀ b, f b none = b) (xs : List Val) :
    ∀ b, xs.foldl f b = (nonNull xs).foldl (fun b n => f b (some n)) b := by
  induction xs with
  | nil => intro b; rfl
  | cons v xs ih => intro b; cases v <;> simp [hnull, ih]

/-- the loop of `MinAgg`/`MaxAgg.Compute` and of `minBuffer`/`maxBuffer.Update`, with `r` = `<` for MIN, `>` for MAX -/
theorem extremum_fold (r : Int → Int → Prop) [DecidableRel r] (vs : List Val) :
    vs.foldl (fun m v => match v with
      | none => m
      | some y => match m with
        | none => some y
        | some mm => if r y mm then some y else some mm) none
    = match nonNull vs with
      | [] => none
      | x :: xs => some (xs.foldl (fun m y => if r y m then y else m) x) := by
  rw [foldl_skipNull (fun _ => rfl)]
  cases nonNull vs with
  | nil => rfl
  | cons x l => exact List.foldl_hom some fun m y => by dsimp only; split <;> rfl

theorem minLoop_eq (vs : List Val) : minLoop vs = listMin (nonNull vs) :=
  extremum_fold (· < ·) vs

theorem maxLoop_eq (vs : List Val) : maxLoop vs = listMax (nonNull vs) :=
  extremum_fold (· > ·) vs

end Gms.Window

namespace Gms.GroupAgg
open Gms.Window

theorem foldl_succ {α : Type} (l : List α) : ∀ c : Int, l.foldl (fun (c : Int) _ => c + 1) c = c + l.length := by
  induction l with
  | nil => intro c; simp
  | cons _ l ih => intro c; simp [ih]; omega

theorem count_fold (xs : List Val) (c : Int) :
    xs.foldl (fun (c : Int) (v : Val) => if v.isSome then c + 1 else c) c = c + (nonNull xs).length :=
  (foldl_skipNull (fun _ => rfl) xs c).trans (foldl_succ (nonNull xs) c)

theorem sumBuf_fold_started (l : List Int) : ∀ s : Int,
    l.foldl (fun b n => SumBuf.update b (some n)) { sum := s, isnil := false } = { sum := s + l.sum, isnil := false } := by
  induction l with
  | nil => intro s; simp
  | cons n l ih => intro s; exact (ih (s + n)).trans (by rw [List.sum_cons, Int.add_assoc])

theorem sumBuf_fold (xs : List Val) :
    xs.foldl SumBuf.update {} = (match nonNull xs with
      | [] => ({} : SumBuf)
      | l => { sum := l.sum, isnil := false }) := by
  rw [foldl_skipNull (fun _ => rfl)]
  cases nonNull xs with
  | nil => rfl
  | cons n l => simpa [SumBuf.update] using sumBuf_fold_started l n

theorem avgBuf_fold_split (xs : List Val) : ∀ b : AvgBuf,
    xs.foldl AvgBuf.update b = { sum := xs.foldl SumBuf.update b.sum, rows := b.rows + (nonNull xs).length } := by
  induction xs with
  | nil => intro b; rfl
  | cons v xs ih => intro b; cases v <;> simp [AvgBuf.update, SumBuf.update, ih] <;> omega

theorem bit_fold (op : Nat → Nat → Nat) (xs : List Val) (acc : Nat) :
    xs.foldl (bitUpdate op) acc = (nonNull xs).foldl (fun (a : Nat) n => op a (toU64 n)) acc :=
  foldl_skipNull (fun _ => rfl) xs acc

theorem gc_fold (xs : List Val) (acc : List Int) : xs.foldl (gcUpdate false) acc = acc ++ nonNull xs := by
  rw [foldl_skipNull (fun _ => rfl)]
  induction nonNull xs generalizing acc with
  | nil => simp
  | cons n l ih => exact (ih (acc ++ [n])).trans (by simp)

theorem gcDistinct_fold (xs : List Val) (acc : List Int) :
    xs.foldl (gcUpdate true) acc = acc ++ (dedup (nonNull xs)).filter (fun n => !acc.contains n) := by
  rw [foldl_skipNull (fun _ => rfl)]
  induction nonNull xs generalizing acc with
  | nil => simp [dedup]
  | cons n l ih =>
    rw [List.foldl_cons]
    by_cases hc : n ∈ acc
    · rw [show gcUpdate true acc (some n) = acc by simp [gcUpdate, hc], ih]
      simp only [dedup, List.filter_cons, List.contains_eq_mem, hc, decide_true, Bool.not_true, Bool.false_eq_true,
        if_false, List.filter_filter]
      congr 1
      apply List.filter_congr
      intro m _
      by_cases hm : m = n
      · simp [hm, hc]
      · simp [hm]
    · rw [show gcUpdate true acc (some n) = acc ++ [n] by simp [gcUpdate, hc], ih]
      simp [dedup, hc, List.filter_filter]

theorem gcDistinct_fold_nil (xs : List Val) : xs.foldl (gcUpdate true) [] = dedup (nonNull xs) :=
  (gcDistinct_fold xs []).trans (List.filter_eq_self.mpr fun _ _ => rfl)

/-- `minBuffer`/`maxBuffer.Update` are the loops of the window aggregates -/
theorem minUpdate_fold (xs : List Val) : xs.foldl minUpdate none = listMin (nonNull xs) := minLoop_eq xs
theorem maxUpdate_fold (xs : List Val) : xs.foldl maxUpdate none = listMax (nonNull xs) := maxLoop_eq xs

end Gms.GroupAgg
