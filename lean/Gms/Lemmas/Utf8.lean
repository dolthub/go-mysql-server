/-
Lemmas about Go's UTF-8 coding (Gms/Model/Utf8.lean): `decodeRunes ∘ encodeRunes = id` on scalar
values, well-formedness of encodings, ASCII strings.
-/
import Gms.Model.Utf8
import Gms.Lemmas.Basics
namespace Gms.Utf8

theorem isScalar_iff (r : Nat) : isScalar r = true ↔ (r < 0xD800 ∨ (0xE000 ≤ r ∧ r < 0x110000)) := by
  simp [isScalar]

theorem decodeRune1_ascii (r : Nat) (h : r < 0x80) (t : Bytes) : decodeRune1 r t = (r, 1) := by
  simp [decodeRune1, h]

theorem digits64 (r : Nat) :
    r / 4096 * 4096 + r / 64 % 64 * 64 + r % 64 = r ∧
    r / 262144 * 262144 + r / 4096 % 64 * 4096 + r / 64 % 64 * 64 + r % 64 = r := by
  -- level by level: `omega` is slow on nested quotients
  have h0 := Nat.div_add_mod' r 64
  have h1 : r / 4096 * 64 + r / 64 % 64 = r / 64 := by
    rw [← (Nat.div_div_eq_div_mul r 64 64 : r / 64 / 64 = r / 4096)]; exact Nat.div_add_mod' _ _
  have h2 : r / 262144 * 64 + r / 4096 % 64 = r / 4096 := by
    rw [← (Nat.div_div_eq_div_mul r 4096 64 : r / 4096 / 64 = r / 262144)]; exact Nat.div_add_mod' _ _
  generalize r / 262144 = q3 at *
  generalize r / 4096 % 64 = d2 at *
  generalize r / 4096 = q2 at *
  generalize r / 64 % 64 = d1 at *
  generalize r / 64 = q1 at *
  generalize r % 64 = d0 at *
  omega

theorem decodeRune1_two (r : Nat) (h1 : 0x80 ≤ r) (h2 : r < 0x800) (t : Bytes) :
    decodeRune1 (0xC0 + r / 64) ((0x80 + r % 64) :: t) = (r, 2) := by
  have b : leadInfo (0xC0 + r / 64) = (2, 0x80, 0xBF) := by
    rw [leadInfo, if_pos]
    simp only [Bool.and_eq_true, decide_eq_true_eq]; omega
  have c : (0x80 ≤ 0x80 + r % 64 && 0x80 + r % 64 ≤ 0xBF) = true := by
    simp only [Bool.and_eq_true, decide_eq_true_eq]; omega
  unfold decodeRune1
  rw [if_neg (by omega), b]
  simp only [c, if_true, Nat.add_sub_cancel_left, Nat.div_add_mod' r 64]

theorem isCont_payload (d : Nat) : isCont (0x80 + d % 64) = true := by
  have := Nat.mod_lt d (show 0 < 64 by decide)
  simp only [isCont, Bool.and_eq_true, decide_eq_true_eq]; omega

theorem leadInfo_three (r : Nat) (h1 : 0x800 ≤ r) (h2 : r < 0x10000) (hs : ¬ (0xD800 ≤ r ∧ r < 0xE000)) :
    ∃ lo hi, leadInfo (0xE0 + r / 4096) = (3, lo, hi) ∧ lo ≤ 0x80 + r / 64 % 64 ∧ 0x80 + r / 64 % 64 ≤ hi := by
  -- all that matters of `r`: the lead nibble `a`, the second payload `b`, no overlong form
  -- (`a = 0`), no surrogate (`a = 13`)
  have key : r / 4096 < 16 ∧ r / 64 % 64 < 64 ∧ (r / 4096 = 0 → 32 ≤ r / 64 % 64) ∧
      (r / 4096 = 13 → r / 64 % 64 < 32) := by omega
  generalize r / 4096 = a at key ⊢
  generalize r / 64 % 64 = b at key ⊢
  unfold leadInfo
  rw [if_neg (by simp only [Bool.and_eq_true, decide_eq_true_eq]; omega)]
  by_cases e0 : 0xE0 + a = 0xE0
  · rw [if_pos e0]; exact ⟨_, _, rfl, by omega, by omega⟩
  · rw [if_neg e0]
    by_cases ed : 0xE0 + a = 0xED
    · rw [if_pos ed]; exact ⟨_, _, rfl, by omega, by omega⟩
    · rw [if_neg ed, if_pos (by simp only [Bool.and_eq_true, decide_eq_true_eq]; omega)]
      exact ⟨_, _, rfl, by omega, by omega⟩

theorem decodeRune1_three (r : Nat) (h1 : 0x800 ≤ r) (h2 : r < 0x10000) (hs : ¬ (0xD800 ≤ r ∧ r < 0xE000))
    (t : Bytes) :
    decodeRune1 (0xE0 + r / 4096) ((0x80 + r / 64 % 64) :: (0x80 + r % 64) :: t) = (r, 3) := by
  obtain ⟨lo, hi, hl, hlo, hhi⟩ := leadInfo_three r h1 h2 hs
  unfold decodeRune1
  rw [if_neg (by omega), hl]
  simp only [decide_eq_true hlo, decide_eq_true hhi, isCont_payload, Bool.and_self, if_true,
    Nat.add_sub_cancel_left, (digits64 r).1]

theorem leadInfo_four (r : Nat) (h1 : 0x10000 ≤ r) (h2 : r < 0x110000) :
    ∃ lo hi, leadInfo (0xF0 + r / 262144) = (4, lo, hi) ∧ lo ≤ 0x80 + r / 4096 % 64 ∧ 0x80 + r / 4096 % 64 ≤ hi := by
  have key : r / 262144 < 5 ∧ r / 4096 % 64 < 64 ∧ (r / 262144 = 0 → 16 ≤ r / 4096 % 64) ∧
      (r / 262144 = 4 → r / 4096 % 64 < 16) := by omega
  generalize r / 262144 = a at key ⊢
  generalize r / 4096 % 64 = b at key ⊢
  unfold leadInfo
  rw [if_neg (by simp only [Bool.and_eq_true, decide_eq_true_eq]; omega), if_neg (by omega), if_neg (by omega),
    if_neg (by simp only [Bool.and_eq_true, decide_eq_true_eq]; omega)]
  by_cases e0 : 0xF0 + a = 0xF0
  · rw [if_pos e0]; exact ⟨_, _, rfl, by omega, by omega⟩
  · rw [if_neg e0]
    by_cases e4 : 0xF0 + a = 0xF4
    · rw [if_pos e4]; exact ⟨_, _, rfl, by omega, by omega⟩
    · rw [if_neg e4, if_pos (by simp only [Bool.and_eq_true, decide_eq_true_eq]; omega)]
      exact ⟨_, _, rfl, by omega, by omega⟩

theorem decodeRune1_four (r : Nat) (h1 : 0x10000 ≤ r) (h2 : r < 0x110000) (t : Bytes) :
    decodeRune1 (0xF0 + r / 262144)
      ((0x80 + r / 4096 % 64) :: (0x80 + r / 64 % 64) :: (0x80 + r % 64) :: t) = (r, 4) := by
  obtain ⟨lo, hi, hl, hlo, hhi⟩ := leadInfo_four r h1 h2
  unfold decodeRune1
  rw [if_neg (by omega), hl]
  simp only [decide_eq_true hlo, decide_eq_true hhi, isCont_payload, Bool.and_self, if_true,
    Nat.add_sub_cancel_left, (digits64 r).2]

theorem encodeRune_cases (r : Nat) (h : isScalar r = true) :
    (r < 0x80 ∧ encodeRune r = [r]) ∨
    (0x80 ≤ r ∧ r < 0x800 ∧ encodeRune r = [0xC0 + r / 64, 0x80 + r % 64]) ∨
    (0x800 ≤ r ∧ r < 0x10000 ∧ ¬ (0xD800 ≤ r ∧ r < 0xE000) ∧
      encodeRune r = [0xE0 + r / 4096, 0x80 + r / 64 % 64, 0x80 + r % 64]) ∨
    (0x10000 ≤ r ∧ r < 0x110000 ∧
      encodeRune r = [0xF0 + r / 262144, 0x80 + r / 4096 % 64, 0x80 + r / 64 % 64, 0x80 + r % 64]) := by
  rw [isScalar_iff] at h
  unfold encodeRune
  by_cases c1 : r < 0x80
  · left; simp [c1]
  · by_cases c2 : r < 0x800
    · right; left; simp [c1, c2]; omega
    · have ns : ¬ (((0xD800 ≤ r && r < 0xE000) || 0x110000 ≤ r) = true) := by
        simp only [Bool.or_eq_true, Bool.and_eq_true, decide_eq_true_eq]; omega
      by_cases c3 : r < 0x10000
      · right; right; left
        rw [if_neg c1, if_neg c2, if_neg ns, if_pos c3]
        exact ⟨by omega, c3, by omega, rfl⟩
      · right; right; right
        rw [if_neg c1, if_neg c2, if_neg ns, if_neg c3]
        exact ⟨by omega, by omega, rfl⟩

/-- The step `decodeAux`, `validAux` and `ScalarFn.charLenAux` share on an encoded string; the
last conjunct excludes their error step. -/
theorem decodeRune1_encodeRune (r : Nat) (h : isScalar r = true) (t : Bytes) :
    ∃ b0 tl, encodeRune r = b0 :: tl ∧ decodeRune1 b0 (tl ++ t) = (r, tl.length + 1) ∧
      ¬ (r = runeError ∧ tl.length + 1 ≤ 1) := by
  rcases encodeRune_cases r h with ⟨h1, e⟩ | ⟨h1, h2, e⟩ | ⟨h1, h2, h3, e⟩ | ⟨h1, h2, e⟩
  · exact ⟨_, _, e, decodeRune1_ascii r h1 t, by unfold runeError; omega⟩
  · exact ⟨_, _, e, decodeRune1_two r h1 h2 t, by simp⟩
  · exact ⟨_, _, e, decodeRune1_three r h1 h2 h3 t, by simp⟩
  · exact ⟨_, _, e, decodeRune1_four r h1 h2 t, by simp⟩

theorem decodeAux_skip (tl t : Bytes) : decodeAux tl.length (tl ++ t) = decodeAux 0 t := by
  induction tl with
  | nil => rfl
  | cons _ tl ih => exact ih

theorem validAux_skip (tl t : Bytes) : validAux tl.length (tl ++ t) = validAux 0 t := by
  induction tl with
  | nil => rfl
  | cons _ tl ih => exact ih

theorem decodeAux_encodeRune (r : Nat) (h : isScalar r = true) (t : Bytes) :
    decodeAux 0 (encodeRune r ++ t) = r :: decodeAux 0 t := by
  obtain ⟨b0, tl, e, hd, -⟩ := decodeRune1_encodeRune r h t
  simp only [e, List.cons_append, decodeAux, hd, Nat.add_sub_cancel, decodeAux_skip]

theorem decode_encode (rs : List Nat) (h : ∀ r ∈ rs, isScalar r = true) :
    decodeRunes (encodeRunes rs) = rs := by
  induction rs with
  | nil => rfl
  | cons r rs ih =>
    obtain ⟨hr, ht⟩ := List.forall_mem_cons.mp h
    rw [encodeRunes, decodeRunes, decodeAux_encodeRune r hr, ← decodeRunes, ih ht]

theorem encodeRunes_append (a b : List Nat) : encodeRunes (a ++ b) = encodeRunes a ++ encodeRunes b := by
  induction a with
  | nil => rfl
  | cons r a ih => simp [encodeRunes, ih]

theorem validAux_encodeRune (r : Nat) (h : isScalar r = true) (t : Bytes) :
    validAux 0 (encodeRune r ++ t) = validAux 0 t := by
  obtain ⟨b0, tl, e, hd, hne⟩ := decodeRune1_encodeRune r h t
  have hne' : ¬ (r = runeError ∧ tl.length + 1 = 1) := fun ⟨a, b⟩ => hne ⟨a, Nat.le_of_eq b⟩
  simp only [e, List.cons_append, validAux, hd, hne', if_false, Nat.add_sub_cancel, validAux_skip]

/-- Every encoding of scalar values is well-formed UTF-8. -/
theorem valid_encode (rs : List Nat) (h : ∀ r ∈ rs, isScalar r = true) :
    validUtf8 (encodeRunes rs) = true := by
  induction rs with
  | nil => rfl
  | cons r rs ih =>
    obtain ⟨hr, ht⟩ := List.forall_mem_cons.mp h
    rw [encodeRunes, validUtf8, validAux_encodeRune r hr, ← validUtf8, ih ht]

theorem encodeRune_ne_nil (r : Nat) : encodeRune r ≠ [] :=
  have ne {a : Nat} {t : Bytes} : a :: t ≠ [] := List.cons_ne_nil a t
  Basics.ite_ne ne (Basics.ite_ne ne (Basics.ite_ne ne (Basics.ite_ne ne ne)))

theorem decodeRunes_ne_nil (a : Nat) (t : Bytes) : decodeRunes (a :: t) ≠ [] :=
  List.cons_ne_nil _ _

theorem isAscii_cons (b : Nat) (s : Bytes) : isAscii (b :: s) = (decide (b < 0x80) && isAscii s) := by
  simp [isAscii]

theorem ascii_scalar (s : Bytes) (h : isAscii s = true) : ∀ r ∈ s, isScalar r = true := by
  intro r hr
  have : r < 0x80 := by
    have := List.all_eq_true.mp h r hr
    simpa using this
  rw [isScalar_iff]; omega

theorem encodeRunes_ascii (s : Bytes) (h : isAscii s = true) : encodeRunes s = s := by
  induction s with
  | nil => rfl
  | cons b s ih =>
    rw [isAscii_cons] at h
    simp only [Bool.and_eq_true, decide_eq_true_eq] at h
    simp [encodeRunes, encodeRune, h.1, ih h.2]

theorem decodeRunes_ascii (s : Bytes) (h : isAscii s = true) : decodeRunes s = s := by
  have := decode_encode s (ascii_scalar s h)
  rwa [encodeRunes_ascii s h] at this

theorem valid_ascii (s : Bytes) (h : isAscii s = true) : validUtf8 s = true := by
  have := valid_encode s (ascii_scalar s h)
  rwa [encodeRunes_ascii s h] at this

end Gms.Utf8
