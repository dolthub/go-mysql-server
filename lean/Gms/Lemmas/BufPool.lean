/-
C35 — invariant of the scratch-buffer memory model (Gms/Model/BufPool.lean): as long as every
connection keeps the discipline, the buffers held by different connections are different, nobody
holds a pooled buffer, every pending row still reads as the bytes that were written for it, and
every client has read exactly what the engine produced. The last part (`run_writes` … `cursor_alone_exact`)
is about the one trace that does not keep it: a server-side cursor's release with rows pending.
-/
import Gms.Model.BufPool
import Gms.Lemmas.Basics

namespace Gms.BufPool

theorem le_length_splice (mem : List Nat) (i : Nat) (bs : List Nat) (h : i ≤ mem.length) :
    i + bs.length ≤ (splice mem i bs).length := by
  unfold splice
  rw [List.length_append, List.length_append, List.length_take_of_le h]
  exact Nat.le_add_right _ _

theorem read_splice_at (mem : List Nat) (i : Nat) (bs : List Nat) (h : i ≤ mem.length) :
    ((splice mem i bs).drop i).take bs.length = bs := by
  unfold splice
  rw [List.append_assoc, List.drop_left' (List.length_take_of_le h), List.take_left' rfl]

theorem read_splice_below (mem : List Nat) (i : Nat) (bs : List Nat) (off len : Nat)
    (h : i ≤ mem.length) (hb : off + len ≤ i) :
    ((splice mem i bs).drop off).take len = (mem.drop off).take len :=
  Basics.drop_take_splice_below mem bs h hb

@[simp] theorem setConn_same (s : St) (c : Nat) (k : Conn) : (setConn s c k).conns c = k := by
  simp [setConn]
@[simp] theorem setConn_ne {s : St} {c c' : Nat} {k : Conn} (h : c' ≠ c) :
    (setConn s c k).conns c' = s.conns c' := by
  simp [setConn, h]
@[simp] theorem setConn_free (s : St) (c : Nat) (k : Conn) : (setConn s c k).free = s.free := rfl
@[simp] theorem setConn_bufs (s : St) (c : Nat) (k : Conn) : (setConn s c k).bufs = s.bufs := rfl
@[simp] theorem setConn_nbufs (s : St) (c : Nat) (k : Conn) : (setConn s c k).nbufs = s.nbufs := rfl

/-- Frame: the `held` of every connection after an update of `c` that keeps `held`. -/
theorem held_setConn_keep (s : St) (c c' : Nat) (k : Conn) (hk : k.held = (s.conns c).held) :
    ((setConn s c k).conns c').held = (s.conns c').held := by
  by_cases hc : c' = c
  · subst hc; simp [hk]
  · simp [hc]

theorem apply_borrow_cons {s : St} (c : Nat) {b : Nat} {rest : List Nat} (hf : s.free = b :: rest) :
    apply s (.borrow c) = setConn { s with free := rest } c { (s.conns c) with held := some b } := by
  simp [apply, hf]

theorem apply_borrow_nil {s : St} (c : Nat) (hf : s.free = []) :
    apply s (.borrow c) =
      setConn { s with nbufs := s.nbufs + 1,
                       bufs := fun b => if b = s.nbufs then { mem := [], pos := 0 } else s.bufs b }
        c { (s.conns c) with held := some s.nbufs } := by
  simp [apply, hf]

theorem apply_write_some {s : St} {c b : Nat} (row : List Nat) (hb : (s.conns c).held = some b) :
    apply s (.write c row) =
      setConn { s with bufs := fun b' => if b' = b then
          { mem := splice (s.bufs b).mem (s.bufs b).pos row, pos := (s.bufs b).pos + row.length } else s.bufs b' } c
        { (s.conns c) with
          pending := (s.conns c).pending ++ [({ buf := b, off := (s.bufs b).pos, len := row.length }, row)] } := by
  simp [apply, hb]

theorem apply_deliver (s : St) (c : Nat) :
    apply s (.deliver c) =
      setConn s c { (s.conns c) with
        pending := [],
        received := (s.conns c).received ++ (s.conns c).pending.map (fun p => deref s.bufs p.1),
        sent := (s.conns c).sent ++ (s.conns c).pending.map (fun p => p.2) } := rfl

theorem apply_drop (s : St) (c : Nat) :
    apply s (.drop c) = setConn s c { (s.conns c) with pending := [] } := rfl

theorem apply_release_some {s : St} {c b : Nat} (hb : (s.conns c).held = some b) :
    apply s (.release c) =
      setConn { s with free := b :: s.free,
                       bufs := fun b' => if b' = b then { (s.bufs b) with pos := 0 } else s.bufs b' }
        c { (s.conns c) with held := none } := by
  simp [apply, hb]

theorem deref_congr {B B' : Nat → Buf} {p : Slice} (h : (B' p.buf).mem = (B p.buf).mem) :
    deref B' p = deref B p := by
  unfold deref; rw [h]

/-- The clauses of `Inv` about one connection `k`, over the pool `F`, the buffer count `N` and the memory `B`
instead of a state, so that an event which changes these can carry the other connections' clauses over
(`ConnOK.frame`). -/
structure ConnOK (F : List Nat) (N : Nat) (B : Nat → Buf) (k : Conn) : Prop where
  inUse : ∀ b, k.held = some b → b < N ∧ b ∉ F
  pend : ∀ p ∈ k.pending,
      k.held = some p.1.buf ∧ p.1.off + p.1.len ≤ (B p.1.buf).pos ∧ deref B p.1 = p.2
  recv : k.received = k.sent

theorem ConnOK.frame {F F' : List Nat} {N N' : Nat} {B B' : Nat → Buf} {k : Conn} (h : ConnOK F N B k)
    (hb : ∀ b, k.held = some b → (b < N' ∧ b ∉ F') ∧ B' b = B b) : ConnOK F' N' B' k := by
  refine ⟨fun b hh => (hb b hh).1, fun p hp => ?_, h.recv⟩
  obtain ⟨h1, h2, h3⟩ := h.pend p hp
  have e := (hb _ h1).2
  exact ⟨h1, e ▸ h2, (deref_congr (by rw [e])).trans h3⟩

structure Inv (s : St) : Prop where
  freeNodup : s.free.Nodup
  freeLt : ∀ b ∈ s.free, b < s.nbufs
  heldInj : ∀ c c' b, (s.conns c).held = some b → (s.conns c').held = some b → c = c'
  posLe : ∀ b, (s.bufs b).pos ≤ (s.bufs b).mem.length
  conn : ∀ c, ConnOK s.free s.nbufs s.bufs (s.conns c)

theorem inv_init : Inv init := by
  refine ⟨?_, ?_, ?_, ?_, fun c => ⟨?_, ?_, ?_⟩⟩ <;> simp [init, emptyConn]

theorem Inv.posLe_update {s : St} (h : Inv s) {b : Nat} {bf : Buf} (hb : bf.pos ≤ bf.mem.length) (x : Nat) :
    (if x = b then bf else s.bufs x).pos ≤ (if x = b then bf else s.bufs x).mem.length := by
  split
  · exact hb
  · exact h.posLe x

/-- Frame rule for an event of connection `c` (every branch of `apply` taken under `pre` gives a state of this shape): the
clauses of `Inv` about the other connections are inherited when the buffers in use that are not `c`'s
stay in use, keep their content, and none of them is the buffer `c` holds afterwards. -/
theorem inv_of_frame {s : St} {c N : Nat} {F : List Nat} {B : Nat → Buf} {k : Conn} (h : Inv s)
    (others : ∀ b, b < s.nbufs → b ∉ s.free → (s.conns c).held ≠ some b →
      (b < N ∧ b ∉ F) ∧ B b = s.bufs b ∧ k.held ≠ some b)
    (freeNodup : F.Nodup) (freeLt : ∀ b ∈ F, b < N) (posLe : ∀ b, (B b).pos ≤ (B b).mem.length)
    (own : ConnOK F N B k) : Inv (setConn { s with free := F, nbufs := N, bufs := B } c k) := by
  have oth := fun c' b (e : c' ≠ c) (hh : (s.conns c').held = some b) =>
    others b ((h.conn c').inUse b hh).1 ((h.conn c').inUse b hh).2 fun h2 => e (h.heldInj c' c b hh h2)
  refine ⟨freeNodup, freeLt, ?_, posLe, ?_⟩
  · intro c1 c2 b h1 h2
    by_cases e1 : c1 = c <;> by_cases e2 : c2 = c
    · rw [e1, e2]
    · rw [e1, setConn_same] at h1; rw [setConn_ne e2] at h2
      exact absurd h1 (oth c2 b e2 h2).2.2
    · rw [e2, setConn_same] at h2; rw [setConn_ne e1] at h1
      exact absurd h2 (oth c1 b e1 h1).2.2
    · rw [setConn_ne e1] at h1; rw [setConn_ne e2] at h2; exact h.heldInj c1 c2 b h1 h2
  · intro c'
    by_cases e : c' = c
    · rw [e, setConn_same]; exact own
    · rw [setConn_ne e]
      exact (h.conn c').frame fun b hh => ⟨(oth c' b e hh).1, (oth c' b e hh).2.1⟩

theorem inv_clear {s : St} (c : Nat) {r t : List (List Nat)} (h : Inv s) (hrecv : r = t) :
    Inv (setConn s c { (s.conns c) with pending := [], received := r, sent := t }) :=
  inv_of_frame h
    (fun _ hl hn hne => ⟨⟨hl, hn⟩, rfl, hne⟩) h.freeNodup h.freeLt h.posLe ⟨(h.conn c).inUse, nofun, hrecv⟩

theorem inv_borrow (s : St) (c : Nat) (h : Inv s) (hp : pre s (.borrow c) = true) :
    Inv (apply s (.borrow c)) := by
  have hnone : (s.conns c).held = none := by
    simpa [pre, Option.isNone_iff_eq_none] using hp
  have own : ∀ {F N B} b0, b0 < N ∧ b0 ∉ F → ConnOK F N B { (s.conns c) with held := some b0 } := fun b0 hb0 =>
    ⟨fun b hh => Option.some.inj hh ▸ hb0, fun p hp => (nomatch hnone.symm.trans ((h.conn c).pend p hp).1),
      (h.conn c).recv⟩
  cases hf : s.free with
  | cons b rest =>
    -- the head of the pool: below `nbufs`, not in the rest, held by nobody
    rw [apply_borrow_cons c hf]
    have hnd : b ∉ rest ∧ rest.Nodup := List.nodup_cons.mp (hf ▸ h.freeNodup)
    have hsub : ∀ x, x ∈ rest → x ∈ s.free := fun x hx => hf ▸ List.mem_cons_of_mem b hx
    exact inv_of_frame h
      (fun b' hl hn _ => ⟨⟨hl, fun hx => hn (hsub b' hx)⟩, rfl,
        fun e => hn (Option.some.inj e ▸ hf ▸ List.mem_cons_self)⟩)
      hnd.2 (fun x hx => h.freeLt x (hsub x hx)) h.posLe (own b ⟨h.freeLt b (hf ▸ List.mem_cons_self), hnd.1⟩)
  | nil =>
    -- a new buffer: its id is `nbufs`, above every id in use
    rw [apply_borrow_nil c hf]
    exact inv_of_frame h
      (fun b' hl hn _ => ⟨⟨Nat.lt_succ_of_lt hl, hn⟩, if_neg (Nat.ne_of_lt hl),
        fun e => Nat.lt_irrefl _ (Option.some.inj e ▸ hl)⟩)
      h.freeNodup (fun x hx => Nat.lt_succ_of_lt (h.freeLt x hx)) (h.posLe_update (Nat.le_refl _))
      (own s.nbufs ⟨Nat.lt_succ_self _, fun hx => Nat.lt_irrefl _ (h.freeLt _ hx)⟩)

theorem inv_write (s : St) (c : Nat) (row : List Nat) (h : Inv s)
    (hp : pre s (.write c row) = true) : Inv (apply s (.write c row)) := by
  obtain ⟨b, hb⟩ : ∃ b, (s.conns c).held = some b := by
    simpa [pre, Option.isSome_iff_exists] using hp
  rw [apply_write_some row hb]
  have hpos := h.posLe b
  have ok := h.conn c
  refine inv_of_frame h
    (fun b' hl hn hne => ⟨⟨hl, hn⟩, if_neg fun e : b' = b => hne (e ▸ hb), hne⟩) h.freeNodup h.freeLt
    (h.posLe_update (le_length_splice _ _ row hpos)) ⟨ok.inUse, fun p hpm => ?_, ok.recv⟩
  rcases List.mem_append.mp hpm with hold | hnew
  · -- an older row lies below the write position
    obtain ⟨h1, h2, h3⟩ := ok.pend p hold
    unfold deref at h3 ⊢
    rw [Option.some.inj (h1.symm.trans hb)] at h2 h3 ⊢
    simp only [if_true]
    exact ⟨hb, Nat.le_trans h2 (Nat.le_add_right ..), (read_splice_below _ _ _ _ _ hpos h2).trans h3⟩
  · -- the row just written
    cases List.mem_singleton.mp hnew
    unfold deref; simp only [if_true]
    exact ⟨hb, Nat.le_refl _, read_splice_at _ _ _ hpos⟩

theorem ConnOK.deliver_exact {F : List Nat} {N : Nat} {B B' : Nat → Buf} {k : Conn} (h : ConnOK F N B k)
    (hB : ∀ p, deref B' p = deref B p) :
    k.received ++ k.pending.map (fun p => deref B' p.1) = k.sent ++ k.pending.map (fun p => p.2) := by
  rw [List.map_congr_left fun p hp => (hB p.1).trans (h.pend p hp).2.2, h.recv]

theorem inv_deliver (s : St) (c : Nat) (h : Inv s) : Inv (apply s (.deliver c)) :=
  apply_deliver s c ▸ inv_clear c h ((h.conn c).deliver_exact fun _ => rfl)

theorem inv_drop (s : St) (c : Nat) (h : Inv s) : Inv (apply s (.drop c)) :=
  apply_drop s c ▸ inv_clear c h (h.conn c).recv

theorem inv_release (s : St) (c : Nat) (h : Inv s) (hp : pre s (.release c) = true) :
    Inv (apply s (.release c)) := by
  obtain ⟨⟨b, hb⟩, hpend⟩ : (∃ b, (s.conns c).held = some b) ∧ (s.conns c).pending = [] := by
    simpa [pre, Option.isSome_iff_exists, List.isEmpty_iff] using hp
  have hbl := (h.conn c).inUse b hb
  rw [apply_release_some hb]
  refine inv_of_frame h (fun b' hl hn hne => ?_) (List.nodup_cons.mpr ⟨hbl.2, h.freeNodup⟩)
    (fun x hx => ?_) (h.posLe_update (Nat.zero_le _)) ⟨nofun, fun _ hp => (nomatch hpend ▸ hp), (h.conn c).recv⟩
  · have hne : b' ≠ b := fun e => hne (e ▸ hb)
    exact ⟨⟨hl, fun hx => (List.mem_cons.mp hx).elim hne hn⟩, if_neg hne, nofun⟩
  · rcases List.mem_cons.mp hx with e | e
    · rw [e]; exact hbl.1
    · exact h.freeLt x e

theorem inv_apply (s : St) (e : Ev) (h : Inv s) (hp : pre s e = true) : Inv (apply s e) := by
  cases e with
  | borrow c => exact inv_borrow s c h hp
  | write c row => exact inv_write s c row h hp
  | deliver c => exact inv_deliver s c h
  | drop c => exact inv_drop s c h
  | release c => exact inv_release s c h hp

theorem inv_bad_irrel (s : St) (b : Bool) (h : Inv s) : Inv { s with bad := b } :=
  { h with }

theorem step_bad (s : St) (e : Ev) : (step s e).bad = false ↔ s.bad = false ∧ pre s e = true := by
  simp [step]

theorem run_eq_foldl (s : St) (es : List Ev) : run s es = es.foldl step s := by
  induction es generalizing s with
  | nil => rfl
  | cons e es ih => exact ih (step s e)

theorem run_append (s : St) (xs ys : List Ev) : run s (xs ++ ys) = run (run s xs) ys := by
  simp only [run_eq_foldl, List.foldl_append]

theorem inv_run {s : St} {es : List Ev} (h : Inv s) (hb : (run s es).bad = false) :
    Inv (run s es) := by
  rw [run_eq_foldl] at hb ⊢
  refine List.foldlRecOn es step (motive := fun t => t.bad = false → Inv t) (fun _ => h) (fun t ih e _ hb => ?_) hb
  have ⟨hb', hpre⟩ := (step_bad t e).mp hb
  exact inv_bad_irrel _ _ (inv_apply t e (ih hb') hpre)

theorem run_writes (s : St) (c b : Nat) (rows : List (List Nat)) (hb : (s.conns c).held = some b) :
    (run s (rows.map (Ev.write c))).bad = s.bad ∧
    ((run s (rows.map (Ev.write c))).conns c).held = some b := by
  rw [run_eq_foldl, List.foldl_map]
  refine List.foldlRecOn rows _ (motive := fun t : St => t.bad = s.bad ∧ (t.conns c).held = some b) ⟨rfl, hb⟩
    fun t ⟨h1, h2⟩ r _ => ⟨?_, ?_⟩
  · simp [step, pre, h2, h1]
  · simp [step, apply_write_some r h2, h2]

theorem deref_after_release (s : St) (c : Nat) (p : Slice) :
    deref (apply s (.release c)).bufs p = deref s.bufs p := by
  cases hb : (s.conns c).held with
  | none => simp [apply, hb]
  | some b =>
    rw [apply_release_some hb]
    refine deref_congr ?_
    simp only [setConn_bufs]
    split
    next e => rw [e]
    next => rfl

/-- Giving the buffer back leaves memory as it is, so a read right after it still finds the rows. -/
theorem release_then_deliver {s : St} {c b : Nat} (h : Inv s) (hb : (s.conns c).held = some b) :
    ((run s [.release c, .deliver c]).conns c).received = ((run s [.release c, .deliver c]).conns c).sent := by
  have hrel : (apply s (.release c)).conns c = { (s.conns c) with held := none } := by
    rw [apply_release_some hb]; exact setConn_same ..
  simp only [run, step, apply_deliver, setConn_same, hrel]
  exact (h.conn c).deliver_exact (deref_after_release s c)

theorem cursor_alone_exact (c : Nat) (rows : List (List Nat)) :
    let s := run init (cursorTrace c rows [])
    (s.conns c).received = (s.conns c).sent := by
  have hw := run_writes (step init (.borrow c)) c 0 rows (by simp [step, apply, init, setConn])
  have hbad : (run init (.borrow c :: rows.map (Ev.write c))).bad = false :=
    hw.1.trans (by simp [step, pre, init, emptyConn])
  -- The release finds the written rows pending, which sets `bad`, so `inv_run` cannot pass it: the invariant
  -- is carried over `borrow :: writes` only, the last two events are `release_then_deliver`.
  have e : cursorTrace c rows [] = (.borrow c :: rows.map (Ev.write c)) ++ [.release c, .deliver c] := by
    simp [cursorTrace]
  rw [e, run_append]
  exact release_then_deliver (inv_run inv_init hbad) hw.2

end Gms.BufPool
