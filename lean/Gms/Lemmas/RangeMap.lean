/-
Lemmas about the model of sql/encodings/rangemap.go (Gms/Model/RangeMap.lean), used by C30 and C10:
`toIdx` and `fromIdx` number the points of a box and are inverse on it; on a side that `wfB` accepts
(`SideOK`) the two directions of a table are inverse on a unit (`conv_inv`); the loops `convLoop` and
`replLoop` are reasoned about through the equation of one iteration (`convLoop_cons`, `replLoop_cons`).
-/
import Gms.Model.RangeMap
import Gms.Lemmas.Basics

namespace Gms.RangeMap

theorem contains_cons (lo hi : Nat) (bs : Bounds) (d : Nat) (ds : List Nat) :
    contains ((lo, hi) :: bs) (d :: ds) = true ↔ (lo ≤ d ∧ d ≤ hi) ∧ contains bs ds = true := by
  simp only [contains, Bool.and_eq_true, Bool.not_eq_true', Bool.or_eq_false_iff,
    decide_eq_false_iff_not, gt_iff_lt, Nat.not_lt]

theorem boundsOK_cons (lo hi : Nat) (bs : Bounds) :
    boundsOK ((lo, hi) :: bs) = true ↔ (lo ≤ hi ∧ hi < 256) ∧ boundsOK bs = true := by
  simp only [boundsOK, Bool.and_eq_true, Nat.ble_eq, Nat.blt_eq]

theorem contains_length : ∀ (a : Bounds) (x : List Nat), contains a x = true → a.length ≤ x.length
  | [], _, _ => Nat.zero_le _
  | (_, _) :: bs, [], h => by simp [contains] at h
  | (lo, hi) :: bs, d :: ds, h =>
    Nat.succ_le_succ (contains_length bs ds ((contains_cons ..).1 h).2)

theorem contains_append (a : Bounds) (x y : List Nat) (h : contains a x = true) :
    contains a (x ++ y) = true := by
  fun_induction contains a x <;> simp_all [contains]

theorem contains_take (a : Bounds) (x : List Nat) (n : Nat) (h : contains a (x.take n) = true) :
    contains a x = true :=
  List.take_append_drop n x ▸ contains_append a _ (x.drop n) h

theorem disjoint_contains (a b : Bounds) (z : List Nat)
    (h : disjointB a b = true) (ha : contains a z = true) (hb : contains b z = true) : False := by
  fun_induction disjointB a b generalizing z with
  | case2 => cases h
  | case1 l1 h1 a l2 h2 b ih =>
    cases z with
    | nil => cases ha
    | cons d ds =>
      rw [contains_cons] at ha hb
      simp only [Bool.or_eq_true, Nat.blt_eq] at h
      rcases h with (h | h) | h
      · omega
      · omega
      · exact ih ds h ha.2 hb.2

theorem disjointB_symm : ∀ (a b : Bounds), disjointB a b = disjointB b a
  | [], [] => rfl
  | [], _ :: _ => rfl
  | _ :: _, [] => rfl
  | (l1, h1) :: a, (l2, h2) :: b => by
    simp only [disjointB, disjointB_symm a b, Bool.or_comm (Nat.blt h1 l2)]

theorem card_pos : ∀ (bs : Bounds), 0 < card bs
  | [] => Nat.one_pos
  | _ :: rest => Nat.mul_pos (Nat.succ_pos _) (card_pos rest)

theorem pv_length : ∀ (bs : Bounds), (pv bs).length = bs.length
  | [] => rfl
  | _ :: rest => by simp [pv, pv_length rest]

/-- Go's `byte` subtraction `d - lo` does not wrap for a coordinate inside its bounds. -/
theorem byte_sub {lo d : Nat} (h1 : lo ≤ d) (h2 : d < 256) : (d + 256 - lo) % 256 = d - lo := by
  rw [Nat.sub_add_comm h1, Nat.add_mod_right, Nat.mod_eq_of_lt (Nat.lt_of_le_of_lt (Nat.sub_le ..) h2)]

theorem byte_add {lo q : Nat} (h : lo + q < 256) : (lo + q % 256) % 256 = lo + q := by
  rw [Nat.mod_eq_of_lt (Nat.lt_of_le_of_lt (Nat.le_add_left ..) h), Nat.mod_eq_of_lt h]

theorem toIdx_lt : ∀ (bs : Bounds) (ds : List Nat), boundsOK bs = true → contains bs ds = true →
    toIdx bs (pv bs) ds < card bs
  | [], _, _, _ => Nat.one_pos
  | (_, _) :: bs, [], _, h => by simp [contains] at h
  | (lo, hi) :: bs, d :: ds, hb, hc => by
    rw [boundsOK_cons] at hb
    rw [contains_cons] at hc
    simp only [pv, toIdx, card]
    rw [byte_sub hc.1.1 (by omega)]
    exact Basics.mul_add_lt (toIdx_lt bs ds hb.2 hc.2) (by omega)

theorem fromIdx_toIdx : ∀ (bs : Bounds) (ds : List Nat), boundsOK bs = true →
    contains bs ds = true → ds.length = bs.length →
    fromIdx bs (pv bs) (toIdx bs (pv bs) ds) = ds
  | [], [], _, _, _ => rfl
  | [], _ :: _, _, _, hl => by simp at hl
  | (_, _) :: bs, [], _, h, _ => by simp [contains] at h
  | (lo, hi) :: bs, d :: ds, hb, hc, hl => by
    rw [boundsOK_cons] at hb
    rw [contains_cons] at hc
    simp only [pv, toIdx, fromIdx]
    rw [byte_sub hc.1.1 (by omega), Basics.mul_add_div_of_lt (toIdx_lt bs ds hb.2 hc.2),
      Nat.add_sub_cancel_left, fromIdx_toIdx bs ds hb.2 hc.2 (Nat.succ.inj hl),
      byte_add (by omega), Nat.add_sub_cancel' hc.1.1]

theorem fromIdx_length : ∀ (bs : Bounds) (i : Nat), (fromIdx bs (pv bs) i).length = bs.length
  | [], _ => rfl
  | (lo, hi) :: bs, i => by simp [pv, fromIdx, fromIdx_length bs]

theorem fromIdx_spec : ∀ (bs : Bounds) (i : Nat), boundsOK bs = true → i < card bs →
    contains bs (fromIdx bs (pv bs) i) = true ∧ toIdx bs (pv bs) (fromIdx bs (pv bs) i) = i
  | [], i, _, hi => ⟨rfl, (Nat.lt_one_iff.1 hi).symm⟩
  | (lo, hi) :: bs, i, hb, hlt => by
    rw [boundsOK_cons] at hb
    have hc := card_pos bs
    have hq : i / card bs < hi - lo + 1 := (Nat.div_lt_iff_lt_mul hc).2 hlt
    obtain ⟨ih1, ih2⟩ := fromIdx_spec bs (i % card bs) hb.2 (Nat.mod_lt _ hc)
    simp only [pv, fromIdx, toIdx, ← Nat.mod_eq_sub_div_mul]
    rw [byte_add (by omega), contains_cons, byte_sub (Nat.le_add_right ..) (by omega),
      Nat.add_sub_cancel_left, ih2, Nat.mul_comm, Nat.div_add_mod]
    exact ⟨⟨⟨Nat.le_add_right .., by omega⟩, ih1⟩, rfl⟩

theorem mem_getD_flatten {α : Type} {l : List (List α)} {k : Nat} {e : α} (h : e ∈ l.getD k []) :
    e ∈ l.flatten := by
  by_cases hk : k < l.length
  · rw [List.getD_eq_getElem?_getD, List.getElem?_eq_getElem hk, Option.getD_some] at h
    exact List.mem_flatten.2 ⟨_, List.getElem_mem hk, h⟩
  · rw [List.getD_eq_getElem?_getD, List.getElem?_eq_none (Nat.le_of_not_lt hk), Option.getD_none] at h
    cases h

theorem exists_getD_of_mem_flatten {α : Type} (l : List (List α)) (e : α) (h : e ∈ l.flatten) :
    ∃ k, k < l.length ∧ e ∈ l.getD k [] := by
  obtain ⟨r, hr, he⟩ := List.mem_flatten.1 h
  obtain ⟨k, hk, rfl⟩ := List.getElem_of_mem hr
  exact ⟨k, hk, by rw [List.getD_eq_getElem?_getD, List.getElem?_eq_getElem hk, Option.getD_some]; exact he⟩

theorem boundsEqB_eq (a b : Bounds) (h : boundsEqB a b = true) : a = b := by
  fun_induction boundsEqB a b <;> simp_all

theorem natsEqB_eq (a b : List Nat) (h : natsEqB a b = true) : a = b := by
  fun_induction natsEqB a b <;> simp_all

theorem eqB_eq (a b : Entry) (h : a.eqB b = true) : a = b := by
  simp only [Entry.eqB, Bool.and_eq_true] at h
  cases a; cases b
  simp only [Entry.mk.injEq]
  exact ⟨boundsEqB_eq _ _ h.1.1.1, boundsEqB_eq _ _ h.1.1.2, natsEqB_eq _ _ h.1.2, natsEqB_eq _ _ h.2⟩

structure EntryOK (e : Entry) : Prop where
  bIn : boundsOK e.inR = true
  bOut : boundsOK e.outR = true
  mIn : e.inM = pv e.inR
  mOut : e.outM = pv e.outR
  le : card e.inR ≤ card e.outR

theorem entryOK_spec (e : Entry) (h : entryOK e = true) : EntryOK e := by
  simp only [entryOK, Bool.and_eq_true, Nat.ble_eq] at h
  exact ⟨h.1.1.1.1, h.1.1.1.2, natsEqB_eq _ _ h.1.1.2, natsEqB_eq _ _ h.1.2, h.2⟩

theorem shapeB_spec (src : Entry → Bounds) (tbl : List (List Entry)) (k0 : Nat)
    (hs : shapeB src k0 tbl = true) (k : Nat) (e : Entry) (h : e ∈ tbl.getD k []) :
    (src e).length = k0 + k + 1 ∧ EntryOK e := by
  fun_induction shapeB src k0 tbl generalizing k with
  | case1 => cases h
  | case2 k0 l ls ih =>
    simp only [Bool.and_eq_true, List.all_eq_true] at hs
    cases k with
    | zero => exact ⟨Nat.eq_of_beq_eq_true (hs.1 e h).1, entryOK_spec e (hs.1 e h).2⟩
    | succ k =>
      obtain ⟨hlen, hok⟩ := ih hs.2 k h
      exact ⟨by omega, hok⟩

theorem pairwiseB_pairwise (src : Entry → Bounds) (l : List Entry) (h : pairwiseB src l = true) :
    l.Pairwise fun a b => a = b ∨ disjointB (src a) (src b) = true := by
  fun_induction pairwiseB src l with
  | case1 => exact .nil
  | case2 a as ih =>
    simp only [Bool.and_eq_true, List.all_eq_true, Bool.or_eq_true] at h
    exact .cons (fun c hc => (h.1 c hc).symm.imp_left (eqB_eq _ _)) (ih h.2)

theorem pairwiseB_spec (src : Entry → Bounds) (l : List Entry) (h : pairwiseB src l = true) :
    ∀ a ∈ l, ∀ b ∈ l, a = b ∨ disjointB (src a) (src b) = true := fun _ ha _ hb =>
  (pairwiseB_pairwise src l h).forall_of_forall_of_flip (fun _ _ => .inl rfl)
    ((pairwiseB_pairwise src l h).imp fun hab => hab.imp Eq.symm fun hd => disjointB_symm .. ▸ hd) ha hb

/-- One side of a table: shapes, and pairwise disjoint source boxes (prefix-wise across lengths). -/
structure SideOK (tbl : List (List Entry)) (src : Entry → Bounds) : Prop where
  shape : ∀ k e, e ∈ tbl.getD k [] → (src e).length = k + 1 ∧ EntryOK e
  disj : ∀ a ∈ tbl.flatten, ∀ b ∈ tbl.flatten, a = b ∨ disjointB (src a) (src b) = true

variable (tbl : List (List Entry)) (src dst : Entry → Bounds) (sm dm : Entry → List Nat)

theorem sideOK_of (h1 : shapeB src 0 tbl = true) (h2 : sideDisjointB src tbl = true) : SideOK tbl src := by
  constructor
  · intro k e he
    have := shapeB_spec src tbl 0 h1 k e he
    exact ⟨by omega, this.2⟩
  · exact pairwiseB_spec src _ h2

theorem subsetB_spec (a b : List (List Entry)) (h : subsetB a b = true) :
    ∀ e ∈ a.flatten, e ∈ b.flatten := by
  intro e he
  simp only [subsetB, List.all_eq_true, List.any_eq_true] at h
  obtain ⟨e', he', heq⟩ := h e he
  rw [eqB_eq e e' heq]; exact he'

variable {tbl src} in
theorem SideOK.unique (hs : SideOK tbl src) {a b : Entry} (ha : a ∈ tbl.flatten) (hb : b ∈ tbl.flatten)
    {z : List Nat} (hca : contains (src a) z = true) (hcb : contains (src b) z = true) : a = b :=
  (hs.disj a ha b hb).resolve_right fun hd => disjoint_contains _ _ z hd hca hcb

theorem lookup_some (r : List Nat) (e : Entry) (h : lookup tbl src r = some e) :
    e ∈ tbl.getD (r.length - 1) [] ∧ contains (src e) r = true := by
  unfold lookup at h
  exact ⟨List.mem_of_find?_eq_some h, by simpa using List.find?_some h⟩

theorem lookup_unique (hs : SideOK tbl src) (r : List Nat) (e : Entry)
    (he : e ∈ tbl.getD (r.length - 1) []) (hc : contains (src e) r = true) :
    lookup tbl src r = some e :=
  Basics.find?_eq_some_of_unique he hc fun _ hm hc' => hs.unique (mem_getD_flatten hm) (mem_getD_flatten he) hc' hc

theorem convRune_some (r c : List Nat) (h : convRune tbl src dst sm dm r = some c) :
    1 ≤ r.length ∧ r.length ≤ tbl.length ∧
      ∃ e, lookup tbl src r = some e ∧ c = fromIdx (dst e) (dm e) (toIdx (src e) (sm e) r) := by
  revert h
  fun_cases convRune tbl src dst sm dm r with
  | case1 | case3 => nofun
  | case2 hlen e he => exact fun h => ⟨by omega, by omega, e, he, (Option.some.inj h).symm⟩

variable {tbl src dst sm dm} in
theorem convRune_entry (hs : SideOK tbl src) {u c : List Nat} (h : convRune tbl src dst sm dm u = some c) :
    ∃ e, lookup tbl src u = some e ∧ e ∈ tbl.flatten ∧ (src e).length = u.length ∧ EntryOK e ∧
      contains (src e) u = true ∧ c = fromIdx (dst e) (dm e) (toIdx (src e) (sm e) u) := by
  obtain ⟨h1, _, e, hl, hc⟩ := convRune_some _ _ _ _ _ _ _ h
  obtain ⟨hmem, hcont⟩ := lookup_some _ _ _ _ hl
  obtain ⟨hlen, hok⟩ := hs.shape _ _ hmem
  exact ⟨e, hl, mem_getD_flatten hmem, by omega, hok, hcont, hc⟩

variable {tbl src} in
theorem sideOK_row (hs : SideOK tbl src) {e : Entry} (he : e ∈ tbl.flatten) :
    1 ≤ (src e).length ∧ (src e).length ≤ tbl.length ∧ e ∈ tbl.getD ((src e).length - 1) [] := by
  obtain ⟨k, hk, hek⟩ := exists_getD_of_mem_flatten tbl e he
  rw [(hs.shape _ _ hek).1]
  exact ⟨Nat.succ_pos k, hk, hek⟩

theorem conv_prefix_free (hs : SideOK tbl src) (u c : List Nat)
    (h : convRune tbl src dst sm dm u = some c) (m : Nat) (hm1 : 1 ≤ m) (hm2 : m < u.length) :
    convRune tbl src dst sm dm (u.take m) = none := by
  cases hx : convRune tbl src dst sm dm (u.take m) with
  | none => rfl
  | some c' =>
    obtain ⟨e2, _, hmem2, hlen2, _, hc2, _⟩ := convRune_entry hs h
    obtain ⟨e1, _, hmem1, hlen1, _, hc1, _⟩ := convRune_entry hs hx
    rw [hs.unique hmem1 hmem2 (contains_take _ _ _ hc1) hc2, List.length_take] at hlen1
    omega

/-- `hfit` is not implied by well-formedness: the destination box of an entry may be the smaller one
(`looseEntries`). The second conjunct (the way back finds the same entry and the same index) is what
`overflowUnit` reads: C30 `encodeRune_decodeRune` gets `overflowUnit rm u = false` from it. -/
theorem conv_inv (tbl tbl' : List (List Entry)) (src dst : Entry → Bounds) (sm dm : Entry → List Nat)
    (hs : SideOK tbl src) (hs' : SideOK tbl' dst)
    (hsm : ∀ e, EntryOK e → sm e = pv (src e) ∧ dm e = pv (dst e) ∧
      boundsOK (src e) = true ∧ boundsOK (dst e) = true)
    (hsub : ∀ e ∈ tbl.flatten, e ∈ tbl'.flatten)
    (u c : List Nat) (h : convRune tbl src dst sm dm u = some c)
    (hfit : ∀ e, lookup tbl src u = some e → toIdx (src e) (sm e) u < card (dst e)) :
    convRune tbl' dst src dm sm c = some u ∧
      ∃ e, lookup tbl src u = some e ∧ lookup tbl' dst c = some e ∧
        toIdx (dst e) (dm e) c = toIdx (src e) (sm e) u := by
  obtain ⟨e, hl, hmem, hlen, hok, hcont, hc⟩ := convRune_entry hs h
  obtain ⟨hsm1, hdm1, hb1, hb2⟩ := hsm e hok
  have hfit' := hfit e hl
  rw [hsm1] at hfit'
  rw [hsm1, hdm1] at hc
  obtain ⟨f1, f3⟩ := fromIdx_spec (dst e) _ hb2 hfit'
  have f2 := fromIdx_length (dst e) (toIdx (src e) (pv (src e)) u)
  rw [← hc] at f1 f2 f3
  obtain ⟨hpos, hle, hrow⟩ := sideOK_row hs' (hsub e hmem)
  rw [← f2] at hpos hle hrow
  have hl' : lookup tbl' dst c = some e := lookup_unique tbl' dst hs' c e hrow f1
  refine ⟨?_, e, hl, hl', by rw [hsm1, hdm1, f3]⟩
  rw [convRune, if_neg (by omega), hl']
  simp only [hsm1, hdm1, f3, fromIdx_toIdx (src e) u hb1 hcont hlen.symm]

theorem convRune_out_pos (tbl tbl' : List (List Entry)) (src dst : Entry → Bounds) (sm dm : Entry → List Nat)
    (hs : SideOK tbl src) (hs' : SideOK tbl' dst)
    (hdm : ∀ e, EntryOK e → dm e = pv (dst e))
    (hsub : ∀ e ∈ tbl.flatten, e ∈ tbl'.flatten)
    (u c : List Nat) (h : convRune tbl src dst sm dm u = some c) : 1 ≤ c.length := by
  obtain ⟨e, _, hmem, _, hok, _, hc⟩ := convRune_entry hs h
  rw [hc, hdm e hok, fromIdx_length]
  exact (sideOK_row hs' (hsub e hmem)).1

variable (f : List Nat → Option (List Nat)) (guard collapse : Bool) (L : Nat) (extra : List Nat)

/-- `u` is one character for the search loop and `c` its image: the search stops at `u`, not before. -/
def IsUnit (f : List Nat → Option (List Nat)) (L : Nat) (u c : List Nat) : Prop :=
  f u = some c ∧ 1 ≤ u.length ∧ u.length ≤ L ∧ ∀ m, 1 ≤ m → m < u.length → f (u.take m) = none

section
variable {f : List Nat → Option (List Nat)} {L : Nat} {u c : List Nat} (h : IsUnit f L u c)
include h

theorem IsUnit.conv : f u = some c := h.1

theorem IsUnit.pos : 1 ≤ u.length := h.2.1

theorem IsUnit.le : u.length ≤ L := h.2.2.1

theorem IsUnit.pre : ∀ m, 1 ≤ m → m < u.length → f (u.take m) = none := h.2.2.2

end

theorem IsUnit.append_ne_nil {f : List Nat → Option (List Nat)} {L : Nat} {u c : List Nat}
    (h : IsUnit f L u c) (rest : List Nat) : u ++ rest ≠ [] :=
  List.append_ne_nil_of_left_ne_nil (List.ne_nil_of_length_pos h.pos) rest

theorem convRune_isUnit {tbl : List (List Entry)} {src dst : Entry → Bounds} {sm dm : Entry → List Nat}
    (hs : SideOK tbl src) {L : Nat} (hL : tbl.length ≤ L) {u c : List Nat}
    (h : convRune tbl src dst sm dm u = some c) : IsUnit (convRune tbl src dst sm dm) L u c :=
  have ⟨h1, h2, _⟩ := convRune_some _ _ _ _ _ _ _ h
  ⟨h, h1, Nat.le_trans h2 hL, conv_prefix_free _ _ _ _ _ hs u c h⟩

variable {f guard} in
/-- The forward induction over the search, with the outcome `r` as a parameter: a search that stops at `N`
with `r` and finds nothing below `N` ends in `r` from every earlier start. `scan_found` and `scan_short` are
its two instances. -/
theorem scan_stop {buf : List Nat} {len N : Nat} {r : Scan} (hstop : ∀ k, scan f guard buf len N (k + 1) = r)
    (hlen : N ≤ len + 1) (hbuf : N ≤ buf.length + 1)
    (hpre : ∀ m, 1 ≤ m → m < N → f (buf.take m) = none) :
    ∀ (k n : Nat), 1 ≤ n → n ≤ N → N < n + k → scan f guard buf len n k = r := by
  intro k
  induction k with
  | zero => intro n _ _ _; omega
  | succ k ih =>
    intro n h1 h2 h3
    rcases Nat.eq_or_lt_of_le h2 with rfl | hlt
    · exact hstop k
    · have hg : ¬ n > len := by omega
      have hb : ¬ n > buf.length := by omega
      simp only [scan, hg, hb, decide_false, Bool.and_false, Bool.false_eq_true, if_false, hpre n h1 hlt]
      exact ih (n + 1) (by omega) (by omega) (by omega)

variable {f L} in
theorem scan_found {u c : List Nat} (h : IsUnit f L u c) (rest : List Nat) {len : Nat} (hlen : u.length ≤ len) :
    scan f guard (u ++ rest) len 1 L = .found u.length c := by
  have := h.le
  refine scan_stop (fun k => ?_) (by omega) (by simp; omega)
    (fun m h1 h2 => by rw [List.take_append_of_le_length (Nat.le_of_lt h2)]; exact h.pre m h1 h2)
    L 1 (Nat.le_refl 1) h.pos (by omega)
  simp [scan, Nat.not_lt.2 hlen, h.conv]

variable {f guard} in
theorem scan_found_inv {buf : List Nat} {len k n N : Nat} {out : List Nat}
    (h : scan f guard buf len n k = .found N out) :
    n ≤ N ∧ N < n + k ∧ (guard = true → N ≤ len) ∧ f (buf.take N) = some out ∧
      ∀ m, n ≤ m → m < N → f (buf.take m) = none := by
  revert h
  fun_induction scan f guard buf len n k with
  | case1 => nofun
  | case2 => nofun
  | case3 => nofun
  | case4 n k hg hb o ho =>
    intro h
    cases h
    refine ⟨Nat.le_refl _, by omega, fun hgt => ?_, ho, fun m hm1 hm2 => by omega⟩
    simp only [hgt, Bool.true_and, decide_eq_true_eq] at hg
    omega
  | case5 n k hg hb ho ih =>
    intro h
    obtain ⟨a1, a2, a3, a4, a5⟩ := ih h
    refine ⟨by omega, by omega, a3, a4, fun m hm1 hm2 => ?_⟩
    rcases Nat.eq_or_lt_of_le hm1 with hmn | hmn
    · rw [← hmn]; exact ho
    · exact a5 m hmn hm2

variable {f guard L} in
theorem scan_isUnit {s extra : List Nat} {n : Nat} {out : List Nat}
    (h : scan f guard (s ++ extra) s.length 1 L = .found n out) (hn : n ≤ s.length) : IsUnit f L (s.take n) out := by
  obtain ⟨a1, a2, _, a5, a6⟩ := scan_found_inv h
  have hlen : (s.take n).length = n := List.length_take_of_le hn
  rw [List.take_append_of_le_length hn] at a5
  refine ⟨a5, by rw [hlen]; exact a1, by rw [hlen]; omega, fun m hm1 hm2 => ?_⟩
  rw [hlen] at hm2
  have := a6 m hm1 hm2
  rw [List.take_append_of_le_length (by omega)] at this
  rw [List.take_take, Nat.min_eq_left (Nat.le_of_lt hm2)]
  exact this

variable {f} in
theorem scan_short_inv {buf : List Nat} {len k n N : Nat} (h : scan f true buf len n k = .short N) :
    n ≤ N ∧ len < N ∧ len + 1 < n + k ∧ ∀ m, n ≤ m → m ≤ len → f (buf.take m) = none := by
  revert h
  fun_induction scan f true buf len n k with
  | case1 => nofun
  | case2 n k hg =>
    have hg : len < n := by simpa using hg
    intro h
    cases h
    exact ⟨Nat.le_refl _, hg, by omega, fun m h1 h2 => by omega⟩
  | case3 => nofun
  | case4 => nofun
  | case5 n k hg hb ho ih =>
    intro h
    obtain ⟨a1, a2, a3, a4⟩ := ih h
    refine ⟨by omega, a2, by omega, fun m hm1 hm2 => ?_⟩
    rcases Nat.eq_or_lt_of_le hm1 with hmn | hmn
    · rw [← hmn]; exact ho
    · exact a4 m hmn hm2

theorem scan_short (t : List Nat) (hL : t.length < L)
    (ht : ∀ m, 1 ≤ m → m ≤ t.length → f (t.take m) = none) :
    scan f true t t.length 1 L = .short (t.length + 1) :=
  scan_stop (fun k => by simp [scan]) (Nat.le_refl _) (Nat.le_refl _)
    (fun m h1 h2 => ht m h1 (Nat.le_of_lt_succ h2)) L 1 (Nat.le_refl 1) (Nat.le_add_left ..) (by omega)

/-- The guarded search never reads `extra` and never ends `.oob`; the unguarded one differs only where the
guard fires: there it slices out of bounds. -/
theorem scan_guard (str extra : List Nat) : ∀ (k n : Nat),
    scan f true (str ++ extra) str.length n k = scan f true str str.length n k ∧
    scan f true str str.length n k ≠ .oob ∧
    scan f false str str.length n k =
      match scan f true str str.length n k with
      | .short _ => .oob
      | r => r := by
  intro k
  induction k with
  | zero => intro n; simp [scan]
  | succ k ih =>
    intro n
    unfold scan
    by_cases hn : n > str.length
    · simp [hn]
    · have h1 : ¬ n > (str ++ extra).length := by rw [List.length_append]; omega
      simp only [hn, h1, Bool.true_and, Bool.false_and, decide_false, Bool.false_eq_true, if_false]
      rw [List.take_append_of_le_length (by omega)]
      cases f (str.take n) with
      | some out => simp
      | none => simp only; exact ih (n + 1)

/-- The search looks at prefixes of `buf` only; agreement is asked on every substring because that is what
the outer loops can hand down to the rest of the string (`substr_drop`), and the shape of C30's `OverflowRegion`. -/
theorem scan_congr {f g : List Nat → Option (List Nat)} (guard : Bool) {buf : List Nat} (len : Nat)
    (h : ∀ p u t, buf = p ++ u ++ t → f u = g u) :
    ∀ (k n : Nat), scan f guard buf len n k = scan g guard buf len n k := by
  intro k
  induction k with
  | zero => intro n; simp [scan]
  | succ k ih =>
    intro n
    unfold scan
    rw [h [] (buf.take n) (buf.drop n) (by simp), ih (n + 1)]

theorem convLoop_nil (f : List Nat → Option (List Nat)) (guard : Bool) (L : Nat) (extra : List Nat)
    (fuel : Nat) : convLoop f guard L extra (fuel + 1) [] = .ok [] := by
  simp [convLoop]

variable {f guard L extra} in
theorem convLoop_cons {fuel : Nat} {s : List Nat} (hne : s ≠ []) :
    convLoop f guard L extra (fuel + 1) s =
      match scan f guard (s ++ extra) s.length 1 L with
      | .found n out =>
        if n > s.length then .crash else (convLoop f guard L extra fuel (s.drop n)).prepend out
      | .oob => .crash
      | _ => .fail := by
  rw [convLoop, if_neg (by simpa using hne)]
  rfl

theorem prepend_prepend (a b : List Nat) (r : Res) : (r.prepend b).prepend a = r.prepend (a ++ b) := by
  cases r <;> simp [Res.prepend]

theorem prepend_nil (r : Res) : r.prepend [] = r := by
  cases r <;> rfl

theorem prepend_eq_crash (out : List Nat) (r : Res) : r.prepend out = .crash ↔ r = .crash := by
  cases r <;> simp [Res.prepend]

theorem prepend_eq_ok (out b : List Nat) (r : Res) :
    r.prepend out = .ok b ↔ ∃ b', r = .ok b' ∧ b = out ++ b' := by
  cases r <;> simp [Res.prepend, eq_comm]

def FuelIndep (loop : Nat → List Nat → Res) : Prop :=
  ∀ (fuel1 fuel2 : Nat) (s : List Nat), s.length < fuel1 → s.length < fuel2 → loop fuel1 s = loop fuel2 s

structure Crosses (loop : Nat → List Nat → Res) (u c : List Nat) : Prop where
  pos : 1 ≤ u.length
  step : ∀ rest fuel, loop (fuel + 1) (u ++ rest) = (loop fuel rest).prepend c

/-- Both outer loops cross a string of units unit by unit; `src` and `img` read a unit and its image off
an element, so that one list of pairs serves both directions of a round trip. -/
theorem loop_units {α : Type} (loop : Nat → List Nat → Res) (src img : α → List Nat) (hfuel : FuelIndep loop) :
    ∀ (us : List α), (∀ p ∈ us, Crosses loop (src p) (img p)) →
      ∀ (t : List Nat) (fuel : Nat), ((us.map src).flatten ++ t).length < fuel →
      loop fuel ((us.map src).flatten ++ t) = (loop (t.length + 1) t).prepend (us.map img).flatten
  | [], _, t, fuel, hf => by
    rw [List.map_nil, List.map_nil, List.flatten_nil, prepend_nil]
    exact hfuel fuel (t.length + 1) t hf (Nat.lt_succ_self _)
  | p :: us, hu, t, 0, hf => by omega
  | p :: us, hu, t, fuel + 1, hf => by
    obtain ⟨hpos, hstep⟩ := hu p List.mem_cons_self
    simp only [List.map_cons, List.flatten_cons, List.append_assoc, List.length_append] at hf ⊢
    rw [hstep, loop_units loop src img hfuel us (fun q hq => hu q (List.mem_cons_of_mem _ hq)) t fuel
      (by rw [List.length_append]; omega), prepend_prepend]

theorem convLoop_fuel : FuelIndep (convLoop f guard L extra) := by
  intro fuel1
  induction fuel1 with
  | zero => intro _ s h; omega
  | succ fuel1 ih =>
    intro fuel2 s h1 h2
    cases fuel2 with
    | zero => omega
    | succ fuel2 =>
      by_cases hne : s = []
      · rw [hne, convLoop_nil, convLoop_nil]
      · have hpos : 0 < s.length := List.length_pos_iff.2 hne
        rw [convLoop_cons hne, convLoop_cons hne]
        cases hsc : scan f guard (s ++ extra) s.length 1 L with
        | found n out =>
          have hn := (scan_found_inv hsc).1
          simp only
          rw [ih fuel2 (s.drop n) (by rw [List.length_drop]; omega) (by rw [List.length_drop]; omega)]
        | short n => rfl
        | exhausted => rfl
        | oob => rfl

theorem convLoop_step {u c : List Nat} (h : IsUnit f L u c) : Crosses (convLoop f guard L extra) u c := by
  refine ⟨h.pos, fun rest fuel => ?_⟩
  have hne := h.append_ne_nil rest
  rw [convLoop_cons hne, List.append_assoc,
    scan_found guard h (rest ++ extra) (by simp)]
  have : ¬ u.length > (u ++ rest).length := by simp
  simp only [this, if_false, List.drop_left]

theorem convLoop_units :
    ∀ (us : List (List Nat × List Nat)), (∀ p ∈ us, IsUnit f L p.1 p.2) →
      ∀ (t : List Nat) (fuel : Nat), ((us.map (·.1)).flatten ++ t).length < fuel →
      convLoop f guard L extra fuel ((us.map (·.1)).flatten ++ t) =
        (convLoop f guard L extra (t.length + 1) t).prepend (us.map (·.2)).flatten :=
  fun us hus => loop_units _ _ _ (convLoop_fuel f guard L extra) us fun p hp =>
    convLoop_step f guard L extra (hus p hp)

variable {f guard L extra} in
theorem convLoop_units_ok {α : Type} {us : List α} {src img : α → List Nat}
    (hus : ∀ p ∈ us, IsUnit f L (src p) (img p)) :
    convLoop f guard L extra ((us.map src).flatten.length + 1) (us.map src).flatten =
      .ok (us.map img).flatten := by
  have h := loop_units _ src img (convLoop_fuel f guard L extra) us
    (fun p hp => convLoop_step f guard L extra (hus p hp)) [] ((us.map src).flatten.length + 1) (by simp)
  rw [List.append_nil] at h
  rw [h, convLoop_nil, Res.prepend, List.append_nil]

theorem convLoop_ok_inv :
    ∀ (fuel : Nat) (s b : List Nat), convLoop f guard L extra fuel s = .ok b →
      ∃ us : List (List Nat × List Nat), (∀ p ∈ us, IsUnit f L p.1 p.2) ∧
        s = (us.map (·.1)).flatten ∧ b = (us.map (·.2)).flatten := by
  intro fuel s
  fun_induction convLoop f guard L extra fuel s with
  | case1 | case3 | case5 | case6 => nofun
  | case2 fuel s hnil => exact fun b h => ⟨[], nofun, List.isEmpty_iff.1 hnil, (Res.ok.inj h).symm⟩
  | case4 fuel s _ n out hscan hle ih =>
    intro b h
    obtain ⟨b', hr, rfl⟩ := (prepend_eq_ok ..).1 h
    obtain ⟨us, hus, hs, rfl⟩ := ih _ hr
    exact ⟨(s.take n, out) :: us, List.forall_mem_cons.2 ⟨scan_isUnit hscan (Nat.not_lt.1 hle), hus⟩,
      by rw [List.map_cons, List.flatten_cons, ← hs, List.take_append_drop], rfl⟩

theorem convLoop_roundtrip {f g : List Nat → Option (List Nat)} {guard : Bool} {L L' : Nat} {extra : List Nat}
    {fuel : Nat} {s b : List Nat} (h : convLoop f guard L extra fuel s = .ok b)
    (hinv : ∀ u c, IsUnit f L u c → IsUnit g L' c u) {guard' : Bool} {extra' : List Nat} :
    convLoop g guard' L' extra' (b.length + 1) b = .ok s := by
  obtain ⟨us, hus, rfl, rfl⟩ := convLoop_ok_inv _ _ _ _ _ _ _ h
  exact convLoop_units_ok fun p hp => hinv _ _ (hus p hp)

/-- The loop reaches a rest `t` that is shorter than `L` and has no convertible prefix. "Reaches" is said as:
the part `p` in front converts on its own. That is written with the guarded loop; where it converts the
guard never fires, so the unguarded loop does the same there. The unguarded loop panics exactly on these
strings (`convLoop_crash_iff`). -/
def TailAt (f : List Nat → Option (List Nat)) (L : Nat) (s : List Nat) : Prop :=
  ∃ p t, s = p ++ t ∧ (∃ b, convLoop f true L [] (p.length + 1) p = .ok b) ∧ t ≠ [] ∧
    t.length < L ∧ ∀ m, 1 ≤ m → m ≤ t.length → f (t.take m) = none

theorem TailAt.cons {f : List Nat → Option (List Nat)} {L : Nat} {u c rest : List Nat}
    (hu : IsUnit f L u c) (h : TailAt f L rest) : TailAt f L (u ++ rest) := by
  obtain ⟨p, t, rfl, ⟨b, hb⟩, ht⟩ := h
  refine ⟨u ++ p, t, (List.append_assoc ..).symm, ⟨c ++ b, ?_⟩, ht⟩
  rw [(convLoop_step f true L [] hu).step p,
    convLoop_fuel f true L [] _ (p.length + 1) p (by rw [List.length_append]; have := hu.pos; omega)
      (Nat.lt_succ_self _), hb]
  rfl

/-- Four facts about the guard in one induction, because each needs the same case split of one iteration
(`scan_guard`, then the outcome of the guarded search). -/
theorem convLoop_guard : ∀ (fuel : Nat) (s : List Nat),
    convLoop f true L extra fuel s = convLoop f true L [] fuel s ∧
    convLoop f true L [] fuel s ≠ .crash ∧
    (convLoop f false L [] fuel s = .crash ∨
      convLoop f false L [] fuel s = convLoop f true L [] fuel s) ∧
    (convLoop f false L [] fuel s = .crash → TailAt f L s)
  | 0, _ => ⟨rfl, nofun, .inr rfl, nofun⟩
  | fuel + 1, s => by
    by_cases hne : s = []
    · rw [hne, convLoop_nil, convLoop_nil, convLoop_nil]; exact ⟨rfl, nofun, .inr rfl, nofun⟩
    · obtain ⟨g1, g2, g3⟩ := scan_guard f s extra L 1
      rw [convLoop_cons hne, convLoop_cons hne, convLoop_cons hne,
        List.append_nil, g1, g3]
      cases hsc : scan f true s s.length 1 L with
      | found n out =>
        obtain ⟨i1, i2, i3, i4⟩ := convLoop_guard fuel (s.drop n)
        have hn := (scan_found_inv hsc).2.2.1 rfl
        have hunit := scan_isUnit (g1.trans hsc) hn
        simp only [if_neg (Nat.not_lt.2 hn), i1, ne_eq, prepend_eq_crash]
        exact ⟨trivial, i2, i3.imp_right fun h => by rw [h],
          fun h => List.take_append_drop n s ▸ TailAt.cons hunit (i4 h)⟩
      | short n =>
        obtain ⟨_, _, a3, a4⟩ := scan_short_inv hsc
        exact ⟨rfl, nofun, .inl rfl, fun _ => ⟨[], s, rfl, ⟨[], rfl⟩, hne, by omega, a4⟩⟩
      | exhausted => exact ⟨rfl, nofun, .inr rfl, nofun⟩
      | oob => exact absurd hsc g2

theorem convLoop_guard_extra :
    ∀ (fuel : Nat) (s : List Nat), convLoop f true L extra fuel s = convLoop f true L [] fuel s :=
  fun fuel s => (convLoop_guard f L extra fuel s).1

theorem convLoop_guard_no_crash :
    ∀ (fuel : Nat) (s : List Nat), convLoop f true L [] fuel s ≠ .crash :=
  fun fuel s => (convLoop_guard f L [] fuel s).2.1

theorem convLoop_unguarded_cases :
    ∀ (fuel : Nat) (s : List Nat),
      convLoop f false L [] fuel s = .crash ∨
        convLoop f false L [] fuel s = convLoop f true L [] fuel s :=
  fun fuel s => (convLoop_guard f L [] fuel s).2.2.1

theorem convLoop_tail (t : List Nat) (hne : t ≠ []) (hL : t.length < L)
    (ht : ∀ m, 1 ≤ m → m ≤ t.length → f (t.take m) = none) (fuel : Nat) :
    convLoop f guard L [] (fuel + 1) t = if guard then .fail else .crash := by
  have hs := scan_short f L t hL ht
  rw [convLoop_cons hne, List.append_nil]
  cases guard
  · rw [(scan_guard f t [] L 1).2.2, hs]; rfl
  · rw [hs]; rfl

theorem convLoop_tailAt (s : List Nat) (h : TailAt f L s) (fuel : Nat) (hf : s.length < fuel) :
    convLoop f guard L [] fuel s = if guard then .fail else .crash := by
  obtain ⟨p, t, hs, ⟨b, hb⟩, ht1, ht2, ht3⟩ := h
  obtain ⟨us, hus, hp, _⟩ := convLoop_ok_inv f true L [] _ _ _ hb
  subst hs
  rw [hp] at hf ⊢
  rw [convLoop_units f guard L [] us hus t fuel hf, convLoop_tail f guard L t ht1 ht2 ht3]
  cases guard <;> rfl

theorem convLoop_crash_iff :
    ∀ (fuel : Nat) (s : List Nat), s.length < fuel →
      (convLoop f false L [] fuel s = .crash ↔ TailAt f L s) :=
  fun fuel s hf => ⟨(convLoop_guard f L [] fuel s).2.2.2, fun h => convLoop_tailAt f false L s h fuel hf⟩

theorem convLoop_tail_fail (s : List Nat) (h : TailAt f L s) :
    convLoop f true L [] (s.length + 1) s = .fail :=
  convLoop_tailAt f true L s h _ (Nat.lt_succ_self _)

theorem substr_drop {P : List Nat → Prop} {s : List Nat} (h : ∀ p u t, s = p ++ u ++ t → P u) (n : Nat) :
    ∀ p u t, s.drop n = p ++ u ++ t → P u := fun p u t hd =>
  h (s.take n ++ p) u t (by
    rw [List.append_assoc, List.append_assoc, ← List.append_assoc p, ← hd, List.take_append_drop])

theorem convLoop_congr (f g : List Nat → Option (List Nat)) (guard : Bool) (L : Nat) :
    ∀ (fuel : Nat) (s : List Nat), (∀ p u t, s = p ++ u ++ t → f u = g u) →
      convLoop f guard L [] fuel s = convLoop g guard L [] fuel s := by
  intro fuel
  induction fuel with
  | zero => intro s _; rfl
  | succ fuel ih =>
    intro s h
    by_cases hne : s = []
    · rw [hne, convLoop_nil, convLoop_nil]
    · rw [convLoop_cons hne, convLoop_cons hne, List.append_nil,
        scan_congr guard s.length h L 1]
      cases scan g guard s s.length 1 L with
      | found n out =>
        simp only
        rw [ih (s.drop n) (substr_drop h n)]
      | short n => rfl
      | exhausted => rfl
      | oob => rfl

/-- What one iteration of `replLoop` consumes and writes on a non-empty string: the `let`s of its body. -/
def replStep (f : List Nat → Option (List Nat)) (collapse : Bool) (L : Nat) (str : List Nat) :
    Nat × List Nat :=
  let fallback : Nat × List Nat := (if utf8Len str = 0 then 1 else utf8Len str, [63])
  let r : Nat × List Nat :=
    match scan f true str str.length 1 L with
    | .found n out => (n, out)
    | .exhausted => fallback
    | .short n => if collapse then (n, []) else fallback
    | .oob => (0, [])
  (if r.1 ≥ str.length then str.length else r.1, if r.2.isEmpty then [63] else r.2)

theorem replStep_bounds {s : List Nat} (hne : s ≠ []) :
    1 ≤ (replStep f collapse L s).1 ∧ (replStep f collapse L s).1 ≤ s.length := by
  have hpos : 0 < s.length := List.length_pos_iff.2 hne
  have hfb : 1 ≤ (if utf8Len s = 0 then 1 else utf8Len s) := by split <;> omega
  have key : ∀ n : Nat, 1 ≤ n →
      1 ≤ (if n ≥ s.length then s.length else n) ∧ (if n ≥ s.length then s.length else n) ≤ s.length := by
    intro n hn; split <;> omega
  unfold replStep
  cases hsc : scan f true s s.length 1 L with
  | found n out => exact key n (scan_found_inv hsc).1
  | exhausted => exact key _ hfb
  | short n =>
    cases collapse
    · exact key _ hfb
    · exact key n (scan_short_inv hsc).1
  | oob => exact absurd hsc (scan_guard f s [] L 1).2.1

variable {f collapse L} in
theorem replLoop_cons {fuel : Nat} {s : List Nat} (hne : s ≠ []) :
    replLoop f collapse L (fuel + 1) s =
      (replLoop f collapse L fuel (s.drop (replStep f collapse L s).1)).prepend
        (replStep f collapse L s).2 := by
  have raw : replLoop f collapse L (fuel + 1) s =
      if (replStep f collapse L s).1 = 0 then .crash
      else (replLoop f collapse L fuel (s.drop (replStep f collapse L s).1)).prepend
        (replStep f collapse L s).2 := by
    rw [replLoop, if_neg (by simpa using hne)]
    unfold replStep
    cases scan f true s s.length 1 L with
    | found n out => rfl
    | exhausted => rfl
    | short n => cases collapse <;> rfl
    | oob => rfl
  rw [raw, if_neg (Nat.pos_iff_ne_zero.1 (replStep_bounds f collapse L hne).1)]

theorem replLoop_nil (fuel : Nat) : replLoop f collapse L (fuel + 1) [] = .ok [] := by
  simp [replLoop]

theorem replLoop_total :
    ∀ (fuel : Nat) (s : List Nat), s.length < fuel → ∃ b, replLoop f collapse L fuel s = .ok b := by
  intro fuel
  induction fuel with
  | zero => intro s h; omega
  | succ fuel ih =>
    intro s hf
    by_cases hne : s = []
    · exact ⟨[], by rw [hne, replLoop_nil]⟩
    · have hb := replStep_bounds f collapse L hne
      obtain ⟨b, hb⟩ := ih (s.drop (replStep f collapse L s).1) (by rw [List.length_drop]; omega)
      exact ⟨_, by rw [replLoop_cons hne, hb]; rfl⟩

theorem replLoop_fuel : FuelIndep (replLoop f collapse L) := by
  intro fuel1
  induction fuel1 with
  | zero => intro _ s h; omega
  | succ fuel1 ih =>
    intro fuel2 s h1 h2
    cases fuel2 with
    | zero => omega
    | succ fuel2 =>
      by_cases hne : s = []
      · rw [hne, replLoop_nil, replLoop_nil]
      · have hb := replStep_bounds f collapse L hne
        rw [replLoop_cons hne, replLoop_cons hne,
          ih fuel2 _ (by rw [List.length_drop]; omega) (by rw [List.length_drop]; omega)]

theorem replStep_unit (u c rest : List Nat) (h : IsUnit f L u c) (hc : c ≠ []) :
    replStep f collapse L (u ++ rest) = (u.length, c) := by
  unfold replStep
  rw [scan_found true h rest (by simp)]
  have hce : c.isEmpty = false := by simpa using hc
  simp only [hce, Bool.false_eq_true, if_false, List.length_append]
  split
  · congr 1; omega
  · rfl

theorem replLoop_step {u c : List Nat} (h : IsUnit f L u c) (hc : c ≠ []) :
    Crosses (replLoop f collapse L) u c :=
  ⟨h.pos, fun rest fuel => by
    rw [replLoop_cons (h.append_ne_nil rest), replStep_unit f collapse L u c rest h hc, List.drop_left]⟩

theorem replLoop_units :
    ∀ (us : List (List Nat × List Nat)), (∀ p ∈ us, IsUnit f L p.1 p.2 ∧ p.2 ≠ []) →
      ∀ (t : List Nat) (fuel : Nat), ((us.map (·.1)).flatten ++ t).length < fuel →
      replLoop f collapse L fuel ((us.map (·.1)).flatten ++ t) =
        (replLoop f collapse L (t.length + 1) t).prepend (us.map (·.2)).flatten :=
  fun us hus => loop_units _ _ _ (replLoop_fuel f collapse L) us fun p hp =>
    replLoop_step f collapse L (hus p hp).1 (hus p hp).2

variable {f collapse L} in
theorem replLoop_units_ok {us : List (List Nat × List Nat)} (hus : ∀ p ∈ us, IsUnit f L p.1 p.2)
    (hne : ∀ p ∈ us, p.2 ≠ []) :
    replLoop f collapse L ((us.map (·.1)).flatten.length + 1) (us.map (·.1)).flatten =
      .ok (us.map (·.2)).flatten := by
  have h := replLoop_units f collapse L us (fun p hp => ⟨hus p hp, hne p hp⟩) []
    ((us.map (·.1)).flatten.length + 1) (by simp)
  rw [List.append_nil] at h
  rw [h, replLoop_nil, Res.prepend, List.append_nil]

/-- The rest of the string at which Go's loop collapses several characters into one `?`:
shorter than `L`, no convertible prefix, and more than one UTF-8 unit long. -/
def CollapseAt (f : List Nat → Option (List Nat)) (L : Nat) (s : List Nat) : Prop :=
  ∃ p t, s = p ++ t ∧ t ≠ [] ∧ t.length < L ∧ (∀ m, 1 ≤ m → m ≤ t.length → f (t.take m) = none) ∧
    utf8Len t < t.length

theorem replStep_collapse {s : List Nat} (hne : s ≠ [])
    (hno : ¬ CollapseAt f L s) : replStep f true L s = replStep f false L s := by
  unfold replStep
  cases hsc : scan f true s s.length 1 L with
  | found n out => rfl
  | exhausted => rfl
  | oob => rfl
  | short n =>
    -- the rest is a single UTF-8 unit: consuming all of it and consuming the unit are the same
    obtain ⟨_, a2, a3, a4⟩ := scan_short_inv hsc
    have hpos : 0 < s.length := List.length_pos_iff.2 hne
    have hu : ¬ utf8Len s < s.length := fun hlt => hno ⟨[], s, rfl, hne, by omega, a4, hlt⟩
    have h1 : n ≥ s.length := by omega
    have h2 : (if utf8Len s = 0 then 1 else utf8Len s) ≥ s.length := by split <;> omega
    simp only [if_true, Bool.false_eq_true, if_false, h1, h2, List.isEmpty_nil, List.isEmpty_cons]

theorem replStep_congr {f g : List Nat → Option (List Nat)} (collapse : Bool) (L : Nat) {s : List Nat}
    (h : ∀ p u t, s = p ++ u ++ t → f u = g u) : replStep f collapse L s = replStep g collapse L s := by
  unfold replStep
  rw [scan_congr true s.length h L 1]

theorem replLoop_collapse_eq :
    ∀ (fuel : Nat) (s : List Nat), ¬ CollapseAt f L s →
      replLoop f true L fuel s = replLoop f false L fuel s := by
  intro fuel
  induction fuel with
  | zero => intro s _; rfl
  | succ fuel ih =>
    intro s hno
    by_cases hne : s = []
    · rw [hne, replLoop_nil, replLoop_nil]
    · have hsuf : ∀ n, ¬ CollapseAt f L (s.drop n) := fun n ⟨p, t, hs, ht⟩ =>
        hno ⟨s.take n ++ p, t, by rw [List.append_assoc, ← hs, List.take_append_drop], ht⟩
      rw [replLoop_cons hne, replLoop_cons hne, replStep_collapse f L hne hno,
        ih _ (hsuf _)]

theorem replLoop_congr (f g : List Nat → Option (List Nat)) (collapse : Bool) (L : Nat) :
    ∀ (fuel : Nat) (s : List Nat), (∀ p u t, s = p ++ u ++ t → f u = g u) →
      replLoop f collapse L fuel s = replLoop g collapse L fuel s := by
  intro fuel
  induction fuel with
  | zero => intro s _; rfl
  | succ fuel ih =>
    intro s h
    by_cases hne : s = []
    · rw [hne, replLoop_nil, replLoop_nil]
    · rw [replLoop_cons hne, replLoop_cons hne, replStep_congr collapse L h, ih _ (substr_drop h _)]

/-! `wfB` is evaluated by the kernel on every regenerated table (C30 `wf_all`), and nearly all of that is
its four quadratic passes (`pairwiseB` on both sides, `subsetB` in both directions). A function compiled
from structural recursion unfolds through `brecOn` and a matcher at every call, which is slow for the
kernel next to the bare recursor. `wfR` is `wfB` with what runs once per pair of entries written with
`List.rec` and `Bool.rec`; only the kernel ever runs it. -/

noncomputable def andR (a b : Bool) : Bool := Bool.rec false b a

noncomputable def orR (a b : Bool) : Bool := Bool.rec b true a

noncomputable def allR {α : Type} (p : α → Bool) (l : List α) : Bool :=
  List.rec (motive := fun _ => Bool) true (fun a _ ih => andR (p a) ih) l

noncomputable def anyR {α : Type} (p : α → Bool) (l : List α) : Bool :=
  List.rec (motive := fun _ => Bool) false (fun a _ ih => orR (p a) ih) l

noncomputable def disjointR (a : Bounds) : Bounds → Bool :=
  List.rec (motive := fun _ => Bounds → Bool) (fun _ => false)
    (fun p _ ih b => List.rec (motive := fun _ => Bool) false
      (fun q tl _ => orR (orR (Nat.blt p.2 q.1) (Nat.blt q.2 p.1)) (ih tl)) b) a

noncomputable def boundsEqR (a : Bounds) : Bounds → Bool :=
  List.rec (motive := fun _ => Bounds → Bool)
    (fun b => List.rec (motive := fun _ => Bool) true (fun _ _ _ => false) b)
    (fun p _ ih b => List.rec (motive := fun _ => Bool) false
      (fun q tl _ => andR (andR (Nat.beq p.1 q.1) (Nat.beq p.2 q.2)) (ih tl)) b) a

/-- For `subsetR`, which compares every entry with every entry of the other side: two different entries of
a table differ in their first box already, so only that comparison is worth a copy. `pairwiseR` keeps
`Entry.eqB`: it gets there only for a pair whose boxes are not disjoint, which in a table is a repeated entry. -/
noncomputable def eqR (a b : Entry) : Bool :=
  andR (boundsEqR a.inR b.inR)
    (boundsEqB a.outR b.outR && natsEqB a.inM b.inM && natsEqB a.outM b.outM)

noncomputable def pairwiseR (src : Entry → Bounds) (l : List Entry) : Bool :=
  List.rec (motive := fun _ => Bool) true
    (fun a as ih => andR (allR (fun b => orR (disjointR (src a) (src b)) (a.eqB b)) as) ih) l

noncomputable def subsetR (a b : List (List Entry)) : Bool :=
  allR (fun e => anyR (fun e' => eqR e e') b.flatten) a.flatten

noncomputable def wfR (rm : RangeMap) : Bool :=
  Nat.beq rm.inE.length rm.outE.length &&
  shapeB Entry.inR 0 rm.inE && shapeB Entry.outR 0 rm.outE &&
  pairwiseR Entry.inR rm.inE.flatten && pairwiseR Entry.outR rm.outE.flatten &&
  subsetR rm.inE rm.outE && subsetR rm.outE rm.inE

theorem andR_eq (a b : Bool) : andR a b = (a && b) := by cases a <;> rfl

theorem orR_eq (a b : Bool) : orR a b = (a || b) := by cases a <;> rfl

theorem allR_eq {α : Type} (p : α → Bool) : ∀ l : List α, allR p l = l.all p
  | [] => rfl
  | a :: l => by rw [List.all_cons, ← allR_eq p l, ← andR_eq]; rfl

theorem anyR_eq {α : Type} (p : α → Bool) : ∀ l : List α, anyR p l = l.any p
  | [] => rfl
  | a :: l => by rw [List.any_cons, ← anyR_eq p l, ← orR_eq]; rfl

theorem disjointR_eq : ∀ a b : Bounds, disjointR a b = disjointB a b
  | [], _ => rfl
  | _ :: _, [] => rfl
  | (l1, h1) :: a, (l2, h2) :: b => by
    rw [disjointB, ← disjointR_eq a b, ← orR_eq, ← orR_eq]; rfl

theorem boundsEqR_eq : ∀ a b : Bounds, boundsEqR a b = boundsEqB a b
  | [], [] => rfl
  | [], _ :: _ => rfl
  | _ :: _, [] => rfl
  | (a, b) :: x, (c, d) :: y => by
    rw [boundsEqB, ← boundsEqR_eq x y, ← andR_eq, ← andR_eq]; rfl

theorem eqR_eq (a b : Entry) : eqR a b = a.eqB b := by
  simp only [eqR, Entry.eqB, andR_eq, boundsEqR_eq, Bool.and_assoc]

theorem pairwiseR_eq (src : Entry → Bounds) : ∀ l : List Entry, pairwiseR src l = pairwiseB src l
  | [] => rfl
  | a :: as => by
    rw [pairwiseB, ← pairwiseR_eq src as, ← allR_eq, ← andR_eq]
    simp only [← disjointR_eq, ← orR_eq]
    rfl

theorem subsetR_eq (a b : List (List Entry)) : subsetR a b = subsetB a b := by
  simp only [subsetR, subsetB, allR_eq, anyR_eq, eqR_eq]

theorem wfR_eq (rm : RangeMap) : wfR rm = wfB rm := by
  rw [wfR, wfB, sideDisjointB, sideDisjointB, pairwiseR_eq, pairwiseR_eq, subsetR_eq, subsetR_eq]

end Gms.RangeMap
