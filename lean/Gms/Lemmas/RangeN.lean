/-
n-column ranges. Membership factors through any one column (`memExcept`, `mem_set`, `mem_split`), which is how
`TryMerge` and `RemoveOverlap`, that rewrite one column, are read; the column-wise tests and `Intersect` are an `all2`
and a `zipWith` (`overlaps_iff`, `intersect_eq`) to which column facts lift.
-/
import Gms.Lemmas.RangeCol
import Gms.Lemmas.Basics

namespace Gms.Range
namespace Range

def NonInv (r : Range) : Prop := ∀ c ∈ r, ColRange.NonInv c

instance (r : Range) : Decidable (NonInv r) := by unfold NonInv; exact inferInstance

/-- Membership with column `i` left out. -/
def memExcept : Range → Nat → Tuple → Bool
  | _ :: cs, 0, _ :: vs => mem cs vs
  | c :: cs, i + 1, v :: vs => c.mem v && memExcept cs i vs
  | _, _, _ => false

theorem mem_nil : ∀ {v : Tuple}, v ≠ [] → mem [] v = false
  | [], h => absurd rfl h
  | _ :: _, _ => rfl

theorem mem_length : ∀ {a : Range} {v : Tuple}, a.mem v = true → a.length = v.length
  | [], [], _ => rfl
  | [], _ :: _, h => by cases h
  | _ :: _, [], h => by cases h
  | _ :: _, _ :: _, h => congrArg (· + 1) (mem_length (Bool.and_eq_true_iff.mp h).2)

theorem mem_set : ∀ {a : Range} {i : Nat}, i < a.length → ∀ (c : ColRange) (v : Tuple),
    mem (a.set i c) v = (memExcept a i v && c.mem (v[i]?.getD none))
  | [], _, h, _, _ => absurd h (Nat.not_lt_zero _)
  | _ :: _, i, _, _, [] => by cases i <;> rfl
  | _ :: _, 0, _, _, _ :: _ => Bool.and_comm _ _
  | x :: _, _ + 1, h, c, v :: vs =>
    (congrArg (x.mem v && ·) (mem_set (Nat.lt_of_succ_lt_succ h) c vs)).trans (Bool.and_assoc _ _ _).symm

theorem mem_split {a : Range} {i : Nat} (h : i < a.length) (v : Tuple) :
    a.mem v = (memExcept a i v && (a[i]?.getD default).mem (v[i]?.getD none)) := by
  rw [← mem_set h _ v, List.getElem?_eq_getElem h, Option.getD_some, List.set_getElem_self]

theorem memExcept_set : ∀ (a : Range) (i : Nat) (c : ColRange) (v : Tuple),
    memExcept (a.set i c) i v = memExcept a i v
  | [], _, _, _ => rfl
  | _ :: _, i, _, [] => by cases i <;> rfl
  | _ :: _, 0, _, _ :: _ => rfl
  | x :: cs, i + 1, c, v :: vs => congrArg (x.mem v && ·) (memExcept_set cs i c vs)

theorem nonInv_set {a : Range} {i : Nat} {c : ColRange} (ha : NonInv a) (hc : c.NonInv) :
    NonInv (a.set i c) := by
  intro x hx
  rcases List.mem_or_eq_of_mem_set hx with h | h
  · exact ha x h
  · rw [h]; exact hc

theorem nonInv_of_not_isEmpty (r : Range) (h : r.isEmpty = false) : NonInv r := by
  intro c hc
  unfold isEmpty at h
  simp only [Bool.or_eq_false_iff] at h
  have := h.2
  rw [List.any_eq_false] at this
  exact ColRange.nonInv_of_not_isEmpty (by simpa using this c hc)

theorem any_isEmpty_sound : ∀ (r : Range) (v : Tuple), r.any ColRange.isEmpty = true → mem r v = false
  | [], _, h => by simp at h
  | _ :: _, [], _ => rfl
  | c :: cs, x :: xs, h => by
    simp only [mem]
    simp only [List.any_cons, Bool.or_eq_true] at h
    rcases h with h | h
    · rw [ColRange.isEmpty_sound h x]; rfl
    · rw [any_isEmpty_sound cs xs h]; simp

/-- `v ≠ []`: the nil range (Go's zero value) counts as empty, yet `mem [] [] = true`. -/
theorem isEmpty_sound {r : Range} (h : r.isEmpty = true) (v : Tuple) (hv : v ≠ []) : mem r v = false := by
  unfold isEmpty at h
  cases r with
  | nil => exact mem_nil hv
  | cons c cs =>
    simp only [List.isEmpty_cons, Bool.false_or] at h
    exact any_isEmpty_sound _ v h

theorem nonInv_getD {a : Range} (ha : NonInv a) (i : Nat) : (a[i]?.getD default).NonInv :=
  Basics.forall_getD (P := ColRange.NonInv) ha
    (show (default : ColRange).lo.compare (default : ColRange).hi ≤ 0 by decide) i

theorem all2_cons (p : ColRange → ColRange → Bool) (x y : ColRange) (as bs : Range) :
    all2 p (x :: as) (y :: bs) = (p x y && all2 p as bs) := rfl

theorem all2_getD {p : ColRange → ColRange → Bool} : ∀ (a b : Range) (i : Nat), all2 p a b = true →
    i < a.length → i < b.length → p (a[i]?.getD default) (b[i]?.getD default) = true
  | [], _, _, _, h, _ => absurd h (Nat.not_lt_zero _)
  | _ :: _, [], _, _, _, h => absurd h (Nat.not_lt_zero _)
  | _ :: _, _ :: _, 0, h, _, _ => (Bool.and_eq_true_iff.mp h).1
  | _ :: as, _ :: bs, i + 1, h, h1, h2 =>
    all2_getD as bs i (Bool.and_eq_true_iff.mp h).2 (Nat.lt_of_succ_lt_succ h1) (Nat.lt_of_succ_lt_succ h2)

theorem all2_subset_sound : ∀ (a b : Range) (v : Tuple), a.length = b.length →
    all2 ColRange.isSubsetOf a b = true → a.mem v = true → b.mem v = true
  | [], [], _, _, _, h => h
  | [], _ :: _, _, hl, _, _ => by cases hl
  | _ :: _, [], _, hl, _, _ => by cases hl
  | _ :: _, _ :: _, [], _, _, h => by cases h
  | _ :: as, _ :: bs, v :: vs, hl, h2, h =>
    have h2 := Bool.and_eq_true_iff.mp h2
    have h := Bool.and_eq_true_iff.mp h
    Bool.and_eq_true_iff.mpr ⟨ColRange.isSubsetOf_sound h2.1 v h.1,
      all2_subset_sound as bs vs (Nat.succ.inj hl) h2.2 h.2⟩

theorem isSubsetOf_sound {a b : Range} (h : a.isSubsetOf b = true) (v : Tuple) (hv : a.mem v = true) :
    b.mem v = true := by
  revert h
  fun_cases isSubsetOf a b with
  | case1 hlen => exact fun h => by cases h
  | case2 hlen => exact fun h => all2_subset_sound a b v (Decidable.not_not.mp hlen) h hv

theorem mem_cons_disjoint {x y : ColRange} {as bs : Range} {v : Option Int} {vs : Tuple}
    (h : (x.mem v && y.mem v) = false ∨ (mem as vs && mem bs vs) = false) :
    (mem (x :: as) (v :: vs) && mem (y :: bs) (v :: vs)) = false := by
  show ((x.mem v && mem as vs) && (y.mem v && mem bs vs)) = false
  generalize x.mem v = p, y.mem v = q, mem as vs = p', mem bs vs = q' at h
  decide +revert

theorem all2_false_disjoint {p : ColRange → ColRange → Bool}
    (hp : ∀ {x y}, p x y = false → ∀ v, (x.mem v && y.mem v) = false) : ∀ (a b : Range) (v : Tuple),
    all2 p a b = false → (a.mem v && b.mem v) = false
  | [], _, _, h => by cases h
  | _ :: _, [], _, h => by cases h
  | _ :: _, _ :: _, [], _ => rfl
  | x :: as, y :: bs, v :: vs, h => by
    rw [all2_cons] at h
    cases hx : p x y with
    | true =>
      rw [hx, Bool.true_and] at h
      exact mem_cons_disjoint (.inr (all2_false_disjoint hp as bs vs h))
    | false => exact mem_cons_disjoint (.inl (hp hx v))

theorem overlaps_iff {a b : Range} :
    a.overlaps b = true ↔ a.length = b.length ∧ all2 (fun x y => (x.overlaps y).2) a b = true := by
  fun_cases overlaps a b with
  | case1 hlen => exact ⟨fun h => (by cases h), fun h => absurd h.1 hlen⟩
  | case2 hlen => exact (and_iff_right (Decidable.not_not.mp hlen)).symm

theorem overlaps_false {a b : Range} (h : a.overlaps b = false) (v : Tuple) :
    (a.mem v && b.mem v) = false := by
  revert h
  fun_cases overlaps a b with
  | case1 hlen =>
    refine fun _ => Bool.eq_false_iff.mpr fun hv => hlen ?_
    rw [mem_length (Bool.and_eq_true_iff.mp hv).1, mem_length (Bool.and_eq_true_iff.mp hv).2]
  | case2 hlen => exact all2_false_disjoint ColRange.overlaps_false a b v

theorem all2_equals_iff : ∀ (a b : Range), a.length = b.length → (all2 ColRange.equals a b = true ↔ a = b)
  | [], [], _ => by simp [all2]
  | [], _ :: _, h => by simp at h
  | _ :: _, [], h => by simp at h
  | x :: as, y :: bs, h => by
    simp only [all2, Bool.and_eq_true, ColRange.equals_iff, List.cons.injEq]
    rw [all2_equals_iff as bs (by simpa using h)]

theorem equals_iff {a b : Range} : a.equals b = true ↔ a = b := by
  unfold equals
  rw [Bool.and_eq_true, beq_iff_eq]
  exact ⟨fun h => (all2_equals_iff a b h.1).mp h.2, fun h => h ▸ ⟨rfl, (all2_equals_iff a a rfl).mpr rfl⟩⟩

theorem intersectCols_cons (x y : ColRange) (as bs : Range) : intersectCols (x :: as) (y :: bs) =
    if !(x.tryIntersect y).2 then none else (intersectCols as bs).map ((x.tryIntersect y).1 :: ·) := rfl

theorem intersectCols_eq : ∀ (a b : Range), intersectCols a b =
    if all2 (fun x y => (x.tryIntersect y).2) a b then some (List.zipWith (fun x y => (x.tryIntersect y).1) a b)
    else none
  | [], _ => rfl
  | _ :: _, [] => rfl
  | x :: as, y :: bs => by
    rw [intersectCols_cons, intersectCols_eq as bs, all2_cons, List.zipWith_cons_cons]
    cases (x.tryIntersect y).2 <;> cases all2 (fun x y => (x.tryIntersect y).2) as bs <;> rfl

theorem mem_zipWith {f : ColRange → ColRange → ColRange}
    (hf : ∀ x y v, (f x y).mem v = (x.mem v && y.mem v)) : ∀ (a b : Range) (v : Tuple), a.length = b.length →
    mem (List.zipWith f a b) v = (a.mem v && b.mem v)
  | [], [], v, _ => by cases v <;> rfl
  | [], _ :: _, _, hl => by cases hl
  | _ :: _, [], _, hl => by cases hl
  | _ :: _, _ :: _, [], _ => rfl
  | x :: as, y :: bs, v :: vs, hl => by
    show ((f x y).mem v && mem (List.zipWith f as bs) vs) = ((x.mem v && mem as vs) && (y.mem v && mem bs vs))
    rw [hf, mem_zipWith hf as bs vs (Nat.succ.inj hl)]
    generalize x.mem v = p, y.mem v = q, mem as vs = p', mem bs vs = q'
    decide +revert

theorem mem_map_empty {α : Type} {l : List α} {v : Tuple} (h : l ≠ [] ∨ v ≠ []) :
    mem (l.map fun _ => ColRange.empty) v = false := by
  cases l with
  | nil => exact mem_nil (h.resolve_left (absurd rfl))
  | cons c cs => cases v <;> simp [mem, ColRange.mem_empty]

theorem intersect_eq {a b : Range} (hl : a.length = b.length) : a.intersect b =
    if all2 (fun x y => (x.tryIntersect y).2) a b then List.zipWith (fun x y => (x.tryIntersect y).1) a b
    else a.asEmpty := by
  unfold intersect
  rw [if_neg (fun h => h hl), intersectCols_eq]
  cases all2 (fun x y => (x.tryIntersect y).2) a b <;> rfl

theorem mem_intersect {a b : Range} (hl : a.length = b.length) (v : Tuple) :
    (a.intersect b).mem v = (a.mem v && b.mem v) := by
  rw [intersect_eq hl]
  cases h : all2 (fun x y => (x.tryIntersect y).2) a b with
  | false =>
    -- a column test failed, so there is a column
    have hne : a ≠ [] := fun e => by rw [e] at h; cases h
    refine (mem_map_empty (.inl hne)).trans (all2_false_disjoint (fun hf v => ?_) a b v h).symm
    rw [← ColRange.mem_tryIntersect, ColRange.tryIntersect_false hf, ColRange.mem_empty]
  | true => exact mem_zipWith ColRange.mem_tryIntersect a b v hl

theorem intersect_length {a b : Range} {n : Nat} (ha : a.length = n) (hb : b.length = n) :
    (a.intersect b).length = n := by
  rw [intersect_eq (ha.trans hb.symm)]
  cases all2 (fun x y => (x.tryIntersect y).2) a b with
  | false => exact (List.length_map _).trans ha
  | true => exact List.length_zipWith.trans (by rw [ha, hb, Nat.min_self])

theorem intersect_nonInv (a b : Range) : NonInv (a.intersect b) := by
  by_cases hl : a.length = b.length
  · rw [intersect_eq hl]
    split
    · rw [← List.map_uncurry_zip_eq_zipWith]
      exact List.forall_mem_map.mpr fun p _ => ColRange.tryIntersect_nonInv p.1 p.2
    · exact List.forall_mem_map.mpr fun _ _ => ColRange.nonInv_empty
  · unfold intersect
    rw [if_pos hl]
    exact fun _ hc => nomatch hc

theorem diffIdx_cons (x y : ColRange) (as bs : Range) : diffIdx (x :: as) (y :: bs) =
    if x.equals y then (diffIdx as bs).map (· + 1) else 0 :: (diffIdx as bs).map (· + 1) := rfl

theorem diffIdx_nil {a b : Range} (hl : a.length = b.length) (h : diffIdx a b = []) : a = b := by
  fun_induction diffIdx a b with
  | case1 x as y bs heq ih =>
    rw [ColRange.equals_iff.mp heq, ih (Nat.succ.inj hl) (List.map_eq_nil_iff.mp h)]
  | case2 x as y bs hne ih => cases h
  | case3 a b notCons =>
    cases a with
    | nil => exact (List.eq_nil_of_length_eq_zero hl.symm).symm
    | cons x as =>
      cases b with
      | nil => cases hl
      | cons y bs => exact (notCons x as y bs rfl rfl).elim

theorem diffIdx_head_lt {a b : Range} {i : Nat} {rest : List Nat} (h : diffIdx a b = i :: rest) :
    i < a.length ∧ i < b.length := by
  fun_induction diffIdx a b generalizing i rest with
  | case1 x as y bs heq ih =>
    obtain ⟨j, js, hd, rfl, _⟩ := List.map_eq_cons_iff.mp h
    exact (ih hd).imp Nat.succ_lt_succ Nat.succ_lt_succ
  | case2 x as y bs hne ih => exact (List.cons.inj h).1 ▸ ⟨Nat.succ_pos _, Nat.succ_pos _⟩
  | case3 a b notCons => cases h

/-- The measure of `RemoveOverlap`'s recursion: the first differing column stops differing. -/
theorem diffIdx_set {a b : Range} {i : Nat} {rest : List Nat} (h : diffIdx a b = i :: rest) (c : ColRange) :
    diffIdx (a.set i c) (b.set i c) = rest := by
  fun_induction diffIdx a b generalizing i rest with
  | case1 x as y bs heq ih =>
    obtain ⟨j, js, hd, rfl, rfl⟩ := List.map_eq_cons_iff.mp h
    rw [ColRange.equals_iff.mp heq]
    show diffIdx (y :: as.set j c) (y :: bs.set j c) = _
    rw [diffIdx_cons, ColRange.equals_self, if_pos rfl, ih hd]
  | case2 x as y bs hne ih =>
    obtain ⟨rfl, rfl⟩ := List.cons.inj h
    show diffIdx (c :: as) (c :: bs) = _
    rw [diffIdx_cons, ColRange.equals_self, if_pos rfl]
  | case3 a b notCons => cases h

theorem set_eq_of_diffIdx_single {a b : Range} {i : Nat} (hl : a.length = b.length) (h : diffIdx a b = [i])
    (c : ColRange) : a.set i c = b.set i c :=
  diffIdx_nil (by rw [List.length_set, List.length_set, hl]) (diffIdx_set h c)

theorem memExcept_of_diffIdx_single {a b : Range} {i : Nat} (hl : a.length = b.length) (h : diffIdx a b = [i]) (v : Tuple) :
    memExcept a i v = memExcept b i v := by
  rw [← memExcept_set a i default, set_eq_of_diffIdx_single hl h, memExcept_set]

theorem diffIdx_length_le (a b : Range) : (diffIdx a b).length ≤ a.length := by
  fun_induction diffIdx a b with
  | case1 x as y bs heq ih => rw [List.length_map]; exact Nat.le_succ_of_le ih
  | case2 x as y bs hne ih => rw [List.length_cons, List.length_map]; exact Nat.succ_le_succ ih
  | case3 a b notCons => exact Nat.zero_le _

theorem isSubsetOf_self (a : Range) : a.isSubsetOf a = true := by
  unfold isSubsetOf
  simp
  induction a with
  | nil => simp [all2]
  | cons x as ih => simp [all2, ColRange.isSubsetOf_self, ih]

theorem tryMerge_yes {a b m : Range} (h : a.tryMerge b = .yes m) :
    a.length = b.length ∧
    ((b.isSubsetOf a = true ∧ m = a) ∨ (a.isSubsetOf b = true ∧ m = b) ∨
     ∃ i, diffIdx a b = [i] ∧ ((a[i]?.getD default).tryUnion (b[i]?.getD default)).2 = true ∧
       m = a.set i ((a[i]?.getD default).tryUnion (b[i]?.getD default)).1) := by
  revert h
  fun_cases tryMerge a b with
  | case2 hlen hba => exact fun h => ⟨Decidable.not_not.mp hlen, .inl ⟨hba, (MergeRes.yes.inj h).symm⟩⟩
  | case3 hlen hba hab =>
    exact fun h => ⟨Decidable.not_not.mp hlen, .inr (.inl ⟨hab, (MergeRes.yes.inj h).symm⟩)⟩
  | case5 hlen hba hab i hd u hu =>
    exact fun h => ⟨Decidable.not_not.mp hlen, .inr (.inr ⟨i, hd, hu, (MergeRes.yes.inj h).symm⟩)⟩
  | _ => exact fun h => MergeRes.noConfusion h

/-- `TryMerge` denotes the union when it succeeds, and keeps ranges non-inverted. -/
theorem tryMerge_sound {a b m : Range} (h : a.tryMerge b = .yes m) (v : Tuple) :
    m.mem v = (a.mem v || b.mem v) := by
  obtain ⟨hl, ⟨hs, rfl⟩ | ⟨hs, rfl⟩ | ⟨i, hd, hu, rfl⟩⟩ := tryMerge_yes h
  · have := isSubsetOf_sound hs v
    generalize m.mem v = p, b.mem v = q at this
    decide +revert
  · have := isSubsetOf_sound hs v
    generalize a.mem v = p, m.mem v = q at this
    decide +revert
  · obtain ⟨ia, ib⟩ := diffIdx_head_lt hd
    rw [mem_set ia, mem_split ia v, mem_split ib v, ColRange.tryUnion_true hu, memExcept_of_diffIdx_single hl hd v]
    generalize memExcept b i v = e, (a[i]?.getD default).mem (v[i]?.getD none) = p,
      (b[i]?.getD default).mem (v[i]?.getD none) = q
    decide +revert

theorem tryMerge_nonInv {a b m : Range} (ha : NonInv a) (hb : NonInv b) (h : a.tryMerge b = .yes m) :
    NonInv m := by
  obtain ⟨_, ⟨_, rfl⟩ | ⟨_, rfl⟩ | ⟨i, _, hu, rfl⟩⟩ := tryMerge_yes h
  · exact ha
  · exact hb
  · exact nonInv_set ha (ColRange.tryUnion_nonInv (nonInv_getD ha i) (nonInv_getD hb i) hu)

theorem tryMerge_length {a b m : Range} (h : a.tryMerge b = .yes m) : m.length = a.length := by
  obtain ⟨hl, ⟨_, rfl⟩ | ⟨_, rfl⟩ | ⟨i, _, _, rfl⟩⟩ := tryMerge_yes h
  · rfl
  · exact hl.symm
  · exact List.length_set

theorem tryMerge_self (a : Range) : a.tryMerge a = .yes a := by
  unfold tryMerge; rw [if_neg (by simp), if_pos (isSubsetOf_self a)]

/-- `TryMerge` never reports "invalid index to merge". -/
theorem tryMerge_ne_err (a b : Range) : a.tryMerge b ≠ .err := by
  fun_cases tryMerge a b with
  | case4 hlen hba hab hd =>
    -- ranges that differ in no column are equal, hence subsets of each other
    rw [diffIdx_nil (Decidable.not_not.mp hlen) hd] at hba
    exact absurd (isSubsetOf_self b) hba
  | _ => exact MergeRes.noConfusion

end Range
end Gms.Range
