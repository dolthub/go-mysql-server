/-
Lemmas about the shared conversion model Gms/Model/NumConv.lean that both C26 (compare) and C27
(store) use: shapes of `convertInt` and `convertDec`, agreement of the two 64-bit converters on
non-negative values.
-/
import Gms.Model.NumConv
namespace Gms.Conv
open Gms.Num

theorem pow10_pos (n : Nat) : (0 : Int) < 10 ^ n := Int.pow_pos (by omega)

theorem mul_pow10_le {a b : Int} (h : a ≤ b) (s : Nat) : a * 10 ^ s ≤ b * 10 ^ s :=
  Int.mul_le_mul_of_nonneg_right h (Int.le_of_lt (pow10_pos s))

theorem convertInt_i64 (v : Val) (hn : v ≠ .null) :
    convertInt .i64 v = ⟨.int (convertToInt64 v).val, (convertToInt64 v).flag, (convertToInt64 v).err⟩ := by
  cases v <;> first | exact absurd rfl hn | rfl

theorem convertInt_u64 (v : Val) (hn : v ≠ .null) :
    convertInt .u64 v = ⟨.int (convertToUint64 v).val, (convertToUint64 v).flag, (convertToUint64 v).err⟩ := by
  cases v <;> first | exact absurd rfl hn | rfl

/-- narrow types: the shape of `NumberTypeImpl_.Convert` after `convertToInt64` -/
theorem convertInt_narrow (t : ITy) (ht : t ≠ .i64 ∧ t ≠ .u64) (v : Val) (hn : v ≠ .null) :
    convertInt t v =
      (let r := convertToInt64 v
       if r.err = .fatal then ⟨.int (convertInt.wrapTo t r.val), r.flag, .fatal⟩
       else if r.val > t.hi then ⟨.int t.hi, .overflow, .none⟩
       else if r.val < t.lo then
         ⟨.int (if t.unsigned then convertInt.wrapTo t (t.hi + r.val + 1) else t.lo), .underflow, .none⟩
       else ⟨.int r.val, .inRange, r.err⟩) := by
  unfold convertInt
  split
  · exact absurd rfl hn
  · split
    · exact absurd rfl ht.1
    · exact absurd rfl ht.2
    · rfl

theorem convertInt_narrow_inRange (t : ITy) (ht : t ≠ .i64 ∧ t ≠ .u64) (v : Val) (hn : v ≠ .null)
    (he : (convertInt t v).err = .none) (hf : (convertInt t v).flag = .inRange) :
    (convertInt t v).val = .int (convertToInt64 v).val ∧ (convertToInt64 v).err = .none ∧
      t.lo ≤ (convertToInt64 v).val ∧ (convertToInt64 v).val ≤ t.hi := by
  revert he hf
  fun_cases convertInt t v <;> intro he hf
  case case1 => exact absurd rfl hn
  case case2 => exact absurd rfl ht.1
  case case3 => exact absurd rfl ht.2
  case case4 hfatal => cases he
  case case5 hfatal hover => cases hf
  case case6 hfatal hhi hunder => cases hf
  case case7 hfatal hhi hlo => exact ⟨rfl, he, Int.not_lt.mp hlo, Int.not_lt.mp hhi⟩

theorem convertDec_nonnull (p s : Nat) (col : Bool) (v : Val) (hn : v ≠ .null) :
    convertDec p s col v =
      match toDecimal s col v with
      | none => ⟨.null, .inRange, .fatal⟩
      | some (c, sc) =>
        let (c', sc') := if sc > s then (roundToScale c sc s, s) else (c, sc)
        if c'.natAbs ≥ 10 ^ (p - s) * 10 ^ sc' then ⟨.null, .inRange, .fatal⟩ else ⟨.dec c' sc', .inRange, .none⟩ := by
  cases v <;> first | exact absurd rfl hn | rfl

/-- a digit string without a leading `-`: `ParseInt` and `ParseUint` read the same number -/
theorem splitSign_of_nonneg (t : List UInt8) (h : (t.head? == some 45) = false) :
    ∃ ds, splitSign t = (false, ds) ∧ signedVal t = (digitsVal ds 0 : Nat) := by
  fun_cases splitSign t
  case case1 ds => exact ⟨ds, rfl, rfl⟩
  case case2 ds => cases h
  case case3 hplus hminus =>
    refine ⟨t, rfl, ?_⟩
    unfold signedVal
    split
    · exact (hminus _ rfl).elim
    · exact (hplus _ rfl).elim
    · rfl

/-- The upper bound is strict: `maxI64` is also what `convertToInt64` clamps an overflowing `.u` / `.d` to, without an error,
and there `convertToUint64` still returns the value. -/
theorem toU64_eq_toI64 (v : Val) (hneg : v.negative = false)
    (he : (convertToInt64 v).err = .none) (h0 : 0 ≤ (convertToInt64 v).val) (h1 : (convertToInt64 v).val < maxI64) :
    (convertToUint64 v).val = (convertToInt64 v).val ∧ (convertToUint64 v).err = .none := by
  revert he h0 h1
  fun_cases convertToInt64 v <;> intro he h0 h1
  case case1 => exact ⟨rfl, rfl⟩
  case case2 x => rw [convertToUint64, if_neg (Int.not_lt.mpr h0)]; exact ⟨rfl, rfl⟩
  case case3 x hover => exact absurd h1 (Int.lt_irrefl _)
  case case4 x hfits => exact ⟨rfl, rfl⟩
  case case5 c sc hover => exact absurd h1 (Int.lt_irrefl _)
  case case6 c sc hfits hunder => exact absurd h0 (by decide)
  case case7 c sc hfits hnotunder =>
    have hfits' : ¬ decGt c sc maxU64 = true := by
      simp only [decGt, decide_eq_true_eq] at hfits ⊢
      have : maxI64 * 10 ^ sc ≤ maxU64 * 10 ^ sc := mul_pow10_le (by decide) sc
      omega
    simp only [Val.negative, decide_eq_false_iff_not] at hneg
    rw [convertToUint64, if_neg hfits', if_neg hneg]
    exact ⟨rfl, rfl⟩
  case case8 => cases he
  case case9 bs t trunc ht x hfits =>
    obtain ⟨ds, hsp, hsv⟩ := splitSign_of_nonneg t (by simpa only [Val.negative, ht] using hneg)
    have hx : x = (digitsVal ds 0 : Nat) := hsv
    have hm : ¬ ((digitsVal ds 0 : Nat) : Int) > maxU64 := by simp only [maxI64, maxU64] at *; omega
    simp only [convertToUint64, ht, hsp, if_neg hm]
    exact ⟨hx.symm, he⟩

end Gms.Conv
