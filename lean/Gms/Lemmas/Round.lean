/-
Lemmas about `roundHalfAway` / `roundToScale` (Gms/Model/NumConv.lean): explicit quotient form, the rounded
value lies within half a unit of the exact one (`rha_near`), hence "rounding never crosses an integer bound" (C27);
symmetry.
-/
import Gms.Model.NumConv
import Gms.Lemmas.NumConv
namespace Gms.Conv
open Gms.Num

theorem rha_nonneg_eq (c : Int) (s : Nat) (h : 0 ≤ c) :
    roundHalfAway c s = (2 * c + 10 ^ s) / (2 * 10 ^ s) := by
  unfold roundHalfAway
  have hn : ¬ c < 0 := by omega
  simp only [hn, if_false]
  have : (c.natAbs : Int) = c := by omega
  push_cast
  rw [this]

theorem rha_neg_eq (c : Int) (s : Nat) (h : c < 0) :
    roundHalfAway c s = -((2 * (-c) + 10 ^ s) / (2 * 10 ^ s)) := by
  unfold roundHalfAway
  simp only [h, if_true]
  have : (c.natAbs : Int) = -c := by omega
  push_cast
  rw [this]

theorem quot_near (a : Int) {p : Int} (hp : 0 < p) :
    2 * ((2 * a + p) / (2 * p) * p) ≤ 2 * a + p ∧ 2 * a + p < 2 * ((2 * a + p) / (2 * p) * p) + 2 * p := by
  have h1 := Int.ediv_mul_le (2 * a + p) (b := 2 * p) (by omega)
  have h2 := Int.lt_ediv_add_one_mul_self (2 * a + p) (b := 2 * p) (by omega)
  rw [Int.add_mul, Int.one_mul] at h2
  rw [Int.mul_left_comm] at h1 h2
  exact ⟨h1, h2⟩

theorem rha_near (c : Int) (s : Nat) :
    (2 * roundHalfAway c s - 1) * 10 ^ s ≤ 2 * c ∧ 2 * c ≤ (2 * roundHalfAway c s + 1) * 10 ^ s := by
  have hp := pow10_pos s
  by_cases hc : 0 ≤ c
  · have := quot_near c hp
    rw [rha_nonneg_eq c s hc, Int.sub_mul, Int.add_mul, Int.mul_assoc, Int.one_mul]
    omega
  · have := quot_near (-c) hp
    rw [rha_neg_eq c s (by omega), Int.sub_mul, Int.add_mul, Int.mul_assoc, Int.neg_mul, Int.one_mul]
    omega

/-- rounding never crosses an integer bound: `c / 10^s ≤ B → round ≤ B` -/
theorem rha_le_of_le (c : Int) (s : Nat) (B : Int) (h : c ≤ B * 10 ^ s) : roundHalfAway c s ≤ B := by
  have : (2 * roundHalfAway c s - 1) * 10 ^ s ≤ (2 * B) * 10 ^ s := by
    rw [Int.mul_assoc 2 B]; exact Int.le_trans (rha_near c s).1 (by omega)
  have := Int.le_of_mul_le_mul_right this (pow10_pos s)
  omega

theorem rha_ge_of_ge (c : Int) (s : Nat) (B : Int) (h : B * 10 ^ s ≤ c) : B ≤ roundHalfAway c s := by
  have : (2 * B) * 10 ^ s ≤ (2 * roundHalfAway c s + 1) * 10 ^ s := by
    rw [Int.mul_assoc 2 B]; exact Int.le_trans (by omega) (rha_near c s).2
  have := Int.le_of_mul_le_mul_right this (pow10_pos s)
  omega

theorem lt_of_lt_rha {c : Int} {s : Nat} {B : Int} (h : B < roundHalfAway c s) : B * 10 ^ s < c :=
  Int.not_le.1 fun hle => Int.not_le.2 h (rha_le_of_le c s B hle)

theorem lt_of_rha_lt {c : Int} {s : Nat} {B : Int} (h : roundHalfAway c s < B) : c < B * 10 ^ s :=
  Int.not_le.1 fun hle => Int.not_le.2 h (rha_ge_of_ge c s B hle)

theorem rha_exact (k : Int) (s : Nat) : roundHalfAway (k * 10 ^ s) s = k := by
  have h1 := rha_le_of_le (k * 10 ^ s) s k (Int.le_refl _)
  have h2 := rha_ge_of_ge (k * 10 ^ s) s k (Int.le_refl _)
  omega

theorem rha_neg (c : Int) (s : Nat) : roundHalfAway (-c) s = -roundHalfAway c s := by
  by_cases h0 : c = 0
  · have := rha_exact 0 s
    rw [Int.zero_mul] at this
    rw [h0, Int.neg_zero, this, Int.neg_zero]
  · by_cases hc : 0 < c
    · rw [rha_neg_eq (-c) s (by omega), rha_nonneg_eq c s (by omega)]; simp
    · rw [rha_nonneg_eq (-c) s (by omega), rha_neg_eq c s (by omega)]; simp

theorem rha_scale_zero (c : Int) : roundHalfAway c 0 = c := by
  have := rha_exact c 0
  simpa using this

theorem roundToScale_zero (c : Int) (s : Nat) : roundToScale c s 0 = roundHalfAway c s := by
  unfold roundToScale
  by_cases h : s ≤ 0
  · have : s = 0 := by omega
    subst this; simp [rha_scale_zero]
  · simp [h]
end Gms.Conv
