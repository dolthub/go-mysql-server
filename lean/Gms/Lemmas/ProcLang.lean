/-
Helper lemmas for C24: code layout of `compile`, placeholder resolution, scope scans, and the forward
simulation of the structured semantics by the op machine on the jump-free fragment.
-/
import Gms.Model.ProcLang

namespace Gms.ProcLang

inductive Reaches (ops : List Op) : MState → StepRes → Prop where
  | refl (m : MState) : Reaches ops m (.running m)
  | next {m m' : MState} {r : StepRes} : step ops m = .running m' → Reaches ops m' r → Reaches ops m r
  | halt {m : MState} {o : Outcome} {σ : Store} : step ops m = .done o σ → Reaches ops m (.done o σ)

theorem Reaches.trans {ops : List Op} {m m' : MState} {r : StepRes}
    (h1 : Reaches ops m (.running m')) (h2 : Reaches ops m' r) : Reaches ops m r := by
  generalize hr : StepRes.running m' = r1 at h1
  induction h1 with
  | refl m => cases hr; exact h2
  | next hs _ ih => exact Reaches.next hs (ih hr)
  | halt hs => cases hr

theorem Reaches.one {ops : List Op} {m m' : MState} (h : step ops m = .running m') :
    Reaches ops m (.running m') := Reaches.next h (Reaches.refl m')

theorem Reaches.run {ops : List Op} {m : MState} {o : Outcome} {σ : Store}
    (h : Reaches ops m (.done o σ)) : ∃ n, ∀ k, n ≤ k → run k ops m = (o, σ) := by
  generalize hr : StepRes.done o σ = r at h
  induction h with
  | refl m => cases hr
  | next hs _ ih =>
    obtain ⟨n, hn⟩ := ih hr
    refine ⟨n + 1, fun k hk => ?_⟩
    cases k with
    | zero => cases hk
    | succ k' => simp only [Gms.ProcLang.run, hs]; exact hn k' (Nat.le_of_succ_le_succ hk)
  | halt hs =>
    cases hr
    refine ⟨1, fun k hk => ?_⟩
    cases k with
    | zero => cases hk
    | succ k' => simp only [Gms.ProcLang.run, hs]

theorem step_at {ops : List Op} {k : Nat} {op : Op} (h : ops[k]? = some op) (σ : Store) :
    step ops ⟨(k : Int) - 1, σ⟩ = execOp ops k op σ := by
  simp [step, Int.sub_add_cancel, Int.not_lt.mpr (Int.natCast_nonneg k), h]

theorem step_end {ops : List Op} {k : Nat} (h : ops.length ≤ k) (σ : Store) :
    step ops ⟨(k : Int) - 1, σ⟩ = .done .ok σ := by
  simp [step, Int.sub_add_cancel, Int.not_lt.mpr (Int.natCast_nonneg k), List.getElem?_eq_none_iff.mpr h]

theorem resolve_length (l : Option Name) (a b : Int) (ops : List Op) : (resolve l a b ops).length = ops.length := by
  cases l <;> simp [resolve]

theorem compile_length (s : Stmt) : ∀ base lb, (compile base lb s).1.length = codeLen s := by
  induction s with
  | seq a b iha ihb => intro base lb; simp [compile, codeLen, iha, ihb]
  | block l b ih => intro base lb; simp [compile, codeLen, resolve_length, ih]
  | ite c t e iht ihe => intro base lb; simp [compile, codeLen, iht, ihe]; omega
  | «while» l c b ih => intro base lb; simp [compile, codeLen, resolve_length, ih]
  | «repeat» l b c ih => intro base lb; simp [compile, codeLen, resolve_length, ih]; omega
  | loop l b ih => intro base lb; simp [compile, codeLen, resolve_length, ih]
  | _ => intros; rfl

def envOf (label : Option Name) (env : List Name) : List Name :=
  match label with
  | some l => l :: env
  | none => env

/-- Every LEAVE / ITERATE names a label of an enclosing statement. -/
def wellLabelled (env : List Name) : Stmt → Bool
  | .seq a b => wellLabelled env a && wellLabelled env b
  | .block l b => wellLabelled (envOf l env) b
  | .ite _ t e => wellLabelled env t && wellLabelled env e
  | .while l _ b => wellLabelled (envOf l env) b
  | .repeat l b _ => wellLabelled (envOf l env) b
  | .loop l b => wellLabelled (envOf l env) b
  | .leave l => env.contains l
  | .iterate l => env.contains l
  | _ => true

/-- A goto is resolved, or it is a placeholder whose label is still to be closed by `env`. -/
def negOk (env : List Name) : Op → Prop
  | .goto t idx => 0 ≤ idx ∨ ((idx = -1 ∨ idx = -2) ∧ ∃ l, t = some l ∧ l ∈ env)
  | _ => True

theorem negOk_goto_nat {env : List Name} {t : Option Name} {n : Nat} : negOk env (.goto t (n : Int)) :=
  .inl (Int.natCast_nonneg n)

theorem negOk_nil_goto {t : Option Name} {idx : Int} (h : negOk [] (.goto t idx)) : 0 ≤ idx :=
  h.resolve_right fun ⟨_, _, _, hm⟩ => nomatch hm

theorem getLabel_cases (l : Name) (lb : Labels) : getLabel l lb = -1 ∨ 0 ≤ getLabel l lb := by
  fun_induction getLabel l lb with
  | case1 => exact .inl rfl
  | case2 i r => exact .inr (Int.natCast_nonneg i)
  | case3 k i r hk ih => exact ih

theorem resolveOp_negOk {l : Name} {env : List Name} {a b : Int} (ha : 0 ≤ a) (hb : 0 ≤ b) (op : Op)
    (h : negOk (l :: env) op) : negOk env (resolveOp l a b op) := by
  fun_cases resolveOp l a b op with
  | case1 => exact .inl ha
  | case2 => exact .inl hb
  | case3 idx h1 h2 => exact h.imp_right fun ⟨hp, _⟩ => (hp.elim h1 h2).elim
  | case4 t idx htl =>
    exact h.imp_right fun ⟨hp, l', hl', hmem⟩ =>
      ⟨hp, l', hl', (List.mem_cons.mp hmem).resolve_left (Option.some.inj hl' ▸ htl)⟩
  | case5 op hop =>
    cases op with
    | goto t idx =>
      cases t with
      | none => exact h.imp_right fun ⟨_, l', hl', _⟩ => nomatch hl'
      | some t => exact (hop t idx rfl).elim
    | _ => exact h

theorem resolve_negOk {label : Option Name} {env : List Name} {a b : Nat} {ops : List Op}
    (h : ∀ op ∈ ops, negOk (envOf label env) op) :
    ∀ op ∈ resolve label (a : Int) (b : Int) ops, negOk env op := by
  cases label with
  | none => exact h
  | some l =>
    simp only [resolve, List.forall_mem_map]
    exact fun op hop => resolveOp_negOk (Int.natCast_nonneg a) (Int.natCast_nonneg b) op (h op hop)

theorem compile_negOk {s : Stmt} {env : List Name} {base : Nat} {lb : Labels} (hw : wellLabelled env s = true) :
    ∀ op ∈ (compile base lb s).1, negOk env op := by
  induction s generalizing env base lb with
  | seq a b iha ihb =>
    simp only [wellLabelled, Bool.and_eq_true] at hw
    simp only [compile, List.forall_mem_append]
    exact ⟨iha hw.1, ihb hw.2⟩
  | block l b ih =>
    simp only [compile, List.forall_mem_cons]
    refine ⟨trivial, resolve_negOk ?_⟩
    simp only [List.forall_mem_append, List.forall_mem_singleton]
    exact ⟨ih hw, trivial⟩
  | ite c t e iht ihe =>
    simp only [wellLabelled, Bool.and_eq_true] at hw
    simp only [compile, List.forall_mem_singleton, List.forall_mem_cons, List.forall_mem_append]
    exact ⟨trivial, ⟨iht hw.1, negOk_goto_nat⟩, ihe hw.2⟩
  | «while» l c b ih =>
    refine resolve_negOk ?_
    simp only [List.forall_mem_singleton, List.forall_mem_cons, List.forall_mem_append]
    exact ⟨trivial, ih hw, negOk_goto_nat⟩
  | «repeat» l b c ih =>
    refine resolve_negOk ?_
    simp only [List.forall_mem_singleton, List.forall_mem_cons, List.forall_mem_append]
    exact ⟨ih hw, trivial, ih hw, negOk_goto_nat⟩
  | loop l b ih =>
    refine resolve_negOk ?_
    simp only [List.forall_mem_append, List.forall_mem_singleton]
    exact ⟨ih hw, negOk_goto_nat⟩
  | leave l =>
    simp only [wellLabelled, List.contains_iff_mem] at hw
    simp only [compile, List.forall_mem_singleton]
    exact Or.inr ⟨Or.inr rfl, l, rfl, hw⟩
  | iterate l =>
    simp only [wellLabelled, List.contains_iff_mem] at hw
    simp only [compile, List.forall_mem_singleton]
    rcases getLabel_cases l lb with h | h
    · exact Or.inr ⟨Or.inl h, l, rfl, hw⟩
    · exact Or.inl h
  | skip => intro op hop; cases hop
  | _ =>
    simp only [compile, List.forall_mem_singleton]
    trivial

theorem jumpFree_wellLabelled {s : Stmt} {env : List Name} (h : jumpFree s = true) : wellLabelled env s = true := by
  fun_induction wellLabelled env s with
  | case1 env a b iha ihb =>
    simp only [jumpFree, Bool.and_eq_true] at h
    rw [iha h.1, ihb h.2, Bool.and_self]
  | case2 env l b ih => exact ih h
  | case3 env c t e iht ihe =>
    simp only [jumpFree, Bool.and_eq_true] at h
    rw [iht h.1, ihe h.2, Bool.and_self]
  | case4 env l c b ih => exact ih h
  | case5 env l b c ih => exact ih h
  | case6 env l b ih => exact ih h
  | case7 env l => cases h
  | case8 env l => cases h
  | case9 => rfl

/-- The code of a jump-free statement holds no placeholder, so `resolve` has nothing to do on it (`resolve_id`). -/
theorem compile_negOk_nil {s : Stmt} {base : Nat} {lb : Labels} (hj : jumpFree s = true) :
    ∀ op ∈ (compile base lb s).1, negOk [] op :=
  compile_negOk (jumpFree_wellLabelled hj)

theorem resolve_id (l : Option Name) (a b : Int) (ops : List Op) (h : ∀ op ∈ ops, negOk [] op) :
    resolve l a b ops = ops := by
  cases l with
  | none => rfl
  | some l =>
    refine (List.map_congr_left fun op hop => ?_).trans (List.map_id ops)
    have hok := h op hop
    fun_cases resolveOp l a b op with
    | case1 | case2 => exact absurd (negOk_nil_goto hok) (by decide)
    | case3 | case4 | case5 => rfl

/-- `compile` without label table and `resolve` (equal to it on jump-free statements). -/
def cjf (base : Nat) : Stmt → List Op
  | .skip => []
  | .seq a b => cjf base a ++ cjf (base + codeLen a) b
  | .block label body =>
    .scopeBegin label ((base + 1 : Nat) : Int) ::
      (cjf (base + 1) body ++ [.scopeEnd label ((base + 1 + codeLen body + 1 : Nat) : Int)])
  | .declare x d => [.declare x d]
  | .set x e => [.set x e]
  | .emit e => [.exec e]
  | .ite c t e =>
    .ifz c ((base + 1 + codeLen t + 1 : Nat) : Int) ::
      (cjf (base + 1) t ++ [.goto none ((base + 1 + codeLen t + 1 + codeLen e : Nat) : Int)] ++
        cjf (base + 1 + codeLen t + 1) e)
  | .caseNotFound => [.exception]
  | .while _ c b =>
    .ifz c ((base + 1 + codeLen b + 1 : Nat) : Int) :: (cjf (base + 1) b ++ [.goto none (base : Int)])
  | .repeat _ b c =>
    cjf base b ++ (.ifz (.not c) ((base + codeLen b + 1 + codeLen b + 1 : Nat) : Int) ::
      (cjf (base + codeLen b + 1) b ++ [.goto none ((base + codeLen b : Nat) : Int)]))
  | .loop l b => cjf base b ++ [.goto l (base : Int)]
  | .leave l => [.goto (some l) (-2)]
  | .iterate l => [.goto (some l) (-1)]
  | .signal => [.signal]

theorem cjf_length (s : Stmt) : ∀ base, (cjf base s).length = codeLen s := by
  induction s with
  | seq a b iha ihb => intro base; simp [cjf, codeLen, iha, ihb]
  | block l b ih => intro base; simp [cjf, codeLen, ih]
  | ite c t e iht ihe => intro base; simp [cjf, codeLen, iht, ihe]; omega
  | «while» l c b ih => intro base; simp [cjf, codeLen, ih]
  | «repeat» l b c ih => intro base; simp [cjf, codeLen, ih]; omega
  | loop l b ih => intro base; simp [cjf, codeLen, ih]
  | _ => intros; rfl

theorem cjf_eq_nil_iff {base : Nat} {s : Stmt} : cjf base s = [] ↔ codeLen s = 0 := by
  rw [← List.length_eq_zero_iff, cjf_length]

theorem compile_eq_cjf (s : Stmt) : ∀ base lb, jumpFree s = true → (compile base lb s).1 = cjf base s := by
  induction s with
  | seq a b iha ihb =>
    intro base lb hj
    simp only [jumpFree, Bool.and_eq_true] at hj
    simp only [compile, cjf, cjf_length, iha _ _ hj.1, ihb _ _ hj.2]
  | ite c t e iht ihe =>
    intro base lb hj
    simp only [jumpFree, Bool.and_eq_true] at hj
    simp only [compile, cjf, cjf_length, iht _ _ hj.1, ihe _ _ hj.2]
  | block l b ih =>
    intro base lb hj
    simp only [compile]
    rw [resolve_id]
    · simp only [cjf, cjf_length, ih _ _ hj]
    · simp only [List.forall_mem_singleton, List.forall_mem_append]
      exact ⟨compile_negOk_nil hj, trivial⟩
  | «while» l c b ih =>
    intro base lb hj
    simp only [compile]
    rw [resolve_id]
    · simp only [cjf, cjf_length, ih _ _ hj]
    · simp only [List.forall_mem_singleton, List.forall_mem_cons, List.forall_mem_append]
      exact ⟨trivial, compile_negOk_nil hj, negOk_goto_nat⟩
  | «repeat» l b c ih =>
    intro base lb hj
    simp only [compile]
    rw [resolve_id]
    · simp only [cjf, cjf_length, ih _ _ hj]
    · simp only [List.forall_mem_singleton, List.forall_mem_cons, List.forall_mem_append]
      exact ⟨compile_negOk_nil hj, trivial, compile_negOk_nil hj, negOk_goto_nat⟩
  | loop l b ih =>
    intro base lb hj
    simp only [compile]
    rw [resolve_id]
    · simp only [cjf, ih _ _ hj]
    · simp only [List.forall_mem_singleton, List.forall_mem_append]
      exact ⟨compile_negOk_nil hj, negOk_goto_nat⟩
  | leave => intro base lb hj; cases hj
  | iterate => intro base lb hj; cases hj
  | _ => intros; rfl

theorem scanList_append (fwd : Bool) (a b : List Op) (st : List Scope) :
    scanList fwd (a ++ b) st = (scanList fwd a st).bind (scanList fwd b) := by
  induction a generalizing st with
  | nil => rfl
  | cons op a ih =>
    simp only [List.cons_append, scanList]
    cases applyScope fwd op st with
    | none => rfl
    | some st' => exact ih st'

def isScopeOp : Op → Bool
  | .scopeBegin _ _ => true
  | .scopeEnd _ _ => true
  | _ => false

theorem applyScope_nonscope {fwd : Bool} {op : Op} (h : isScopeOp op = false) (st : List Scope) :
    applyScope fwd op st = some st := by
  cases op <;> first | rfl | cases h

def ScanNeutral (c : List Op) : Prop :=
  ∀ st, scanList true c st = some st ∧ scanList false c.reverse st = some st

namespace ScanNeutral
variable {a b c : List Op} {op : Op}

theorem fwd (hc : ScanNeutral c) (st : List Scope) : scanList true c st = some st := (hc st).1

theorem bwd (hc : ScanNeutral c) (st : List Scope) : scanList false c.reverse st = some st := (hc st).2

theorem nil : ScanNeutral [] := fun _ => ⟨rfl, rfl⟩

theorem append (ha : ScanNeutral a) (hb : ScanNeutral b) : ScanNeutral (a ++ b) := fun st => by
  simp only [List.reverse_append, scanList_append, (ha st).1, (ha st).2, (hb st).1, (hb st).2, Option.bind_some,
    and_self]

theorem cons (hop : isScopeOp op = false) (hc : ScanNeutral c) : ScanNeutral (op :: c) :=
  append (a := [op]) (fun st => by simp only [List.reverse_singleton, scanList, applyScope_nonscope hop, and_self]) hc

theorem block {l l' : Option Name} {i i' : Int} (hc : ScanNeutral c) :
    ScanNeutral (Op.scopeBegin l i :: (c ++ [Op.scopeEnd l' i'])) := fun st => by
  simp only [List.reverse_cons, List.reverse_append, List.reverse_nil, List.nil_append, List.cons_append,
    scanList, applyScope, scanList_append, (hc _).1, (hc _).2, Option.bind_some, popStack, if_true,
    Bool.false_eq_true, if_false, and_self]

end ScanNeutral

theorem cjf_scanNeutral (s : Stmt) (base : Nat) : ScanNeutral (cjf base s) := by
  induction s generalizing base with
  | seq a b iha ihb => exact (iha _).append (ihb _)
  | block l b ih => exact (ih _).block
  | ite c t e iht ihe => exact .cons rfl (((iht _).append (.cons rfl .nil)).append (ihe _))
  | «while» l c b ih => exact .cons rfl ((ih _).append (.cons rfl .nil))
  | «repeat» l b c ih => exact (ih _).append (.cons rfl ((ih _).append (.cons rfl .nil)))
  | loop l b ih => exact (ih _).append (.cons rfl .nil)
  | skip => exact .nil
  | _ => exact .cons rfl .nil

/-- `cjf_scanNeutral` in terms of `scanList` alone. -/
theorem scan_cjf (s : Stmt) : ∀ base st, scanList true (cjf base s) st = some st ∧
    scanList false (cjf base s).reverse st = some st := cjf_scanNeutral s

/-- The forward scan of a `Goto` stops one op short of its target (Go: `counter < Index-1`); over the code
of `s` that is neutral as well, unless the op left out is the `ScopeEnd` of a block. -/
theorem scan_dropLast {s : Stmt} (he : endsWithBlock s = false) (base : Nat) (st : List Scope) :
    scanList true (cjf base s).dropLast st = some st := by
  have fwd := fun (s : Stmt) base => (cjf_scanNeutral s base).fwd
  induction s generalizing base st with
  | seq a b iha ihb =>
    simp only [endsWithBlock] at he
    simp only [cjf]
    by_cases hb : codeLen b = 0
    · rw [cjf_eq_nil_iff.mpr hb, List.append_nil]
      exact iha (by simpa only [hb, if_true] using he) _ _
    · rw [List.dropLast_append_of_ne_nil (mt cjf_eq_nil_iff.mp hb), scanList_append, fwd, Option.bind_some]
      exact ihb (by simpa only [hb, if_false] using he) _ _
  | block l b ih => cases he
  | ite c t e iht ihe =>
    simp only [endsWithBlock, Bool.and_eq_false_iff, bne_eq_false_iff_eq] at he
    simp only [cjf]
    by_cases hb : codeLen e = 0
    · rw [cjf_eq_nil_iff.mpr hb, List.append_nil, ← List.cons_append, List.dropLast_concat]
      exact ((cjf_scanNeutral t _).cons rfl).fwd st
    · rw [← List.cons_append, List.dropLast_append_of_ne_nil (mt cjf_eq_nil_iff.mp hb), scanList_append,
        (((cjf_scanNeutral t _).append (.cons rfl .nil)).cons rfl).fwd, Option.bind_some]
      exact ihe (he.resolve_left hb) _ _
  | «while» l c b ih =>
    rw [cjf, ← List.cons_append, List.dropLast_concat]
    exact ((cjf_scanNeutral b _).cons rfl).fwd st
  | «repeat» l b c ih =>
    rw [cjf, ← List.cons_append, ← List.append_assoc, List.dropLast_concat]
    exact ((cjf_scanNeutral b _).append ((cjf_scanNeutral b _).cons rfl)).fwd st
  | loop l b ih =>
    rw [cjf, List.dropLast_concat]
    exact fwd b _ _
  | _ => rfl

set_option linter.unusedVariables false in
theorem setScope_some_length {x : Name} {v : Val} {s s' : Scope} (h : setScope x v s = some s') : True := trivial

theorem setStack_length {x : Name} {v : Val} {st st' : List Scope} (h : setStack x v st = some st') :
    st'.length = st.length := by
  fun_induction setStack x v st generalizing st' with
  | case1 => cases h
  | case2 s r s' hs => cases h; rfl
  | case3 s r hs ih =>
    obtain ⟨r', hr, rfl⟩ := Option.map_eq_some_iff.mp h
    exact congrArg (· + 1) (ih hr)

theorem set_stack_length {σ σ' : Store} {x : Name} {v : Val} (h : σ.set x v = some σ') :
    σ'.stack.length = σ.stack.length := by
  simp only [Store.set] at h
  split at h
  · rename_i st hst; cases h; exact setStack_length hst
  · split at h
    · cases h; rfl
    · cases h

theorem declare_stack_length {σ σ' : Store} {x : Name} {v : Val} (h : σ.declare x v = some σ') :
    σ'.stack.length = σ.stack.length := by
  simp only [Store.declare] at h
  split at h
  · cases h
  · rename_i s r hs; cases h; simp [hs]

theorem exec_stack_length {sem : Sem} {n : Nat} {s : Stmt} {σ σ' : Store} {sig : Sig} (h : exec sem n s σ = some (sig, σ')) :
    σ'.stack.length = σ.stack.length := by
  induction n generalizing s σ sig σ' with
  | zero => cases h
  | succ n ih =>
    cases s with
    | seq a b =>
      simp only [exec] at h
      split at h
      · cases h
      · rename_i σ1 h1
        rw [ih h, ih h1]
      · rename_i r hne h1
        cases h
        exact ih h1
    | block l b =>
      simp only [exec] at h
      split at h
      · cases h
      · rename_i sg σ1 h1
        cases h
        simp only [Store.pop, List.length_tail, ih h1, Store.push, List.length_cons, Nat.add_sub_cancel]
    | declare x d =>
      simp only [exec] at h
      split at h
      · cases h; rfl
      · rename_i σ2 h2; cases h; exact declare_stack_length h2
    | set x e =>
      simp only [exec] at h
      split at h
      · cases h; rfl
      · split at h
        · cases h; rfl
        · rename_i σ2 h2; cases h; exact set_stack_length h2
    | emit e =>
      simp only [exec] at h
      split at h
      · cases h; rfl
      · cases h; rfl
    | ite c t e =>
      simp only [exec] at h
      split at h
      · cases h; rfl
      · split at h <;> exact ih h
    | «while» l c b =>
      simp only [exec] at h
      split at h
      · cases h; rfl
      · split at h
        · cases h; rfl
        · split at h
          · cases h
          · rename_i σ1 h1; rw [ih h, ih h1]
          · rename_i l' σ1 h1
            split at h
            · rw [ih h, ih h1]
            · cases h; exact ih h1
          · rename_i l' σ1 h1
            split at h <;> (cases h; exact ih h1)
          · rename_i e σ1 h1; cases h; exact ih h1
    | «repeat» l b c =>
      simp only [exec] at h
      split at h
      · cases h
      · rename_i sg σ1 h1
        have hb := ih h1
        have hcheck : ∀ r, repeatCheck sem (evalExpr σ1.look c) σ1 (exec sem n (.repeat l b c) σ1) = some r →
            r.2.stack.length = σ.stack.length := by
          intro r
          fun_cases repeatCheck sem (evalExpr σ1.look c) σ1 (exec sem n (.repeat l b c) σ1) with
          -- the test ends the loop (unresolved name, NULL that exits, true) or the loop goes round again
          | case1 | case2 | case5 => exact fun hr => by cases hr; exact hb
          | case3 | case4 => exact fun hr => (ih hr).trans hb
        split at h
        · exact hcheck _ h
        · split at h
          · split at h
            · exact hcheck _ h
            · rw [ih h, hb]
          · cases h; exact hb
        · split at h <;> (cases h; exact hb)
        · cases h; exact hb
    | loop l b =>
      simp only [exec] at h
      split at h
      · cases h
      · rename_i σ1 h1; rw [ih h, ih h1]
      · rename_i l' σ1 h1
        split at h
        · rw [ih h, ih h1]
        · cases h; exact ih h1
      · rename_i l' σ1 h1
        split at h <;> (cases h; exact ih h1)
      · rename_i e σ1 h1; cases h; exact ih h1
    | _ => cases h; rfl

theorem exec_stack_ne {sem : Sem} {n : Nat} {s : Stmt} {σ σ' : Store} {sig : Sig} (h : exec sem n s σ = some (sig, σ'))
    (hne : σ.stack ≠ []) : σ'.stack ≠ [] :=
  fun h0 => hne (List.eq_nil_of_length_eq_zero ((exec_stack_length h).symm.trans (congrArg List.length h0)))

def CodeAt (ops : List Op) (k : Nat) (c : List Op) : Prop := c <+: ops.drop k

namespace CodeAt
variable {ops a b c : List Op} {k : Nat} {op : Op}

theorem self (c : List Op) : CodeAt c 0 c := List.prefix_refl c

theorem mid (A c P : List Op) : CodeAt (A ++ (c ++ P)) A.length c := ⟨P, List.drop_left.symm⟩

theorem left (h : CodeAt ops k (a ++ b)) : CodeAt ops k a := (List.prefix_append a b).trans h

theorem right (h : CodeAt ops k (a ++ b)) : CodeAt ops (k + a.length) b := by
  obtain ⟨t, ht⟩ := h
  exact ⟨t, by rw [← List.drop_drop, ← ht, List.append_assoc, List.drop_left]⟩

theorem tail (h : CodeAt ops k (op :: c)) : CodeAt ops (k + 1) c := right (a := [op]) h

theorem right_cjf {s : Stmt} {base : Nat} (h : CodeAt ops k (cjf base s ++ b)) : CodeAt ops (k + codeLen s) b := by
  rw [← cjf_length s base]; exact h.right

theorem head (h : CodeAt ops k (op :: c)) : ops[k]? = some op := by
  obtain ⟨t, ht⟩ := h
  rw [← Nat.add_zero k, ← List.getElem?_drop, ← ht]; rfl

theorem take (h : CodeAt ops k c) {n : Nat} (hn : n ≤ c.length) : (ops.drop k).take n = c.take n := by
  obtain ⟨t, ht⟩ := h
  rw [← ht, List.take_append_of_le_length hn]

theorem lt_length (h : CodeAt ops k (op :: c)) : k + c.length < ops.length := by
  have := h.length_le
  rw [List.length_drop, List.length_cons] at this
  omega

end CodeAt

/-- A forward `Goto` over the code `E` applies the scope effects of `E.dropLast` only: the op at `Index-1`
is neither scanned nor executed. -/
theorem goto_fwd_scan {ops E : List Op} {k j : Nat} {t : Option Name} {σ : Store} {st : List Scope}
    (h : CodeAt ops k (Op.goto t (j : Int) :: E)) (hj : j = k + 1 + E.length)
    (hs : scanList true E.dropLast σ.stack = some st) :
    gotoStep ops k (j : Int) σ = .running ⟨(j : Int) - 1, { σ with stack := st }⟩ := by
  cases E with
  | nil =>
    cases hs
    subst hj
    simp only [gotoStep, List.length_nil, Nat.add_zero, Int.natCast_add, Int.natCast_one, Int.add_sub_cancel,
      Int.le_add_one (Int.le_refl _), Int.lt_irrefl, if_true, if_false]
  | cons e E =>
    have hle := h.lt_length
    simp only [List.length_cons] at hj hle
    have ⟨h1, h2, h3, h4⟩ : (k : Int) ≤ (j : Int) ∧ (k : Int) < (j : Int) - 1 ∧
        ((j : Int) - 1).toNat = k + (E.length + 1) ∧ ¬ (k + (E.length + 1) > ops.length) := by omega
    have h5 : (ops.drop k).take (k + (E.length + 1) - k) = Op.goto t (j : Int) :: (e :: E).dropLast := by
      rw [Nat.add_sub_cancel_left, h.take (n := E.length + 1) (Nat.le_succ _), List.take_succ_cons, List.dropLast_eq_take, List.length_cons,
        Nat.add_sub_cancel]
    simp only [gotoStep, h1, h2, h3, h4, h5, if_true, if_false, scanList, applyScope, hs]

/-- A backward `Goto` undoes the scope effects of the code `L` it jumps over and of itself. With `L = []` the `Goto`
sits at its own target: `gotoStep` then takes the forward branch (`c ≤ idx`) and falls through to the next op, which
is why `loopsNonempty` keeps a LOOP with an empty body out of the simulation. -/
theorem goto_bwd {ops L : List Op} {a k : Nat} {t : Option Name} {σ : Store} {st : List Scope}
    (h : CodeAt ops a (L ++ [Op.goto t (a : Int)])) (hk : k = a + L.length) (hL : L ≠ [])
    (hs : scanList false (L ++ [Op.goto t (a : Int)]).reverse σ.stack = some st) :
    gotoStep ops k (a : Int) σ = .running ⟨(a : Int) - 1, { σ with stack := st }⟩ := by
  subst hk
  have hpos : 0 < L.length := List.length_pos_iff.mpr hL
  have h1 : ¬ (((a + L.length : Nat) : Int) ≤ (a : Int)) := by omega
  have h2 : ¬ ((a : Int) < 0) := Int.not_lt.mpr (Int.natCast_nonneg a)
  have hlen : (L ++ [Op.goto t (a : Int)]).length = L.length + 1 := List.length_append
  have h5 : (ops.drop a).take (a + L.length - a + 1) = L ++ [Op.goto t (a : Int)] := by
    rw [Nat.add_sub_cancel_left, h.take (Nat.le_of_eq hlen.symm), ← hlen, List.take_length]
  simp only [gotoStep, h1, h2, if_false, Int.toNat_natCast, h5, hs]

theorem declValue_gms (d : Option Int) : declValue Sem.gms d = some (d.getD 0) := by
  cases d <;> rfl

/-- A three-way test as `OpCode_If` takes it: unresolved name, false or NULL, true. The IF and WHILE branches of `exec`
are instances by unfolding (the `change … at h` lines of `sim_codeAt`), the UNTIL test is one under `Sem.gms` only
(`repeatCheck_gms`). -/
def onCond (v : Option Val) (σ : Store) (no yes : Option (Sig × Store)) : Option (Sig × Store) :=
  match v with
  | none => some (.error 1105, σ)
  | some v => if condFalse v then no else yes

/-- Under `Sem.gms` the UNTIL test is the test of the compiled `If (NOT c)`. -/
theorem repeatCheck_gms (c : Expr) (σ : Store) (again : Option (Sig × Store)) :
    repeatCheck Sem.gms (evalExpr σ.look c) σ again = onCond (evalExpr σ.look (.not c)) σ (some (.normal, σ)) again := by
  simp only [evalExpr]
  cases evalExpr σ.look c with
  | none => rfl
  | some w =>
    cases w with
    | none => rfl
    | some k => by_cases hk : k = 0 <;> simp [repeatCheck, onCond, not3, b2v, condFalse, isZero, hk]

/-- What the machine must do for a structured outcome: from "about to execute op `start`" reach
"about to execute op `stop`" with the same store, or halt with the same error, trace and parameters.
A LEAVE or ITERATE signal has no counterpart (`False`): the simulation is for jump-free statements, and proving the
goal for every outcome of `exec` shows on the way that such a statement never signals one. -/
def SimGoal (ops : List Op) (start stop : Nat) (σ : Store) : Sig → Store → Prop
  | .normal, σ' => Reaches ops ⟨(start : Int) - 1, σ⟩ (.running ⟨(stop : Int) - 1, σ'⟩)
  | .error e, σ' => ∃ σm, Reaches ops ⟨(start : Int) - 1, σ⟩ (.done (.err e) σm) ∧ σm.sess = σ'.sess ∧ σm.log = σ'.log
  | .leave _, _ => False
  | .iterate _, _ => False

namespace SimGoal
variable {ops : List Op} {a b c k j : Nat} {op : Op} {σ σ1 σ' : Store} {sig : Sig} {e : Nat}

theorem refl : SimGoal ops a a σ .normal σ := Reaches.refl _

theorem trans (h1 : SimGoal ops a b σ .normal σ1) (h2 : SimGoal ops b c σ1 sig σ') : SimGoal ops a c σ sig σ' := by
  cases sig with
  | normal => exact Reaches.trans h1 h2
  | error e => obtain ⟨σm, hr, hs, hl⟩ := h2; exact ⟨σm, Reaches.trans h1 hr, hs, hl⟩
  | leave => exact h2
  | iterate => exact h2

theorem error_congr (h1 : SimGoal ops a b σ (.error e) σ1) (hs : σ1.sess = σ'.sess) (hl : σ1.log = σ'.log) :
    SimGoal ops a c σ (.error e) σ' := by
  obtain ⟨σm, hr, hs', hl'⟩ := h1
  exact ⟨σm, hr, hs'.trans hs, hl'.trans hl⟩

theorem jump (h : ops[k]? = some op) (hx : execOp ops k op σ = .running ⟨(j : Int) - 1, σ1⟩)
    (h2 : SimGoal ops j c σ1 sig σ') : SimGoal ops k c σ sig σ' :=
  trans (b := j) (Reaches.one (by rw [step_at h, hx])) h2

theorem next (h : ops[k]? = some op) (hx : execOp ops k op σ = .running ⟨(k : Int), σ1⟩)
    (h2 : SimGoal ops (k + 1) c σ1 sig σ') : SimGoal ops k c σ sig σ' :=
  jump h (by rw [hx, Int.natCast_succ, Int.add_sub_cancel]) h2

theorem back_edge {L : List Op} {t : Option Name} (h : CodeAt ops a (L ++ [Op.goto t (a : Int)])) (hk : k = a + L.length)
    (hL : L ≠ []) (hn : ScanNeutral L) (h2 : SimGoal ops a c σ sig σ') : SimGoal ops k c σ sig σ' :=
  jump (op := Op.goto t (a : Int)) (hk ▸ h.right.head) (goto_bwd h hk hL ((hn.append (.cons rfl .nil)).bwd σ.stack)) h2

theorem while_back {l : Option Name} {cond : Expr} {s : Stmt} (h : CodeAt ops a (cjf a (.while l cond s)))
    (h2 : SimGoal ops a c σ sig σ') : SimGoal ops (a + 1 + codeLen s) c σ sig σ' :=
  back_edge (L := Op.ifz cond _ :: cjf (a + 1) s) h (by rw [List.length_cons, cjf_length, ← Nat.add_assoc, Nat.add_right_comm])
    (List.cons_ne_nil _ _) ((cjf_scanNeutral s _).cons rfl) h2

theorem halt (h : ops[k]? = some op) (hx : execOp ops k op σ = .done (.err e) σ') :
    SimGoal ops k c σ (.error e) σ' :=
  ⟨σ', Reaches.halt (by rw [step_at h, hx]), rfl, rfl⟩

theorem ifz {cond : Expr} {no yes : Option (Sig × Store)} (hop : ops[k]? = some (Op.ifz cond (j : Int)))
    (h : onCond (evalExpr σ.look cond) σ no yes = some (sig, σ'))
    (hno : no = some (sig, σ') → SimGoal ops j c σ sig σ')
    (hyes : yes = some (sig, σ') → SimGoal ops (k + 1) c σ sig σ') : SimGoal ops k c σ sig σ' := by
  cases hv : evalExpr σ.look cond with
  | none =>
    rw [hv] at h
    cases h
    exact .halt hop (by simp only [execOp, hv])
  | some w =>
    simp only [hv, onCond] at h
    cases hcf : condFalse w with
    | true => exact .jump hop (by simp only [execOp, hv, hcf, if_true]) (hno (by simpa only [hcf, if_true] using h))
    | false =>
      exact .next hop (by simp only [execOp, hv, hcf, Bool.false_eq_true, if_false])
        (hyes (by simpa only [hcf, Bool.false_eq_true, if_false] using h))

end SimGoal

-- End positions of the compound statements, in the association `compile` writes its indices in.
theorem pos_block_while (a n : Nat) : a + (n + 2) = a + 1 + n + 1 := by omega
theorem pos_ite (a m n : Nat) : a + (m + n + 2) = a + 1 + m + 1 + n := by omega
theorem pos_repeat (a n : Nat) : a + (n + n + 2) = a + n + 1 + n + 1 := by omega

def loopsNonempty : Stmt → Bool
  | .seq a b => loopsNonempty a && loopsNonempty b
  | .block _ b => loopsNonempty b
  | .ite _ t e => loopsNonempty t && loopsNonempty e
  | .while _ _ b => loopsNonempty b
  | .repeat _ b _ => loopsNonempty b
  | .loop _ b => codeLen b != 0 && loopsNonempty b
  | _ => true

def SimCodeAt (n : Nat) : Prop :=
  ∀ {s σ sig σ'}, exec Sem.gms n s σ = some (sig, σ') → jumpFree s = true → hasElseBlock s = false →
    loopsNonempty s = true → σ.stack ≠ [] →
    ∀ {ops base}, CodeAt ops base (cjf base s) → SimGoal ops base (base + codeLen s) σ sig σ'

theorem sim_codeAt : ∀ n, SimCodeAt n := by
  intro n
  -- strong induction: a REPEAT runs its body at every smaller fuel (`round` below)
  induction n using Nat.strongRecOn with
  | ind n ih =>
    intro s σ sig σ' h hj he hn hne ops base hat
    cases n with
    | zero => cases h
    | succ k =>
      have ihk : SimCodeAt k := ih k (Nat.lt_succ_self k)
      cases s with
      | skip => cases h; exact .refl
      | declare x d =>
        simp only [exec, declValue_gms] at h
        cases hd : σ.declare x (some (d.getD 0)) with
        | none =>
          simp only [Store.declare] at hd
          split at hd
          · rename_i hs; exact absurd hs hne
          · cases hd
        | some σ2 =>
          simp only [hd] at h
          cases h
          exact .next hat.head (by simp only [execOp, hd]) .refl
      | set x e =>
        simp only [exec] at h
        cases hv : evalExpr σ.look e with
        | none =>
          simp only [hv] at h
          cases h
          exact .halt hat.head (by simp only [execOp, hv])
        | some v =>
          simp only [hv] at h
          cases hs : σ.set x v with
          | none =>
            simp only [hs] at h
            cases h
            exact .halt hat.head (by simp only [execOp, hv, hs])
          | some σ2 =>
            simp only [hs] at h
            cases h
            exact .next hat.head (by simp only [execOp, hv, hs]) .refl
      | emit e =>
        simp only [exec] at h
        cases hv : evalExpr σ.look e with
        | none =>
          simp only [hv] at h
          cases h
          exact .halt hat.head (by simp only [execOp, hv])
        | some v =>
          simp only [hv] at h
          cases h
          exact .next hat.head (by simp only [execOp, hv]) .refl
      | caseNotFound => cases h; exact .halt hat.head rfl
      | signal => cases h; exact .halt hat.head rfl
      | leave l => cases hj
      | iterate l => cases hj
      | seq a b =>
        simp only [jumpFree, hasElseBlock, loopsNonempty, Bool.and_eq_true, Bool.or_eq_false_iff] at hj he hn
        simp only [exec] at h
        simp only [cjf] at hat
        rw [codeLen, ← Nat.add_assoc]
        split at h
        · cases h
        · rename_i σ1 h1
          exact (ihk h1 hj.1 he.1 hn.1 hne hat.left).trans (ihk h hj.2 he.2 hn.2 (exec_stack_ne h1 hne) hat.right_cjf)
        · rename_i r hnn h1
          cases h
          have ga := ihk h1 hj.1 he.1 hn.1 hne hat.left
          cases sig with
          | normal => exact absurd rfl (hnn σ')
          | _ => exact ga  -- no other outcome mentions the stop position
      | block l b =>
        simp only [exec] at h
        simp only [cjf] at hat
        have hend := hat.tail.right_cjf.head
        rw [codeLen, pos_block_while]
        split at h
        · cases h
        · rename_i sg σ1 h1
          have gb := ihk h1 hj he hn (List.cons_ne_nil _ _) hat.tail.left
          cases sg with
          | normal =>
            cases h
            obtain ⟨x, r, hxr⟩ := List.exists_cons_of_ne_nil (exec_stack_ne h1 (List.cons_ne_nil _ _))
            exact .next hat.head rfl (gb.trans (.next hend (by simp only [execOp, popStack, hxr, Store.pop, List.tail_cons]) .refl))
          | error e => cases h; exact .next hat.head rfl (gb.error_congr rfl rfl)
          | leave l' => exact gb.elim
          | iterate l' => exact gb.elim
      | ite c t e =>
        simp only [jumpFree, hasElseBlock, loopsNonempty, Bool.and_eq_true, Bool.or_eq_false_iff] at hj he hn
        change onCond (evalExpr σ.look c) σ (exec Sem.gms k e σ) (exec Sem.gms k t σ) = _ at h
        simp only [cjf, List.append_assoc, List.singleton_append] at hat
        have hG := hat.tail.right_cjf
        rw [codeLen, pos_ite]
        refine .ifz hat.head h (fun hels => ihk hels hj.2 he.2 hn.2 hne hG.tail) fun hthn => ?_
        have gt := ihk hthn hj.1 he.1.2 hn.1 hne hat.tail.left
        cases sig with
        | normal =>
          -- the Goto at the end of the THEN branch scans the ELSE branch but for its last op
          exact gt.trans (.jump hG.head (goto_fwd_scan hG (by rw [cjf_length]) (scan_dropLast he.1.1 _ _)) .refl)
        | _ => exact gt
      | «while» l c b =>
        change onCond (evalExpr σ.look c) σ (some (.normal, σ)) _ = _ at h
        have hat0 := hat
        simp only [cjf] at hat
        refine .ifz hat.head h ?_ fun h => ?_
        · intro hexit
          cases hexit
          rw [codeLen, pos_block_while]
          exact .refl
        have gbody := fun {sg σ1} (h1 : exec Sem.gms k b σ = some (sg, σ1)) => ihk h1 hj he hn hne hat.tail.left
        split at h
        · cases h
        · rename_i σ1 h1
          exact (gbody h1).trans (.while_back hat0 (ihk h hj he hn (exec_stack_ne h1 hne) hat0))
        · rename_i l' σ1 h1; exact (gbody h1).elim
        · rename_i l' σ1 h1; exact (gbody h1).elim
        · rename_i e' σ1 h1
          cases h
          exact (gbody h1).error_congr rfl rfl
      | «repeat» l b c =>
        simp only [cjf] at hat
        have hR := hat.right_cjf
        rw [codeLen, pos_repeat]
        -- every round runs the body (the first copy once, from then on the second) and gets to the UNTIL test;
        -- the test and the second copy are the code of `WHILE NOT c DO b` (`hR`)
        have round : ∀ j, j ≤ k + 1 → ∀ {start σ1 sg σ2}, CodeAt ops start (cjf start b) →
            (∀ σ, SimGoal ops (start + codeLen b) (base + codeLen b) σ .normal σ) →
            exec Sem.gms j (.repeat l b c) σ1 = some (sg, σ2) → σ1.stack ≠ [] →
            SimGoal ops start (base + codeLen b + 1 + codeLen b + 1) σ1 sg σ2 := by
          intro j
          induction j with
          | zero => intro _ _ _ _ _ _ _ hx; cases hx
          | succ j ihj =>
            intro hjk start σ1 sg σ2 hbody toTest hx hne1
            simp only [exec] at hx
            split at hx
            · cases hx
            · rename_i sb σb hb1
              have gb := ih j (Nat.lt_of_succ_le hjk) hb1 hj he hn hne1 hbody
              cases sb with
              | normal =>
                refine gb.trans ((toTest σb).trans (.ifz hR.head (repeatCheck_gms c _ _ ▸ hx)
                  (fun hexit => by cases hexit; exact .refl) fun hag => ?_))
                exact ihj (Nat.le_of_succ_le hjk) hR.tail.left (fun _ => .while_back (l := l) (cond := .not c) hR .refl) hag
                  (exec_stack_ne hb1 hne1)
              | error e' => cases hx; exact gb.error_congr rfl rfl
              | leave l' => exact gb.elim
              | iterate l' => exact gb.elim
        exact round (k + 1) (Nat.le_refl _) hat.left (fun _ => .refl) h hne
      | loop l b =>
        have hn' := hn
        simp only [loopsNonempty, Bool.and_eq_true, bne_iff_ne] at hn'
        simp only [exec] at h
        have hat0 := hat
        simp only [cjf] at hat
        have gbody := fun {sg σ1} (h1 : exec Sem.gms k b σ = some (sg, σ1)) => ihk h1 hj he hn'.2 hne hat.left
        split at h
        · cases h
        · rename_i σ1 h1
          exact (gbody h1).trans (.back_edge hat (by rw [cjf_length]) (mt cjf_eq_nil_iff.mp hn'.1) (cjf_scanNeutral b _)
            (ihk h hj he hn (exec_stack_ne h1 hne) hat0))
        · rename_i l' σ1 h1; exact (gbody h1).elim
        · rename_i l' σ1 h1; exact (gbody h1).elim
        · rename_i e' σ1 h1
          cases h
          exact (gbody h1).error_congr rfl rfl

def SimAt (n : Nat) : Prop :=
  ∀ s σ sig σ', exec Sem.gms n s σ = some (sig, σ') → jumpFree s = true → hasElseBlock s = false →
    loopsNonempty s = true → σ.stack ≠ [] →
    ∀ pre post base, pre.length = base →
      SimGoal (pre ++ cjf base s ++ post) base (base + codeLen s) σ sig σ'

theorem sim : ∀ n, SimAt n := fun n s σ sig σ' h hj he hn hne pre post base hb => by
  subst hb
  rw [List.append_assoc]
  exact sim_codeAt n h hj he hn hne (CodeAt.mid pre _ post)

/-- `hs` is `Gms.C24.Structured s` unfolded (the definition stands with the property theorems). -/
theorem sim_program {s : Stmt} (hs : jumpFree s = true ∧ hasElseBlock s = false ∧ loopsNonempty s = true)
    {σ σ' : Store} (hne : σ.stack ≠ []) {fuel : Nat} {sig : Sig} (h : exec Sem.gms fuel s σ = some (sig, σ')) :
    SimGoal (compileProgram s) 0 (codeLen s) σ sig σ' := by
  rw [compileProgram, compile_eq_cjf s 0 [] hs.1, ← Nat.zero_add (codeLen s)]
  exact sim_codeAt fuel h hs.1 hs.2.1 hs.2.2 hne (CodeAt.self _)

end Gms.ProcLang
