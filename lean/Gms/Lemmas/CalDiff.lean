/-
C31 — DATEDIFF (`dateDiffImpl`, saturating); TIMESTAMPDIFF: the sub-day units on aligned instants, the month count
(`monthsDiffWith`).
-/
import Gms.Lemmas.Cal

namespace Gms.Cal

theorem roundDiv_mul (k : Int) : roundDiv (k * nsDay) nsDay = k := by
  unfold roundDiv nsDay
  split <;> omega

/-- DATEDIFF through `time.Duration` is the day difference cut off at ±106752 days: `Sub` saturates at ±2^63 ns, which
rounds to that many days -/
theorem dateDiffImpl_eq (t1 t2 : Int) :
    dateDiffImpl t1 t2 = max (-106752) (min 106752 (dateDiffSpec t1 t2)) := by
  unfold dateDiffImpl dateDiffSpec goSub
  simp only
  generalize t1 / nsDay = a
  generalize t2 / nsDay = b
  have hk : a * nsDay - b * nsDay = (a - b) * nsDay := by simp only [nsDay]; omega
  have hmax : roundDiv maxDur nsDay = 106752 := by decide
  have hmin : roundDiv minDur nsDay = -106752 := by decide
  rw [hk]
  generalize a - b = k
  split
  · next h => rw [hmax]; simp only [nsDay, maxDur] at h; omega
  · split
    · next h => rw [hmin]; simp only [nsDay, minDur] at h; omega
    · next h h' => rw [roundDiv_mul]; simp only [nsDay, maxDur, minDur] at h h'; omega

theorem unixMicro_aligned (m t : Int) (hm : m ≠ 0) (h : t % (1000 * m) = 0) : unixMicro t = t / (1000 * m) * m := by
  obtain ⟨q, rfl⟩ := Int.dvd_of_emod_eq_zero h
  rw [unixMicro, Int.mul_ediv_cancel_left _ (Int.mul_ne_zero (by decide) hm), Int.mul_assoc,
    Int.mul_ediv_cancel_left _ (by decide), Int.mul_comm]

/-- a unit of `m` µs is counted exactly between two instants on whole units -/
theorem microsDiff_aligned (m t1 t2 : Int) (hm : m ≠ 0) (h1 : t1 % (1000 * m) = 0) (h2 : t2 % (1000 * m) = 0) :
    (microsDiff t1 t2).tdiv m = t2 / (1000 * m) - t1 / (1000 * m) := by
  rw [microsDiff, unixMicro_aligned m t1 hm h1, unixMicro_aligned m t2 hm h2, ← Int.sub_mul, Int.mul_tdiv_cancel _ hm]

/-- the nested decision of `monthsDiffWith`, flattened -/
theorem ite_nest {α : Type} (p q r s : Prop) [Decidable p] [Decidable q] [Decidable r] [Decidable s] (x y : α) :
    (if p then x else if q then (if r then x else if s then x else y) else y) =
      if p ∨ (q ∧ (r ∨ s)) then x else y := by
  by_cases p <;> by_cases q <;> by_cases r <;> by_cases s <;> simp [*]

/-- the comparison of the times of day, as `monthsDiffWith` computes it with the seconds-per-minute constant `spm` -/
theorem tod_lt_iff (spm a b : Int) (hs : spm = 60 ∨ (fieldsOf a).mi = (fieldsOf b).mi) :
    a % nsDay < b % nsDay ↔
      (((fieldsOf a).h - (fieldsOf b).h) * 3600 + ((fieldsOf a).mi - (fieldsOf b).mi) * spm + ((fieldsOf a).s - (fieldsOf b).s) < 0 ∨
       (((fieldsOf a).h - (fieldsOf b).h) * 3600 + ((fieldsOf a).mi - (fieldsOf b).mi) * spm + ((fieldsOf a).s - (fieldsOf b).s) = 0 ∧
        (fieldsOf b).ns > (fieldsOf a).ns)) := by
  have ha := clock_eq a
  have hb := clock_eq b
  have e : ((fieldsOf a).mi - (fieldsOf b).mi) * spm = ((fieldsOf a).mi - (fieldsOf b).mi) * 60 := by
    rcases hs with rfl | hs
    · rfl
    · rw [hs]; simp
  rw [e]
  simp only [nsDay, nsHour, nsMin, nsSec] at *
  omega

theorem monthsDiffWith_eq_spec (spm t1 t2 : Int)
    (hs : spm = 60 ∨ ((fieldsOf t1).d = (fieldsOf t2).d → (fieldsOf t1).mi = (fieldsOf t2).mi)) :
    monthsDiffWith spm t1 t2 = monthsDiffSpec t1 t2 := by
  simp only [monthsDiffWith, monthsDiffSpec, ite_nest]
  generalize hb : (if t1 > t2 then t2 else t1) = b
  generalize ha : (if t1 > t2 then t1 else t2) = a
  have hs' : (fieldsOf b).d = (fieldsOf a).d → spm = 60 ∨ (fieldsOf a).mi = (fieldsOf b).mi := by
    subst ha hb
    split
    · exact fun e => hs.imp id fun hr => hr e.symm
    · exact fun e => hs.imp id fun hr => (hr e).symm
  -- the flattened decision of `monthsDiffWith` is the Spec's "the later instant's (day, time of day) is earlier";
  -- `_` is the `secondDiff` disjunction, the right-hand side of `tod_lt_iff`
  have short : ((fieldsOf b).d = (fieldsOf a).d ∧ _) ↔ ((fieldsOf a).d = (fieldsOf b).d ∧ a % nsDay < b % nsDay) :=
    ⟨fun ⟨e, h⟩ => ⟨e.symm, (tod_lt_iff spm a b (hs' e)).mpr h⟩,
      fun ⟨e, h⟩ => ⟨e.symm, (tod_lt_iff spm a b (hs' e.symm)).mp h⟩⟩
  simp only [short, gt_iff_lt]
  split <;> split <;> omega

end Gms.Cal
