/-
The memory model of C30 (Gms/Model/RangeMapMem.lean) under per-call allocation: a call only appends to the heap and
its result reads back wherever the appended buffer is intact (`callM_fresh_heap`); a batch therefore leaves every
buffer alone that the caller does not write itself, and late reads see the pure results (`runLate_fresh`).
-/
import Gms.Model.RangeMapMem

namespace Gms.RangeMap

theorem overwrite_length (h : Heap) (i : Nat) (bs : List Nat) :
    (h.overwrite i bs).length = h.length := by
  simp [Heap.overwrite]

theorem overwrite_getD_ne (h : Heap) (i j : Nat) (bs : List Nat) (hne : i ≠ j) :
    (h.overwrite i bs).getD j [] = h.getD j [] := by
  simp [Heap.overwrite, List.getD_eq_getElem?_getD, List.getElem?_set_ne hne]

theorem append_getD_lt (h t : Heap) (i : Nat) (hi : i < h.length) :
    (h ++ t).getD i [] = h.getD i [] := by
  simp [List.getD_eq_getElem?_getD, List.getElem?_append_left hi]

theorem append_getD_len (h : Heap) (b : List Nat) : (h ++ [b]).getD h.length [] = b := by
  simp [List.getD_eq_getElem?_getD]

/-- The view a call returns reads as `r` in every heap that agrees with the call's own heap on the buffer it
appended; the premise is conditional because a failing call appends nothing. -/
theorem callM_fresh_heap (key : List Nat) (r : Res) (m : Mem) :
    m.heap <+: (callM .fresh key r m).1.heap ∧
    ∀ h : Heap, (m.heap.length < (callM .fresh key r m).1.heap.length →
        h.getD m.heap.length [] = (callM .fresh key r m).1.heap.getD m.heap.length []) →
      (callM .fresh key r m).2.read h = r := by
  cases r with
  | ok bs =>
    refine ⟨⟨[bs], rfl⟩, fun h hb => ?_⟩
    have : h.getD m.heap.length [] = bs := (hb (by simp [callM, allocFresh])).trans (append_getD_len ..)
    subst this
    exact congrArg Res.ok List.take_length
  | fail => exact ⟨⟨[], List.append_nil _⟩, fun _ _ => rfl⟩
  | crash => exact ⟨⟨[], List.append_nil _⟩, fun _ _ => rfl⟩

/-- With per-call allocation a batch never touches a buffer that existed before it and that the caller
does not write to itself (the first two conjuncts, the frame the induction needs), so every result read
when the batch is over is still what its call wrote. -/
theorem runLate_fresh (st : List Step) (m : Mem) (n : Nat)
    (hn : n ≤ m.heap.length) (he : editsBelow n st = true) :
    m.heap.length ≤ (runLate .fresh st m).1.heap.length ∧
    (∀ i, n ≤ i → i < m.heap.length → (runLate .fresh st m).1.heap.getD i [] = m.heap.getD i []) ∧
    observeLate .fresh st m = pureResults st := by
  unfold observeLate
  fun_induction runLate .fresh st m with
  | case1 m => exact ⟨Nat.le_refl _, fun _ _ _ => rfl, rfl⟩
  | case2 key r st m p q ih =>
    rw [editsBelow] at he
    simp only [q, p, pureResults, List.map_cons] at ih ⊢
    obtain ⟨hpre, hread⟩ := callM_fresh_heap key r m
    have hle := hpre.length_le
    obtain ⟨a, b, c⟩ := ih (by omega) he
    refine ⟨by omega, fun i h1 h2 => ?_, by rw [c, hread _ (b _ hn)]⟩
    obtain ⟨t, ht⟩ := hpre
    rw [b i h1 (by omega), ← ht]
    exact append_getD_lt _ _ _ h2
  | case3 i bs st m ih =>
    simp only [editsBelow, Bool.and_eq_true, decide_eq_true_eq] at he
    obtain ⟨a, b, c⟩ := ih (by rw [overwrite_length]; exact hn) he.2
    rw [overwrite_length] at a b
    exact ⟨a, fun j h1 h2 => by rw [b j h1 h2]; exact overwrite_getD_ne _ _ _ _ (by omega), c⟩

theorem editsBelow_keepBatch (junk : Nat) (cs : List (List Nat × Res)) (j n : Nat)
    (h : j + cs.length ≤ n) : editsBelow n (keepBatch junk j cs) = true := by
  fun_induction keepBatch junk j cs with
  | case1 => rfl
  | case2 j key r rest ih =>
    simp only [List.length_cons] at h
    simp only [editsBelow, Bool.and_eq_true, decide_eq_true_eq]
    exact ⟨by omega, ih (by omega)⟩

theorem pureResults_keepBatch (junk : Nat) (cs : List (List Nat × Res)) (j : Nat) :
    pureResults (keepBatch junk j cs) = cs.map (·.2) := by
  fun_induction keepBatch junk j cs with
  | case1 => rfl
  | case2 j key r rest ih => simp only [pureResults, List.map_cons, ih]

end Gms.RangeMap
