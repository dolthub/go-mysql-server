/-
C26 — three-way comparison (`Conv.Cmp`, `Conv.cmpInt`): its equations; a map strictly monotone on the two arguments keeps it
(`cmpInt_mono`), hence a number written in two digits of base `B` compares digit by digit (`lex_lt`, `lex_step`, `cmpInt_lex`: what
`TimeCmp.cmpInt_tod` and `TimeCmp.cmpInt_goDate_eq_lexCmp` are made of); `ViaKey`: a comparison that orders NULL last and everything else
through a partial key, the shape `Conv.implCompare` (numeric types) and `TimeCmp.implCompare` (temporal types) share, with
its order laws (`Lawful`); `NullFirst`: the shape of the two specifications, and where a `ViaKey` comparison agrees with one.
At the end the Boolean form of the laws as stream B of the harness checks them (`Tri.refl_ok`, `Tri.trans_ok`).
-/
import Gms.Model.NumConv

namespace Gms.Conv

theorem cmpInt_iff (a b : Int) :
    (cmpInt a b = .lt ↔ a < b) ∧ (cmpInt a b = .eq ↔ a = b) ∧ (cmpInt a b = .gt ↔ b < a) ∧ cmpInt a b ≠ .err := by
  unfold cmpInt
  by_cases h1 : a = b
  · subst h1; simp
  · by_cases h3 : a < b
    · simp [h1, h3]; omega
    · simp [h1, h3]; omega

theorem cmpInt_lt (a b : Int) : cmpInt a b = .lt ↔ a < b := (cmpInt_iff a b).1

theorem cmpInt_gt (a b : Int) : cmpInt a b = .gt ↔ b < a := (cmpInt_iff a b).2.2.1

theorem cmpInt_eq (a b : Int) : cmpInt a b = .eq ↔ a = b := (cmpInt_iff a b).2.1

theorem cmpInt_ne_err (a b : Int) : cmpInt a b ≠ .err := (cmpInt_iff a b).2.2.2

theorem cmpInt_refl (a : Int) : cmpInt a a = .eq := (cmpInt_eq a a).mpr rfl

theorem Cmp.le_iff (c : Cmp) : c.le = true ↔ c = .lt ∨ c = .eq := by
  cases c <;> simp [Cmp.le]

theorem cmpInt_le (a b : Int) : (cmpInt a b).le = true ↔ a ≤ b := by
  rw [Cmp.le_iff, cmpInt_lt, cmpInt_eq]; omega

theorem cmpInt_flip (a b : Int) : cmpInt b a = (cmpInt a b).flip := by
  rcases Int.lt_trichotomy a b with h | h | h
  · rw [(cmpInt_lt a b).mpr h, (cmpInt_gt b a).mpr h]; rfl
  · rw [h, cmpInt_refl]; rfl
  · rw [(cmpInt_gt a b).mpr h, (cmpInt_lt b a).mpr h]; rfl

theorem cmpInt_mono {x y X Y : Int} (hlt : x < y → X < Y) (hgt : y < x → Y < X) (heq : x = y → X = Y) :
    cmpInt X Y = cmpInt x y := by
  rcases Int.lt_trichotomy x y with h | h | h
  · rw [(cmpInt_lt x y).mpr h, (cmpInt_lt X Y).mpr (hlt h)]
  · rw [heq h, h, cmpInt_refl, cmpInt_refl]
  · rw [(cmpInt_gt x y).mpr h, (cmpInt_gt X Y).mpr (hgt h)]

theorem cmpInt_add_left (k a b : Int) : cmpInt (k + a) (k + b) = cmpInt a b :=
  cmpInt_mono (by omega) (by omega) (by omega)

theorem cmpInt_mul_right (a b : Int) {p : Int} (hp : 0 < p) : cmpInt (a * p) (b * p) = cmpInt a b :=
  cmpInt_mono (fun h => Int.mul_lt_mul_of_pos_right h hp) (fun h => Int.mul_lt_mul_of_pos_right h hp) fun h => h ▸ rfl

theorem lex_step {x y X Y : Int} {R : Cmp} (hlt : x < y → X < Y) (hgt : y < x → Y < X)
    (heq : x = y → cmpInt X Y = R) : cmpInt X Y = if x ≠ y then cmpInt x y else R := by
  by_cases h : x = y
  · rw [if_neg (not_not_intro h)]; exact heq h
  · rw [if_pos h]; exact cmpInt_mono hlt hgt fun e => absurd e h

theorem lex_lt (B : Int) {a a' b b' : Int} (h : a < a') (h0 : 0 ≤ b) (h1 : b < B) (h0' : 0 ≤ b') :
    a * B + b < a' * B + b' := by
  have : (a + 1) * B ≤ a' * B := Int.mul_le_mul_of_nonneg_right (by omega) (by omega)
  rw [Int.add_mul, Int.one_mul] at this
  omega

theorem cmpInt_lex (B : Int) {a a' b b' : Int} (h0 : 0 ≤ b) (h1 : b < B) (h0' : 0 ≤ b') (h1' : b' < B) :
    cmpInt (a * B + b) (a' * B + b') = if a ≠ a' then cmpInt a a' else cmpInt b b' :=
  lex_step (fun h => lex_lt B h h0 h1 h0') (fun h => lex_lt B h h0' h1' h0)
    fun h => by rw [h, cmpInt_add_left]

/-- the order laws stream B of the harness checks on observed results -/
structure Lawful {α : Type} (f : α → α → Cmp) : Prop where
  refl : ∀ a, f a a = .eq ∨ f a a = .err
  flip : ∀ a b, f b a = (f a b).flip
  trans : ∀ a b c, (f a b).le = true → (f b c).le = true →
    (f a c).le = true ∧ ((f a b = .lt ∨ f b c = .lt) → f a c = .lt)

theorem cmpInt_lawful : Lawful cmpInt where
  refl a := .inl (cmpInt_refl a)
  flip := cmpInt_flip
  trans x y z hxy hyz := by
    rw [cmpInt_le] at hxy hyz ⊢
    simp only [cmpInt_lt]
    omega

/-- `f` orders NULL (`n`) after every other value and compares the others through the partial key `k` -/
structure ViaKey {α κ : Type} (f : α → α → Cmp) (n : α) (cmp : κ → κ → Cmp) (k : α → Option κ) : Prop where
  null_null : f n n = .eq
  null_left : ∀ {b}, b ≠ n → f n b = .gt
  null_right : ∀ {a}, a ≠ n → f a n = .lt
  nonnull : ∀ {a b}, a ≠ n → b ≠ n → f a b = match k a, k b with
    | some x, some y => cmp x y
    | _, _ => .err

/-- the property's reading of a comparison: NULL before every other value, the others by their converted keys `ck`,
undetermined where a conversion fails -/
structure NullFirst {α κ : Type} (s : α → α → Option Cmp) (n : α) (cmp : κ → κ → Cmp) (ck : α → Option κ) : Prop where
  null_null : s n n = some .eq
  null_left : ∀ {b}, b ≠ n → s n b = some .lt
  null_right : ∀ {a}, a ≠ n → s a n = some .gt
  nonnull : ∀ {a b}, a ≠ n → b ≠ n → s a b = match ck a, ck b with
    | some x, some y => some (cmp x y)
    | _, _ => none

namespace ViaKey
variable {α κ : Type} {f : α → α → Cmp} {n : α} {cmp : κ → κ → Cmp} {k : α → Option κ} (hf : ViaKey f n cmp k)
include hf

theorem null_le {b : α} (h : (f n b).le = true) : b = n := by
  by_cases hb : b = n
  · exact hb
  · rw [hf.null_left hb] at h; cases h

theorem keyed {a b : α} {x y : κ} (ha : a ≠ n) (hb : b ≠ n) (hx : k a = some x) (hy : k b = some y) :
    f a b = cmp x y := by
  rw [hf.nonnull ha hb, hx, hy]

section spec
variable {s : α → α → Option Cmp} {ck : α → Option κ} (hs : NullFirst s n cmp ck)
include hs

/-- `h` is `null_sorts_last a b` of either model, unfolded (below: its negation) -/
theorem opposite_of_one_null {a b : α} (h : (a = n ∧ b ≠ n) ∨ (a ≠ n ∧ b = n)) :
    ∃ r, s a b = some r ∧ f a b = r.flip ∧ r ≠ .eq := by
  rcases h with ⟨rfl, hb⟩ | ⟨ha, rfl⟩
  · exact ⟨.lt, hs.null_left hb, hf.null_left hb, nofun⟩
  · exact ⟨.gt, hs.null_right ha, hf.null_right ha, nofun⟩

/-- The one statement behind the compare-after-convert theorems of both models: if each non-NULL operand whose conversion
succeeds is sorted by its converted key (`ka`, `kb`), the comparison is the specification wherever that determines a result. -/
theorem eq_of_spec {a b : α} (h : ¬ ((a = n ∧ b ≠ n) ∨ (a ≠ n ∧ b = n)))
    (ka : a ≠ n → ∀ x, ck a = some x → k a = some x) (kb : b ≠ n → ∀ y, ck b = some y → k b = some y)
    {r : Cmp} (e : s a b = some r) : f a b = r := by
  by_cases ha : a = n
  · obtain rfl : b = n := Classical.not_not.mp fun hb => h (.inl ⟨ha, hb⟩)
    subst ha
    rw [hs.null_null] at e; rw [hf.null_null]; exact Option.some.inj e
  · have hb : b ≠ n := fun hb => h (.inr ⟨ha, hb⟩)
    rw [hs.nonnull ha hb] at e
    cases hx : ck a with
    | none => rw [hx] at e; cases e
    | some x =>
      cases hy : ck b with
      | none => rw [hx, hy] at e; cases e
      | some y =>
        rw [hx, hy] at e
        rw [hf.keyed ha hb (ka ha x hx) (kb hb y hy)]; exact Option.some.inj e

end spec

theorem total (hc : ∀ x y, cmp x y ≠ .err) {a b : α} (ha : a = n ∨ (k a).isSome) (hb : b = n ∨ (k b).isSome) :
    f a b ≠ .err := by
  by_cases ha' : a = n
  · subst a
    by_cases hb' : b = n
    · subst b; rw [hf.null_null]; nofun
    · rw [hf.null_left hb']; nofun
  · by_cases hb' : b = n
    · subst b; rw [hf.null_right ha']; nofun
    · obtain ⟨x, hx⟩ := Option.isSome_iff_exists.mp (ha.resolve_left ha')
      obtain ⟨y, hy⟩ := Option.isSome_iff_exists.mp (hb.resolve_left hb')
      rw [hf.keyed ha' hb' hx hy]; exact hc x y

theorem lawful (hc : Lawful cmp) : Lawful f where
  refl a := by
    by_cases ha : a = n
    · subst a; exact .inl hf.null_null
    · rw [hf.nonnull ha ha]
      cases k a with
      | none => exact .inr rfl
      | some x => exact hc.refl x
  flip a b := by
    by_cases ha : a = n
    · subst a
      by_cases hb : b = n
      · subst b; rw [hf.null_null]; rfl
      · rw [hf.null_left hb, hf.null_right hb]; rfl
    · by_cases hb : b = n
      · subst b; rw [hf.null_left ha, hf.null_right ha]; rfl
      · rw [hf.nonnull ha hb, hf.nonnull hb ha]
        cases k a <;> cases k b <;> simp only [Cmp.flip]
        exact hc.flip _ _
  trans a b c hab hbc := by
    -- NULL is the greatest element: below `b` there is NULL only if `b` is NULL
    by_cases hb : b = n
    · subst b
      obtain rfl := hf.null_le hbc
      refine ⟨hab, fun h => h.elim id (fun h => ?_)⟩
      rw [hf.null_null] at h; cases h
    · have ha : a ≠ n := fun e => hb (hf.null_le (e ▸ hab))
      by_cases hc' : c = n
      · subst c; rw [hf.null_right ha]; exact ⟨rfl, fun _ => rfl⟩
      · rw [hf.nonnull ha hb] at hab ⊢
        rw [hf.nonnull hb hc'] at hbc ⊢
        rw [hf.nonnull ha hc']
        cases hka : k a with
        | none => rw [hka] at hab; cases hab
        | some x =>
          cases hkb : k b with
          | none => rw [hka, hkb] at hab; cases hab
          | some y =>
            cases hkc : k c with
            | none => rw [hkb, hkc] at hbc; cases hbc
            | some z =>
              rw [hka, hkb] at hab
              rw [hkb, hkc] at hbc
              exact hc.trans x y z hab hbc

end ViaKey

-- the Boolean conjuncts of `Tri.refl` and `Tri.trans` (the checks of stream B), from the fields `refl` and `trans` of `Lawful`

theorem Tri.refl_ok {x : Cmp} (h : x = .eq ∨ x = .err) : (!x.ok || x == .eq) = true := by
  rcases h with h | h <;> rw [h] <;> rfl

theorem Tri.trans_ok {x y z : Cmp}
    (h : x.le = true → y.le = true → z.le = true ∧ ((x = .lt ∨ y = .lt) → z = .lt)) :
    (!(x.le && y.le) || (z.le && (!(x == .lt || y == .lt) || z == .lt))) = true := by
  cases hx : x.le
  · rfl
  cases hy : y.le
  · rfl
  obtain ⟨hz, hlt⟩ := h hx hy
  rw [hz]
  cases hp : (x == .lt || y == .lt)
  · rfl
  · have hs : x = .lt ∨ y = .lt := by simpa using hp
    rw [hlt hs]; rfl

end Gms.Conv
