/-
C24 — the error path (`Gms/Model/ProcHandler.lean`): the EXIT scan of `handleError` over scope-balanced
code, and what the Spec `execH` demands of an error raised in a block nested in the handler's block.
-/
import Gms.Model.ProcHandler
namespace Gms.ProcH
open Gms.ProcLang

/-- Scope depth after running over `ops` starting at depth `d`; `none` if it would drop below 0. -/
def depthAfter : List HOp → Nat → Option Nat
  | [], d => some d
  | .scopeBegin _ :: r, d => depthAfter r (d + 1)
  | .scopeEnd _ :: r, d => if d = 0 then none else depthAfter r (d - 1)
  | .declare _ _ :: r, d => depthAfter r d
  | .handler _ _ _ _ :: r, d => depthAfter r d
  | .set _ _ :: r, d => depthAfter r d
  | .exec _ :: r, d => depthAfter r d
  | .ifz _ _ :: r, d => depthAfter r d
  | .goto _ :: r, d => depthAfter r d
  | .exception :: r, d => depthAfter r d
  | .signal :: r, d => depthAfter r d

theorem depthAfter_append (a b : List HOp) : ∀ d,
    depthAfter (a ++ b) d = (depthAfter a d).bind (depthAfter b) := by
  induction a with
  | nil => intro d; rfl
  | cons op r ih =>
    intro d
    cases op <;> simp only [List.cons_append, depthAfter, ih]
    split <;> rfl

theorem exitScanAux_zero (l : List HOp) (i : Nat) : exitScanAux l 0 i = i - 1 := by
  cases l <;> rfl

/-- `remainingEndScopes` is written `r + 1 + d`, `d` the depth inside `body` and `r + 1` what is left to close
behind it (`r = 0` for the scan `handleError` starts): visibly non-zero, and the `+ 1` / `- 1` of the recursive calls
give `r + 1 + (d + 1)` / `r + 1 + d0` by unfolding `+` alone. The end position is a variable `j` with its equation,
so that the recursive call, which arrives at `i + 1 + rest.length`, needs no rewriting inside the goal. -/
theorem exitScanAux_balanced (body tl : List HOp) : ∀ (d d' r i j : Nat), j = i + body.length →
    depthAfter body d = some d' →
    exitScanAux (body ++ tl) (r + 1 + d) i = exitScanAux tl (r + 1 + d') j := by
  induction body with
  | nil => intro d d' r i j hj h; cases h; subst hj; rfl
  | cons op rest ih =>
    intro d d' r i j hj h
    have hj' : j = i + 1 + rest.length := hj.trans (Nat.add_right_comm i rest.length 1)
    have hne : ¬ (r + 1 + d = 0) := by omega
    simp only [List.cons_append, exitScanAux, hne, if_false]
    cases op with
    | scopeBegin k => exact ih (d + 1) d' r _ j hj' h
    | scopeEnd k =>
      cases d with
      | zero => cases h
      | succ d0 => exact ih d0 d' r _ j hj' h
    | _ => exact ih d d' r _ j hj' h

/-- Code emitted by `ConvertStmt` is scope-balanced. -/
theorem compileH_balanced : ∀ (s : HStmt) (base d : Nat), depthAfter (compileH base s) d = some d := by
  intro s
  induction s with
  | seq a b iha ihb =>
    intro base d
    simp only [compileH, depthAfter_append, iha, Option.bind_some, ihb]
  | block b ih =>
    intro base d
    simp only [compileH, depthAfter, depthAfter_append, ih, Option.bind_some]
    simp
  | ite c t e iht ihe =>
    intro base d
    simp only [compileH, depthAfter, depthAfter_append, iht, ihe, Option.bind_some, List.append_assoc,
      List.cons_append, List.nil_append]
  | «while» c b ih =>
    intro base d
    simp only [compileH, depthAfter, depthAfter_append, ih, Option.bind_some]
  | _ => intro base d; simp [compileH, depthAfter]

/-- **The EXIT scan finds the end of the declaring block.** For every op list of the form
`A ++ handler :: Q ++ scopeEnd :: B` with `Q` scope-balanced (everything between the handler's
DECLARE and the `END` of its block: the rest of the block's statements, nested blocks included),
the scan started at the handler's counter returns the index of that `ScopeEnd`. -/
theorem exit_scan_finds_block_end (A Q B : List HOp) (ex nf : Bool) (x : Name) (e : Expr) (j : Int)
    (hQ : depthAfter Q 0 = some 0) :
    exitScan (A ++ HOp.handler ex nf x e :: (Q ++ HOp.scopeEnd j :: B)) A.length = A.length + 1 + Q.length := by
  unfold exitScan
  rw [List.drop_left]
  simp only [exitScanAux, Nat.one_ne_zero, if_false]
  rw [exitScanAux_balanced Q (HOp.scopeEnd j :: B) 0 0 0 (A.length + 1) _ rfl hQ]
  simp only [exitScanAux, Nat.zero_add, Nat.add_zero, Nat.one_ne_zero, if_false, Nat.sub_self, exitScanAux_zero]
  omega

/-- … in particular in the code of a block `BEGIN pre; DECLARE … HANDLER …; post END` compiled at
any position, with arbitrary statements `pre`, `post`: the scan returns the index of the block's own
`ScopeEnd` (`base + 1 + |pre| + 1 + |post|`), however deeply `post` nests further blocks. -/
theorem exit_scan_compiled_block (base : Nat) (pre post : HStmt) (ex nf : Bool) (x : Name) (e : Expr)
    (A B : List HOp) (hA : A.length = base) :
    exitScan (A ++ compileH base (.block (.seq pre (.seq (.handler ex nf x e) post))) ++ B)
        (base + 1 + (compileH (base + 1) pre).length)
      = base + 1 + (compileH (base + 1) pre).length + 1 +
          (compileH (base + 1 + (compileH (base + 1) pre).length + 1) post).length := by
  have hl : (A ++ HOp.scopeBegin ((base + 1 : Nat) : Int) :: compileH (base + 1) pre).length
      = base + 1 + (compileH (base + 1) pre).length := by
    simp only [List.length_append, List.length_cons, hA]; omega
  have hops : A ++ compileH base (.block (.seq pre (.seq (.handler ex nf x e) post))) ++ B
      = (A ++ HOp.scopeBegin ((base + 1 : Nat) : Int) :: compileH (base + 1) pre) ++ HOp.handler ex nf x e ::
          (compileH (base + 1 + (compileH (base + 1) pre).length + 1) post ++
            HOp.scopeEnd ((base + 1 + (compileH (base + 1) (.seq pre (.seq (.handler ex nf x e) post))).length + 1 : Nat) : Int) :: B) := by
    simp [compileH]
  rw [hops, ← hl]
  exact exit_scan_finds_block_end _ _ _ _ _ _ _ _ (compileH_balanced post _ 0)

/-- The counter an EXIT handler resumes at is a function of the handler alone: it does not depend on
the op that raised the error (nor on the error). -/
theorem handleError_exit_independent_of_failing_op (ops : List HOp) (c c' code code' : Nat) (σ σ' : HStore)
    (h : Hnd) (hm : matchingHandler σ.stack = some h) (hx : h.exit = true) (ha : σ.assign h.x h.e = some σ') :
    handleError ops c code σ = .running ⟨(exitScan ops h.counter : Nat), σ'⟩ ∧
    handleError ops c code σ = handleError ops c' code' σ := by
  simp [handleError, hm, hx, ha]

theorem execH_seq_of_normal {n : Nat} {a : HStmt} {σ σ1 : HStore} (b : HStmt) (h : execH n a σ = some (.normal, σ1)) :
    execH (n + 1) (.seq a b) σ = execH n b σ1 := by
  rw [execH, h]

theorem execH_seq_of_exit {n : Nat} {a : HStmt} {σ σ1 : HStore} {d : Nat} (b : HStmt)
    (h : execH n a σ = some (.exit d, σ1)) : execH (n + 1) (.seq a b) σ = some (.exit d, σ1) := by
  rw [execH, h]

theorem execH_block_of_ne {n : Nat} {body : HStmt} {σ σ1 : HStore} {sig : HSig}
    (h : execH n body σ.push = some (sig, σ1)) (hsig : sig ≠ .exit (σ.stack.length + 1)) :
    execH (n + 1) (.block body) σ = some (sig, σ1.pop) := by
  rw [execH, h]
  cases sig with
  | exit d => simp only [show ¬ d = σ.stack.length + 1 from fun hd => hsig (hd ▸ rfl), if_false]
  | _ => rfl

theorem execH_block_of_exit {n : Nat} {body : HStmt} {σ σ1 : HStore}
    (h : execH n body σ.push = some (.exit (σ.stack.length + 1), σ1)) :
    execH (n + 1) (.block body) σ = some (.normal, σ1.pop) := by
  rw [execH, h]; simp only [if_true]

theorem raise_in_nested_block (code : Nat) {σ σ2 : HStore} {s : HScope} {r : List HScope} {hd : Hnd}
    (hst : σ.stack = s :: r) (hf : s.hs.find? (fun h => !h.notFound) = some hd)
    (h2 : σ.assign hd.x hd.e = some σ2) :
    raise code σ.push = (if hd.exit then .exit σ.stack.length else .normal, σ2.push) := by
  obtain ⟨st, ss, lg⟩ := σ
  cases hst
  simp only [raise, HStore.push, findHandler, HScope.empty, List.find?, hf, h2, List.length_cons,
    List.cons_append, List.nil_append]
  split <;> rfl

/-- **Spec, EXIT.** `BEGIN DECLARE EXIT HANDLER FOR SQLEXCEPTION SET x = e; BEGIN SIGNAL …; a END; b END`:
for all statements `a` (behind the failing statement) and `b` (behind the nested block), all stores
and all `x`, `e`: the handler statement runs in the scope of the outer block and the *outer* block
is complete — neither `a` nor `b` runs. -/
theorem spec_exit_skips_rest_of_declaring_block (a b : HStmt) (x : Name) (e : Expr) (σ σ2 : HStore) (n : Nat)
    (h2 : ({ σ with stack := { vars := [], hs := [⟨true, false, x, e, 0⟩] } :: σ.stack } : HStore).assign x e = some σ2) :
    execH (n + 6) (.block (.seq (.handler true false x e) (.seq (.block (.seq .signal a)) b))) σ
      = some (.normal, σ2.pop) := by
  have hS := execH_seq_of_exit (n := n + 1) a (show execH (n + 1) .signal _ = some (_, _) from
    congrArg some (raise_in_nested_block 1644 (hd := ⟨true, false, x, e, 0⟩) rfl rfl h2))
  exact execH_block_of_exit ((execH_seq_of_normal (n := n + 4) _ rfl).trans
    (execH_seq_of_exit b (execH_block_of_ne hS (by simp))))

/-- **Spec, CONTINUE.** Same shape under a CONTINUE handler: the statement `a` behind the failing one,
in the nested block, runs next — on the store the handler statement left, with the nested scope back
on top (`ra` is its result) — and the two blocks then complete in the ordinary way. -/
theorem spec_continue_resumes_in_nested_block (a : HStmt) (x : Name) (e : Expr) (σ σ2 : HStore) (n : Nat)
    (sig : HSig) (σ3 : HStore)
    (h2 : ({ σ with stack := { vars := [], hs := [⟨false, false, x, e, 0⟩] } :: σ.stack } : HStore).assign x e = some σ2)
    (hra : execH (n + 1) a { σ2 with stack := HScope.empty :: σ2.stack } = some (sig, σ3))
    (hsig : ∀ d, sig ≠ .exit d) :
    execH (n + 5) (.block (.seq (.handler false false x e) (.block (.seq .signal a)))) σ
      = some (sig, σ3.pop.pop) := by
  have hS := (execH_seq_of_normal (n := n + 1) a (show execH (n + 1) .signal _ = some (.normal, _) from
    congrArg some (raise_in_nested_block 1644 (hd := ⟨false, false, x, e, 0⟩) rfl rfl h2))).trans hra
  exact execH_block_of_ne ((execH_seq_of_normal (n := n + 3) _ rfl).trans (execH_block_of_ne hS (hsig _))) (hsig _)

end Gms.ProcH
