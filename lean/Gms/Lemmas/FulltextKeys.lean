/-
C51 — lemmas about Gms/Model/Fulltext.lean: the resolution of key columns (`getKeyColumns`, `parentIndexCols`,
`lookup`), the unique words of the search string and MATCH (`bump`, `uniqueWords`, `ftMatch_iff_count`), the
WHERE form as a walk over DOC_COUNT entries (`filterWalk`, `implWhere`: `count_implWhere`), and the reference
table semantics keeping every declared key unique (`UniqueOn`, `KeysUnique`: `keysUnique_applyOp`).
-/
import Gms.Model.Fulltext
import Gms.Lemmas.Basics

namespace Gms.Fulltext

/-! The two predicates the WHERE-form and `keys_stay_unique` theorems of Props/C51 are stated in. `UniqueOn` is a
`Nodup` of key values and is used as such (`filter_own`, `nodup_map_ite`, `Nodup.sublist`). -/

/-- The rows are pairwise different on the key columns `cs`. -/
def UniqueOn (cs : List Nat) (rows : List Row) : Prop := (rows.map (keyVals cs)).Nodup

/-- Every declared key of the layout is unique on the rows. -/
def KeysUnique (lay : Layout) (rows : List Row) : Prop := ∀ cs ∈ constraints lay, UniqueOn cs rows

theorem firstUsable_spec {nn : List Nat} {uks : List (List Nat)} :
    ∀ {i j : Nat} {cs : List Nat}, firstUsable nn i uks = some (j, cs) →
      ∃ d, j = i + d ∧ uks[d]? = some cs ∧ cs.all (fun c => nn.contains c) = true := by
  induction uks with
  | nil => intro i j cs h; cases h
  | cons u rest ih =>
    intro i j cs h
    rw [firstUsable] at h
    split at h
    · next hu => cases h; exact ⟨0, rfl, rfl, hu⟩
    · obtain ⟨d, h1, h2, h3⟩ := ih h
      exact ⟨d + 1, by rw [h1, Nat.add_assoc, Nat.add_comm 1 d], h2, h3⟩

theorem key_resolution (lay : Layout) :
    (getKeyColumns lay).positions = parentIndexCols lay (getKeyColumns lay).type := by
  unfold getKeyColumns
  split
  · rfl
  · split
    · next i cs h =>
      obtain ⟨d, rfl, hd, _⟩ := firstUsable_spec h
      rw [parentIndexCols, Nat.zero_add, List.getD_eq_getElem?_getD, hd]; rfl
    · rfl

theorem positions_mem_constraints (lay : Layout) (h : keyedIdx lay = true) :
    (getKeyColumns lay).positions ∈ constraints lay := by
  unfold keyedIdx getKeyColumns at h
  unfold getKeyColumns constraints
  split
  · exact List.mem_append_left _ (List.mem_singleton.mpr rfl)
  · next hp =>
    split
    · next i cs hf =>
      obtain ⟨d, _, hd, _⟩ := firstUsable_spec hf
      exact List.mem_append_right _ (List.mem_of_getElem? hd)
    · next hf => simp [hp, hf] at h

theorem filter_own {α β : Type} [BEq β] [LawfulBEq β] {f : α → β} {l : List α} (h : (l.map f).Nodup) {a : α} (ha : a ∈ l) :
    l.filter (fun r => f r == f a) = [a] := by
  induction l with
  | nil => cases ha
  | cons x xs ih =>
    obtain ⟨hx, hxs⟩ := List.nodup_cons.mp h
    rcases List.mem_cons.mp ha with rfl | hin
    · rw [List.filter_cons, if_pos (beq_self_eq_true _),
        List.filter_eq_nil_iff.mpr fun r hr hc => hx (List.mem_map.mpr ⟨r, hr, eq_of_beq hc⟩)]
    · rw [List.filter_cons, if_neg fun hc => hx (List.mem_map.mpr ⟨a, hin, (eq_of_beq hc).symm⟩), ih hxs hin]

theorem lookup_own {cs : List Nat} {rows : List Row} (h : UniqueOn cs rows) {a : Row} (ha : a ∈ rows) :
    lookup cs rows (keyVals cs a) = [a] := by
  unfold lookup
  exact filter_own h ha

theorem count_flatMap_replicate {α : Type} [DecidableEq α] (n : α → Nat) (rows : List α) (x : α) :
    (rows.flatMap fun r => List.replicate (n r) r).count x = n x * rows.count x := by
  induction rows with
  | nil => simp
  | cons y ys ih =>
    simp only [List.flatMap_cons, List.count_append, ih, List.count_cons, List.count_replicate]
    by_cases e : y = x
    · subst e; simp [Nat.mul_add, Nat.add_comm]
    · simp [e]

section words
variable {κ : Type} [DecidableEq κ]

theorem keys_bump (k : κ) (w : Word) (acc : List (Word × κ × Nat)) :
    (bump k w acc).map (·.2.1) = if k ∈ acc.map (·.2.1) then acc.map (·.2.1) else acc.map (·.2.1) ++ [k] := by
  induction acc with
  | nil => rfl
  | cons e rest ih =>
    obtain ⟨w0, k0, n0⟩ := e
    rw [bump]
    split
    · next h0 => rw [if_pos (h0 ▸ List.mem_cons_self ..)]; rfl
    · next h0 =>
      rw [List.map_cons, ih, List.map_cons]
      by_cases hm : k ∈ rest.map (·.2.1)
      · rw [if_pos hm, if_pos (List.mem_cons_of_mem _ hm)]
      · rw [if_neg hm, if_neg fun hc => (List.mem_cons.mp hc).elim (fun e => h0 e.symm) hm]; rfl

theorem nodup_bump (k : κ) (w : Word) (acc : List (Word × κ × Nat)) (h : (acc.map (·.2.1)).Nodup) :
    ((bump k w acc).map (·.2.1)).Nodup := by
  rw [keys_bump]
  split
  · exact h
  · next hk =>
    exact Basics.nodup_concat h hk

theorem mem_keys_bump (k k' : κ) (w : Word) (acc : List (Word × κ × Nat)) :
    k' ∈ (bump k w acc).map (·.2.1) ↔ k' ∈ acc.map (·.2.1) ∨ k' = k := by
  rw [keys_bump]
  split
  · next h => exact ⟨Or.inl, fun h' => h'.elim id fun e => e ▸ h⟩
  · rw [List.mem_append, List.mem_singleton]

theorem mem_keys_foldl (key : Word → κ) (ws : List Word) (acc : List (Word × κ × Nat)) (k : κ) :
    k ∈ (ws.foldl (fun a w => bump (key w) w a) acc).map (·.2.1) ↔ k ∈ acc.map (·.2.1) ∨ ∃ w ∈ ws, key w = k := by
  induction ws generalizing acc with
  | nil => simp
  | cons w ws ih =>
    rw [List.foldl_cons, ih, mem_keys_bump, or_assoc]
    simp only [List.mem_cons, exists_eq_or_imp, eq_comm (a := k)]

theorem ftMatch_iff_count (key : Word → κ) (minLen maxLen : Nat) (q doc : List R) :
    ftMatch key minLen maxLen q doc = true ↔ 0 < matchCount key minLen maxLen q doc := by
  unfold ftMatch matchCount
  rw [List.any_eq_true, List.length_pos_iff_exists_mem]
  constructor
  · rintro ⟨w, hw, hp⟩
    obtain ⟨e, he, hek⟩ := List.mem_map.mp ((mem_keys_foldl key _ [] (key w)).mpr (.inr ⟨w, hw, rfl⟩))
    exact ⟨e, List.mem_filter.mpr ⟨he, by rw [hek]; exact hp⟩⟩
  · rintro ⟨e, he⟩
    obtain ⟨he1, he2⟩ := List.mem_filter.mp he
    obtain ⟨w, hw, hwk⟩ := ((mem_keys_foldl key _ [] e.2.1).mp (List.mem_map.mpr ⟨e, he1, rfl⟩)).resolve_left List.not_mem_nil
    exact ⟨w, hw, by rw [hwk]; exact he2⟩

end words

section where_form
variable {κ : Type} [DecidableEq κ]

theorem flatMap_replicate_eq_filter {α : Type} (n : α → Nat) (p : α → Bool) (l : List α)
    (h : ∀ r ∈ l, n r = if p r then 1 else 0) : (l.flatMap fun r => List.replicate (n r) r) = l.filter p := by
  induction l with
  | nil => rfl
  | cons r rs ih =>
    rw [List.flatMap_cons, List.filter_cons, h r (List.mem_cons_self ..), ih fun x hx => h x (List.mem_cons_of_mem _ hx)]
    cases p r <;> rfl

theorem implMatchWhere_keyed (key : Word → κ) (minLen maxLen : Nat) (rows : List Row) (q : List R)
    (h : ∀ r ∈ rows, matchCount key minLen maxLen q (docOf r) < 2) :
    implMatchWhere key minLen maxLen true rows q = specMatch key minLen maxLen rows q := by
  rw [implMatchWhere, if_pos rfl, specMatch]
  refine flatMap_replicate_eq_filter _ _ rows fun r hr => ?_
  have hlt := h r hr
  have hiff := ftMatch_iff_count key minLen maxLen q (docOf r)
  cases hm : ftMatch key minLen maxLen q (docOf r) with
  | false => exact Nat.eq_zero_of_not_pos fun hp => by rw [hiff.mpr hp] at hm; cases hm
  | true => have := hiff.mp hm; rw [if_pos rfl]; omega

/-- With the key values stored in the column order of the probed index (`ps = ixCols`) and rows that
are pairwise different on those columns, every DOC_COUNT entry leads back to exactly its own row: the
walk delivers, per unique search word, the rows containing it. -/
theorem filterWalk_resolved (key : Word → κ) (minLen maxLen : Nat) {cs : List Nat} {rows : List Row} (q : List R)
    (hu : UniqueOn cs rows) :
    filterWalk key minLen maxLen cs cs rows q =
      (uniqueWords key ((tokenize minLen q).map (·.1))).flatMap fun e => rows.filter (hasWord key minLen maxLen e.2.1) := by
  unfold filterWalk
  congr 1
  funext e
  exact (Basics.flatMap_congr_mem fun r hr => lookup_own hu (List.mem_filter.mp hr).1).trans (List.flatMap_singleton' _)

theorem count_filterWalk (key : Word → κ) (minLen maxLen : Nat) {cs : List Nat} {rows : List Row} (q : List R)
    (hu : UniqueOn cs rows) (x : Row) :
    (filterWalk key minLen maxLen cs cs rows q).count x = matchCount key minLen maxLen q (docOf x) * rows.count x := by
  rw [filterWalk_resolved key minLen maxLen q hu]
  -- `matchCount … q (docOf x)` is by definition the number of unique search words `e` with `hasWord … e.2.1 x`
  exact Basics.count_flatMap_filter (fun (e : Word × κ × Nat) r => hasWord key minLen maxLen e.2.1 r) _ rows x

/-- Every row the resolved walk delivers matches (the `Filter` above the access path drops nothing). -/
theorem filterWalk_all_match (key : Word → κ) (minLen maxLen : Nat) {cs : List Nat} {rows : List Row} (q : List R)
    (hu : UniqueOn cs rows) :
    (filterWalk key minLen maxLen cs cs rows q).filter (fun r => ftMatch key minLen maxLen q (docOf r))
      = filterWalk key minLen maxLen cs cs rows q := by
  rw [List.filter_eq_self]
  intro x hx
  rw [ftMatch_iff_count]
  have hc : 0 < (filterWalk key minLen maxLen cs cs rows q).count x := List.count_pos_iff.mpr hx
  rw [count_filterWalk key minLen maxLen q hu] at hc
  exact Nat.pos_of_mul_pos_right hc

theorem count_implWhere (key : Word → κ) (minLen maxLen : Nat) {lay : Layout} {rows : List Row} (q : List R)
    (hk : keyedIdx lay = true) (hu : UniqueOn (getKeyColumns lay).positions rows) (x : Row) :
    (implWhere key minLen maxLen lay rows q).count x = matchCount key minLen maxLen q (docOf x) * rows.count x := by
  simp only [implWhere, hk, if_true]
  rw [← key_resolution lay, filterWalk_all_match key minLen maxLen q hu, count_filterWalk key minLen maxLen q hu]

end where_form

theorem not_conflict_of {lay : Layout} {a b : Row} (h : ¬ conflict lay a b = true) {cs : List Nat}
    (hcs : cs ∈ constraints lay) : keyVals cs a ≠ keyVals cs b := by
  intro e
  exact h (List.any_eq_true.mpr ⟨cs, hcs, beq_iff_eq.mpr e⟩)

theorem keyVals_setCols (cs : List Nat) (r : Row) (c : List (Option (List R))) :
    keyVals cs { r with cols := c } = keyVals cs r := rfl

theorem keyVals_setId_inj (cs : List Nat) (a b : Row) (n : Nat) (hid : a.id = b.id)
    (h : keyVals cs { a with id := n } = keyVals cs { b with id := n }) : keyVals cs a = keyVals cs b := by
  unfold keyVals at *
  rw [List.map_inj_left] at *
  intro p hp
  have := h p hp
  unfold val at *
  by_cases h0 : p = 0
  · simp [h0, hid]
  · simpa [h0] using this

theorem two_le_length_of_mem_ne {α : Type} {l : List α} {a b : α} (ha : a ∈ l) (hb : b ∈ l) (hne : a ≠ b) : 2 ≤ l.length := by
  match l, ha, hb with
  | [x], ha, hb =>
    simp at ha hb
    exact absurd (ha.trans hb.symm) hne
  | _ :: _ :: _, _, _ => simp

/-- UPDATE, in all its forms, has this shape: the rows selected by `p` are rewritten by `g`. `h2`: two
rewritten rows stay apart; `h1`: a rewritten row stays apart from a kept one. -/
theorem nodup_map_ite {α β : Type} {f : α → β} {p : α → Bool} {g : α → α} {l : List α} (hu : (l.map f).Nodup)
    (h2 : ∀ a ∈ l, ∀ b ∈ l, p a = true → p b = true → f a ≠ f b → f (g a) ≠ f (g b))
    (h1 : ∀ a ∈ l, ∀ b ∈ l, p a = true → p b = false → f a ≠ f b → f (g a) ≠ f b) :
    ((l.map fun r => if p r then g r else r).map f).Nodup := by
  rw [List.Nodup, List.pairwise_map] at hu
  rw [List.Nodup, List.pairwise_map, List.pairwise_map]
  refine hu.imp_of_mem fun {a b} ha hb hab => ?_
  cases ea : p a <;> cases eb : p b <;> simp only [if_true, if_false, Bool.false_eq_true]
  · exact hab
  · exact (h1 b hb a ha eb ea (Ne.symm hab)).symm
  · exact h1 a ha b hb ea eb hab
  · exact h2 a ha b hb ea eb hab

theorem mem_targets {k : Nat} {rows : List Row} {a : Row} (ha : a ∈ rows) (ea : (a.id == k) = true) :
    a ∈ targets k rows := List.mem_filter.mpr ⟨ha, ea⟩

theorem keysUnique_applyOp {lay : Layout} {rows : List Row} (op : Op) (h : KeysUnique lay rows) :
    KeysUnique lay (applyOp lay rows op) := by
  intro cs hcs
  have hu := h cs hcs
  cases op with
  | ins r =>
    rw [applyOp]
    split
    · exact hu
    · next hc =>
      exact Basics.nodup_map_concat hu fun a ha =>
        (not_conflict_of (fun hf => hc (List.any_eq_true.mpr ⟨a, ha, hf⟩)) hcs).symm
  | del k => exact hu.sublist (List.filter_sublist.map _)
  | upd k cols =>
    -- `keyVals` does not read `cols` (`keyVals_setCols`): a rewritten row keeps its key values
    exact nodup_map_ite hu (fun _ _ _ _ _ _ hab => hab) (fun _ _ _ _ _ _ hab => hab)
  | rekey k n =>
    rw [applyOp]
    split
    · exact hu
    · next hc =>
      -- no target, once moved to `n`, conflicts with a row that stays
      simp only [Bool.and_eq_true, bne_iff_ne, ne_eq, List.any_eq_true, not_and, not_exists] at hc
      refine nodup_map_ite hu (fun a _ b _ ea eb hab e => ?_) (fun a ha b hb ea eb hab => ?_)
      · exact hab (keyVals_setId_inj cs a b n ((beq_iff_eq.mp ea).trans (beq_iff_eq.mp eb).symm) e)
      · by_cases hkn : k = n
        · rw [show ({ a with id := n } : Row) = a by rw [← hkn, ← beq_iff_eq.mp ea]]; exact hab
        · exact not_conflict_of (hc hkn a (mem_targets ha ea) b hb (by simpa using eb)) hcs
  | rekey2 k n =>
    rw [applyOp]
    split
    · exact hu
    · next hc =>
      -- at most one target, and it does not conflict, once moved, with a row that stays
      simp only [Bool.or_eq_true, Bool.and_eq_true, bne_iff_ne, ne_eq, List.any_eq_true, not_or, not_and,
        not_exists, decide_eq_true_eq, Nat.not_le] at hc
      obtain ⟨hlen, hno⟩ := hc
      refine nodup_map_ite hu (fun a ha b hb ea eb hab => ?_) (fun a ha b hb ea eb hab => ?_)
      · have := two_le_length_of_mem_ne (mem_targets ha ea) (mem_targets hb eb)
          (fun e => hab (by rw [e]))
        exact absurd this (Nat.not_le.mpr (hlen (List.ne_nil_of_mem hcs)))
      · by_cases hn : a.k2 = n
        · rw [show ({ a with k2 := n } : Row) = a by rw [← hn]]; exact hab
        · exact not_conflict_of (hno a (mem_targets ha ea) hn b hb (by simpa using eb)) hcs

theorem keysUnique_nil (lay : Layout) : KeysUnique lay [] := by
  intro cs _; simp [UniqueOn]

/-- The Impl model of a statement either follows the reference semantics or leaves the table alone. -/
theorem keysUnique_applyOpImpl (minLen maxLen : Nat) {lay : Layout} {rows : List Row} (op : Op) (h : KeysUnique lay rows) :
    KeysUnique lay (applyOpImpl minLen maxLen lay rows op) := by
  unfold applyOpImpl
  split
  · exact h
  · exact keysUnique_applyOp op h

theorem foldl_applyOpImpl_of_not_rStuck (minLen maxLen : Nat) (lay : Layout) (ops : List Op) (rows : List Row)
    (h : rStuck minLen maxLen lay rows ops = false) :
    ops.foldl (applyOpImpl minLen maxLen lay) rows = ops.foldl (applyOp lay) rows := by
  induction ops generalizing rows with
  | nil => rfl
  | cons op ops ih =>
    obtain ⟨h1, h2⟩ := Bool.or_eq_false_iff.mp h
    rw [List.foldl_cons, List.foldl_cons, ih _ h2, applyOpImpl, if_neg (Bool.eq_false_iff.mp h1)]

end Gms.Fulltext
