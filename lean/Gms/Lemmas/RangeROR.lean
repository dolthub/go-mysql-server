/-
`RemoveOverlap` and the merge loop of `GetRangeCollection`: properties by induction on the model functions; for the
merge loop an induction principle with the invariant a variable (`getRangeCollection_induction`). Of
`RemoveOverlappingRanges` only the inversion `removeOverlappingRanges_ok` is here: the induction over its worklist,
`Gms.C46.removeOverlapping_set_induction`, is stated over the tree hypotheses `Gms.C46.TreeSet` and stands with them in
Props/C46.
-/
import Gms.Lemmas.RangeN

namespace Gms.Range

theorem memAny_append (xs ys : List Range) (v : Tuple) :
    memAny (xs ++ ys) v = (memAny xs v || memAny ys v) := by
  simp [memAny, List.any_append]

theorem memAny_cons (x : Range) (xs : List Range) (v : Tuple) :
    memAny (x :: xs) v = (x.mem v || memAny xs v) := by
  simp [memAny]

theorem memAny_nil (v : Tuple) : memAny [] v = false := rfl

theorem memAny_singleton (x : Range) (v : Tuple) : memAny [x] v = x.mem v := Bool.or_false _

theorem memAny_iff (xs : List Range) (v : Tuple) : memAny xs v = true ↔ ∃ r ∈ xs, Range.mem r v = true := by
  simp [memAny]

theorem memAny_map_set {a : Range} {i : Nat} (hi : i < a.length) (ps : List ColRange) (v : Tuple) :
    memAny (ps.map (fun p => a.set i p)) v = (Range.memExcept a i v && ps.any (fun p => p.mem (v[i]?.getD none))) := by
  induction ps with
  | nil => simp [memAny]
  | cons p ps ih =>
    rw [List.map_cons, memAny_cons, ih, Range.mem_set hi, List.any_cons]
    cases Range.memExcept a i v <;> simp

theorem overlaps_diffIdx {a b : Range} {i : Nat} {rest : List Nat} (hov : a.overlaps b = true)
    (hd : Range.diffIdx a b = i :: rest) :
    i < a.length ∧ i < b.length ∧ ((a[i]?.getD default).overlaps (b[i]?.getD default)).2 = true := by
  obtain ⟨ia, ib⟩ := Range.diffIdx_head_lt hd
  exact ⟨ia, ib, Range.all2_getD a b i (Range.overlaps_iff.mp hov).2 ia ib⟩

/-- `TryMerge` merges equal ranges, so ranges it left apart differ in some column. -/
theorem diffIdx_ne_nil {a b : Range} (hm : a.tryMerge b = .no) (hov : a.overlaps b = true) :
    Range.diffIdx a b ≠ [] := fun hd => by
  rw [Range.diffIdx_nil (Range.overlaps_iff.mp hov).1 hd, Range.tryMerge_self] at hm; cases hm

theorem memAny_removeOverlap (fuel : Nat) (a b : Range) (rs : List Range) (ok : Bool)
    (h : removeOverlap fuel a b = .res rs ok) (v : Tuple) : memAny rs v = (a.mem v || b.mem v) := by
  fun_induction removeOverlap fuel a b generalizing rs ok with
  | case3 fuel a b m hm =>
    rw [← (RO.res.inj h).1, memAny_singleton, Range.tryMerge_sound hm v]
  | case4 fuel a b hm hov => rw [← (RO.res.inj h).1, memAny_cons, memAny_singleton]
  | case5 fuel a b hm hov hd => exact absurd hd (diffIdx_ne_nil hm (by simpa using hov))
  | case6 fuel a b hm hov i rest hd ai bi ov s1 s2 hs2 hs1 rs' ok' hrec ih =>
    obtain ⟨ia, ib, hflag⟩ := overlaps_diffIdx (by simpa using hov) hd
    -- column `i`: (a \ ov) ∪ (b \ ov) ∪ ov = a ∪ b; the other columns are untouched
    rw [← (RO.res.inj h).1, memAny_append, memAny_append, ih rs' ok' hrec, memAny_map_set ia, memAny_map_set ib,
      ColRange.any_mem_subtract hs1, ColRange.any_mem_subtract hs2, Range.mem_set ia, Range.mem_set ib,
      ColRange.overlaps_true hflag, Range.mem_split ia v, Range.mem_split ib v]
    generalize Range.memExcept a i v = ea, Range.memExcept b i v = eb,
      (a[i]?.getD default).mem (v[i]?.getD none) = p, (b[i]?.getD default).mem (v[i]?.getD none) = q
    decide +revert
  | case7 fuel a b hm hov i rest hd ai bi ov s1 s2 hs2 hs1 noRes ih => exact (noRes rs ok h).elim
  | _ => cases h

/-- The `step` of `Gms.C46.removeOverlapping_set_induction` for well-formedness; the paired hypotheses are what
`IndexScan.Good` holds of each range. -/
theorem removeOverlap_wf (n : Nat) (fuel : Nat) (a b : Range) (rs : List Range) (ok : Bool)
    (ha : a.length = n ∧ Range.NonInv a) (hb : b.length = n ∧ Range.NonInv b) (h : removeOverlap fuel a b = .res rs ok) :
    rs ≠ [] ∧ ∀ r ∈ rs, r.length = n ∧ Range.NonInv r := by
  fun_induction removeOverlap fuel a b generalizing rs ok with
  | case3 fuel a b m hm =>
    rw [← (RO.res.inj h).1]
    exact ⟨List.cons_ne_nil _ _, List.forall_mem_singleton.mpr
      ⟨(Range.tryMerge_length hm).trans ha.1, Range.tryMerge_nonInv ha.2 hb.2 hm⟩⟩
  | case4 fuel a b hm hov =>
    rw [← (RO.res.inj h).1]
    exact ⟨List.cons_ne_nil _ _, List.forall_mem_cons.mpr ⟨ha, List.forall_mem_singleton.mpr hb⟩⟩
  | case5 fuel a b hm hov hd => exact absurd hd (diffIdx_ne_nil hm (by simpa using hov))
  | case6 fuel a b hm hov i rest hd ai bi ov s1 s2 hs2 hs1 rs' ok' hrec ih =>
    obtain ⟨ia, ib, hflag⟩ := overlaps_diffIdx (by simpa using hov) hd
    have set_wf : ∀ {x : Range} {c : ColRange}, x.length = n ∧ Range.NonInv x → c.NonInv →
        (x.set i c).length = n ∧ Range.NonInv (x.set i c) :=
      fun hx hc => ⟨List.length_set.trans hx.1, Range.nonInv_set hx.2 hc⟩
    have hai := Range.nonInv_getD ha.2 i
    have hbi := Range.nonInv_getD hb.2 i
    have hovn := ColRange.overlaps_nonInv hai hbi hflag
    obtain ⟨ih1, ih2⟩ := ih rs' ok' (set_wf ha hovn) (set_wf hb hovn) hrec
    rw [← (RO.res.inj h).1]
    exact ⟨fun e => ih1 (List.append_eq_nil_iff.mp e).2, List.forall_mem_append.mpr
      ⟨List.forall_mem_append.mpr
        ⟨List.forall_mem_map.mpr fun p hp => set_wf ha (ColRange.subtract_nonInv hai hs1 p hp),
         List.forall_mem_map.mpr fun p hp => set_wf hb (ColRange.subtract_nonInv hbi hs2 p hp)⟩, ih2⟩⟩
  | case7 fuel a b hm hov i rest hd ai bi ov s1 s2 hs2 hs1 noRes ih => exact (noRes rs ok h).elim
  | _ => cases h

/-- With more fuel than the ranges have differing columns `RemoveOverlap` never reports `fuel`, and it
never panics or errors. -/
theorem removeOverlap_total (fuel : Nat) (a b : Range) (hf : (Range.diffIdx a b).length < fuel) :
    ∃ rs ok, removeOverlap fuel a b = .res rs ok := by
  fun_induction removeOverlap fuel a b with
  | case1 a b => omega
  | case2 fuel a b hm => exact absurd hm (Range.tryMerge_ne_err a b)
  | case7 fuel a b hm hov i rest hd ai bi ov s1 s2 hs2 hs1 noRes ih =>
    obtain ⟨rs', ok', hrec⟩ := ih (by
      rw [Range.diffIdx_set hd ov]
      rw [hd] at hf
      exact Nat.lt_of_succ_lt_succ hf)
    exact (noRes rs' ok' hrec).elim
  | case8 fuel a b hm hov i rest hd ai bi ov noPieces =>
    exact (noPieces _ _ (ColRange.subtract_eq ai ov) (ColRange.subtract_eq bi ov)).elim
  | _ => exact ⟨_, _, rfl⟩

theorem firstOverlap_hit {rang : Range} {conns : List Range} {c : Range} {newRanges : List Range}
    (h : firstOverlap rang conns = .hit c newRanges) :
    c ∈ conns ∧ removeOverlap (removeOverlapFuel c) c rang = .res newRanges true := by
  fun_induction firstOverlap rang conns with
  | case5 x xs rs hres => cases h; exact ⟨List.mem_cons_self, hres⟩
  | case6 x xs rs hres ih => exact (ih h).imp_left (List.mem_cons_of_mem _)
  | _ => cases h

theorem removeOverlappingRanges_ok {T : Type} {ops : TreeOps T} {fuel : Nat} {r0 : Range}
    {rest coll : List Range} (h : removeOverlappingRanges ops fuel (r0 :: rest) = .ok coll) :
    ∃ t stored, rorLoop ops fuel (ops.new r0) rest = .ok t ∧ ops.toList t = some stored ∧
      getRangeCollection stored = some coll ∧ validate coll = true := by
  generalize hranges : r0 :: rest = ranges at h
  revert h
  fun_cases removeOverlappingRanges ops fuel ranges with
  | case1 => cases hranges
  | case7 r0' rest' t hloop stored hlist c hcoll hvalid =>
    obtain ⟨rfl, rfl⟩ := List.cons.inj hranges
    exact fun h => ⟨t, stored, hloop, hlist, Res.ok.inj h ▸ hcoll, Res.ok.inj h ▸ hvalid⟩
  | _ => exact fun h => by cases h

theorem memAny_filter_nonempty (xs : List Range) (w : Tuple) (hw : w ≠ []) :
    memAny (xs.filter (fun r => !r.isEmpty)) w = memAny xs w := by
  unfold memAny
  rw [List.any_filter]
  refine List.any_congr rfl fun x => ?_
  cases he : x.isEmpty
  · rfl
  · exact (Range.isEmpty_sound he w hw).symm

/-- `GetRangeCollection` as three rules on (stored ranges seen, collection, range put aside): an empty range is
put aside; a non-empty one is appended, or merged into the last range of the collection. An empty collection
gives the range put aside (the zero value if there was none). -/
theorem getRangeCollection_induction {stored coll : List Range} (h : getRangeCollection stored = some coll)
    (I : List Range → List Range → Range → Prop) (base : I [] [] [])
    (aside : ∀ seen rang c e, rang ∈ stored → rang.isEmpty = true → I seen c e → I (seen ++ [rang]) c rang)
    (push : ∀ seen rang c e, rang ∈ stored → rang.isEmpty = false → I seen c e → I (seen ++ [rang]) (c ++ [rang]) e)
    (merge : ∀ seen rang init last m e, rang ∈ stored → rang.isEmpty = false → last.tryMerge rang = .yes m →
      I seen (init ++ [last]) e → I (seen ++ [rang]) (init ++ [m]) e) :
    ∃ c e, I stored c e ∧ coll = if c = [] then [e] else c := by
  have loop : ∀ todo seen st c' e', (∀ r ∈ todo, r ∈ stored) → (∀ c e, st = some (c, e) → I seen c e) →
      todo.foldl collectStep st = some (c', e') → I (seen ++ todo) c' e' := by
    intro todo
    induction todo with
    | nil => intro seen st c' e' _ hi hf; rw [List.append_nil]; exact hi c' e' hf
    | cons rang rest ih =>
      intro seen st c' e' hs hi hf
      have hr := hs rang List.mem_cons_self
      rw [List.append_cons]
      refine ih _ _ c' e' (fun r h => hs r (List.mem_cons_of_mem _ h)) ?_ hf
      fun_cases collectStep st rang with
      | case1 => exact fun _ _ h => by cases h
      | case2 c e hne last hlast hmerge => exact fun _ _ h => by cases h
      | case3 c e hne last hlast m hmerge =>
        intro _ _ h; cases h
        obtain ⟨init, rfl⟩ := List.getLast?_eq_some_iff.mp hlast
        rw [List.dropLast_concat]
        exact merge _ _ _ _ _ _ hr (by simpa using hne) hmerge (hi _ _ rfl)
      | case4 c e hne last hlast hmerge =>
        intro _ _ h; cases h
        exact push _ _ _ _ hr (by simpa using hne) (hi _ _ rfl)
      | case5 c e hne hlast =>
        -- nothing collected yet
        intro _ _ h; cases h
        rw [List.getLast?_eq_none_iff.mp hlast] at hi
        exact push _ _ _ _ hr (by simpa using hne) (hi _ _ rfl)
      | case6 c e hemp =>
        intro _ _ h; cases h
        exact aside _ _ _ _ hr (by simpa using hemp) (hi _ _ rfl)
  unfold getRangeCollection at h
  split at h
  next => cases h
  next c e hfold =>
    simp only [List.isEmpty_iff] at h
    exact ⟨c, e, loop stored [] _ c e (fun _ h => h) (fun _ _ h => by cases h; exact base) hfold,
      (Option.some.inj ((apply_ite some ..).trans h)).symm⟩

/-- Invariant: the collection denotes the ranges seen so far, and what is put aside has no member. -/
theorem getRangeCollection_sound {stored coll : List Range}
    (h : getRangeCollection stored = some coll) (v : Tuple) (hv : v ≠ []) :
    memAny coll v = memAny stored v := by
  obtain ⟨c, e, ⟨hm, he⟩, rfl⟩ := getRangeCollection_induction h
    (fun seen c e => memAny c v = memAny seen v ∧ Range.mem e v = false) ⟨rfl, Range.mem_nil hv⟩
    (fun seen rang c e _ hemp ⟨hm, _⟩ => by
      have := Range.isEmpty_sound hemp v hv
      exact ⟨by rw [memAny_append, ← hm, memAny_singleton, this, Bool.or_false], this⟩)
    (fun seen rang c e _ _ ⟨hm, he⟩ => ⟨by rw [memAny_append, memAny_append, hm], he⟩)
    (fun seen rang init last m e _ _ hmg ⟨hm, he⟩ => ⟨by
      rw [memAny_append seen, ← hm]
      simp only [memAny_append, memAny_singleton, Range.tryMerge_sound hmg v, Bool.or_assoc], he⟩)
  split
  next hc =>
    -- every stored range was empty: the result is the one put aside (or the zero value)
    rw [memAny_singleton, ← hm, hc, memAny_nil]; exact he
  next => exact hm

end Gms.Range
