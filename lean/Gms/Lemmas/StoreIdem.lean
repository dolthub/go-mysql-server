/-
C27: the value `Convert` returns without a fatal error is a value of the type (outside
`unsigned_underflow_wraps`), and a value of the type converts to itself (the two halves of idempotence).
-/
import Gms.Lemmas.StoreDec
import Gms.Lemmas.StrScan
namespace Gms.Store
open Gms.Num Gms.Conv

theorem convertToInt64_range_sign (v : Val) (hwf : v.WF) (hne : (convertToInt64 v).err ≠ .fatal) :
    inI64 (convertToInt64 v).val ∧ ((convertToInt64 v).val < 0 → v.negative = true) := by
  cases hx : numOf v with
  | some x =>
    obtain ⟨c, s⟩ := x
    have hcl := (convertToInt64_clamped hwf hx).2
    exact ⟨hcl.mem (by decide), fun h => negative_of_num hwf hx (hcl.neg (by decide) (by decide) h)⟩
  | none =>
    -- NULL or a string (the last two cases: beyond int64, within)
    revert hne
    fun_cases convertToInt64 v <;> intro hne
    case case1 => exact ⟨by decide, fun h => absurd h (by decide)⟩
    case case8 => exact absurd rfl hne
    case case9 bs t trunc h_trunc n h_in =>
      refine ⟨by simp only [inI64]; omega, fun h => ?_⟩
      rw [Val.negative, h_trunc]
      exact signedVal_neg_head t h
    all_goals cases hx

theorem convertToUint64_range (v : Val) (hwf : v.WF) (hneg : v.negative = false) :
    0 ≤ (convertToUint64 v).val ∧ (convertToUint64 v).val ≤ maxU64 := by
  cases hx : numOf v with
  | some x =>
    obtain ⟨c, s⟩ := x
    have hc : 0 ≤ c := Int.not_lt.1 fun h => by rw [negative_of_num hwf hx h] at hneg; cases hneg
    exact (convertToUint64_clamped hwf hx hc).2.mem (by decide)
  | none =>
    -- NULL or a string (the last three cases: beyond uint64, negative, within)
    fun_cases convertToUint64 v
    case case1 => exact ⟨by decide, by decide⟩
    case case8 bs t trunc h_trunc neg ds h_sign m h_over => exact ⟨by decide, Int.le_refl _⟩
    case case9 bs t trunc h_trunc e ds m h_in h_sign =>
      rw [Val.negative, h_trunc] at hneg
      obtain ⟨_, h, _⟩ := splitSign_of_nonneg t hneg
      rw [h_sign] at h; cases h
    case case10 bs t trunc h_trunc e neg ds h_sign m h_in h_pos => exact ⟨Int.natCast_nonneg _, Int.not_lt.1 h_in⟩
    all_goals cases hx

/-- except for the wrap of negative values into unsigned types, what an integer type's `Convert`
returns (without a fatal error) is a value of the type -/
theorem convertInt_val_storable (it : ITy) (v : Val) (hwf : v.WF) (hnn : v ≠ .null)
    (hreg : ¬ unsigned_underflow_wraps (.int it) v) (hne : (convertInt it v).err ≠ .fatal) :
    ∃ x, (convertInt it v).val = .int x ∧ it.lo ≤ x ∧ x ≤ it.hi := by
  have hneg : it.unsigned = true → v.negative = false := fun hu =>
    Bool.eq_false_iff.2 fun h => hreg ⟨hu, h⟩
  revert hne
  fun_cases convertInt it v <;> intro hne
  case case1 => exact absurd rfl hnn
  case case2 => exact ⟨_, rfl, (convertToInt64_range_sign v hwf hne).1⟩
  case case3 => exact ⟨_, rfl, convertToUint64_range v hwf (hneg rfl)⟩
  case case4 => exact absurd rfl hne
  case case5 => exact ⟨_, rfl, it.lo_le_hi, Int.le_refl _⟩
  case case6 h64 hu64 h_nn r h_ok h_hi h_under =>
    cases hu : it.unsigned
    · rw [if_neg Bool.false_ne_true]; exact ⟨_, rfl, Int.le_refl _, it.lo_le_hi⟩
    · -- an unsigned type: below 0, so the value was negative
      have h3 := (convertToInt64_range_sign v hwf h_ok).2 (ITy.lo_of_unsigned hu ▸ h_under)
      rw [hneg hu] at h3; cases h3
  case case7 h64 hu64 h_nn r h_ok h_hi h_lo => exact ⟨_, rfl, Int.not_lt.1 h_lo, Int.not_lt.1 h_hi⟩

theorem convertInt_fixpoint (it : ITy) (x : Int) (hlo : it.lo ≤ x) (hhi : x ≤ it.hi) :
    convertInt it (inject (.int it) (.int x)) = ⟨.int x, .inRange, .none⟩ := by
  rcases it.wide_or_narrow with rfl | rfl | hn
  · rfl
  · rfl
  · obtain ⟨_, hhi'⟩ := ITy.narrow_bounds hn
    have hinj : inject (.int it) (.int x) = if it.unsigned then .u x else .i x := rfl
    have e : convertToInt64 (inject (.int it) (.int x)) = ⟨x, .inRange, .none⟩ := by
      rw [hinj]; split
      · exact if_neg (by omega)
      · rfl
    rw [convertInt_narrow it hn _ (by rw [hinj]; split <;> exact Val.noConfusion), e]
    simp only [reduceCtorEq, if_false, if_neg (Int.not_lt.2 hhi), if_neg (Int.not_lt.2 hlo)]

theorem convertYear_fixpoint (x : Int) (h : x = 0 ∨ (1901 ≤ x ∧ x ≤ 2155)) :
    convertYear (inject .year (.int x)) = ⟨.int x, .inRange, .none⟩ := by
  simp only [inject, convertYear, yearOfInt_storable x h]

theorem convertBit_fixpoint (n : Nat) (x : Int) (h : x ≤ 2 ^ n - 1) :
    convertBit n (inject (.bit n) (.int x)) = ⟨.int x, .inRange, .none⟩ := by
  simp only [inject, convertBit, if_neg (Int.not_lt.2 h)]

theorem convertDec_fixpoint (p s : Nat) (col : Bool) (c' : Int) (sc' : Nat) (hle : sc' ≤ s)
    (hcol : col = true → sc' = s) (hb : ¬ c'.natAbs ≥ 10 ^ (p - s) * 10 ^ sc') :
    convertDec p s col (.d c' sc') = ⟨.dec c' sc', .inRange, .none⟩ := by
  have h1 : ¬ (col = true ∧ sc' ≠ s) := fun h => h.2 (hcol h.1)
  have htd : toDecimal s col (.d c' sc') = some (c', sc') := by simp only [toDecimal, if_neg h1]
  rw [convertDec_of_toDecimal p (by simp) htd hle, if_neg hb]

/-- the stored values of a type: what its `Convert` hands back when it hands back a value. Not `Ty.storable`
of `storedCoeff`: a fixed point is a matter of the representation (DECIMAL: the scale), and BIT tests the
width only. Used through `convert_isValueOf` and `convert_fixpoint`. -/
def IsValueOf : Ty → Stored → Prop
  | .int it, .int x => it.lo ≤ x ∧ x ≤ it.hi
  | .dec p s col, .dec c sc => sc ≤ s ∧ (col = true → sc = s) ∧ ¬ c.natAbs ≥ 10 ^ (p - s) * 10 ^ sc
  | .year, .int x => x = 0 ∨ (1901 ≤ x ∧ x ≤ 2155)
  | .bit n, .int x => x ≤ 2 ^ n - 1
  | _, _ => False

theorem convert_fixpoint {t : Ty} {st : Stored} (h : IsValueOf t st) :
    convert t (inject t st) = ⟨st, .inRange, .none⟩ := by
  cases t <;> cases st <;> try exact h.elim
  · exact convertInt_fixpoint _ _ h.1 h.2
  · exact convertDec_fixpoint _ _ _ _ _ h.1 h.2.1 h.2.2
  · exact convertYear_fixpoint _ h
  · exact convertBit_fixpoint _ _ h

theorem yearRes_isValueOf (y : Int) (hne : (yearRes y).err ≠ .fatal) : IsValueOf .year (yearRes y).val := by
  unfold yearRes at hne ⊢
  cases h : yearOfInt y with
  | none => rw [h] at hne; exact absurd rfl hne
  | some z => exact yearOfInt_range h

/-- the width check that ends every path of `BitType_.Convert` -/
theorem bitFin_isValueOf (n : Nat) (x : Int) {r : CRes}
    (hr : r = if x > 2 ^ n - 1 then ⟨.null, .overflow, .fatal⟩ else ⟨.int x, .inRange, .none⟩)
    (hne : r.err ≠ .fatal) : IsValueOf (.bit n) r.val := by
  subst hr
  split at hne
  · exact absurd rfl hne
  · next h => rw [if_neg h]; exact Int.not_lt.1 h

theorem convert_isValueOf (t : Ty) (v : Val) (hwf : v.WF) (hreg : ¬ unsigned_underflow_wraps t v)
    (hne : (convert t v).err ≠ .fatal) (hv : (convert t v).val ≠ .null) : IsValueOf t (convert t v).val := by
  have hnn : v ≠ .null := by
    rintro rfl; exact hv (by rw [convert_null])
  cases t with
  | int it =>
    obtain ⟨x, hx, h⟩ := convertInt_val_storable it v hwf hnn hreg hne
    simp only [convert, hx]; exact h
  | dec p s col =>
    simp only [convert] at hne ⊢
    cases hx : numOf v with
    | none =>
      cases v with
      | s bs => exact absurd rfl hne
      | _ => first | exact absurd rfl hnn | cases hx
    | some x =>
      obtain ⟨c', sc', hle, hcol, _, hconv⟩ := convertDec_num p s col v x.1 x.2 hx
      rw [hconv] at hne ⊢
      by_cases hb : c'.natAbs ≥ 10 ^ (p - s) * 10 ^ sc'
      · rw [if_pos hb] at hne; exact absurd rfl hne
      · rw [if_neg hb]; exact ⟨hle, hcol, hb⟩
  | year =>
    simp only [convert] at hne ⊢
    revert hne
    fun_cases convertYear v <;> intro hne
    case case1 => exact absurd rfl hnn
    case case5 => exact absurd rfl hne    -- a string: refused
    all_goals exact yearRes_isValueOf _ hne
  | bit n =>
    simp only [convert] at hne ⊢
    revert hne
    fun_cases convertBit n v <;> intro hne
    case case1 => exact absurd rfl hnn
    case case4 | case5 | case7 => exact absurd rfl hne    -- beyond uint64, below int64, longer than 8 bytes: refused
    all_goals exact bitFin_isValueOf n _ rfl hne
end Gms.Store
