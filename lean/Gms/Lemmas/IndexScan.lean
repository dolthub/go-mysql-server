/-
C03 — lemmas about range *collections* on the analyzer side of an index scan
(Gms/Model/IndexScan.lean): the shape invariant `Good` (not nil, column count, non-invertedness),
which `MySQLIndexBuilder.Ranges` establishes and `RemoveOverlappingRanges` keeps (never nil on a
non-nil input), `MySQLRangeCollection.Intersect` denotes the intersection **and never returns the
nil collection**, the loop of `rangeBuildAnd` with its nil sentinel denotes the conjunction of its
OR groups and its leaf conjunction, and the OR groups of an AND spine are the nodes `orGroups`
lists (`orGroupRanges_eq`).
-/
import Gms.Props.C46
import Gms.Lemmas.IndexBuilder
import Gms.Model.IndexScan

namespace Gms.IndexScan
open Gms.Range Gms.IndexBuilder

/-- A well-formed, non-nil range collection of an `n`-column index. -/
structure Good (n : Nat) (xs : List Range) : Prop where
  ne : xs ≠ []
  len : ∀ r ∈ xs, r.length = n
  ni : ∀ r ∈ xs, Range.NonInv r

theorem Good.all {n : Nat} {xs : List Range} (h : Good n xs) : ∀ r ∈ xs, r.length = n ∧ Range.NonInv r :=
  fun r hr => ⟨h.len r hr, h.ni r hr⟩

theorem Good.of {n : Nat} {xs : List Range} (hne : xs ≠ []) (h : ∀ r ∈ xs, r.length = n ∧ Range.NonInv r) :
    Good n xs :=
  ⟨hne, fun r hr => (h r hr).1, fun r hr => (h r hr).2⟩

theorem good_congr {n : Nat} {xs ys : List Range} (h : ∀ x, x ∈ xs ↔ x ∈ ys) (hx : Good n xs) : Good n ys :=
  .of (let ⟨x, hx'⟩ := List.exists_mem_of_ne_nil xs hx.ne; List.ne_nil_of_mem ((h x).mp hx'))
    fun r hr => hx.all r ((h r).mpr hr)

theorem good_append {n : Nat} {xs ys : List Range} (hx : Good n xs) (hy : Good n ys) : Good n (xs ++ ys) :=
  .of (List.append_ne_nil_of_left_ne_nil hx.ne _) (List.forall_mem_append.mpr ⟨hx.all, hy.all⟩)

theorem ranges_good (b : B) : Good b.cols.length (ranges b) := by
  have hemp : Good b.cols.length [b.cols.map (fun _ => ColRange.empty)] :=
    .of (List.cons_ne_nil _ _) (List.forall_mem_singleton.mpr
      ⟨List.length_map _, List.forall_mem_map.mpr fun _ _ => ColRange.nonInv_empty⟩)
  fun_cases ranges b
  next => exact hemp
  next => exact hemp
  next _ rs h_some =>
    exact .of (fun e => h_some (List.isEmpty_iff.mpr e)) fun r hr =>
      ⟨product_length b.cols r ((mem_rotate1 _ _).mp (List.mem_filter.mp hr).1),
        Range.nonInv_of_not_isEmpty r (by simpa using (List.mem_filter.mp hr).2)⟩

theorem build_ranges_good (t : IntType) (n : Nat) (ops : List (Nat × Pred)) : Good n (ranges (build t n ops)) := by
  have := ranges_good (build t n ops)
  rwa [build_cols_length t n ops] at this

/-- Invariant: after the first stored range the collection is non-empty or `emptyRange` holds a
stored range. -/
theorem getRangeCollection_good (n : Nat) (stored coll : List Range) (hg : Good n stored)
    (h : getRangeCollection stored = some coll) : Good n coll := by
  have hs := hg.all
  have hne : ∀ {l : List Range} {x : Range}, l ++ [x] ≠ [] := List.append_ne_nil_of_right_ne_nil _ (List.cons_ne_nil _ _)
  obtain ⟨c, e, ⟨hq, he⟩, rfl⟩ := getRangeCollection_induction h
    (fun seen c e => (∀ r ∈ c, r.length = n ∧ Range.NonInv r) ∧ (seen ≠ [] → c ≠ [] ∨ (e.length = n ∧ Range.NonInv e)))
    ⟨fun _ h => absurd h List.not_mem_nil, fun h => absurd rfl h⟩
    (fun seen rang c e hr _ ⟨hq, _⟩ => ⟨hq, fun _ => .inr (hs _ hr)⟩)
    (fun seen rang c e hr _ ⟨hq, _⟩ =>
      ⟨List.forall_mem_append.mpr ⟨hq, List.forall_mem_singleton.mpr (hs rang hr)⟩, fun _ => .inl hne⟩)
    (fun seen rang init last m e hr _ hm ⟨hq, _⟩ => by
      obtain ⟨hinit, hlast⟩ := List.forall_mem_append.mp hq
      have hl := List.forall_mem_singleton.mp hlast
      exact ⟨List.forall_mem_append.mpr ⟨hinit, List.forall_mem_singleton.mpr
        ⟨(Range.tryMerge_length hm).trans hl.1, Range.tryMerge_nonInv hl.2 (hs _ hr).2 hm⟩⟩, fun _ => .inl hne⟩)
  split
  next hc => exact .of (List.cons_ne_nil _ _) (List.forall_mem_singleton.mpr
      ((he hg.ne).resolve_left fun h2 => h2 hc))
  next hc => exact .of hc hq

theorem removeOverlapping_good {T : Type} (ops : TreeOps T) (content : T → List Range)
    (hts : Gms.C46.TreeSet ops content) (n : Nat) (fuel : Nat) {ranges coll : List Range}
    (hg : Good n ranges) (h : removeOverlappingRanges ops fuel ranges = .ok coll) : Good n coll := by
  cases ranges with
  | nil => exact absurd rfl hg.ne
  | cons r0 rest =>
    obtain ⟨stored, hst, hgc⟩ := Gms.C46.removeOverlapping_set_induction hts (Good n) good_congr
      (fun c rang rest newRanges hro hg => by
        obtain ⟨hc, hrr⟩ := List.forall_mem_cons.mp hg.all
        obtain ⟨hr, hrest⟩ := List.forall_mem_cons.mp hrr
        obtain ⟨hn1, hn2⟩ := removeOverlap_wf n _ c rang newRanges true hc hr hro
        exact .of (List.append_ne_nil_of_left_ne_nil hn1 _) (List.forall_mem_append.mpr ⟨hn2, hrest⟩))
      hg h
    exact getRangeCollection_good n stored _ hst hgc

/-- What `MySQLRangeCollection.Intersect` hands to `RemoveOverlappingRanges`: one range per pair
(disjoint pairs contribute the all-empty placeholder), so the list is not nil. -/
theorem pairwise_sound (n : Nat) (hn : 0 < n) (xs ys : List Range) (hx : Good n xs) (hy : Good n ys) :
    Good n (xs.flatMap (fun x => (ys.map (fun y => x.intersect y)).filter (fun r => r.length > 0)))
    ∧ ∀ v, memAny (xs.flatMap (fun x => (ys.map (fun y => x.intersect y)).filter (fun r => r.length > 0))) v
        = (memAny xs v && memAny ys v) := by
  have hlen : ∀ x ∈ xs, ∀ y ∈ ys, (x.intersect y).length = n := fun x hx' y hy' =>
    Range.intersect_length (hx.len x hx') (hy.len y hy')
  refine ⟨.of ?_ ?_, fun v => ?_⟩
  · obtain ⟨x, hx'⟩ := List.exists_mem_of_ne_nil xs hx.ne
    obtain ⟨y, hy'⟩ := List.exists_mem_of_ne_nil ys hy.ne
    exact List.ne_nil_of_mem (List.mem_flatMap.mpr ⟨x, hx', List.mem_filter.mpr
      ⟨List.mem_map.mpr ⟨y, hy', rfl⟩, decide_eq_true ((hlen x hx' y hy').symm ▸ hn)⟩⟩)
  · simp only [List.mem_flatMap, List.mem_filter, List.mem_map]
    rintro r ⟨x, hx', ⟨y, hy', rfl⟩, _⟩
    exact ⟨hlen x hx' y hy', Range.intersect_nonInv x y⟩
  · unfold memAny
    rw [List.any_flatMap, ← any_any_and]
    refine Basics.any_congr_mem fun x hx' => ?_
    rw [List.any_filter, List.any_map]
    refine Basics.any_congr_mem fun y hy' => ?_
    show (decide ((x.intersect y).length > 0) && (x.intersect y).mem v) = _
    rw [hlen x hx' y hy', decide_eq_true hn, Bool.true_and]
    exact Range.mem_intersect ((hx.len x hx').trans (hy.len y hy').symm) v

/-- **`MySQLRangeCollection.Intersect`.** For every set-like tree and non-nil well-formed
collections of an `n ≥ 1`-column index: a non-error result is again non-nil and well-formed — in
particular it is **never the nil collection**, also when the two collections have nothing in common
(the result is then the single all-empty range) — and a key tuple lies in it iff it lies in both. -/
theorem collectionIntersect_sound {T : Type} (ops : TreeOps T) (content : T → List Range)
    (hts : Gms.C46.TreeSet ops content) (n : Nat) (hn : 0 < n) (fuel : Nat) (xs ys coll : List Range)
    (hx : Good n xs) (hy : Good n ys) (h : collectionIntersect ops fuel xs ys = .ok coll) :
    Good n coll ∧ ∀ v : Tuple, v ≠ [] → memAny coll v = (memAny xs v && memAny ys v) := by
  unfold collectionIntersect at h
  obtain ⟨g, m⟩ := pairwise_sound n hn xs ys hx hy
  refine ⟨removeOverlapping_good ops content hts n fuel g h, fun v hv => ?_⟩
  rw [Gms.C46.removeOverlapping_mem hts h hv, m v]

/-- Denotation of one entry of the `orChildren` loop: a nil collection (OR group not in the scan)
is skipped, i.e. counts as TRUE. -/
def groupMem (x : List Range) (v : Tuple) : Bool := x.isEmpty || memAny x v

theorem groupMem_nil (v : Tuple) : groupMem [] v = true := rfl

theorem groupMem_good {n : Nat} {x : List Range} (hx : Good n x) (v : Tuple) : groupMem x v = memAny x v := by
  unfold groupMem; rw [List.isEmpty_eq_false_iff.mpr hx.ne, Bool.false_or]

section
variable {T : Type} (ops : TreeOps T) (content : T → List Range) (hts : Gms.C46.TreeSet ops content)
variable (n : Nat) (hn : 0 < n) (fuel : Nat)

theorem andStep_ok_ok (ret x : List Range) : andStep ops fuel (.ok ret) (.ok x) =
    if x.isEmpty then .ok ret else if ret.isEmpty then .ok x else collectionIntersect ops fuel ret x := rfl

theorem andStep_ok {r q : Res (List Range)} {z : List Range} (h : andStep ops fuel r q = .ok z) :
    (∃ x, r = .ok x) ∧ ∃ y, q = .ok y := by
  revert h
  fun_cases andStep ops fuel r q
  case case4 _ hq => exact fun h => (hq z h).elim  -- `q` is an error
  case case5 hr => exact fun h => (hr z h).elim  -- `r` is an error
  all_goals exact fun _ => ⟨⟨_, rfl⟩, _, rfl⟩

theorem foldl_andStep_ok : ∀ (l : List (Res (List Range))) (r : Res (List Range)) (z : List Range),
    l.foldl (andStep ops fuel) r = .ok z → ∃ x, r = .ok x
  | [], _, z, h => ⟨z, h⟩
  | _ :: l, _, z, h => let ⟨_, hx⟩ := foldl_andStep_ok l _ z h; (andStep_ok ops fuel hx).1

include hts hn in
/-- One iteration with the nil sentinel: as long as `Intersect` never returns nil
(`collectionIntersect_sound`), `ret == nil` means exactly "nothing applied yet". The middle conjunct,
a non-nil operand makes the result non-nil, is for the last step (`x := part`): `rangeBuildAnd`
never returns nil. -/
theorem andStep_sound {ret x c : List Range} (hr : ret = [] ∨ Good n ret) (hx : x = [] ∨ Good n x)
    (h : andStep ops fuel (.ok ret) (.ok x) = .ok c) :
    (c = [] ∨ Good n c) ∧ (Good n x → Good n c) ∧
      ∀ v : Tuple, v ≠ [] → groupMem c v = (groupMem ret v && groupMem x v) := by
  rw [andStep_ok_ok] at h
  rcases hx with rfl | hxg
  · -- `if ranges == nil { continue }`
    cases h
    exact ⟨hr, fun g => absurd rfl g.ne, fun v _ => (Bool.and_true _).symm⟩
  · rw [List.isEmpty_eq_false_iff.mpr hxg.ne, if_neg Bool.false_ne_true] at h
    rcases hr with rfl | hrg
    · -- `if ret == nil { ret = ranges; continue }`
      cases h
      exact ⟨.inr hxg, fun _ => hxg, fun v _ => (Bool.true_and _).symm⟩
    · rw [List.isEmpty_eq_false_iff.mpr hrg.ne, if_neg Bool.false_ne_true] at h
      obtain ⟨cg, cm⟩ := collectionIntersect_sound ops content hts n hn fuel ret x c hrg hxg h
      exact ⟨.inr cg, fun _ => cg, fun v hv => by rw [groupMem_good cg, groupMem_good hrg, groupMem_good hxg, cm v hv]⟩

include hts hn in
/-- The groups are given as `L.map r` and `d g` is the truth value group `g` is known to denote at the
tuple (`node_sound` takes the nodes `orGroups e`, `r := nodeRanges`, `d := (·.holds v)`;
`and_sound_complete` takes collections, `r := Res.ok`, `d := (groupMem · v)`). `r` may fail on some
groups: a result that is not an error has met none of those. -/
theorem foldl_andStep_sound {α : Type} (r : α → Res (List Range)) : ∀ (L : List α) (ret ret' : List Range),
    (ret = [] ∨ Good n ret) → (∀ g ∈ L, ∀ x, r g = .ok x → x = [] ∨ Good n x) →
    (L.map r).foldl (andStep ops fuel) (.ok ret) = .ok ret' →
    (ret' = [] ∨ Good n ret') ∧ ∀ v : Tuple, v ≠ [] → ∀ d : α → Bool,
      (∀ g ∈ L, ∀ x, r g = .ok x → groupMem x v = d g) → groupMem ret' v = (groupMem ret v && L.all d)
  | [], ret, ret', hr, _, h => by
    rw [← Res.ok.inj h]
    exact ⟨hr, fun v _ _ _ => (Bool.and_true _).symm⟩
  | g :: L, ret, ret', hr, hL, h => by
    rw [List.map_cons, List.foldl_cons] at h
    obtain ⟨hg, hrest⟩ := List.forall_mem_cons.mp hL
    obtain ⟨c, hc⟩ := foldl_andStep_ok ops fuel _ _ _ h
    obtain ⟨_, x, hx⟩ := andStep_ok ops fuel hc
    rw [hc] at h
    rw [hx] at hc
    obtain ⟨gc, _, mc⟩ := andStep_sound ops content hts n hn fuel hr (hg x hx) hc
    obtain ⟨gr, m⟩ := foldl_andStep_sound r L c ret' gc hrest h
    exact ⟨gr, fun v hv d hd => by
      rw [m v hv d fun g' hg' => hd g' (List.mem_cons_of_mem _ hg'), mc v hv, hd g List.mem_cons_self x hx,
        List.all_cons, Bool.and_assoc]⟩

theorem rangeBuildAnd_eq_andStep (ors : List (Res (List Range))) {part : List Range} (hp : part ≠ []) :
    rangeBuildAnd ops fuel ors part = andStep ops fuel (ors.foldl (andStep ops fuel) (.ok [])) (.ok part) := by
  unfold rangeBuildAnd
  cases ors.foldl (andStep ops fuel) (.ok []) with
  | ok ret => rw [andStep_ok_ok, List.isEmpty_eq_false_iff.mpr hp, if_neg Bool.false_ne_true]
  | err m => rfl
  | crash => rfl
  | fuel => rfl

include hts hn in
/-- **`rangeBuildAnd`.** Given the ranges of the OR groups — each, unless an error, nil (not in the scan)
or well-formed — and the well-formed ranges of the leaf conjunction: a non-error result is
well-formed and non-nil, and a key tuple lies in it iff it lies in every OR group's ranges and in
the leaf conjunction's ranges. `r`, `d` as in `foldl_andStep_sound`. -/
theorem rangeBuildAnd_sound {α : Type} (r : α → Res (List Range)) {L : List α} {part coll : List Range}
    (hL : ∀ g ∈ L, ∀ x, r g = .ok x → x = [] ∨ Good n x) (hp : Good n part)
    (h : rangeBuildAnd ops fuel (L.map r) part = .ok coll) :
    Good n coll ∧ ∀ v : Tuple, v ≠ [] → ∀ d : α → Bool, (∀ g ∈ L, ∀ x, r g = .ok x → groupMem x v = d g) →
      memAny coll v = (L.all d && memAny part v) := by
  rw [rangeBuildAnd_eq_andStep ops fuel _ hp.ne] at h
  obtain ⟨⟨ret, hf⟩, _⟩ := andStep_ok ops fuel h
  rw [hf] at h
  obtain ⟨g, m⟩ := foldl_andStep_sound ops content hts n hn fuel r L [] ret (.inl rfl) hL hf
  obtain ⟨_, gc, mc⟩ := andStep_sound ops content hts n hn fuel g (.inr hp) h
  exact ⟨gc hp, fun v hv d hd => by
    rw [← groupMem_good (gc hp), mc v hv, m v hv d hd, groupMem_nil, Bool.true_and, groupMem_good hp]⟩

end

theorem orAppend_ok (a b : Res (List Range)) (x : List Range) (h : orAppend a b = .ok x) :
    ∃ xa xb, a = .ok xa ∧ b = .ok xb ∧ x = xa ++ xb := by
  revert h
  fun_cases orAppend a b
  next xa xb => exact fun h => ⟨xa, xb, rfl, rfl, (Res.ok.inj h).symm⟩
  next _ hb => exact fun h => (hb x h).elim
  next ha => exact fun h => (ha x h).elim

/-- The filters SQL can express on an `n`-column index. -/
def E.WF (n : Nat) : E → Prop
  | .leaf c p => c < n ∧ p.WF
  | .and a b => E.WF n a ∧ E.WF n b
  | .or a b => E.WF n a ∧ E.WF n b

theorem andLeaves_wf (n : Nat) : ∀ (e : E), E.WF n e → ∀ op ∈ andLeaves e, op.1 < n ∧ op.2.WF
  | .leaf _ _, h => List.forall_mem_singleton.mpr h
  | .and a b, h => List.forall_mem_append.mpr ⟨andLeaves_wf n a h.1, andLeaves_wf n b h.2⟩
  | .or _ _, _ => fun _ ho => nomatch ho

/-- The OR nodes directly under the AND spine at an expression: the `orChildren` of its `iScanAnd`. -/
def orGroups : E → List E
  | .leaf _ _ => []
  | .and a b => orGroups a ++ orGroups b
  | .or a b => [.or a b]

theorem holds_split : ∀ (e : E) (v : List (Option Int)),
    e.holds v = ((orGroups e).all (·.holds v) && (andLeaves e).all (fun op => op.2.holds (v[op.1]?.getD none)))
  | .leaf c p, v => by simp [E.holds, orGroups, andLeaves]
  | .or a b, v => by simp [E.holds, orGroups, andLeaves]
  | .and a b, v => by
    simp only [E.holds, orGroups, andLeaves, List.all_append]
    rw [holds_split a v, holds_split b v]
    ac_rfl

section
variable {T : Type} (ops : TreeOps T) (fuel : Nat) (t : IntType) (n : Nat)

/-- An OR under an AND spine is a node like any other. -/
theorem orGroupRanges_eq : ∀ e : E, orGroupRanges ops fuel t n e = (orGroups e).map (nodeRanges ops fuel t n)
  | .leaf _ _ => by simp only [orGroupRanges, orGroups, List.map_nil]
  | .and a b => by simp only [orGroupRanges, orGroups, List.map_append, orGroupRanges_eq a, orGroupRanges_eq b]
  | .or a b => by simp only [orGroupRanges, orGroups, nodeRanges, List.map_cons, List.map_nil]

theorem nodeRanges_and (a b : E) : nodeRanges ops fuel t n (.and a b) =
    rangeBuildAnd ops fuel ((orGroups (.and a b)).map (nodeRanges ops fuel t n))
      (ranges (build t n (andLeaves (.and a b)))) := by
  rw [← orGroupRanges_eq]; simp only [nodeRanges, orGroupRanges, andLeaves]

end

end Gms.IndexScan
