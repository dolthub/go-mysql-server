/-
Gms/Model/Collation.lean: decoder sizes (those of `RangeMap.utf8Len` among them), rune lists, `cmpW` as core's
lexicographic order, the two Go loops against their specifications, injectivity of the 4-byte weight strings.
-/
import Gms.Model.Collation
import Gms.Lemmas.Basics

namespace Gms.Collation
open Gms.RangeMap (utf8Len)

theorem utf8Len_bounds (b : Nat) (t : List Nat) :
    1 ≤ utf8Len (b :: t) ∧ utf8Len (b :: t) ≤ 4 ∧ utf8Len (b :: t) ≤ (b :: t).length := by
  generalize hs : b :: t = s
  fun_cases utf8Len s <;> simp at hs ⊢ <;> omega

theorem utf8Len_of_lt {b : Nat} (t : List Nat) (h : b < 0xC2) : utf8Len (b :: t) = 1 := by
  simp [utf8Len, h]

theorem utf8Len_two_byte {b0 b1 : Nat} (t : List Nat) (h0 : 0xC2 ≤ b0 ∧ b0 < 0xE0)
    (h1 : 0x80 ≤ b1 ∧ b1 ≤ 0xBF) : utf8Len (b0 :: b1 :: t) = 2 := by
  have : ¬ b0 < 0xC2 := by omega
  simp [utf8Len, this, h0.2, h1.1, h1.2]

theorem decodeUtf8_snd : ∀ (s : List Nat), (decodeUtf8 s).2 = utf8Len s
  | [] => rfl
  | b :: t => by
    have h := utf8Len_bounds b t
    simp only [decodeUtf8]
    generalize utf8Len (b :: t) = n at *
    have : n = 1 ∨ n = 2 ∨ n = 3 ∨ n = 4 := by omega
    rcases this with rfl | rfl | rfl | rfl <;> rfl

theorem nextRune_false (s : List Nat) : nextRune false s = decodeUtf8 s := by
  cases s <;> rfl

theorem nextRune_true (b : Nat) (t : List Nat) : nextRune true (b :: t) = (b, 1) := rfl

theorem nextRune_size (bin : Bool) (b : Nat) (t : List Nat) :
    1 ≤ (nextRune bin (b :: t)).2 ∧ (nextRune bin (b :: t)).2 ≤ 4 ∧
      (nextRune bin (b :: t)).2 ≤ (b :: t).length := by
  cases bin with
  | false =>
    rw [nextRune_false, decodeUtf8_snd]
    exact utf8Len_bounds b t
  | true => simp [nextRune_true]

theorem nextRune_ascii {b : Nat} (t : List Nat) (hb : b < 128) : nextRune false (b :: t) = (b, 1) := by
  simp [nextRune, decodeUtf8, utf8Len_of_lt t (show b < 0xC2 by omega), hb]

theorem nextRune_two_byte {b0 b1 : Nat} (t : List Nat) (h0 : 0xC2 ≤ b0 ∧ b0 < 0xE0)
    (h1 : 0x80 ≤ b1 ∧ b1 ≤ 0xBF) :
    nextRune false (b0 :: b1 :: t) = ((b0 % 32) * 64 + b1 % 64, 2) := by
  simp [nextRune, decodeUtf8, utf8Len_two_byte t h0 h1]

/-- The guard `if n = 0 then 1 else n` of `runesLoop` never fires: a decoded size is at least 1. -/
theorem runesLoop_cons (bin : Bool) (f b : Nat) (t : List Nat) :
    runesLoop bin (f + 1) (b :: t) =
      (nextRune bin (b :: t)).1 :: runesLoop bin f ((b :: t).drop (nextRune bin (b :: t)).2) := by
  have hsz := nextRune_size bin b t
  rw [runesLoop]
  simp only [List.isEmpty_cons, Bool.false_eq_true, if_false]
  rw [if_neg (by omega)]

theorem runesLoop_fuel (bin : Bool) : ∀ (f1 f2 : Nat) (s : List Nat), s.length < f1 → s.length < f2 →
    runesLoop bin f1 s = runesLoop bin f2 s
  | 0, _, _, h, _ => by omega
  | _, 0, _, _, h => by omega
  | _ + 1, _ + 1, [], _, _ => rfl
  | f1 + 1, f2 + 1, b :: t, h1, h2 => by
    have hsz := nextRune_size bin b t
    rw [runesLoop_cons, runesLoop_cons, runesLoop_fuel bin f1 f2] <;> simp only [List.length_drop] <;> omega

theorem runes_nil (bin : Bool) : runes bin [] = [] := rfl

theorem runes_cons (bin : Bool) (b : Nat) (t : List Nat) :
    runes bin (b :: t) = (nextRune bin (b :: t)).1 :: runes bin ((b :: t).drop (nextRune bin (b :: t)).2) := by
  have hsz := nextRune_size bin b t
  rw [runes, runesLoop_cons, runes, runesLoop_fuel bin _ (((b :: t).drop (nextRune bin (b :: t)).2).length + 1)] <;>
    simp only [List.length_drop] <;> omega

theorem runes_bin : ∀ (s : List Nat), runes true s = s
  | [] => rfl
  | b :: t => by
    rw [runes_cons, nextRune_true, List.drop_one, List.tail_cons, runes_bin t]

theorem runes_cons_ascii {b : Nat} (t : List Nat) (hb : b < 128) :
    runes false (b :: t) = b :: runes false t := by
  rw [runes_cons, nextRune_ascii t hb, List.drop_one, List.tail_cons]

theorem runes_cons_two_byte {b0 b1 : Nat} (t : List Nat) (h0 : 0xC2 ≤ b0 ∧ b0 < 0xE0)
    (h1 : 0x80 ≤ b1 ∧ b1 ≤ 0xBF) :
    runes false (b0 :: b1 :: t) = ((b0 % 32) * 64 + b1 % 64) :: runes false t := by
  rw [runes_cons, nextRune_two_byte t h0 h1]
  rfl

theorem runes_ascii : ∀ (s : List Nat), (∀ c ∈ s, c < 128) → runes false s = s
  | [], _ => rfl
  | b :: t, h => by
    rw [runes_cons_ascii t (h b List.mem_cons_self),
      runes_ascii t fun c hc => h c (List.mem_cons_of_mem _ hc)]

/-- `-1`, `0`, `1`: how Go's `Compare` reports an `Ordering`. -/
def sgn : Ordering → Int
  | .lt => -1
  | .eq => 0
  | .gt => 1

theorem sgn_le_zero {o : Ordering} : sgn o ≤ 0 ↔ o.isLE := by cases o <;> decide

theorem sgn_eq_zero {o : Ordering} : sgn o = 0 ↔ o = .eq := by cases o <;> decide

theorem sgn_swap (o : Ordering) : sgn o.swap = -sgn o := by cases o <;> rfl

theorem cmpW_eq_compare (a b : List Int) : cmpW a b = sgn (Ord.compare a b) := by
  fun_induction cmpW a b with
  | case1 | case2 | case3 => rfl
  | case4 x xs y ys h_lt =>
    rw [List.compare_cons_cons, Int.compare_eq_lt.2 h_lt]
    rfl
  | case5 x xs y ys _ h_gt =>
    rw [List.compare_cons_cons, Int.compare_eq_gt.2 h_gt]
    rfl
  | case6 x xs y ys h_nlt h_ngt ih =>
    rw [List.compare_cons_cons, Int.compare_eq_eq.2 (by omega), ih]
    rfl

theorem cmpW_range (a b : List Int) : cmpW a b = -1 ∨ cmpW a b = 0 ∨ cmpW a b = 1 := by
  rw [cmpW_eq_compare]
  cases Ord.compare a b <;> decide

theorem cmpW_refl (a : List Int) : cmpW a a = 0 := by
  rw [cmpW_eq_compare, Std.ReflOrd.compare_self]
  rfl

theorem cmpW_swap (a b : List Int) : cmpW a b = -(cmpW b a) := by
  rw [cmpW_eq_compare, cmpW_eq_compare, Std.OrientedOrd.eq_swap (a := a), sgn_swap]

theorem cmpW_eq_zero_iff (a b : List Int) : cmpW a b = 0 ↔ a = b := by
  rw [cmpW_eq_compare, sgn_eq_zero, Std.LawfulEqOrd.compare_eq_iff_eq]

theorem cmpW_trans (a b c : List Int) : cmpW a b ≤ 0 → cmpW b c ≤ 0 → cmpW a c ≤ 0 := by
  simp only [cmpW_eq_compare, sgn_le_zero]
  exact Std.TransOrd.isLE_trans

theorem cmpW_append_left : ∀ (l a b : List Int), cmpW (l ++ a) (l ++ b) = cmpW a b
  | [], _, _ => rfl
  | x :: l, a, b => by simp [cmpW, cmpW_append_left l]

theorem compareLoop_spec (w : Nat → Int) (bin : Bool) :
    ∀ (fuel : Nat) (a b : List Nat), a.length + b.length < fuel →
      compareLoop w bin fuel a b = some (compareSpec w bin a b)
  | 0, _, _, h => by omega
  | _ + 1, [], [], _ => rfl
  | _ + 1, [], y :: t, _ => by
    rw [compareSpec, runes_cons]
    simp [compareLoop, cmpLen, cmpW, runes_nil]
  | _ + 1, x :: s, [], _ => by
    rw [compareSpec, runes_cons]
    simp [compareLoop, cmpLen, cmpW, runes_nil]
  | fuel + 1, x :: s, y :: t, hf => by
    have sa := nextRune_size bin x s
    have sb := nextRune_size bin y t
    -- a decoded size is between 1 and 4, so neither 0 nor 0xFFFD
    have hcond : ((nextRune bin (x :: s)).2 = 0 || (nextRune bin (y :: t)).2 = 0 ||
        (nextRune bin (x :: s)).2 = 0xFFFD || (nextRune bin (y :: t)).2 = 0xFFFD) = false := by
      simp only [Bool.or_eq_false_iff, decide_eq_false_iff_not]
      omega
    have ih := compareLoop_spec w bin fuel ((x :: s).drop (nextRune bin (x :: s)).2)
      ((y :: t).drop (nextRune bin (y :: t)).2) (by simp only [List.length_drop]; omega)
    rw [compareSpec, runes_cons bin x s, runes_cons bin y t]
    simp only [compareLoop, List.isEmpty_cons, Bool.or_self, Bool.false_eq_true, if_false, hcond, ih,
      List.map_cons, cmpW, compareSpec]
    split
    · rfl
    · split <;> rfl

theorem wbytes_length (x : Int) : (wbytes x).length = 4 := rfl

def unbytes (l : List Nat) : Nat := l.foldr (fun b a => b + 256 * a) 0

theorem unbytes_wbytes (x : Int) : unbytes (wbytes x) = (x % 4294967296).toNat := by
  simp only [wbytes, unbytes, List.foldr_cons, List.foldr_nil, Nat.mul_add, ← Nat.mul_assoc, Nat.reduceMul, Nat.mul_zero,
    Nat.add_zero, ← Nat.add_assoc]
  exact (Basics.digits256 _).trans (Nat.mod_eq_of_lt (by omega))

/-- The four bytes give back the low 32 bits, which determine an `int32`. -/
theorem wbytes_inj (x y : Int) (hx : -2147483648 ≤ x ∧ x < 2147483648)
    (hy : -2147483648 ≤ y ∧ y < 2147483648) (h : wbytes x = wbytes y) : x = y := by
  have hu := congrArg unbytes h
  rw [unbytes_wbytes, unbytes_wbytes] at hu
  omega

theorem flatMap_wbytes_length : ∀ (l : List Int), (l.flatMap wbytes).length = 4 * l.length
  | [] => rfl
  | x :: l => by
    simp only [List.flatMap_cons, List.length_append, wbytes_length, List.length_cons, flatMap_wbytes_length l]
    omega

theorem flatMap_wbytes_inj : ∀ (a b : List Int),
    (∀ x ∈ a, -2147483648 ≤ x ∧ x < 2147483648) → (∀ y ∈ b, -2147483648 ≤ y ∧ y < 2147483648) →
    a.flatMap wbytes = b.flatMap wbytes → a = b
  | [], [], _, _, _ => rfl
  | [], _ :: _, _, _, h => by simp [wbytes] at h
  | _ :: _, [], _, _, h => by simp [wbytes] at h
  | x :: xs, y :: ys, ha, hb, h => by
    obtain ⟨hx, ha⟩ := List.forall_mem_cons.1 ha
    obtain ⟨hy, hb⟩ := List.forall_mem_cons.1 hb
    simp only [List.flatMap_cons] at h
    obtain ⟨h1, h2⟩ := List.append_inj h rfl
    rw [wbytes_inj x y hx hy h1, flatMap_wbytes_inj xs ys ha hb h2]

theorem weightsSpec_inj (w : Nat → Int) (hw : ∀ r, -2147483648 ≤ w r ∧ w r < 2147483648) {a b : List Nat} :
    weightsSpec w a = weightsSpec w b ↔ (runes false a).map w = (runes false b).map w :=
  ⟨flatMap_wbytes_inj _ _ (List.forall_mem_map.2 fun r _ => hw r) (List.forall_mem_map.2 fun r _ => hw r),
    congrArg (List.flatMap wbytes)⟩

theorem weightLoop_spec (w : Nat → Int) : ∀ (fuel : Nat) (s : List Nat), s.length < fuel →
    weightLoop w fuel s = some (weightsSpec w s)
  | 0, _, h => by omega
  | _ + 1, [], _ => rfl
  | fuel + 1, b :: t, hf => by
    have sz := utf8Len_bounds b t
    rw [← decodeUtf8_snd] at sz
    have hcond : ((decodeUtf8 (b :: t)).2 = 0 || (decodeUtf8 (b :: t)).2 = 0xFFFD) = false := by
      simp only [Bool.or_eq_false_iff, decide_eq_false_iff_not]
      omega
    have ih := weightLoop_spec w fuel ((b :: t).drop (decodeUtf8 (b :: t)).2)
      (by simp only [List.length_drop]; omega)
    rw [weightsSpec, runes_cons, nextRune_false]
    simp only [weightLoop, List.isEmpty_cons, Bool.false_eq_true, if_false, hcond, ih, List.map_cons,
      List.flatMap_cons, weightsSpec]

theorem writeWeights_spec (w : Nat → Int) (binColl : Bool) (s : List Nat) :
    writeWeights w binColl s = some (if binColl then s else weightsSpec w s) := by
  cases binColl with
  | true => rfl
  | false => exact weightLoop_spec w (s.length + 1) s (by omega)

end Gms.Collation
